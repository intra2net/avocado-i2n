/-
C13 — Pool access respects the enabled scopes and prefers the closest source.

Theorems about the model `I2N.Pool` (`I2N/Model/Pool.lean`, the definitions `drv_pool` runs), for ALL parameter
sets `e`, ALL answers `w` of cache / mirrors / checksum comparison, ALL scope lists and ALL location lists.
The scope names and proximity weights come from `I2N.Extracted.Pool` (regenerated from /repo on every run):
if a literal moves, these proofs stop checking.
-/
import I2N.Lemmas.Pool
import I2N.Lemmas.PoolListing
import I2N.Extracted.GenPool
namespace I2N.Props.C13
open I2N.Pool

/-- the four state operations of `SourcedStateBackend` -/
inductive Op
  | show | get (state : String) | set (state : String) | unset

/-- the ordered contacts an operation makes -/
def contacts (e : Env) (w : World) (scopes : List String) (locs : List Src) : Op → List Contact
  | .show => (showOp e w scopes locs).2
  | .get st => getOp e w scopes st locs
  | .set st => (setOp e w scopes st locs).2
  | .unset => unsetOp e scopes locs

/-- "a source whose scope is enabled" (the own cache is never reached through the transport) -/
def Permitted (e : Env) (scopes : List String) (s : Src) : Prop :=
  sourceScope e s ∈ scopes ∧ sourceScope e s ≠ "own"

instance (e : Env) (scopes : List String) (s : Src) : Decidable (Permitted e scopes s) := by
  unfold Permitted; infer_instance

deriving instance DecidableEq for Except

theorem permitted_eq {e : Env} {scopes : List String} {s : Src} :
    permitted "own" e scopes s = true ↔ Permitted e scopes s := by
  rw [permitted_iff]; exact And.comm

/-! ## Scope classification and proximity -/

/-- every source gets exactly one of the four documented scopes -/
theorem scope_total (e : Env) (s : Src) : sourceScope e s ∈ Extracted.Pool.allScopes := by
  fun_cases sourceScope e s <;> decide

/-- what the scopes mean: behind another gateway = cluster; same gateway, another host = swarm; on this very
host the own pool path = own (unless it is also configured as the shared pool) and every other path = shared -/
theorem scope_meaning (e : Env) (s : Src) :
    (sourceScope e s = "cluster" ↔ e.gateway ≠ e.srcGateway s) ∧
    (sourceScope e s = "swarm" ↔ e.gateway = e.srcGateway s ∧ e.host ≠ e.srcHost s) ∧
    (sourceScope e s = "own" ↔ e.gateway = e.srcGateway s ∧ e.host = e.srcHost s ∧
        s.path = e.swarmPool ∧ s.path ≠ lstripColon e.sharedPool) ∧
    (sourceScope e s = "shared" ↔ e.gateway = e.srcGateway s ∧ e.host = e.srcHost s ∧
        (s.path = lstripColon e.sharedPool ∨ s.path ≠ e.swarmPool)) := by
  fun_cases sourceScope e s <;> simp_all [@eq_comm _ s.path] <;> decide

/-- closeness of a source: (same gateway, same host, the own pool path), lexicographically -/
def rank (e : Env) (s : Src) : Nat :=
  (if e.gateway == e.srcGateway s then 4 else 0) + (if e.host == e.srcHost s then 2 else 0) +
  (if e.swarmPool == s.path then 1 else 0)

/-- the proximity score orders sources exactly as (same gateway, same host, own path) does lexicographically -/
theorem proximity_order (e : Env) (a b : Src) : proximity e a ≤ proximity e b ↔ rank e a ≤ rank e b := by
  unfold proximity rank
  generalize (e.gateway == e.srcGateway a) = g, (e.host == e.srcHost a) = h, (e.swarmPool == a.path) = p,
    (e.gateway == e.srcGateway b) = g', (e.host == e.srcHost b) = h', (e.swarmPool == b.path) = p'
  revert g h p g' h' p'
  decide +kernel

example : proximity ⟨"gw", "h", "/own", "/sh", [("n", "gw")], [("n", "h2")]⟩ ⟨"n", "/own"⟩ = 1010 := by decide +kernel

/-- `get_sources` neither invents nor loses nor repeats a source, and lists the closest first -/
theorem sources_exact (e : Env) (locs : List Src) :
    (∀ s, s ∈ getSources e locs ↔ s ∈ locs) ∧ (getSources e locs).Nodup ∧
    (getSources e locs).Pairwise (fun a b => rank e b ≤ rank e a) := by
  refine ⟨fun s => mem_getSources, nodup_getSources e locs, ?_⟩
  exact (desc_getSources e locs).imp (fun h => (proximity_order e _ _).mp h)

/-! ## Only sources whose scope is enabled are contacted -/

theorem mem_ite_own {α : Type} {scopes : List String} {x c : α}
    (h : c ∈ (if scopes.contains "own" = true then [x] else [])) : c = x ∧ "own" ∈ scopes := by
  split at h
  · rename_i ho; exact ⟨by simpa using h, by simpa using ho⟩
  · simp at h

theorem mem_getFrom {w : World} {st : String} {t : Src} {c : Contact} (h : c ∈ getFrom w st t) :
    c ∈ [Contact.localShow, .poolShow t, .poolCompare t, .poolGet t] := by
  revert c
  unfold getFrom
  cases (w.mirror t).contains st <;> cases w.cache.contains st <;> cases w.valid t <;> simp

theorem poolGet_mem_getFrom {w : World} {st : String} {s t : Src} :
    Contact.poolGet s ∈ getFrom w st t ↔ s = t ∧ st ∈ w.mirror t ∧ (st ∉ w.cache ∨ w.valid t = false) := by
  unfold getFrom
  cases hm : (w.mirror t).contains st <;> cases hc : w.cache.contains st <;> cases hv : w.valid t <;>
    simp_all [@eq_comm _ s]

/-- the contacts of `get`: the local write-back when `own` is enabled; apart from it only the cache listing and the
first permitted source `t` of the sorted list (its listing, the comparison, the download) -/
theorem mem_getOp {e : Env} {w : World} {scopes : List String} {st : String} {locs : List Src} {c : Contact}
    (h : c ∈ getOp e w scopes st locs) :
    (c = .localGet ∧ "own" ∈ scopes) ∨
    ∃ t, (getSources e locs).find? (permitted "own" e scopes) = some t ∧
      c ∈ [Contact.localShow, .poolShow t, .poolCompare t, .poolGet t] := by
  simp only [getOp, getLoop_eq, List.mem_append] at h
  rcases h with h | h
  · cases hf : (getSources e locs).find? (permitted Extracted.Pool.getSkip e scopes) with
    | none => simp [hf] at h
    | some t => rw [hf] at h; exact .inr ⟨t, rfl, mem_getFrom h⟩
  · exact .inl (mem_ite_own h)

/-- every contact of every operation is either a transport contact with a listed source whose scope is enabled, or a
local one; and the local ones — the cache reading of `get` and `set` apart — are made only when `own` is enabled -/
theorem mem_contacts {e : Env} {w : World} {scopes : List String} {locs : List Src} {op : Op} {c : Contact}
    (hc : c ∈ contacts e w scopes locs op) :
    (∃ s, c.source = some s ∧ s ∈ locs ∧ Permitted e scopes s) ∨
    (c.source = none ∧ ("own" ∈ scopes ∨ (c = .localShow ∧ ∃ st, op = .get st ∨ op = .set st))) := by
  -- show, set and unset go to every permitted source of the list: `f` is the contact they make there
  have key : ∀ f : Src → Contact, (∀ t, (f t).source = some t) →
      c ∈ ((getSources e locs).filter (permitted "own" e scopes)).map f →
      ∃ s, c.source = some s ∧ s ∈ locs ∧ Permitted e scopes s := by
    intro f hf hc
    simp only [List.mem_map, List.mem_filter] at hc
    obtain ⟨t, ⟨ht, hp⟩, rfl⟩ := hc
    exact ⟨t, hf t, mem_getSources.mp ht, permitted_eq.mp hp⟩
  have own : ∀ {x : Contact} {q : Prop}, x.source = none →
      c ∈ (if scopes.contains "own" = true then [x] else []) → c.source = none ∧ ("own" ∈ scopes ∨ q) :=
    fun hx h => ⟨(mem_ite_own h).1 ▸ hx, .inl (mem_ite_own h).2⟩
  cases op with
  | «show» =>
    simp only [contacts, showOp, showLoop_contacts, List.mem_append] at hc
    exact hc.elim (fun h => .inr (own rfl h)) (fun h => .inl (key .poolShow (fun _ => rfl) h))
  | get st =>
    rcases mem_getOp hc with ⟨rfl, h⟩ | ⟨t, hf, ht⟩
    · exact .inr ⟨rfl, .inl h⟩
    · have hper := permitted_eq.mp (List.find?_some hf)
      have hmem := mem_getSources.mp (List.mem_of_find?_eq_some hf)
      simp only [List.mem_cons, List.not_mem_nil, or_false] at ht
      rcases ht with rfl | rfl | rfl | rfl
      · exact .inr ⟨rfl, .inr ⟨rfl, st, .inl rfl⟩⟩
      all_goals exact .inl ⟨t, rfl, hmem, hper⟩
  | set st =>
    simp only [contacts] at hc
    revert hc
    fun_cases setOp e w scopes st locs <;> simp only [List.mem_cons, List.not_mem_nil, or_false]
    · rename_i ho
      rintro (rfl | hc)
      · exact .inr ⟨rfl, .inl (by simpa using ho)⟩
      · exact .inl (key .poolSet (fun _ => rfl) hc)
    · rintro (rfl | hc)
      · exact .inr ⟨rfl, .inr ⟨rfl, st, .inr rfl⟩⟩
      · exact .inl (key .poolSet (fun _ => rfl) hc)
    · rintro rfl
      exact .inr ⟨rfl, .inr ⟨rfl, st, .inr rfl⟩⟩
  | unset =>
    simp only [contacts, unsetOp, List.mem_append] at hc
    exact hc.elim (fun h => .inr (own rfl h)) (fun h => .inl (key .poolUnset (fun _ => rfl) h))

/-- every transport contact of every operation goes to a listed source whose scope is enabled (and is not `own`) -/
theorem contacts_in_scope (e : Env) (w : World) (scopes : List String) (locs : List Src) (op : Op)
    (c : Contact) (s : Src) (hc : c ∈ contacts e w scopes locs op) (hs : c.source = some s) :
    s ∈ locs ∧ Permitted e scopes s := by
  rcases mem_contacts hc with ⟨t, ht, h⟩ | ⟨hn, _⟩
  · rw [hs, Option.some.injEq] at ht; exact ht ▸ h
  · rw [hs] at hn; cases hn

/-- the local backend is written to (`_get/_set/_unset`), and the cache is listed by `show`, only when `own` is
enabled.  (`_show` inside `get`/`set` only *reads* the cache to decide about the download / the refusal.) -/
theorem local_only_if_own (e : Env) (w : World) (scopes : List String) (locs : List Src) (op : Op) (c : Contact)
    (hc : c ∈ contacts e w scopes locs op)
    (hl : c = .localGet ∨ c = .localSet ∨ c = .localUnset ∨ (c = .localShow ∧ op = .show)) :
    "own" ∈ scopes := by
  rcases mem_contacts hc with ⟨t, ht, _⟩ | ⟨_, h | ⟨rfl, st, hop⟩⟩
  · rcases hl with rfl | rfl | rfl | ⟨rfl, _⟩ <;> cases ht
  · exact h
  · rcases hl with hl | hl | hl | ⟨_, rfl⟩
    · cases hl
    · cases hl
    · cases hl
    · rcases hop with h | h <;> cases h

/-! ## Fetching uses the closest permitted source -/

/-- if a permitted source is listed, `get` talks to exactly one source `s`: it is listed and permitted, no
permitted listed source is closer, it is asked for its states, and no other source is contacted -/
theorem get_uses_closest (e : Env) (w : World) (scopes : List String) (st : String) (locs : List Src)
    (t : Src) (ht : t ∈ locs) (hp : Permitted e scopes t) :
    ∃ s, s ∈ locs ∧ Permitted e scopes s ∧
      (∀ u ∈ locs, Permitted e scopes u → rank e u ≤ rank e s) ∧
      (getSources e locs).find? (permitted "own" e scopes) = some s ∧
      Contact.poolShow s ∈ getOp e w scopes st locs ∧
      ∀ c ∈ getOp e w scopes st locs, ∀ u, c.source = some u → u = s := by
  cases hf : (getSources e locs).find? (permitted "own" e scopes) with
  | none =>
    have := List.find?_eq_none.mp hf t (mem_getSources.mpr ht)
    exact absurd (permitted_eq.mpr hp) this
  | some s =>
    have hps := permitted_eq.mp (List.find?_some hf)
    have hms := mem_getSources.mp (List.mem_of_find?_eq_some hf)
    refine ⟨s, hms, hps, ?_, rfl, ?_, ?_⟩
    · intro u hu hpu
      exact (proximity_order e u s).mp
        (find_desc_max (desc_getSources e locs) hf u (mem_getSources.mpr hu) (permitted_eq.mpr hpu))
    · have hf' : (getSources e locs).find? (permitted Extracted.Pool.getSkip e scopes) = some s := hf
      simp [getOp, getLoop_eq, hf', getFrom]
    · intro c hc u hu
      rcases mem_getOp hc with ⟨rfl, _⟩ | ⟨t, hf', ht⟩
      · simp [Contact.source] at hu
      · rw [hf] at hf'; cases hf'
        simp only [List.mem_cons, List.not_mem_nil, or_false] at ht
        rcases ht with rfl | rfl | rfl | rfl <;> simpa [Contact.source] using hu.symm

/-- the tie-break: among the listed sources (duplicates dropped) that are exactly as close as the chosen one, the
chosen one is the first permitted in the listed order (Python's sort is stable) -/
theorem get_tie_break (e : Env) (scopes : List String) (locs : List Src) (s : Src)
    (hf : (getSources e locs).find? (permitted "own" e scopes) = some s) :
    ((dedup locs).filter (fun t => proximity e t == proximity e s)).find? (permitted "own" e scopes) = some s := by
  have h := find_filter_key (key := proximity e) hf
  unfold getSources at h
  rwa [filter_sortDesc] at h

/-- if no listed source is permitted, `get` uses the transport not at all -/
theorem get_none_permitted (e : Env) (w : World) (scopes : List String) (st : String) (locs : List Src)
    (h : ∀ s ∈ locs, ¬ Permitted e scopes s) : ∀ c ∈ getOp e w scopes st locs, c.source = none := by
  intro c hc
  rcases mem_contacts (op := .get st) hc with ⟨s, _, hm, hp⟩ | ⟨hn, _⟩
  · exact absurd hp (h s hm)
  · exact hn

/-! ## A local copy is downloaded again only when it differs from the source -/

/-- `transport.get` is called for `s` exactly when `s` is the chosen (closest permitted) source, holds the
state, and there is no local copy or the local copy differs (checksum comparison of the backing chain fails) -/
theorem download_iff_differs (e : Env) (w : World) (scopes : List String) (st : String) (locs : List Src) (s : Src) :
    Contact.poolGet s ∈ getOp e w scopes st locs ↔
      (getSources e locs).find? (permitted "own" e scopes) = some s ∧ st ∈ w.mirror s ∧
      (st ∉ w.cache ∨ w.valid s = false) := by
  have hl : Contact.poolGet s ∉ (if scopes.contains Extracted.Pool.getLocal = true then [Contact.localGet] else []) := by
    split <;> simp
  have hskip : Extracted.Pool.getSkip = "own" := rfl
  simp only [getOp, getLoop_eq, hskip, List.mem_append, hl, or_false]
  cases hf : (getSources e locs).find? (permitted "own" e scopes) with
  | none => simp
  | some t =>
    simp only [poolGet_mem_getFrom, Option.some.injEq]
    constructor <;> rintro ⟨rfl, h⟩ <;> exact ⟨rfl, h⟩

/-- the comparison is asked at most once and the download at most once: no contact of `get` is repeated -/
theorem get_no_repeat (e : Env) (w : World) (scopes : List String) (st : String) (locs : List Src) :
    (getOp e w scopes st locs).Nodup := by
  simp only [getOp, getLoop_eq]
  cases hf : (getSources e locs).find? (permitted Extracted.Pool.getSkip e scopes) with
  | none => dsimp only; split <;> simp
  | some t =>
    dsimp only
    unfold getFrom
    repeat' split
    all_goals simp

/-! ### what "differs from the source" means: `QCOW2ImageTransfer.compare_chain` -/

/-- the files `compare_chain` looks at are exactly: every image's file of the requested state and of each state it
is backed by, plus the vm state file of the requested state when the object is a vm -/
theorem chain_files_exact (images : List String) (isVm : Bool) (chain : List String) (f : String) :
    f ∈ chainFiles images isVm chain ↔
      ∃ st ∈ chain, (∃ i ∈ images, f = i ++ "/" ++ st ++ ".qcow2") ∨
        (isVm = true ∧ chain.head? = some st ∧ f = st ++ ".state") := by
  cases chain with
  | nil => simp [chainFiles]
  | cons first rest =>
    simp only [chainFiles, stateFiles, List.mem_flatMap, List.mem_append, List.mem_map, List.head?_cons,
      Option.some.injEq]
    constructor
    · rintro ⟨st, hst, h | h⟩
      · obtain ⟨i, hi, rfl⟩ := h
        exact ⟨st, hst, Or.inl ⟨i, hi, rfl⟩⟩
      · split at h
        · rename_i hc
          simp only [Bool.and_eq_true, beq_iff_eq] at hc
          simp only [List.mem_cons, List.not_mem_nil, or_false] at h
          exact ⟨st, hst, Or.inr ⟨hc.1, hc.2.symm, h⟩⟩
        · simp at h
    · rintro ⟨st, hst, ⟨i, hi, rfl⟩ | ⟨hv, hfirst, rfl⟩⟩
      · exact ⟨st, hst, Or.inl ⟨i, hi, rfl⟩⟩
      · refine ⟨st, hst, Or.inr ?_⟩
        simp [hv, hfirst]

/-- the cache is declared valid exactly when every file backing the state equals the source's; only files of the
chain are compared, in order, all of them when valid, and an invalid verdict is due to the last file compared -/
theorem compare_chain_exact (images : List String) (isVm : Bool) (same : String → Bool) (chain : List String) :
    ((compareChain images isVm same chain).1 = true ↔ ∀ f ∈ chainFiles images isVm chain, same f = true) ∧
    (compareChain images isVm same chain).2 <+: chainFiles images isVm chain ∧
    ((compareChain images isVm same chain).1 = true →
        (compareChain images isVm same chain).2 = chainFiles images isVm chain) ∧
    ((compareChain images isVm same chain).1 = false →
        ∃ pre f, (compareChain images isVm same chain).2 = pre ++ [f] ∧ same f = false ∧ ∀ g ∈ pre, same g = true) :=
  ⟨compareFiles_iff _ _, compareFiles_prefix _ _, compareFiles_all _ _, compareFiles_stop _ _⟩

/-- `download_iff_differs` with the checksum comparison spelled out: the state is downloaded again exactly when the
chosen source has it and the local copy is missing or at least one file of its backing chain differs -/
theorem download_iff_some_file_differs (e : Env) (w : World) (scopes : List String) (st : String) (locs : List Src)
    (s : Src) (images : List String) (isVm : Bool) (same : Src → String → Bool) (chain : List String)
    (hv : ∀ t, w.valid t = (compareChain images isVm (same t) chain).1) :
    Contact.poolGet s ∈ getOp e w scopes st locs ↔
      (getSources e locs).find? (permitted "own" e scopes) = some s ∧ st ∈ w.mirror s ∧
      (st ∉ w.cache ∨ ∃ f ∈ chainFiles images isVm chain, same s f = false) := by
  rw [download_iff_differs, hv s]
  have : (compareChain images isVm (same s) chain).1 = false ↔ ∃ f ∈ chainFiles images isVm chain, same s f = false := by
    rw [← Bool.not_eq_true, (compare_chain_exact images isVm (same s) chain).1]
    simp
  rw [this]

example : compareChain ["image1", "image2"] true (fun f => f != "image2/base.qcow2") ["s", "base"]
    = (false, ["image1/s.qcow2", "image2/s.qcow2", "s.state", "image1/base.qcow2", "image2/base.qcow2"]) := by decide +kernel
example : compareChain ["image1"] false (fun _ => true) ["s", "base"] = (true, ["image1/s.qcow2", "image1/base.qcow2"]) := by
  decide +kernel

/-- `TransferOps.compare` hands a well-formed pool path to exactly one comparator: the remote one iff a host is
named, the link one iff the local path carries a `;` (which is removed), the plain local one otherwise -/
theorem compare_route_exact (cache pool : String) (h p : List Char) (hs : splitColon pool.toList = [h, p]) :
    compareRoute cache pool =
      .ok (if h ≠ [] then .remote cache pool
           else if ';' ∈ p then .link cache (String.ofList (p.filter (· != ';')))
           else .plain cache (String.ofList p)) := by
  unfold compareRoute
  rw [hs]
  by_cases hh : h = []
  · by_cases hp : ';' ∈ p <;> simp [hh, hp]
  · simp [hh]

example : compareRoute "/c/f" ":/pool;/f" = .ok (.link "/c/f" "/pool/f") ∧
    compareRoute "/c/f" "host:/pool/f" = .ok (.remote "/c/f" "host:/pool/f") ∧
    compareRoute "/c/f" ":/pool/f" = .ok (.plain "/c/f" "/pool/f") ∧ compareRoute "/c/f" "/pool/f" = .error .valueError := by
  decide +kernel

/-! ## Saving and removing reach every permitted mirror -/

/-- a successful `set` first saves/looks up the local state and then updates exactly the permitted listed
sources, each once, closest first, and nothing else -/
theorem set_reaches_all (e : Env) (w : World) (scopes : List String) (st : String) (locs : List Src)
    (hok : (setOp e w scopes st locs).1 = .ok ()) :
    ∃ (first : Contact) (targets : List Src), (setOp e w scopes st locs).2 = first :: targets.map Contact.poolSet ∧
      first.source = none ∧ targets.Nodup ∧ (∀ s, s ∈ targets ↔ s ∈ locs ∧ Permitted e scopes s) ∧
      targets.Pairwise (fun a b => rank e b ≤ rank e a) := by
  have hn := (nodup_getSources e locs).filter (permitted "own" e scopes)
  have hm : ∀ s, s ∈ (getSources e locs).filter (permitted "own" e scopes) ↔ s ∈ locs ∧ Permitted e scopes s := by
    intro s; rw [List.mem_filter, mem_getSources, permitted_eq]
  have hd := ((sources_exact e locs).2.2).filter (permitted "own" e scopes)
  revert hok
  fun_cases setOp e w scopes st locs <;> intro hok
  · exact ⟨.localSet, _, rfl, rfl, hn, hm, hd⟩
  · exact ⟨.localShow, _, rfl, rfl, hn, hm, hd⟩
  · cases hok

/-- `unset` removes the local state iff `own` is enabled and then removes the state from exactly the permitted
listed sources, each once, and nothing else -/
theorem unset_reaches_all (e : Env) (scopes : List String) (locs : List Src) :
    ∃ targets : List Src, unsetOp e scopes locs =
        (if "own" ∈ scopes then [Contact.localUnset] else []) ++ targets.map Contact.poolUnset ∧
      targets.Nodup ∧ (∀ s, s ∈ targets ↔ s ∈ locs ∧ Permitted e scopes s) := by
  refine ⟨(getSources e locs).filter (permitted "own" e scopes), ?_,
    (nodup_getSources e locs).filter _, ?_⟩
  · simp [unsetOp]
  · intro s; rw [List.mem_filter, mem_getSources, permitted_eq]

/-! ## Updating a pool without the local state is refused -/

/-- without `own` and without the local state `set` raises "Updating state pool requires local states" having
only read the cache — no mirror is contacted -/
theorem update_refused (e : Env) (w : World) (scopes : List String) (st : String) (locs : List Src)
    (hown : "own" ∉ scopes) (hst : st ∉ w.cache) :
    setOp e w scopes st locs = (.error .noLocalState, [.localShow]) := by
  simp [setOp, hown, hst]

/-- and that is the only way `set` fails -/
theorem set_ok_iff (e : Env) (w : World) (scopes : List String) (st : String) (locs : List Src) :
    (setOp e w scopes st locs).1 = .ok () ↔ ("own" ∈ scopes ∨ st ∈ w.cache) := by
  unfold setOp
  by_cases h1 : "own" ∈ scopes <;> by_cases h2 : st ∈ w.cache <;> simp [h1, h2]

/-! ## A state is reported present only if it is in the local cache or in permitted sources -/

theorem show_sound (e : Env) (w : World) (scopes : List String) (locs : List Src) (x : String)
    (hx : x ∈ (showOp e w scopes locs).1) :
    ("own" ∈ scopes ∧ x ∈ w.cache) ∨ ∃ s, s ∈ locs ∧ Permitted e scopes s ∧ x ∈ w.mirror s := by
  simp only [showOp, List.mem_append] at hx
  rcases hx with hx | hx
  · split at hx
    · rename_i h; exact Or.inl ⟨by simpa using h, hx⟩
    · simp at hx
  · rcases showLoop_sound e w scopes _ [] x hx with h | ⟨s, hs, hp, hm⟩
    · simp at h
    · exact Or.inr ⟨s, mem_getSources.mp hs, permitted_eq.mp hp, hm⟩

/-- with `own` enabled every cached state is listed -/
theorem show_lists_cache (e : Env) (w : World) (scopes : List String) (locs : List Src) (x : String)
    (hown : "own" ∈ scopes) (hx : x ∈ w.cache) : x ∈ (showOp e w scopes locs).1 := by
  simp [showOp, hown, hx]

/-- malformed location lists (an entry without exactly one colon) are rejected before anything is contacted -/
theorem malformed_no_contact (e : Env) (w : World) (scopes : List String) (st : String) (locs : List String)
    (h : parseAll locs = none) :
    showRaw e w scopes locs = (.error .valueError, []) ∧ getRaw e w scopes st locs = (.error .valueError, []) ∧
    setRaw e w scopes st locs = (.error .valueError, []) ∧ unsetRaw e scopes locs = (.error .valueError, []) := by
  simp [showRaw, getRaw, setRaw, unsetRaw, h]

/-! ## The root backend (`RootSourcedStateBackend`): local root ↔ `own`, the shared pool ↔ `shared` -/

inductive RootOp
  | check | get | set | unset

def rootContacts (rw : RootWorld) (scopes : List String) : RootOp → List RContact
  | .check => (checkRoot rw scopes).2
  | .get => getRoot rw scopes
  | .set => (setRoot rw scopes).2
  | .unset => (unsetRoot scopes).2

/-- the configurations in which the root operations respect the `shared` scope: the pool is switched off
altogether (`pool_scope = own`) or `shared` is enabled.  Outside of it the statement is FALSE of the code as it
is (finding `root-pool-contact-without-shared-scope`, witnesses below). -/
def RootScopeOk (scopes : List String) : Prop := scopes = ["own"] ∨ "shared" ∈ scopes

instance (scopes : List String) : Decidable (RootScopeOk scopes) := by unfold RootScopeOk; infer_instance

/-- PARTIAL: the shared pool is contacted by a root operation only if `shared` is enabled — proved under
`RootScopeOk`.  Missing for the full statement: `check_root` and `get_root` test `pool_scope == "own"` /
`"own" not in pool_scope` instead of `"shared" in pool_scope`, so e.g. `pool_scope = own swarm` still lists the
shared pool and downloads from it. -/
theorem root_pool_in_scope_partial (rw : RootWorld) (scopes : List String) (op : RootOp) (h : RootScopeOk scopes)
    (c : RContact) (hc : c ∈ rootContacts rw scopes op) (hp : c.isPool = true) : "shared" ∈ scopes := by
  rcases h with rfl | h
  · have hin : inScopeString Extracted.Pool.getRootNotIn ["own"] = true := by decide
    cases op <;>
      simp [rootContacts, checkRoot, getRoot, setRoot, unsetRoot, hin] at hc <;>
      subst hc <;> simp [RContact.isPool] at hp
  · exact h

/-- the full statement fails on the model exactly as on the code: `shared` disabled, yet the pool is listed,
believed, and downloaded from -/
example : ¬ RootScopeOk ["own", "swarm", "cluster"] := by decide +kernel
example : checkRoot ⟨false, true, [true], false⟩ ["own", "swarm", "cluster"] = (true, [.localCheck, .poolCheck]) := by
  decide +kernel
example : getRoot ⟨false, true, [true], false⟩ ["own", "swarm", "cluster"]
    = [.localCheck, .poolCheck, .poolGet, .localGet] := by decide +kernel
example : getRoot ⟨false, true, [true], false⟩ ["swarm", "cluster"] = [.poolGet] := by decide +kernel

/-- for the scope names of the property, `"own" in pool_scope` (a substring test) means what it should -/
theorem own_substring_exact (scopes : List String) (hsub : ∀ t ∈ scopes, t ∈ Extracted.Pool.allScopes) :
    inScopeString "own" scopes = true ↔ "own" ∈ scopes := by
  have key : ∀ t ∈ Extracted.Pool.allScopes, isInfixChars "own".toList t.toList = true → t = "own" := by decide
  have own : isInfixChars "own".toList "own".toList = true := by decide
  simp only [inScopeString, List.any_eq_true]
  constructor
  · rintro ⟨t, ht, hi⟩
    exact key t (hsub t ht) hi ▸ ht
  · intro h; exact ⟨"own", h, own⟩

/-- outside these names it does not: `pool_scope = owner` counts as containing `own` -/
example : inScopeString "own" ["owner"] = true ∧ "own" ∉ ["owner"] := by decide +kernel

/-- the local root is written (`_get_root/_set_root/_unset_root`) only if `own` is enabled -/
theorem root_local_only_if_own (rw : RootWorld) (scopes : List String) (op : RootOp)
    (hsub : ∀ t ∈ scopes, t ∈ Extracted.Pool.allScopes) (c : RContact) (hc : c ∈ rootContacts rw scopes op)
    (hl : c = .localGet ∨ c = .localSet ∨ c = .localUnset) : "own" ∈ scopes := by
  have hown := own_substring_exact scopes hsub
  cases op <;> simp only [rootContacts] at hc <;> revert hc
  · fun_cases checkRoot rw scopes <;> grind
  · fun_cases getRoot rw scopes <;> grind
  · fun_cases setRoot rw scopes <;> grind
  · fun_cases unsetRoot scopes <;> grind

/-- updating the pool root without `own` and without a local root is refused, the pool untouched -/
theorem root_update_refused (rw : RootWorld) (scopes : List String) (hown : "own" ∉ scopes)
    (hl : rw.localRoot = false) :
    (setRoot rw scopes).1 ≠ .ok () ∧ ∀ c ∈ (setRoot rw scopes).2, c.isPool = false := by
  fun_cases setRoot rw scopes <;> simp_all [RContact.isPool]

/-- a successful `set_root` / `unset_root` reaches exactly the enabled places (they succeed only for
`pool_scope = own` and `pool_scope = shared`; every other value is refused with "Invalid pool scope" before
anything is contacted) -/
theorem root_set_unset_exact (rw : RootWorld) (scopes : List String) :
    ((setRoot rw scopes).1 = .ok () →
        (RContact.poolSet ∈ (setRoot rw scopes).2 ↔ "shared" ∈ scopes) ∧
        (RContact.localSet ∈ (setRoot rw scopes).2 ↔ "own" ∈ scopes)) ∧
    ((unsetRoot scopes).1 = .ok () →
        (RContact.poolUnset ∈ (unsetRoot scopes).2 ↔ "shared" ∈ scopes) ∧
        (RContact.localUnset ∈ (unsetRoot scopes).2 ↔ "own" ∈ scopes)) ∧
    ((setRoot rw scopes).1 = .error .invalidScope → (setRoot rw scopes).2 = []) ∧
    ((unsetRoot scopes).1 = .error .invalidScope → (unsetRoot scopes).2 = []) := by
  fun_cases setRoot rw scopes <;> fun_cases unsetRoot scopes <;> simp_all <;> decide

/-- with `own` and `shared` enabled the root is downloaded exactly when the pool has it and there is no local
root or some image differs from the pool's -/
theorem root_download_iff_differs (rw : RootWorld) (scopes : List String)
    (hsub : ∀ t ∈ scopes, t ∈ Extracted.Pool.allScopes) (hown : "own" ∈ scopes) (hsh : "shared" ∈ scopes) :
    RContact.poolGet ∈ getRoot rw scopes ↔
      rw.poolRoot = true ∧ (rw.localRoot = false ∨ rw.valid.all id = false) := by
  have hin : inScopeString Extracted.Pool.getRootNotIn scopes = true := (own_substring_exact scopes hsub).mpr hown
  have hne : (scopes == [Extracted.Pool.getRootLocal]) = false := by
    cases h : scopes == [Extracted.Pool.getRootLocal] with
    | false => rfl
    | true => simp at h; subst h; simp at hsh; exact absurd hsh (by decide)
  have hcmp : RContact.poolGet ∉ (compareLoop rw.valid 0).1 := by
    intro h; obtain ⟨k, hk⟩ := compareLoop_contacts _ _ _ h; cases hk
  simp only [getRoot, hin, hne, Bool.not_true, Bool.false_eq_true, if_false]
  cases hp : rw.poolRoot <;> cases hl : rw.localRoot <;> simp [compareLoop_valid, hcmp]

/-- PARTIAL (same restriction): the root is reported present only if it is local or in the enabled shared pool -/
theorem check_root_sound_partial (rw : RootWorld) (scopes : List String) (h : RootScopeOk scopes)
    (hr : (checkRoot rw scopes).1 = true) : rw.localRoot = true ∨ ("shared" ∈ scopes ∧ rw.poolRoot = true) := by
  revert hr
  fun_cases checkRoot rw scopes <;> grind [RootScopeOk]

/-! ## Non-vacuity: one concrete world that meets the hypotheses of the theorems above

Worker `net1` behind gateway `gw1` on host `h1`, own pool `/own`, shared pool `/shared`; listed sources: a worker
behind another gateway, one on another host, the shared pool, the own pool (twice). -/

def exEnv : Env := ⟨"gw1", "h1", "/own", "/shared", [("net3", "gw1"), ("net4", "gw2")], [("net3", "h2"), ("net4", "h3")]⟩
def exLocs : List Src := [⟨"net4", "/own"⟩, ⟨"net3", "/own"⟩, ⟨"", "/shared"⟩, ⟨"", "/own"⟩, ⟨"", "/own"⟩]
def exWorld : World := ⟨["s"], fun s => if s.net == "net4" then [] else ["s", "t"], fun _ => false⟩

example : getSources exEnv exLocs = [⟨"", "/own"⟩, ⟨"", "/shared"⟩, ⟨"net3", "/own"⟩, ⟨"net4", "/own"⟩] := by decide +kernel
example : exLocs.map (sourceScope exEnv) = ["cluster", "swarm", "shared", "own", "own"] := by decide +kernel
/-- `contacts_in_scope`, `get_uses_closest`, `download_iff_differs`: the shared pool is the closest permitted
source (the own pool is skipped), the local copy differs, so it is downloaded; nothing else is contacted -/
example : getOp exEnv exWorld ["own", "swarm", "cluster", "shared"] "s" exLocs
    = [.localShow, .poolShow ⟨"", "/shared"⟩, .poolCompare ⟨"", "/shared"⟩, .poolGet ⟨"", "/shared"⟩, .localGet] := by
  decide +kernel
example : (⟨"", "/shared"⟩ : Src) ∈ exLocs ∧ Permitted exEnv ["own", "swarm", "cluster", "shared"] ⟨"", "/shared"⟩ := by
  decide +kernel
/-- `get_tie_break`: two equally close sources on the other host — the one listed first is used -/
example : getOp exEnv exWorld ["swarm"] "s" [⟨"net3", "/b"⟩, ⟨"", "/own"⟩, ⟨"net3", "/a"⟩]
    = [.localShow, .poolShow ⟨"net3", "/b"⟩, .poolCompare ⟨"net3", "/b"⟩, .poolGet ⟨"net3", "/b"⟩] := by decide +kernel
/-- with `shared` disabled the next closest permitted source is the worker on the other host -/
example : getOp exEnv exWorld ["swarm", "cluster"] "s" exLocs
    = [.localShow, .poolShow ⟨"net3", "/own"⟩, .poolCompare ⟨"net3", "/own"⟩, .poolGet ⟨"net3", "/own"⟩] := by decide +kernel
/-- `get_none_permitted` -/
example : (∀ s ∈ exLocs, ¬ Permitted exEnv ["own"] s) ∧ getOp exEnv exWorld ["own"] "s" exLocs = [.localGet] := by
  decide +kernel
/-- `set_reaches_all`, `set_ok_iff`: three mirrors, each once, closest first -/
example : setOp exEnv exWorld ["swarm", "cluster", "shared"] "s" exLocs
    = (.ok (), [.localShow, .poolSet ⟨"", "/shared"⟩, .poolSet ⟨"net3", "/own"⟩, .poolSet ⟨"net4", "/own"⟩]) := by
  decide +kernel
/-- `update_refused` -/
example : "own" ∉ ["shared"] ∧ "u" ∉ exWorld.cache ∧
    setOp exEnv exWorld ["shared"] "u" exLocs = (.error .noLocalState, [.localShow]) := by decide +kernel
/-- `unset_reaches_all`, `local_only_if_own` -/
example : unsetOp exEnv ["own", "cluster"] exLocs = [.localUnset, .poolUnset ⟨"net4", "/own"⟩] := by decide +kernel
/-- `show_sound`, `show_lists_cache` -/
example : showOp exEnv exWorld ["own", "swarm", "shared"] exLocs
    = (["s", "s", "t"], [.localShow, .poolShow ⟨"", "/shared"⟩, .poolShow ⟨"net3", "/own"⟩]) := by decide +kernel
/-- `malformed_no_contact` -/
example : parseAll ["net2:/a:/b"] = none ∧ parseAll ["/nocolon"] = none ∧ parseAll [":/ok"] = some [⟨"", "/ok"⟩] := by
  decide +kernel
/-- root theorems: hypotheses met -/
example : RootScopeOk ["own", "shared"] ∧ (∀ t ∈ ["own", "shared"], t ∈ Extracted.Pool.allScopes) ∧
    getRoot ⟨true, true, [true, false, true], false⟩ ["own", "shared"]
      = [.localCheck, .poolCheck, .poolCompare 0, .poolCompare 1, .poolGet, .localGet] := by decide +kernel
example : setRoot ⟨false, true, [], false⟩ ["shared"] = (.error .noLocalState, [.localCheck]) := by decide +kernel

/-- Observation (not a violation of C13 as worded): `show` restarts its intersection when the accumulator is
empty, so a state held only by a *farther* permitted mirror is listed although the closest one — the only one
`get` will ask — lacks it. -/
example : (showOp exEnv ⟨[], fun s => if s.net == "" then [] else ["s"], fun _ => true⟩ ["swarm", "shared"] exLocs).1 = ["s"] ∧
    getOp exEnv ⟨[], fun s => if s.net == "" then [] else ["s"], fun _ => true⟩ ["swarm", "shared"] "s" exLocs
      = [.localShow, .poolShow ⟨"", "/shared"⟩] := by decide +kernel

/-! ## the transport's directory listing (`QCOW2ImageTransfer.show`)

What the pools report as the states of a mirror is computed from a raw directory listing, which also holds lock files
(`<state>.qcow2.lock`, left behind by every locked transfer), the image sub-directories of a vm and anything else. -/

/-- a name is reported for a mirror exactly if some directory entry maps to it -/
theorem transfer_show_exact (isImage : Bool) (listing : List String) (x : String) :
    x ∈ transferShow isImage listing ↔ ∃ p ∈ listing, entryName (showFormat isImage) p = x := by
  simp [transferShow]

/-- a name without a dot in front of `tail`: the name is kept, and what `str.replace` leaves of `tail` follows -/
theorem entryName_tail (isImage : Bool) (s tail out : String) (hs : '.' ∉ s.toList)
    (h : removeAllF (showFormat isImage).toList tail.length tail.toList = out.toList) :
    entryName (showFormat isImage) (s ++ tail) = s ++ out := by
  obtain ⟨pr, hf⟩ : ∃ pr, (showFormat isImage).toList = '.' :: pr := by cases isImage <;> exact ⟨_, rfl⟩
  rw [entryName_append _ s tail '.' pr hf hs, h]
  simp

/-- the state file of a state maps to the state: `<s>.qcow2 ↦ s`, `<s>.state ↦ s` (names without a dot; dotted names of
the shipped suite are covered by the examples below) -/
theorem state_file_listed (isImage : Bool) (s : String) (hs : '.' ∉ s.toList) :
    entryName (showFormat isImage) (s ++ showFormat isImage) = s := by
  simpa using entryName_tail isImage s (showFormat isImage) "" hs (by cases isImage <;> decide +kernel)

/-- the lock file a transfer leaves next to a state file never counts as the state: `<s>.qcow2.lock ↦ <s>.lock ≠ s` -/
theorem lock_file_not_a_state (isImage : Bool) (s : String) (hs : '.' ∉ s.toList) :
    entryName (showFormat isImage) (s ++ (showFormat isImage ++ ".lock")) = s ++ ".lock" ∧
    entryName (showFormat isImage) (s ++ (showFormat isImage ++ ".lock")) ≠ s := by
  have key := entryName_tail isImage s (showFormat isImage ++ ".lock") ".lock" hs (by cases isImage <;> decide +kernel)
  refine ⟨key, ?_⟩
  rw [key]
  intro h
  have := congrArg String.length h
  simp at this

example : transferShow true ["launch.qcow2", "launch.qcow2.lock", "b.qcow2.lock", "guisetup.noop.qcow2"]
    = ["launch", "launch.lock", "b.lock", "guisetup.noop"] := by decide +kernel
example : transferShow false ["image1", "launch.state", "launch.state.lock"] = ["image1", "launch", "launch.lock"] := by
  decide +kernel
example : '.' ∉ "launch".toList := by decide +kernel

/-! ## The regenerated scope decision (`harness/pygen.py`)

`I2N/Extracted/GenPool.lean` is regenerated on every run from the source of `SourcedStateBackend.get_source_scope`
(Python AST → Lean, branch by branch; the six parameter reads are bound to the fields of `Env` / `Src` the model uses).
`I2N.Extracted.Pool` already pins the five returned literals; this pins the *control flow* as well. -/

open I2N.Extracted.GenPool in
/-- **The hand written `sourceScope` is the Python source of `get_source_scope`**: same answer for all parameter
sets and all sources.  No hypotheses. -/
theorem sourceScope_matches_source (e : Env) (s : Src) : genSourceScope e s = sourceScope e s := by
  unfold genSourceScope sourceScope
  by_cases h1 : e.gateway = e.srcGateway s <;> by_cases h2 : e.host = e.srcHost s <;>
    by_cases h3 : lstripColon e.sharedPool = s.path <;> by_cases h4 : e.swarmPool = s.path <;>
    simp [h1, h2, h3, h4, bne]

open I2N.Extracted.GenPool in
/-- the generated definition computes: a source behind another gateway, and the own pool's path -/
example : genSourceScope ⟨"gw1", "h1", "/own", "/shared", [("far", "gw2")], []⟩ ⟨"far", "/own"⟩ = "cluster" ∧
    genSourceScope ⟨"gw1", "h1", "/own", ":/shared", [], []⟩ ⟨"", "/own"⟩ = "own" ∧
    genSourceScope ⟨"gw1", "h1", "/own", ":/shared", [], []⟩ ⟨"", "/shared"⟩ = "shared" := by decide +kernel

open I2N.Extracted.GenPool in
/-- **The hand written `proximity` is the Python source of the sort key of `get_sources`**: same score for all
parameter sets and all sources (the generated definition counts in Python's unbounded integers, the model in `Nat`).
No hypotheses. -/
theorem proximity_matches_source (e : Env) (s : Src) : genProximity e s = (proximity e s : Int) := by
  unfold genProximity proximity
  by_cases h1 : e.gateway = e.srcGateway s <;> by_cases h2 : e.host = e.srcHost s <;>
    by_cases h3 : e.swarmPool = s.path <;>
    simp [h1, h2, h3, I2N.Extracted.Pool.proxGateway, I2N.Extracted.Pool.proxHost, I2N.Extracted.Pool.proxSwarmPath,
      I2N.Extracted.Pool.proxOtherPath]

open I2N.Extracted.GenPool in
/-- the generated key computes: own pool of the same host, and a foreign gateway -/
example : genProximity ⟨"gw1", "h1", "/own", ":/shared", [], []⟩ ⟨"", "/own"⟩ = 1110 ∧
    genProximity ⟨"gw1", "h1", "/own", "/shared", [("far", "gw2")], [("far", "h2")]⟩ ⟨"far", "/x"⟩ = 1 := by decide +kernel

end I2N.Props.C13
