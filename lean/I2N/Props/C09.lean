import I2N.Lemmas.Graph
import I2N.Lemmas.GraphResolve
import I2N.Lemmas.GraphRestrict
/-!
# C09 — Workers get equivalent linked graph copies; lazy and eager parsing agree

Two kinds of statements: about the resolver (what "equivalent copy" and "lazy = eager" mean, for all suites,
selections, restrictions, worker sets and expansion orders) and about the verified bridge checker that is run on
every extracted implementation graph (`drv_graph check-bridges`).
-/
namespace I2N.Props.C09
open I2N.Resolve

/-! ### every worker receives an equivalent copy -/

/-- Two workers with the same restrictions get the same graph up to the worker's name: the same nodes with the
same declarations and parents, the same edges. -/
theorem copies_equivalent (S : Suite) (user : List (String × VLine)) (sel : List RLine) (w v : Worker)
    (h : w.restr = v.restr) :
    (resolveWorker S user sel w).nodes.map (·.inst) = (resolveWorker S user sel v).nodes.map (·.inst) ∧
    (resolveWorker S user sel w).edges.map (fun e => { e with worker := v.name }) =
      (resolveWorker S user sel v).edges := by
  have ha := allowed_congr S user w v h
  simp only [resolveWorker, ha, List.map_map, List.map_flatMap, edgesOf]
  constructor
  · rfl
  · congr 1

/-- A worker's own restrictions only ever exclude vm variants (hence tests): what it may use is a sub-list of
what an unrestricted worker may use. -/
theorem restrictions_only_exclude (S : Suite) (user : List (String × VLine)) (w : Worker) (vm : String) :
    (allowed S user w vm).Sublist (allowed S user { w with restr := [] } vm) :=
  allowed_sublist S user w _ rfl vm

/-- … so the tests a restricted worker composes are among those an unrestricted worker composes: every leaf
assignment of a selected test under the restricted worker is one under the worker without its restrictions
(it differs "only in tests excluded by that worker's restrictions"). -/
theorem restricted_leaves_subset (S : Suite) (user : List (String × VLine)) (w : Worker) (t : Test) (a : Asg)
    (ha : a ∈ leafAsgs S (allowed S user w) t) :
    a ∈ leafAsgs S (allowed S user { w with restr := [] }) t :=
  leafAsgs_mono S _ _ (allowed_sub S user w _ rfl) t a ha

/-- The copy a worker receives does not depend on which other workers take part, nor on their order or their
restrictions. -/
theorem worker_copy_independent (S : Suite) (user : List (String × VLine)) (sel : List RLine)
    (ws : List Worker) (w : Worker) (hw : w ∈ ws) (huniq : ∀ v ∈ ws, v.name = w.name → v = w) (n : GNode)
    (hn : n.worker = w.name) :
    n ∈ (resolve S user sel ws).nodes ↔ n ∈ (resolveWorker S user sel w).nodes := by
  rw [mem_resolve_nodes]
  constructor
  · rintro ⟨v, hv, hnv⟩
    have : v.name = w.name := by
      rw [← hn]; exact ((mem_worker_nodes S user sel v n).mp hnv).1.symm
    rw [← huniq v hv this]; exact hnv
  · intro h; exact ⟨w, hw, h⟩

/-! ### lazy and eager parsing agree -/

/-- eager parsing is lazy parsing of all selected flat nodes -/
theorem eager_is_lazy_all (S : Suite) (allow : String → List String) (sel : List RLine) :
    workerNodes S allow sel = lazyNodes S allow (selected S sel) := rfl

/-- Under every interleaving: the nodes present after a sequence of expansions depend only on *which* flat nodes
were expanded, not on the order, nor on repetitions. -/
theorem lazy_order_irrelevant (S : Suite) (allow : String → List String) (o₁ o₂ : List Test)
    (h : ∀ t, t ∈ o₁ ↔ t ∈ o₂) (i : Inst) : i ∈ lazyNodes S allow o₁ ↔ i ∈ lazyNodes S allow o₂ := by
  simp only [mem_lazyNodes, h]

/-- once every selected flat node has been expanded (in any order, any number of times) the lazily built graph
has exactly the nodes of the graph parsed up front — and a node *is* its declarations and its parents -/
theorem lazy_eq_eager (S : Suite) (allow : String → List String) (sel : List RLine) (order : List Test)
    (h : ∀ t, t ∈ order ↔ t ∈ selected S sel) (i : Inst) :
    i ∈ lazyNodes S allow order ↔ i ∈ workerNodes S allow sel :=
  lazy_order_irrelevant S allow order (selected S sel) h i

/-- the form the driver evaluates (`resolveLazy`): the flat nodes a worker has expanded are given by a predicate on
the suite's tests; if it holds exactly for the selected tests, the worker's lazily built copy is the eager one -/
theorem lazy_steps_eq_eager (S : Suite) (allow : String → List String) (sel : List RLine) (p : Test → Bool)
    (h : ∀ t ∈ S.tests, p t = true ↔ t ∈ selected S sel) (i : Inst) :
    i ∈ lazyNodes S allow (S.tests.filter p) ↔ i ∈ workerNodes S allow sel := by
  refine lazy_eq_eager S allow sel _ (fun t => ?_) i
  rw [List.mem_filter]
  exact ⟨fun ⟨ht, hp⟩ => (h t ht).mp hp, fun hs => ⟨selected_subset S sel t hs, (h t (selected_subset S sel t hs)).mpr hs⟩⟩

/-- expansion is monotone … -/
theorem lazy_monotone (S : Suite) (allow : String → List String) (o₁ o₂ : List Test)
    (h : ∀ t ∈ o₁, t ∈ o₂) (i : Inst) (hi : i ∈ lazyNodes S allow o₁) : i ∈ lazyNodes S allow o₂ := by
  obtain ⟨t, ht, hr⟩ := (mem_lazyNodes S allow o₁ i).mp hi
  exact (mem_lazyNodes S allow o₂ i).mpr ⟨t, h t ht, hr⟩

/-- … and idempotent: expanding a flat node again reveals nothing new -/
theorem lazy_idempotent (S : Suite) (allow : String → List String) (order : List Test) (t : Test)
    (ht : t ∈ order) (i : Inst) : i ∈ lazyNodes S allow (order ++ [t]) ↔ i ∈ lazyNodes S allow order := by
  refine lazy_order_irrelevant S allow _ _ (fun t' => ?_) i
  rw [List.mem_append, List.mem_singleton]
  exact ⟨fun h => h.elim id (· ▸ ht), Or.inl⟩

/-- at every moment of a lazy traversal the graph built so far is a sub-graph of the eager one … -/
theorem lazy_partial_subset (S : Suite) (allow : String → List String) (sel : List RLine) (order : List Test)
    (h : ∀ t ∈ order, t ∈ selected S sel) (i : Inst) (hi : i ∈ lazyNodes S allow order) :
    i ∈ workerNodes S allow sel :=
  lazy_monotone S allow order (selected S sel) h i hi

/-- … in which every node present has all its dependencies present: a lazily expanded test has exactly the
parents it has in the graph parsed up front (the `parents` of the very same node), and they are in the graph. -/
theorem lazy_parents_eq (S : Suite) (allow : String → List String) (order : List Test) (i : Inst)
    (hi : i ∈ lazyNodes S allow order) : ∀ e ∈ i.parents, ∃ j ∈ lazyNodes S allow order, j.key = e.2.2 :=
  lazyNodes_closed S allow order i hi

/-- the workers together expand every selected compatible test: every variant combination of a selected test
that a worker allows is a node of that worker's graph (given fuel for one level, which `Suite.fuel` always has) -/
theorem all_compatible_expanded (S : Suite) (allow : String → List String) (sel : List RLine) (t : Test)
    (ht : t ∈ selected S sel) (a : Asg) (ha : a ∈ leafAsgs S allow t) (i : Inst)
    (hi : i ∈ insts S allow S.fuel t a) : i ∈ workerNodes S allow sel :=
  (mem_workerNodes S allow sel i).mpr
    ⟨t, ht, (mem_reveal S allow t i).mpr ⟨a, ha, insts_subset_anc S allow _ t a i hi⟩⟩

/-- parsing the same input twice yields the same graph: `resolve` is a function of its arguments; in particular
it does not depend on anything parsed before. -/
theorem resolve_deterministic (S S' : Suite) (user user' : List (String × VLine)) (sel sel' : List RLine)
    (ws ws' : List Worker) (h1 : S = S') (h2 : user = user') (h3 : sel = sel') (h4 : ws = ws') :
    (resolve S user sel ws).nodes = (resolve S' user' sel' ws').nodes ∧
    (resolve S user sel ws).edges = (resolve S' user' sel' ws').edges := by
  subst h1 h2 h3 h4; exact ⟨rfl, rfl⟩

/-! ### the verified bridge checker run on every extracted implementation graph -/

/-- `check-bridges = true` means: bridges are symmetric, join different composite nodes of one class and of
different workers, the two ends reference the very same four register objects (so progress registered through
one copy is read through every copy), every two such nodes *are* bridged, and register objects are shared with
nobody outside the class. -/
theorem checkBridges_sound (g : I2N.Graph.Graph) (h : g.checkBridges = true) : I2N.Graph.BridgesOK g :=
  I2N.Graph.checkBridges_sound g h

/-- sharing is transitive along bridges: every member of a bridged chain reads the same registers -/
theorem bridged_chain_shares (g : I2N.Graph.Graph) (h : g.checkBridges = true) :
    ∀ (l : List Nat) (a b : Nat), g.BridgeChain (a :: l ++ [b]) → g.regsOf a = g.regsOf b
  | [], a, b, hc => ((I2N.Graph.checkBridges_sound g h).shared a b hc.1).1
  | x :: l, a, b, hc =>
    (((I2N.Graph.checkBridges_sound g h).shared a x hc.1).1).trans (bridged_chain_shares g h l x b hc.2)

/-! ### non-vacuity -/

open I2N.Props in
example : (resolveWorker ⟨[("vm1", ["A", "B"])], "vm1", []⟩ [] [] ⟨"net1", []⟩).nodes.map (·.inst) =
    (resolveWorker ⟨[("vm1", ["A", "B"])], "vm1", []⟩ [] [] ⟨"net2", []⟩).nodes.map (·.inst) :=
  (copies_equivalent _ _ _ _ _ rfl).1

/-- two copies of a one-node class, bridged and sharing registers 0–3; an unrelated node with its own -/
def demoBridged : I2N.Graph.Graph :=
  { nodes := [
      { id := "1-t.net1", worker := "net1", flat := false, sharedRoot := false, objectRoot := "", cloneSource := false,
        paramNets := ["net1"], paramVms := [], objs := [], cls := "t" },
      { id := "1-t.net2", worker := "net2", flat := false, sharedRoot := false, objectRoot := "", cloneSource := false,
        paramNets := ["net2"], paramVms := [], objs := [], cls := "t" },
      { id := "2-u.net1", worker := "net1", flat := false, sharedRoot := false, objectRoot := "", cloneSource := false,
        paramNets := ["net1"], paramVms := [], objs := [], cls := "u" }],
    setup := [], cleanup := [], bridged := [(0, 1), (1, 0)], regs := [[0, 1, 2, 3], [0, 1, 2, 3], [4, 5, 6, 7]] }

example : demoBridged.checkBridges = true := by decide +kernel
/-- forgetting to alias the registers is rejected -/
example : ({ demoBridged with regs := [[0, 1, 2, 3], [8, 9, 10, 11], [4, 5, 6, 7]] } : I2N.Graph.Graph).checkBridges = false := by
  decide +kernel
/-- a one-sided bridge is rejected -/
example : ({ demoBridged with bridged := [(0, 1)] } : I2N.Graph.Graph).checkBridges = false := by decide +kernel

/-! ### the copy of a worker WITH object restrictions versus the copy of an unrestricted worker

Compared at the level of (test, per-vm variant assignment) pairs: `Key.bare k = (k.test, k.asg)` erases the clone
labels of a node name (`copyTests` = the bare nodes of a worker's copy, `copyParents … x` = the bare parents of the
bare node `x` along the edges of the copy).  Labels have to be erased: a restriction that leaves a dependency
with one producer removes the clones (`restricted_copy_keys_differ`).  `w` is the restricted worker, `v` any
worker without restrictions; `asgOK (allowed S user w) a` = every vm variant of the assignment `a` is allowed
for `w`. -/

/-- the label-erasing projection, explicitly -/
theorem bare_def (k : Key) : k.bare = (k.test, k.asg) := rfl

/-- **The true inclusion** (every suite, selection, user and worker restrictions): every (test, assignment) pair
instantiated for the restricted worker is instantiated for the unrestricted worker, on variants the restricted
worker allows. -/
theorem restricted_copy_tests_subset (S : Suite) (user : List (String × VLine)) (sel : List RLine) (w v : Worker)
    (hv : v.restr = []) (x : Name × Asg) (hx : x ∈ copyTests S user sel w) :
    x ∈ copyTests S user sel v ∧ asgOK (allowed S user w) x.2 = true := by
  rw [copyTests_eq] at hx ⊢
  obtain ⟨h1, h2⟩ := bare_restrict_subset S _ _ (allowed_sub S user w v hv) sel x hx
  exact ⟨h1, (asgOK_iff _ _).mpr h2⟩

/-- **The converse inclusion is false**: "restricted copy = unrestricted copy filtered by *every vm variant of the
assignment is allowed for w*" fails whenever everything that needs a setup node is excluded although the setup
node's own variants are allowed.  Suite `cx1`: leaf `quick.p` on vm1+vm2 needs `install` on vm1; worker `noX`
excludes the only variant of vm2.  `(install, vm1=A)` is in the unrestricted copy, all its variants are allowed
for `noX`, and it is not in `noX`'s copy (which is empty). -/
theorem restricted_copy_tests_not_superset :
    ∃ (S : Suite) (sel : List RLine) (w v : Worker) (x : Name × Asg), v.restr = [] ∧
      x ∈ copyTests S [] sel v ∧ asgOK (allowed S [] w) x.2 = true ∧ x ∉ copyTests S [] sel w :=
  ⟨RDemo.cx1, RDemo.selLeaves, RDemo.noX, RDemo.free, (["original", "install"], [("vm1", "A")]), rfl,
    by decide +kernel⟩

/-- … also when the restriction leaves every vm a variant (`cx2`: vm2 keeps `Y`, but the only dependant of
`install` supports `X` alone) … -/
theorem restricted_copy_tests_not_superset_nonempty :
    (∀ vm ∈ RDemo.cx2.variants.map Prod.fst, allowed RDemo.cx2 [] RDemo.noX vm ≠ []) ∧
    (["original", "install"], [("vm1", "A")]) ∈ copyTests RDemo.cx2 [] RDemo.selLeaves RDemo.free ∧
    asgOK (allowed RDemo.cx2 [] RDemo.noX) [("vm1", "A")] = true ∧
    (["original", "install"], [("vm1", "A")]) ∉ copyTests RDemo.cx2 [] RDemo.selLeaves RDemo.noX := by
  decide +kernel

/-- … and when the selected test itself survives but an intermediate producer is excluded (`cx3`: `quick.d` on
vm1 ← `m` on vm1+vm2 ← `install` on vm1; `noXY` excludes all of vm2): `quick.d` stays (without its dependency),
`install` goes although its variants are allowed. -/
theorem restricted_copy_tests_not_superset_inner :
    (["quick", "d"], [("vm1", "A")]) ∈ copyTests RDemo.cx3 [] RDemo.selLeaves RDemo.noXY ∧
    (["original", "install"], [("vm1", "A")]) ∈ copyTests RDemo.cx3 [] RDemo.selLeaves RDemo.free ∧
    asgOK (allowed RDemo.cx3 [] RDemo.noXY) [("vm1", "A")] = true ∧
    (["original", "install"], [("vm1", "A")]) ∉ copyTests RDemo.cx3 [] RDemo.selLeaves RDemo.noXY := by
  decide +kernel

/-- **Equality under a substitution hypothesis.**  If every vm that loses a variant keeps an allowed variant
`σ vm` that every test of the suite supports (always the case when no test restricts the vms the worker
restricts and the worker leaves each of them a variant), then the (test, assignment) pairs instantiated for the
restricted worker are *exactly* those of the unrestricted worker whose every vm variant is allowed for `w`.
Missing for the unconditional statement: nothing provable — it is false (`restricted_copy_tests_not_superset*`);
the unconditional equality is `restricted_copy_tests`. -/
theorem restricted_copy_tests_partial (S : Suite) (user : List (String × VLine)) (sel : List RLine) (w v : Worker)
    (hv : v.restr = []) (σ : String → String)
    (hσ : ∀ vm ∈ S.variants.map Prod.fst, (∃ x ∈ allowed S user v vm, x ∉ allowed S user w vm) →
      ∀ t ∈ S.tests, σ vm ∈ allowedFor (allowed S user w) t vm)
    (x : Name × Asg) :
    x ∈ copyTests S user sel w ↔ x ∈ copyTests S user sel v ∧ asgOK (allowed S user w) x.2 = true := by
  constructor
  · exact restricted_copy_tests_subset S user sel w v hv x
  · rintro ⟨h1, h2⟩
    rw [copyTests_eq] at h1 ⊢
    refine bare_restrict_subst S _ _ σ ?_ sel x h1 ((asgOK_iff _ _).mp h2)
    intro vm hex t ht
    by_cases hvm : vm ∈ S.variants.map Prod.fst
    · exact hσ vm hvm hex t ht
    · obtain ⟨y, hy, _⟩ := hex
      rw [allowed_nil S user v vm hvm] at hy
      cases hy

/-- The same with a hypothesis that needs no witness: no test of the suite has an own `only` restriction on a vm
of which `w` excludes a variant, and `w` leaves every such vm at least one variant. -/
theorem restricted_copy_tests_unconstrained_partial (S : Suite) (user : List (String × VLine)) (sel : List RLine)
    (w v : Worker) (hv : v.restr = [])
    (h : ∀ vm ∈ S.variants.map Prod.fst, (∃ x ∈ allowed S user v vm, x ∉ allowed S user w vm) →
      allowed S user w vm ≠ [] ∧ ∀ t ∈ S.tests, t.only.find? (fun e => e.1 == vm) = none)
    (x : Name × Asg) :
    x ∈ copyTests S user sel w ↔ x ∈ copyTests S user sel v ∧ asgOK (allowed S user w) x.2 = true := by
  refine restricted_copy_tests_partial S user sel w v hv (fun vm => (allowed S user w vm).headD "") ?_ x
  intro vm hvm hex t ht
  obtain ⟨hne, hnone⟩ := h vm hvm hex
  simp only [allowedFor, hnone t ht]
  cases hl : allowed S user w vm with
  | nil => exact absurd hl hne
  | cons y ys => simp

/-- Every node of the restricted copy is *needed*: reachable from a selected test composed with variants `w`
allows, along edges of the **unrestricted** copy, through nodes on allowed variants only (no hypothesis). -/
theorem restricted_copy_tests_needed (S : Suite) (user : List (String × VLine)) (sel : List RLine) (w v : Worker)
    (hv : v.restr = []) (x : Name × Asg) (hx : x ∈ copyTests S user sel w) :
    Needed (fun x => ∃ t ∈ selected S sel, x.1 = t.name ∧ x.2 ∈ leafAsgs S (allowed S user v) t ∧
        asgOK (allowed S user w) x.2 = true)
      (fun x y => y ∈ copyParents S user sel v x) (fun a => asgOK (allowed S user w) a = true) x :=
  Needed.imp (fun _ ⟨t, ht, hn, ha, hok⟩ => ⟨t, ht, hn, ha, (asgOK_iff _ _).mpr hok⟩)
    (fun y z => (mem_copyParents S user sel v y z).mpr) (fun a => (asgOK_iff _ a).mpr)
    (needed_of_bare S _ _ (allowed_sub S user w v hv) sel x (copyTests_eq S user sel w ▸ hx))

/-- **The restricted copy, exactly** (every selection, user and worker restrictions; suites with unique test names
and an acyclic declared producer relation, `RankOK` as in C06/C07): the (test, assignment) pairs instantiated for
the restricted worker `w` are the unrestricted copy *minus the excluded variants, minus what is then no longer
needed*: the least set containing the selected tests composed with variants allowed for `w` and closed under
"parent in the unrestricted copy whose every vm variant is allowed for `w`". -/
theorem restricted_copy_tests (S : Suite) (user : List (String × VLine)) (sel : List RLine) (w v : Worker)
    (hv : v.restr = []) (hun : UniqueNames S) (rk : Name → Nat) (hrk : RankOK S rk)
    (x : Name × Asg) :
    x ∈ copyTests S user sel w ↔
      Needed (fun x => ∃ t ∈ selected S sel, x.1 = t.name ∧ x.2 ∈ leafAsgs S (allowed S user v) t ∧
          asgOK (allowed S user w) x.2 = true)
        (fun x y => y ∈ copyParents S user sel v x) (fun a => asgOK (allowed S user w) a = true) x := by
  refine ⟨restricted_copy_tests_needed S user sel w v hv x, fun h => ?_⟩
  exact copyTests_eq S user sel w ▸ bare_of_needed S _ _ (allowed_sub S user w v hv) hun rk hrk sel x
    (Needed.imp (fun _ ⟨t, ht, hn, ha, hok⟩ => ⟨t, ht, hn, ha, (asgOK_iff _ _).mp hok⟩)
      (fun y z => (mem_copyParents S user sel v y z).mp) (fun a => (asgOK_iff _ a).mp) h)

/-- **Edges, the inclusion that always holds**: a parent (test, assignment) of a node in the restricted copy is a
parent of the same (test, assignment) in the unrestricted copy, on variants allowed for `w`. -/
theorem restricted_copy_parents_subset (S : Suite) (user : List (String × VLine)) (sel : List RLine)
    (w v : Worker) (hv : v.restr = []) (x y : Name × Asg) (hy : y ∈ copyParents S user sel w x) :
    y ∈ copyParents S user sel v x ∧ asgOK (allowed S user w) y.2 = true := by
  rw [mem_copyParents, mem_bareParents_workerNodes] at hy ⊢
  obtain ⟨h1, h2⟩ := PEdge_mono S _ _ (allowed_sub S user w v hv) sel x y hy
  exact ⟨h1, (asgOK_iff _ _).mpr h2⟩

/-- **Edges of nodes present in both copies agree, modulo clone labels and excluded variants**: for a (test,
assignment) pair `x` of the restricted copy (it is in the unrestricted copy too, by
`restricted_copy_tests_subset`), its parent (test, assignment) set in the restricted copy is its parent set in
the unrestricted copy filtered by "every vm variant is allowed for `w`".  (Plain equality of the parent sets is
false: a producer on another vm loses the excluded variants, `restricted_copy_parents_filter_needed`.) -/
theorem restricted_copy_parents (S : Suite) (user : List (String × VLine)) (sel : List RLine) (w v : Worker)
    (hv : v.restr = []) (hun : UniqueNames S) (rk : Name → Nat) (hrk : RankOK S rk)
    (x : Name × Asg) (hx : x ∈ copyTests S user sel w) (y : Name × Asg) :
    y ∈ copyParents S user sel w x ↔
      y ∈ copyParents S user sel v x ∧ asgOK (allowed S user w) y.2 = true := by
  constructor
  · exact restricted_copy_parents_subset S user sel w v hv x y
  · rintro ⟨h1, h2⟩
    rw [mem_copyParents, mem_bareParents_workerNodes] at h1 ⊢
    rw [copyTests_eq] at hx
    exact PEdge_restrict_back S _ _ (allowed_sub S user w v hv) hun rk hrk sel x y hx h1 ((asgOK_iff _ _).mp h2)

/-- the filter in `restricted_copy_parents` is needed: in `cx3`, `quick.d(vm1=A)` is in both copies; `m(A, Y)` is
its parent in the unrestricted copy only (worker `onlyX`) -/
theorem restricted_copy_parents_filter_needed :
    (["quick", "d"], [("vm1", "A")]) ∈ copyTests RDemo.cx3 [] RDemo.selLeaves RDemo.onlyX ∧
    (["internal", "m"], [("vm1", "A"), ("vm2", "Y")]) ∈
      copyParents RDemo.cx3 [] RDemo.selLeaves RDemo.free (["quick", "d"], [("vm1", "A")]) ∧
    (["internal", "m"], [("vm1", "A"), ("vm2", "Y")]) ∉
      copyParents RDemo.cx3 [] RDemo.selLeaves RDemo.onlyX (["quick", "d"], [("vm1", "A")]) := by
  decide +kernel

/-- why labels are erased: in `cx3` the unrestricted worker clones `quick.d` (two producers `m(A,X)`, `m(A,Y)`:
label `mst`), the worker restricted to `X` does not — the node *keys* of the restricted copy are not among the
unrestricted copy's, the bare pairs are -/
theorem restricted_copy_keys_differ :
    (⟨["quick", "d"], [("vm1", "A")], []⟩ : Key) ∈
      (resolveWorker RDemo.cx3 [] RDemo.selLeaves RDemo.onlyX).nodes.map (·.inst.key) ∧
    (⟨["quick", "d"], [("vm1", "A")], []⟩ : Key) ∉
      (resolveWorker RDemo.cx3 [] RDemo.selLeaves RDemo.free).nodes.map (·.inst.key) ∧
    (⟨["quick", "d"], [("vm1", "A")], ["mst"]⟩ : Key) ∈
      (resolveWorker RDemo.cx3 [] RDemo.selLeaves RDemo.free).nodes.map (·.inst.key) := by
  decide +kernel

/-! #### non-vacuity on `Demo.demo` (worker `onlyA`: `only_vm1 = A`) and on `cx3` (worker `onlyX`) -/

/-- the substitution hypothesis holds for the demo suite and the worker restricted to variant `A` … -/
example : ∀ vm ∈ Demo.demo.variants.map Prod.fst,
    (∃ x ∈ allowed Demo.demo [] RDemo.free vm, x ∉ allowed Demo.demo [] RDemo.onlyA vm) →
      ∀ t ∈ Demo.demo.tests, (fun _ => "A") vm ∈ allowedFor (allowed Demo.demo [] RDemo.onlyA) t vm := by decide +kernel
/-- … so does the witness-free hypothesis of `restricted_copy_tests_unconstrained_partial` … -/
example : ∀ vm ∈ Demo.demo.variants.map Prod.fst,
    (∃ x ∈ allowed Demo.demo [] RDemo.free vm, x ∉ allowed Demo.demo [] RDemo.onlyA vm) →
      allowed Demo.demo [] RDemo.onlyA vm ≠ [] ∧
        ∀ t ∈ Demo.demo.tests, t.only.find? (fun e => e.1 == vm) = none := by decide +kernel
/-- … the restriction does exclude something (the premise of the hypothesis is met for vm1) … -/
example : ∃ x ∈ allowed Demo.demo [] RDemo.free "vm1", x ∉ allowed Demo.demo [] RDemo.onlyA "vm1" := by decide +kernel
/-- … so the restricted copy is the filtered unrestricted copy; concretely the leaf on `A` and its whole setup
chain stay, everything on `B` goes -/
example (x : Name × Asg) : x ∈ copyTests Demo.demo [] RDemo.selLeaves RDemo.onlyA ↔
    x ∈ copyTests Demo.demo [] RDemo.selLeaves RDemo.free ∧ asgOK (allowed Demo.demo [] RDemo.onlyA) x.2 = true :=
  restricted_copy_tests_partial Demo.demo [] RDemo.selLeaves RDemo.onlyA RDemo.free rfl (fun _ => "A") (by decide) x
example : (["quick", "t"], [("vm1", "A")]) ∈ copyTests Demo.demo [] RDemo.selLeaves RDemo.onlyA ∧
    (["original", "install"], [("vm1", "A")]) ∈ copyTests Demo.demo [] RDemo.selLeaves RDemo.onlyA ∧
    (["quick", "t"], [("vm1", "B")]) ∈ copyTests Demo.demo [] RDemo.selLeaves RDemo.free ∧
    (["quick", "t"], [("vm1", "B")]) ∉ copyTests Demo.demo [] RDemo.selLeaves RDemo.onlyA := by
  decide +kernel
/-- the suite hypotheses of `restricted_copy_tests` / `restricted_copy_parents` hold for the demo suite and `cx3` -/
example : UniqueNames Demo.demo ∧ RankOK Demo.demo Demo.rk := by
  unfold UniqueNames RankOK; decide +kernel
example : UniqueNames RDemo.cx3 ∧ RankOK RDemo.cx3 RDemo.rk3 := by
  unfold UniqueNames RankOK; decide +kernel
/-- a node present in both copies with a non-empty parent set: `d(A)` hangs under both members of the group `m` -/
example : copyParents Demo.demo [] RDemo.selLeaves RDemo.onlyA (["internal", "d"], [("vm1", "A")]) =
    [(["internal", "m", "a"], [("vm1", "A")]), (["internal", "m", "b"], [("vm1", "A")])] := by decide +kernel
/-- `cx3` with the worker restricted to `X`: the hypothesis of the `_partial` theorem holds although clone labels
change, and the restricted worker keeps one of the two producers -/
example : ∀ vm ∈ RDemo.cx3.variants.map Prod.fst,
    (∃ x ∈ allowed RDemo.cx3 [] RDemo.free vm, x ∉ allowed RDemo.cx3 [] RDemo.onlyX vm) →
      ∀ t ∈ RDemo.cx3.tests, (fun _ => "X") vm ∈ allowedFor (allowed RDemo.cx3 [] RDemo.onlyX) t vm := by decide +kernel
example : copyParents RDemo.cx3 [] RDemo.selLeaves RDemo.onlyX (["quick", "d"], [("vm1", "A")]) =
    [(["internal", "m"], [("vm1", "A"), ("vm2", "X")])] := by decide +kernel

end I2N.Props.C09
