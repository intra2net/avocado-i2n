import I2N.Model.Show
import I2N.Lemmas.Show
import I2N.Extracted.Show
import I2N.Extracted.GenShow
import I2N.Lemmas.GenShow
/-!
C17 — A vm state exists exactly when all of the vm's images have it.

Part A: the combination of the per-image lists in `QCOW2VTBackend.show` (`vtShow`) and
`RamfileBackend._show` (`ramShow`) is the intersection, for any number (≥ 1) of images and any
order of the images and of their lists.
Part B: the two regexes tell off snapshots (vm size `0 B`) and vm states (any other size) of a
`qemu-img snapshot -l` listing apart (`on_off_partition`); their sources are pinned to /repo.
-/
namespace I2N.Props.C17
open I2N.Show

/-! ## Part A — combination -/

/-- `QCOW2VTBackend.show`: a state is listed exactly when every image has it (any number ≥ 1 of images,
duplicates and order within the lists irrelevant). -/
theorem show_is_intersection (imgs : List (List Name)) (h : imgs ≠ []) (x : Name) :
    x ∈ vtShow imgs ↔ ∀ l ∈ imgs, x ∈ l := by
  cases imgs with
  | nil => exact absurd rfl h
  | cons first rest => exact mem_vtShow_cons first rest x

example : vtShow [["a".toList, "b".toList, "c".toList], ["c".toList, "a".toList], ["a".toList, "d".toList, "c".toList]]
    = ["a".toList, "c".toList] := by decide +kernel

/-- F1 regression witness (second half): the first image has no states, the second has `a` — nothing is listed. -/
example : vtShow [[], ["a".toList]] = [] := by decide +kernel

/-- the result is the first image's list, in its order, filtered by all other images -/
theorem show_keeps_first_order (first : List Name) (rest : List (List Name)) :
    vtShow (first :: rest) = first.filter (fun s => rest.all (fun img => img.contains s)) :=
  vtShow_cons first rest

example : vtShow [["b".toList, "a".toList], ["a".toList, "b".toList]] = ["b".toList, "a".toList] := by decide +kernel

/-- without images nothing is listed (the code's `states if states is not None else []`) -/
theorem show_no_images : vtShow [] = [] := rfl

/-- the order of the images is irrelevant for what is listed -/
theorem show_image_order (imgs imgs' : List (List Name)) (hp : imgs.Perm imgs') (x : Name) :
    x ∈ vtShow imgs ↔ x ∈ vtShow imgs' := by
  cases imgs with
  | nil => rw [List.nil_perm.mp hp]
  | cons a as =>
    have hne : imgs' ≠ [] := by
      intro e; subst e; exact absurd (List.perm_nil.mp hp) (by simp)
    rw [show_is_intersection _ (by simp) x, show_is_intersection _ hne x]
    exact ⟨fun h l hl => h l (hp.mem_iff.mpr hl), fun h l hl => h l (hp.mem_iff.mp hl)⟩

example : ([["a".toList], ["a".toList, "b".toList]] : List (List Name)).Perm [["a".toList, "b".toList], ["a".toList]] :=
  List.Perm.swap _ _ _

/-- the order of every image's own state list is irrelevant for what is listed -/
theorem show_list_order (imgs imgs' : List (List Name)) (hlen : imgs.length = imgs'.length)
    (hp : ∀ i (h : i < imgs.length), (imgs[i]).Perm (imgs'[i]'(hlen ▸ h))) (x : Name) :
    x ∈ vtShow imgs ↔ x ∈ vtShow imgs' := by
  cases imgs with
  | nil =>
    have : imgs' = [] := List.length_eq_zero_iff.mp (by simpa using hlen.symm)
    rw [this]
  | cons a as =>
    have hne : imgs' ≠ [] := by
      intro e; subst e; simp at hlen
    rw [show_is_intersection _ (by simp) x, show_is_intersection _ hne x]
    constructor
    · intro H l hl
      obtain ⟨i, hi, rfl⟩ := List.getElem_of_mem hl
      have hi' : i < (a :: as).length := hlen ▸ hi
      exact (hp i hi').mem_iff.mp (H _ (List.getElem_mem hi'))
    · intro H l hl
      obtain ⟨i, hi, rfl⟩ := List.getElem_of_mem hl
      exact (hp i hi).mem_iff.mpr (H _ (List.getElem_mem (hlen ▸ hi)))

example : (["a".toList, "b".toList] : List Name).Perm ["b".toList, "a".toList] := List.Perm.swap _ _ _

/-- no state is listed twice when the first image does not list one twice -/
theorem show_nodup (first : List Name) (rest : List (List Name)) (h : first.Nodup) :
    (vtShow (first :: rest)).Nodup := by
  rw [vtShow_cons]
  exact h.filter _

example : (["a".toList, "b".toList] : List Name).Nodup := by decide +kernel

/-- the names of the files that end in `suf`, with `suf` cut off -/
theorem mem_filterMap_stripSuffix (suf : List Char) (files : List (List Char)) (x : Name) :
    x ∈ files.filterMap (stripSuffix suf) ↔ x ++ suf ∈ files := by
  simp only [List.mem_filterMap, stripSuffix_eq_some]
  exact ⟨fun ⟨_, hf, hs⟩ => hs ▸ hf, fun hf => ⟨_, hf, rfl⟩⟩

/-- `RamfileBackend._show`: a state is listed exactly when its `.state` memory file exists and every
image has a state of that name -/
theorem ram_show (files : List (List Char)) (imgs : List (List Name)) (h : imgs ≠ []) (x : Name) :
    x ∈ ramShow files imgs ↔ x ++ stateSuffix ∈ files ∧ ∀ l ∈ imgs, x ∈ l := by
  unfold ramShow
  rw [List.mem_filter, ramImagesStates_eq_vtShow, List.contains_iff_mem, show_is_intersection imgs h x,
    mem_filterMap_stripSuffix]

example : ramShow ["b.state".toList, "a.state".toList, "c.txt".toList, "d.state".toList]
    [["a".toList, "b".toList, "c".toList], ["d".toList, "b".toList, "a".toList]] = ["b".toList, "a".toList] := by decide +kernel

/-- F1 regression witness for ramfile: first image empty -/
example : ramShow ["a.state".toList] [[], ["a".toList]] = [] := by decide +kernel

/-- without images `RamfileBackend._show` lists nothing -/
theorem ram_show_no_images (files : List (List Char)) : ramShow files [] = [] := by
  simp [ramShow, ramImagesStates]

/-- `QCOW2ExtBackend._show`: the states are the `.qcow2` files of the image directory -/
theorem ext_show (files : List (List Char)) (x : Name) : x ∈ extShow files ↔ x ++ qcow2Suffix ∈ files :=
  mem_filterMap_stripSuffix _ files x

example : extShow ["a.qcow2".toList, "b.state".toList, "c.qcow2".toList] = ["a".toList, "c".toList] := by decide +kernel

/-- the production wiring (`image_state_backend = QCOW2ExtBackend`): memory file and one `.qcow2` file per image -/
theorem ram_show_ext (files : List (List Char)) (imgfiles : List (List (List Char))) (h : imgfiles ≠ []) (x : Name) :
    x ∈ ramShow files (imgfiles.map extShow) ↔
      x ++ stateSuffix ∈ files ∧ ∀ fl ∈ imgfiles, x ++ qcow2Suffix ∈ fl := by
  rw [ram_show files _ (by simpa using h) x]
  simp [ext_show]

example : ramShow ["a.state".toList] ([["a.qcow2".toList], ["b.qcow2".toList, "a.qcow2".toList]].map extShow)
    = ["a".toList] := by decide +kernel

/-- The combination before commit 8bdd936 (F1) is *not* the intersection: a state of the second image is listed
although the first image has none … -/
theorem old_show_first_empty (img : List Name) : oldShow [[], img] = .ok img := by
  simp [oldShow, oldStep]

/-- … and with a non-empty first list any second image raises `AttributeError`. -/
theorem old_show_two_images (first second : List Name) (rest : List (List Name)) (h : first ≠ []) :
    oldShow (first :: second :: rest) = .error .attributeError := by
  have hf : first.isEmpty = false := List.isEmpty_eq_false_iff.mpr h
  have herr : ∀ l : List (List Name), l.foldl oldStep (.error .attributeError) = .error .attributeError := by
    intro l
    induction l with
    | nil => rfl
    | cons a l ih => simpa [List.foldl_cons, oldStep] using ih
  simp [oldShow, oldStep, hf, herr]

example : oldShow [["a".toList], ["a".toList]] = .error .attributeError := by rfl
example : oldShow [[], ["a".toList]] = .ok ["a".toList] ∧ vtShow [[], ["a".toList]] = [] := ⟨by rfl, by decide +kernel⟩

/-! ## Part B — on/off patterns -/

/-- the off pattern in /repo is the one `matchAt offBody` was written for -/
theorem off_regex_pinned : I2N.Extracted.Show.offRegexSrc = offRegexFor := rfl
/-- the on pattern in /repo is the one `matchAt onBody` was written for -/
theorem on_regex_pinned : I2N.Extracted.Show.onRegexSrc = onRegexFor := rfl
/-- both are compiled with `re.MULTILINE` only (`scan` attempts a match at every line start) -/
theorem regex_flags_pinned :
    I2N.Extracted.Show.offRegexFlags = regexFlagsFor ∧ I2N.Extracted.Show.onRegexFlags = regexFlagsFor := ⟨rfl, rfl⟩
/-- the file name suffixes and the number of characters cut off in /repo are the modelled ones -/
theorem suffixes_pinned :
    I2N.Extracted.Show.ramSuffix.toList = stateSuffix ∧ I2N.Extracted.Show.ramCut = stateSuffix.length ∧
    I2N.Extracted.Show.extSuffix.toList = qcow2Suffix ∧ I2N.Extracted.Show.extCut = qcow2Suffix.length := by decide +kernel

/-- Parsing a printed listing (with or without a final newline) with the off pattern returns exactly the tags
of the records with vm size `0 B`, with the on pattern exactly the tags of all other records, in listing order —
for all well-formed records (numeric id, tag over `[\w.-]`, at least one space between the columns, any size
of the shape `\d+e?[-+]?[.\d]* \w+`, any text after the date) and any other lines that do not start with a digit. -/
theorem on_off_partition (ls : List Line) (h : ∀ l ∈ ls, l.WF) (trailer : List Char)
    (ht : trailer = [] ∨ trailer = ['\n']) :
    parseOff (printListing ls ++ trailer) = ((recsOf ls).filter (fun r => r.size.isZero)).map (·.tag) ∧
    parseOn (printListing ls ++ trailer) = ((recsOf ls).filter (fun r => !r.size.isZero)).map (·.tag) :=
  ⟨scan_print_sel offBody _ matchAt_off_print ls h trailer ht, scan_print_sel onBody _ matchAt_on_print ls h trailer ht⟩

/-- what the examples about the demo listings show, from ONE kernel evaluation: the listing is printed and scanned
character by character, and a `decide` per example would print it again -/
theorem demoListing_run :
    (parseOff (printListing demoListing) = ["snap1".toList] ∧
      parseOn (printListing demoListing ++ ['\n']) = ["launch_2-0".toList, "boot3.0".toList]) ∧
    vtShowDumps ([demoListing, demoListing2].map printListing) = ["boot3.0".toList] := by decide +kernel

example : (∀ l ∈ demoListing, l.WF) ∧
    parseOff (printListing demoListing) = ["snap1".toList] ∧
    parseOn (printListing demoListing ++ ['\n']) = ["launch_2-0".toList, "boot3.0".toList] :=
  ⟨demoListing_wf, demoListing_run.1⟩

/-- Why `Rec.WF`/the printer insist on a space between tag and size (the patterns allow `\s*`): when a tag that
ends in a digit abuts the size (qemu < 6.0 layout, tags of 20 characters and more), the same line is an off
snapshot `a1` for one pattern and a vm state `a` for the other. Reproduced on the real regexes by the harness. -/
example : parseOff "1 a10 B 2020-01-01".toList = ["a1".toList] ∧ parseOn "1 a10 B 2020-01-01".toList = ["a".toList] :=
  by decide +kernel

/-- every record is seen by exactly one of the two patterns: a tag is listed as an image (off) state iff a
record of that tag has vm size zero, as a vm (on) state iff a record of that tag has another size -/
theorem on_off_told_apart (ls : List Line) (h : ∀ l ∈ ls, l.WF) (x : Name) :
    (x ∈ parseOff (printListing ls) ↔ ∃ r ∈ recsOf ls, r.tag = x ∧ r.size.isZero = true) ∧
    (x ∈ parseOn (printListing ls) ↔ ∃ r ∈ recsOf ls, r.tag = x ∧ r.size.isZero = false) := by
  have hp := on_off_partition ls h [] (Or.inl rfl)
  rw [List.append_nil] at hp
  rw [hp.1, hp.2]
  constructor
  · simp only [List.mem_map, List.mem_filter]
    exact ⟨fun ⟨r, ⟨hr, hz⟩, ht⟩ => ⟨r, hr, ht, hz⟩, fun ⟨r, hr, ht, hz⟩ => ⟨r, ⟨hr, hz⟩, ht⟩⟩
  · simp only [List.mem_map, List.mem_filter, Bool.not_eq_true']
    exact ⟨fun ⟨r, ⟨hr, hz⟩, ht⟩ => ⟨r, hr, ht, hz⟩, fun ⟨r, hr, ht, hz⟩ => ⟨r, ⟨hr, hz⟩, ht⟩⟩

/-- End to end for `QCOW2VTBackend.show` on the snapshot listings of the vm's images: a vm state is listed
exactly when every image's listing has a record of that name with a non-zero vm size. -/
theorem vt_show_listings (lss : List (List Line)) (hne : lss ≠ []) (h : ∀ ls ∈ lss, ∀ l ∈ ls, l.WF) (x : Name) :
    x ∈ vtShowDumps (lss.map printListing) ↔
      ∀ ls ∈ lss, ∃ r ∈ recsOf ls, r.tag = x ∧ r.size.isZero = false := by
  unfold vtShowDumps
  rw [show_is_intersection _ (by simpa using hne) x]
  simp only [List.map_map, List.mem_map, Function.comp, qcowShow, if_true]
  constructor
  · intro hall ls hls
    exact ((on_off_told_apart ls (h ls hls) x).2).mp (hall _ ⟨ls, hls, rfl⟩)
  · rintro hall _ ⟨ls, hls, rfl⟩
    exact ((on_off_told_apart ls (h ls hls) x).2).mpr (hall ls hls)

example : vtShowDumps ([demoListing, demoListing2].map printListing) = ["boot3.0".toList] := demoListing_run.2

/-! ## Translator tie: the combination loops equal the code's current source

`I2N/Extracted/GenShow.lean` is regenerated on every run (harness/pygen_pxindex.py) from the source of
`QCOW2VTBackend.show` (from `states = None` to its `return`) and of the combination part of `RamfileBackend._show`
(from `images_states = None` to the `None → set()` fallback).  `images` = `params.objects("images")`,
`imageStates i` = what the per-image backend lists for image `i`.  No hypotheses: any number of images (none
included), any listings. -/

open I2N.Extracted.GenShow

/-- the loop of `QCOW2VTBackend.show` — the `None` start, the first-image case `list(image_states)`, the filter
`[state for state in states if state in image_states]`, the `None → []` fallback — is the model's `vtShow` of the
per-image listings. -/
theorem vtShow_matches_source (images : List Name) (imageStates : Name → List Name) :
    genVtShow images imageStates = vtShow (images.map imageStates) := by
  unfold genVtShow vtShow
  simp only [Id.run, pure, List.foldl_map, List.map_id']
  rw [foldl_congr_fun (g2 := fun acc x => vtStep acc (imageStates x)) (fun b a => by cases b <;> rfl)]
  cases List.foldl (fun acc x => vtStep acc (imageStates x)) none images <;> rfl

/-- the combination loop of `RamfileBackend._show` — `set(image_snapshots)` for the first image, `.intersection` for
the others, `None → set()` for a vm without images — leaves the model's `ramImagesStates` in `images_states` (never
`None`; a set is a list of which only membership is observed). -/
theorem ramImagesStates_matches_source (images : List Name) (imageStates : Name → List Name) :
    genRamImagesStates images imageStates = some (ramImagesStates (images.map imageStates)) := by
  unfold genRamImagesStates ramImagesStates
  simp only [Id.run, pure, List.foldl_map]
  rw [foldl_congr_fun (g2 := fun acc x => ramStep acc (imageStates x)) (fun b a => by cases b <;> rfl)]
  cases List.foldl (fun acc x => ramStep acc (imageStates x)) none images <;> rfl

/-- hence the SOURCE lists the intersection: a state is returned by `QCOW2VTBackend.show` (generated) exactly when
every image of the vm has it (`show_is_intersection` transported). -/
theorem source_show_is_intersection (images : List Name) (imageStates : Name → List Name) (h : images ≠ []) (x : Name) :
    x ∈ genVtShow images imageStates ↔ ∀ i ∈ images, x ∈ imageStates i := by
  rw [vtShow_matches_source, show_is_intersection _ (by simpa using h)]
  simp

example : genVtShow ["image1".toList, "image2".toList]
    (fun i => if i == "image1".toList then ["a".toList, "b".toList] else ["b".toList, "c".toList]) = ["b".toList] := by decide +kernel
/-- the first image lists nothing: nothing is listed (what the pre-fix loop got wrong) -/
example : genVtShow ["image1".toList, "image2".toList] (fun i => if i == "image1".toList then [] else ["a".toList]) = [] := by
  decide +kernel
example : genRamImagesStates [] (fun _ => ["a".toList]) = some [] := by decide +kernel

end I2N.Props.C17
