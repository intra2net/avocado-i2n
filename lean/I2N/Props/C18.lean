import I2N.Lemmas.NetReattach
import I2N.Lemmas.NetGen
import I2N.Extracted.GenNetwork
/-!
# C18 — The vm network model stays consistent and its address arithmetic is exact

"Building a vm network from parameters assigns every interface to exactly one network configuration whose
subnet contains its address, without duplicate addresses, and this remains true when an interface is
reattached to another vm's network.  Address allocation hands out every address of the configured range once
and then reports exhaustion, netmask and prefix length convert into each other consistently, and address
translation maps a host to the same host offset in the target subnet."

All theorems are about `I2N.Model.Net`, the model the compiled driver `drv_net` runs against the real
`VMNetwork`/`VMNetconfig`.  Three statements are `_partial` because the real code (and therefore the model)
violates the full statement; the witnesses are next to them:
  * `reattach_inv_partial` / `run_inv_partial`: reattaching with a `proxy_nic` leaves the client interface outside
    every registry (`reattach_proxy_breaks`), and the allocator may hand out an address that a statically
    configured interface already uses (`witness_pool_collision`);
  * `build_inv_partial`: a subnet with the same network address as an earlier one but a shorter prefix silently
    replaces the earlier netconfig in `VMNetwork.netconfigs` (`witness_nested_subnet`).
-/
namespace I2N.Props.C18
open I2N.Net

/-! ## Netmask ↔ prefix length -/

/-- a netmask is contiguous if it is the netmask of some prefix length -/
def Contiguous (m : Nat) : Prop := ∃ b, b ≤ 32 ∧ m = netmaskOfBits b

/-- `mask_bit` of the netmask of a prefix length gives the prefix length back, for all 33 lengths -/
theorem maskbit_netmask (b : Nat) (hb : b ≤ 32) : maskBit (netmaskOfBits b) = b :=
  maskBit_netmaskOfBits b hb

/-- … and back: exactly the contiguous netmasks are reproduced from their `mask_bit` -/
theorem netmask_maskbit (m : Nat) : netmaskOfBits (maskBit m) = m ↔ Contiguous m := by
  constructor
  · intro h; exact ⟨maskBit m, maskBit_le m, h.symm⟩
  · rintro ⟨b, hb, rfl⟩; rw [maskbit_netmask b hb]

/-- different prefix lengths have different netmasks -/
theorem netmaskOfBits_injective (a b : Nat) (ha : a ≤ 32) (hb : b ≤ 32) (h : netmaskOfBits a = netmaskOfBits b) :
    a = b := by
  rw [← maskbit_netmask a ha, ← maskbit_netmask b hb, h]

example : maskBit (netmaskOfBits 24) = 24 ∧ netmaskOfBits 24 = 4294967040 := by decide
example : Contiguous 4294901760 := ⟨16, by decide, by decide⟩
-- a non-contiguous mask (255.0.255.0) is read as /24 by the code and is *not* reproduced
example : maskBit 4278255360 = 24 ∧ netmaskOfBits (maskBit 4278255360) ≠ 4278255360 := by decide

/-! ## Network address -/

/-- `_get_network_ip` is the start of the aligned block of `2^(32-b)` addresses containing the address -/
theorem network_ip_spec (ip b : Nat) :
    networkIp ip b % 2 ^ (32 - b) = 0 ∧ networkIp ip b ≤ ip ∧ ip < networkIp ip b + 2 ^ (32 - b) :=
  ⟨networkIp_mod ip b, networkIp_le ip b, lt_networkIp_add ip b⟩

/-- … and is the only such address -/
theorem network_ip_unique (ip b n : Nat) (h0 : n % 2 ^ (32 - b) = 0) (h1 : n ≤ ip) (h2 : ip < n + 2 ^ (32 - b)) :
    networkIp ip b = n := networkIp_eq_of ip b n h0 h1 h2

/-- membership in the subnet of a netconfig (`x in own.network`) is the interval test -/
theorem subnet_contains_iff (c : Netconfig) (x : Nat) :
    inNet c x = true ↔
      networkIp c.netIp c.bits ≤ x ∧ x < networkIp c.netIp c.bits + 2 ^ (32 - c.bits) := by
  simp only [inNet, beq_iff_eq]
  exact networkIp_eq_iff x c.bits _ (networkIp_mod _ _)

example : networkIp 3232235786 24 = 3232235776 := by decide   -- 192.168.1.10/24 → 192.168.1.0

/-! ## Allocation -/

/-- From any state of the range map: the not yet handed out offsets are handed out in insertion order, each
    exactly once (as `net_ip + offset`), and the next call reports exhaustion. -/
theorem alloc_all_once (c : Netconfig) (hb : ∀ o ∈ freeOffsets c.range, c.netIp + o < ipSpace) :
    (allocateN c (freeOffsets c.range).length).1 = (freeOffsets c.range).map (c.netIp + ·) ∧
    allocate (allocateN c (freeOffsets c.range).length).2 = .error .indexError := by
  obtain ⟨h1, h2⟩ := allocateN_all (freeOffsets c.range) c rfl hb
  exact ⟨h1, allocate_error _ h2⟩

/-- For a netconfig fresh `from_interface` with `range = lo-hi` inside the address space: the addresses
    `net_ip+lo … net_ip+hi`, in this order, without repetition, then `IndexError`. -/
theorem alloc_fresh_range (f : Iface) (hb : (fromInterface f).netIp + f.hi < ipSpace) :
    let c := fromInterface f
    let n := f.hi + 1 - f.lo
    (allocateN c n).1 = (List.range' f.lo n).map (c.netIp + ·) ∧ (allocateN c n).1.Nodup ∧
    (allocateN c n).1.length = n ∧ allocate (allocateN c n).2 = .error .indexError := by
  intro c n
  have hfree : freeOffsets c.range = List.range' f.lo n := freeOffsets_mkRange f.lo f.hi
  have hbound : ∀ o ∈ freeOffsets c.range, c.netIp + o < ipSpace := by
    intro o ho
    rw [hfree, List.mem_range'_1] at ho
    have : c.netIp + f.hi < ipSpace := hb
    omega
  have := alloc_all_once c hbound
  rw [hfree, List.length_range'] at this
  refine ⟨this.1, ?_, ?_, this.2⟩
  · rw [this.1]
    exact List.Pairwise.map _ (fun a b hab h => hab (by omega)) List.nodup_range'
  · rw [this.1]; simp

/-- a successful allocation always returns the first free offset, marks exactly it, and stays in the space -/
theorem alloc_step (c c' : Netconfig) (a : Nat) (h : allocate c = .ok (a, c')) :
    ∃ o l, freeOffsets c.range = o :: l ∧ a = c.netIp + o ∧ freeOffsets c'.range = l ∧ a < ipSpace := by
  obtain ⟨o, l, h1, h2, h3, _, _, _, _, h4⟩ := allocate_inv c c' a h
  exact ⟨o, l, h1, h2, h3, h4⟩

-- 192.168.1.0/24 with range 100-102: .100 .101 .102, then exhaustion
example : (allocateN (fromInterface ⟨3232235777, 4294967040, none, 100, 102, none⟩) 3).1
    = [3232235876, 3232235877, 3232235878] := by decide
example : (fromInterface ⟨3232235777, 4294967040, none, 100, 102, none⟩).netIp + 102 < ipSpace := by decide

/-! ## Translation -/

/-- A host of the netconfig's subnet is mapped to the same host offset in the subnet of `nat` (same prefix
    length): no error, same offset, inside the target subnet, inside the address space. -/
theorem translate_offset (c : Netconfig) (ip nat : Nat) (hnat : nat < ipSpace)
    (hal : networkIp c.netIp c.bits = c.netIp) (hin : inNet c ip = true) :
    ∃ r, translate c ip nat = .ok r ∧ c.netIp ≤ ip ∧ networkIp nat c.bits ≤ r ∧
      r - networkIp nat c.bits = ip - c.netIp ∧ networkIp r c.bits = networkIp nat c.bits ∧ r < ipSpace := by
  simp only [inNet, beq_iff_eq, hal] at hin
  have h1 : c.netIp ≤ ip := hin ▸ networkIp_le ip c.bits
  have h2 : ip < c.netIp + 2 ^ (32 - c.bits) := hin ▸ lt_networkIp_add ip c.bits
  have hT := networkIp_mod nat c.bits
  have hfit := block_fits (networkIp nat c.bits) c.bits (Nat.lt_of_le_of_lt (networkIp_le nat c.bits) hnat) hT
  -- with `N ≤ ip < N + m` and `T + m ≤ 2^32` everything about `r = ip + T - N` is linear
  have key : ¬ (ip + networkIp nat c.bits < c.netIp ∨ ip + networkIp nat c.bits - c.netIp ≥ ipSpace) ∧
      networkIp nat c.bits ≤ ip + networkIp nat c.bits - c.netIp ∧
      ip + networkIp nat c.bits - c.netIp - networkIp nat c.bits = ip - c.netIp ∧
      ip + networkIp nat c.bits - c.netIp < networkIp nat c.bits + 2 ^ (32 - c.bits) := by
    clear hT hin hal hnat
    unfold ipSpace
    omega
  refine ⟨ip + networkIp nat c.bits - c.netIp, ?_, h1, key.2.1, key.2.2.1,
    networkIp_eq_of _ _ _ hT key.2.1 key.2.2.2, Nat.lt_of_lt_of_le key.2.2.2 hfit⟩
  unfold translate
  rw [if_neg key.1]

/-- every netconfig the code constructs (`from_interface`) satisfies the alignment hypothesis -/
theorem from_interface_aligned (f : Iface) :
    networkIp (fromInterface f).netIp (fromInterface f).bits = (fromInterface f).netIp := by
  simp only [fromInterface, Netconfig.bits]
  exact networkIp_idem _ _

-- 10.1.0.7 in 10.1.0.0/16 translated for 192.168.5.9 → 192.168.0.7
example : translate (fromInterface ⟨167837697, 4294901760, none, 100, 200, none⟩) 167837703 3232236809
    = .ok 3232235527 := by rfl

/-! ## The registry invariant -/

/-- netconfig object `n` lists interface `i` in its `interfaces` -/
def Listed (s : Net) (n i : Nat) : Prop := ∃ k, (k, i) ∈ (s.nc n).ifs

/-- The property text, spelled out: every interface is listed by exactly one registered netconfig, once, under
    its own address; that netconfig is the interface's `netconfig`, its subnet contains the address; no two
    interfaces share an address; the registry keys are the network addresses. -/
structure Consistent (s : Net) : Prop where
  exactlyOne : ∀ i, i < s.nIf → ∃ n, (Registered s n ∧ Listed s n i) ∧ ∀ m, Registered s m ∧ Listed s m i → m = n
  own : ∀ i n, i < s.nIf → Registered s n → Listed s n i →
    (s.iface i).nc = some n ∧ (∀ k, (k, i) ∈ (s.nc n).ifs → k = (s.iface i).ip) ∧
    ((s.nc n).ifs.map (·.1)).Nodup
  subnet : ∀ i n, i < s.nIf → Registered s n → Listed s n i → inNet (s.nc n) (s.iface i).ip = true
  noDuplicates : ∀ i j, i < s.nIf → j < s.nIf → (s.iface i).ip = (s.iface j).ip → i = j
  keys : ∀ k n, (k, n) ∈ s.reg → (s.nc n).netIp = k

/-- the inductive invariant `Inv` implies the property as spelled out -/
theorem inv_consistent (s : Net) (h : Inv s) : Consistent s := by
  obtain ⟨hp, hall⟩ := h
  have key : ∀ i n, i < s.nIf → Registered s n → Listed s n i → (s.iface i).nc = some n := by
    rintro i n _ hn ⟨k, hk⟩
    exact (hp.member n hn k i hk).2.2.1
  refine ⟨?_, ?_, ?_, hp.distinct, fun k n hm => (hp.regKey k n hm).2⟩
  · intro i hi
    have := hall i hi
    obtain ⟨n, hn⟩ := Option.isSome_iff_exists.1 this
    obtain ⟨h1, h2, _⟩ := hp.placed i n hi (by omega) hn
    refine ⟨n, ⟨h1, _, h2⟩, ?_⟩
    rintro m ⟨hm1, hm2⟩
    have := key i m hi hm1 hm2
    rw [hn] at this
    exact (Option.some.inj this).symm
  · intro i n hi hn hl
    refine ⟨key i n hi hn hl, ?_, hp.ifsNodup n⟩
    intro k hk
    exact (hp.member n hn k i hk).2.2.2.symm
  · intro i n hi hn hl
    exact (hp.placed i n hi (by omega) (key i n hi hn hl)).2.2

/-- `VMNetwork.__init__`: if the construction succeeds for interfaces with pairwise distinct addresses, the
    registries are consistent and every interface is attached.
    `_partial`: the hypothesis `NoShadow` (no two interfaces configure subnets with the same network address but
    different netmasks) is needed — see `witness_nested_subnet`. -/
theorem build_inv_partial (inp : List Iface) (s : Net) (hd : (inp.map (·.ip)).Nodup) (hsh : NoShadow inp)
    (h : build inp = .ok s) : Inv s ∧ Consistent s ∧ s.nIf = inp.length := by
  obtain ⟨h1, h2⟩ := build_inv inp s hd hsh h
  exact ⟨h1, inv_consistent s h1, h2⟩

/-- operations after the construction -/
inductive Op where
  | alloc (n : Nat)                         -- `netconfig.get_allocatable_address()` on netconfig object `n`
  | reattach (c r : Nat) (p : Option Nat)   -- `reattach_interface` (client, reference, proxy interface)

def step (s : Net) : Op → Except Err Net
  | .alloc n => match allocAt s n with
    | .ok (_, s') => .ok s'
    | .error e => .error e
  | .reattach c r p => reattach s c r p

def run (s : Net) : List Op → Except Err Net
  | [] => .ok s
  | op :: ops => match step s op with
    | .ok s' => run s' ops
    | .error e => .error e

/-- what the `_partial` theorems assume about an operation: no proxy nic, existing interfaces, and the address
    the allocator is about to hand out is not in use -/
def Admissible (s : Net) : Op → Prop
  | .alloc _ => True
  | .reattach c r p => p = none ∧ c < s.nIf ∧ r < s.nIf ∧ FreshAt s r

def AdmissibleRun : Net → List Op → Prop
  | _, [] => True
  | s, op :: ops => Admissible s op ∧ ∀ s', step s op = .ok s' → AdmissibleRun s' ops

/-- `reattach_interface` without proxy nic keeps the registries consistent.
    `_partial`: false with a proxy nic (`reattach_proxy_breaks`) and when the allocated address is in use
    (`witness_pool_collision`). -/
theorem reattach_inv_partial (s s' : Net) (c r : Nat) (hs : Inv s) (hc : c < s.nIf) (hr : r < s.nIf)
    (hfresh : FreshAt s r) (h : reattach s c r none = .ok s') : Inv s' ∧ s'.nIf = s.nIf := by
  obtain ⟨h1, h2, h3⟩ := reattach_none_pinv s s' c r hs.1 hc hr hfresh h
  refine ⟨⟨h1, ?_⟩, h2⟩
  intro i hi
  rw [h2] at hi
  exact h3 i (hs.2 i hi)

/-- a direct allocation keeps the registries consistent (no side condition) -/
theorem alloc_inv (s s' : Net) (n a : Nat) (hs : Inv s) (h : allocAt s n = .ok (a, s')) : Inv s' := by
  have e := allocAt_same h
  unfold Net.Inv PInv
  rw [e.nIf, e.iface]
  exact ⟨hs.1.congr e, hs.2⟩

theorem step_inv_partial (s s' : Net) (op : Op) (hs : Inv s) (ha : Admissible s op) (h : step s op = .ok s') :
    Inv s' := by
  cases op with
  | alloc n =>
    rw [step] at h
    cases hal : allocAt s n with
    | error e => rw [hal] at h; cases h
    | ok q => rw [hal] at h; cases h; exact alloc_inv s _ n q.1 hs hal
  | reattach c r p =>
    obtain ⟨rfl, hc, hr, hf⟩ := ha
    exact (reattach_inv_partial s s' c r hs hc hr hf h).1

/-- all sequences of allocate/reattach: the invariant holds after every admissible sequence -/
theorem run_inv_partial (ops : List Op) : ∀ (s s' : Net), Inv s → AdmissibleRun s ops → run s ops = .ok s' → Inv s' := by
  induction ops with
  | nil => intro s s' hs _ h; simp only [run, Except.ok.injEq] at h; subst h; exact hs
  | cons op ops ih =>
    intro s s' hs ha h
    rw [run] at h
    cases h1 : step s op with
    | error e => rw [h1] at h; cases h
    | ok s1 => rw [h1] at h; exact ih s1 s' (step_inv_partial s s1 op hs ha.1 h1) (ha.2 s1 h1) h

/-- F8 — `reattach_interface(…, proxy_nic=…)` with a proxy nic different from the server nic *always* leaves
    the registries inconsistent: the client interface refers to the proxy interface's netconfig, but no
    netconfig lists it (the code's own TODO).  Hence `reattach_inv_partial` cannot be extended to `p ≠ none`. -/
theorem reattach_proxy_breaks (s s' : Net) (c r pi : Nat) (hs : Inv s) (hc : c < s.nIf) (hpi : pi ≠ r)
    (h : reattach s c r (some pi) = .ok s') : ¬ Inv s' :=
  fun hs' => reattach_proxy_not_pinv s s' c r pi hs.1 hc hpi h hs'.1

/-! ## Non-vacuity and witnesses (concrete networks, evaluated by the kernel) -/

def holds (e : Except Err Net) (p : Net → Bool) : Bool :=
  match e with
  | .ok s => p s
  | .error _ => false

theorem holds_ok (e : Except Err Net) (p : Net → Bool) (h : holds e p = true) : ∃ s, e = .ok s ∧ p s = true := by
  cases e with
  | error x => simp [holds] at h
  | ok s => exact ⟨s, rfl, h⟩

def isOk (e : Except Err Net) : Bool := holds e (fun _ => true)

def failsWith (e : Except Err Net) (x : Err) : Bool :=
  match e with
  | .ok _ => false
  | .error y => decide (y = x)

/-- interface `i` is listed under its address by its own, registered netconfig -/
def listedB (s : Net) (i : Nat) : Bool :=
  match (s.iface i).nc with
  | some n => s.reg.any (fun p => p.2 == n) && (s.nc n).ifs.any (fun p => p.1 == (s.iface i).ip && p.2 == i)
  | none => false

theorem inv_listedB (s : Net) (i : Nat) (hs : Inv s) (hi : i < s.nIf) : listedB s i = true := by
  obtain ⟨n, hn⟩ := Option.isSome_iff_exists.1 (hs.2 i hi)
  obtain ⟨⟨k, hk⟩, h2, _⟩ := hs.1.placed i n hi (by omega) hn
  simp only [listedB, hn, Bool.and_eq_true, List.any_eq_true, beq_iff_eq]
  exact ⟨⟨(k, n), hk, rfl⟩, ⟨_, h2, rfl, rfl⟩⟩

/-- executable form of `FreshAt` -/
def freshB (s : Net) (r : Nat) : Bool :=
  match (s.iface r).nc with
  | none => true
  | some tn =>
    match freeOffsets (s.nc tn).range with
    | [] => true
    | o :: _ => (List.range s.nIf).all (fun j => (s.iface j).ip != (s.nc tn).netIp + o)

theorem freshB_sound (s : Net) (r : Nat) (h : freshB s r = true) : FreshAt s r := by
  intro tn o l htn hfree j hj
  simp only [freshB, htn, hfree, List.all_eq_true, List.mem_range, bne_iff_ne] at h
  exact h j hj

/-- the network of `selftests/isolation/test_vm_network.py`: vm1 = 10.1.0.1/16, 172.17.0.1/16;
    vm2 = 10.2.0.1/16, 172.18.0.1/16; default range 100-200 -/
def inpA : List Iface :=
  [⟨167837697, 4294901760, none, 100, 200, none⟩, ⟨2886795265, 4294901760, none, 100, 200, none⟩,
   ⟨167903233, 4294901760, none, 100, 200, none⟩, ⟨2886860801, 4294901760, none, 100, 200, none⟩]

theorem inpA_distinct : (inpA.map (·.ip)).Nodup := by decide
theorem inpA_noShadow : NoShadow inpA := by unfold NoShadow; decide

/-- What the witnesses and examples about the selftest network need of its construction, from ONE kernel evaluation
(the registry is built interface by interface; evaluated per declaration it would be built again each time). -/
theorem inpA_run : holds (build inpA) (fun s =>
    holds (step s (.alloc 3)) (fun s1 => freshB s1 3 && holds (step s1 (.reattach 0 3 none)) (fun s2 =>
      freshB s2 1 && isOk (step s2 (.reattach 2 1 none)))) &&
    isOk (reattach s 0 3 (some 2)) &&
    (match validate s 0 with | .ok () => true | .error _ => false)) = true := by decide +kernel

/-- `build_inv_partial`, `reattach_inv_partial`, `run_inv_partial` are not vacuous: the selftest network is built,
    an admissible allocate/reattach/reattach sequence runs through, and the invariant holds afterwards -/
theorem nonvacuous_registry : ∃ s s', build inpA = .ok s ∧ Inv s ∧
    AdmissibleRun s [.alloc 3, .reattach 0 3 none, .reattach 2 1 none] ∧
    run s [.alloc 3, .reattach 0 3 none, .reattach 2 1 none] = .ok s' ∧ Inv s' := by
  obtain ⟨s, hb, h1⟩ := holds_ok _ _ inpA_run
  simp only [Bool.and_eq_true] at h1
  obtain ⟨s1, hs1, h2⟩ := holds_ok _ _ h1.1.1
  simp only [Bool.and_eq_true] at h2
  obtain ⟨s2, hs2, h3⟩ := holds_ok _ _ h2.2
  simp only [Bool.and_eq_true] at h3
  obtain ⟨s3, hs3, _⟩ := holds_ok _ _ h3.2
  obtain ⟨hinv, _, hn⟩ := build_inv_partial inpA s inpA_distinct inpA_noShadow hb
  have hinv1 : Inv s1 := step_inv_partial s s1 (.alloc 3) hinv trivial hs1
  have hn1 : s1.nIf = 4 := by
    rw [step] at hs1
    cases hal : allocAt s 3 with
    | error e => rw [hal] at hs1; cases hs1
    | ok q => rw [hal] at hs1; cases hs1; rw [(allocAt_same hal).nIf, hn]; rfl
  have ha1 : Admissible s1 (.reattach 0 3 none) := ⟨rfl, by omega, by omega, freshB_sound _ _ h2.1⟩
  have hinv2 := reattach_inv_partial s1 s2 0 3 hinv1 (by omega) (by omega) (freshB_sound _ _ h2.1) hs2
  have ha2 : Admissible s2 (.reattach 2 1 none) :=
    ⟨rfl, by rw [hinv2.2]; omega, by rw [hinv2.2]; omega, freshB_sound _ _ h3.1⟩
  have hadm : AdmissibleRun s [.alloc 3, .reattach 0 3 none, .reattach 2 1 none] := by
    refine ⟨trivial, ?_⟩
    intro t ht; rw [hs1] at ht; cases ht
    refine ⟨ha1, ?_⟩
    intro t ht; rw [hs2] at ht; cases ht
    exact ⟨ha2, fun _ _ => trivial⟩
  have hrun : run s [.alloc 3, .reattach 0 3 none, .reattach 2 1 none] = .ok s3 := by
    simp only [run, hs1, hs2, hs3]
  exact ⟨s, s3, hb, hinv, hadm, hrun, run_inv_partial _ s s3 hinv hadm hrun⟩

/-- `reattach_proxy_breaks` is not vacuous: the call of `test_reattach_interface`
    (`reattach_interface(client, server, proxy_nic="b1")`) succeeds on the selftest network -/
theorem witness_proxy_nic : ∃ s s', build inpA = .ok s ∧ Inv s ∧ reattach s 0 3 (some 2) = .ok s' ∧ ¬ Inv s' := by
  obtain ⟨s, hb, h1⟩ := holds_ok _ _ inpA_run
  simp only [Bool.and_eq_true] at h1
  obtain ⟨s', hs', _⟩ := holds_ok _ _ h1.1.2
  obtain ⟨hinv, _, hn⟩ := build_inv_partial inpA s inpA_distinct inpA_noShadow hb
  exact ⟨s, s', hb, hinv, hs', reattach_proxy_breaks s s' 0 3 2 hinv (by rw [hn]; decide) (by decide) hs'⟩

/-- 10.1.0.100/16 (inside the default range 100-200 of its own netconfig) and 10.2.0.1/16 -/
def inpP : List Iface :=
  [⟨167837796, 4294901760, none, 100, 200, none⟩, ⟨167903233, 4294901760, none, 100, 200, none⟩]

/-- `reattach_inv_partial` needs `FreshAt`: the allocator hands out 10.1.0.100 although the statically
    configured interface 0 has it; interface 0 is overwritten in the netconfig's `interfaces`. -/
theorem witness_pool_collision : ∃ s s', build inpP = .ok s ∧ Inv s ∧ reattach s 1 0 none = .ok s' ∧ ¬ Inv s' := by
  have hc : holds (build inpP) (fun s => holds (reattach s 1 0 none) (fun s' => !listedB s' 0 && s'.nIf == 2)) = true := by
    decide +kernel
  obtain ⟨s, hb, h1⟩ := holds_ok _ _ hc
  obtain ⟨s', hs', h2⟩ := holds_ok _ _ h1
  simp only [Bool.and_eq_true, Bool.not_eq_true', beq_iff_eq] at h2
  obtain ⟨hinv, _, _⟩ := build_inv_partial inpP s (by decide) (by unfold NoShadow; decide) hb
  refine ⟨s, s', hb, hinv, hs', ?_⟩
  intro hinv'
  have := inv_listedB s' 0 hinv' (by rw [h2.2]; decide)
  rw [h2.1] at this; cases this

/-- 10.0.0.5/16 first, then 10.1.0.1/8: both subnets have the network address 10.0.0.0 -/
def inpN : List Iface :=
  [⟨167772165, 4294901760, none, 100, 200, none⟩, ⟨167837697, 4278190080, none, 100, 200, none⟩]

/-- `build_inv_partial` needs `NoShadow`: the construction succeeds for distinct addresses, but the /8 netconfig
    replaces the /16 one under the key 10.0.0.0 and interface 0 is left in an unregistered netconfig.
    (In the opposite order `can_add_interface` raises `IndexError`.) -/
theorem witness_nested_subnet : (inpN.map (·.ip)).Nodup ∧ ¬ NoShadow inpN ∧
    (∃ s, build inpN = .ok s ∧ ¬ Inv s) ∧ failsWith (build inpN.reverse) .indexError = true := by
  refine ⟨by decide, ?_, ?_, by decide +kernel⟩
  · unfold NoShadow; decide
  · have hc : holds (build inpN) (fun s => !listedB s 0 && s.nIf == 2) = true := by decide +kernel
    obtain ⟨s, hb, h2⟩ := holds_ok _ _ hc
    simp only [Bool.and_eq_true, Bool.not_eq_true', beq_iff_eq] at h2
    refine ⟨s, hb, ?_⟩
    intro hinv
    have := inv_listedB s 0 hinv (by rw [h2.2]; decide)
    rw [h2.1] at this; cases this

/-! ## Translator tie: `I2N.Extracted.GenNet` (regenerated from `avocado_i2n/vmnet/netconfig.py` on every run by
`harness/pygen_pxnet.py`) equals the hand model, for ALL inputs

The generated definitions compute with Python's integers (`Int`); the hand model with `Nat`.  The adapter is always
`Int.ofNat` on the returned address, spelled out in each statement. -/
section TranslatorTie
open I2N.Extracted.GenNet

/-- the range map is a Python `dict`: no key twice (the model's association lists also contain non-dictionaries) -/
def RangeIsDict (c : Netconfig) : Prop := (c.range.map (·.1)).Nodup

/-- every netconfig the code constructs has a dictionary as range map … -/
theorem fromInterface_rangeIsDict (f : Iface) : RangeIsDict (fromInterface f) := by
  unfold RangeIsDict fromInterface mkRange
  simp only [List.map_map]
  have : ((fun p : Nat × Bool => p.1) ∘ fun o => (o, false)) = id := by funext o; rfl
  rw [this, List.map_id]
  exact List.nodup_range' (step := 1) (by omega)

/-- … and allocation keeps it one -/
theorem allocate_rangeIsDict (c c' : Netconfig) (a : Nat) (h : RangeIsDict c) (ha : allocate c = .ok (a, c')) :
    RangeIsDict c' := by
  unfold RangeIsDict at *
  rw [allocate_keys ha]; exact h

/-- the range check of `ipaddress.IPv4Address(<integer>)` on an integer `z` that is the natural number `n` whenever
    the check `bad`, stated in natural numbers, does not fire -/
theorem ipv4_eq (z : Int) (n : Nat) (bad : Prop) [Decidable bad] (hbad : bad ↔ z < 0 ∨ z ≥ (ipSpace : Int))
    (hn : ¬ bad → z = n) : ipv4 z = if bad then .error .valueError else .ok (Int.ofNat n) := by
  unfold ipv4
  by_cases h : bad
  · rw [if_pos (hbad.1 h), if_pos h]
  · rw [if_neg (fun x => h (hbad.2 x)), if_neg h, hn h]; rfl

/-- the range check of `IPv4Address(net_ip) + offset` in natural numbers -/
theorem ipv4_add (a b : Nat) :
    ipv4 (Int.ofNat a + Int.ofNat b) = if a + b ≥ ipSpace then .error .valueError else .ok (Int.ofNat (a + b)) :=
  ipv4_eq _ _ _ (by simp only [Int.ofNat_eq_natCast]; omega) (by simp only [Int.ofNat_eq_natCast]; omega)

/-- `VMNetconfig.get_allocatable_address` (the loop over the range map, the first-free search, the `IndexError` when
    it is exhausted, the `AddressValueError` of the address arithmetic): the generated definition is the model's
    `allocate` — same address, same updated netconfig, same exception — for every netconfig whose range map is a
    dictionary. -/
theorem allocate_matches_source (c : Netconfig) (h : RangeIsDict c) :
    genAllocate c = (allocate c).map (fun p => (Int.ofNat p.1, p.2)) := by
  unfold genAllocate allocate
  rw [find_rangeKeys c h, allocRange_eq_find c.range h]
  cases c.range.find? (fun x => x.2 == false) with
  | none => rfl
  | some x =>
    simp only [Option.map_some]
    simp only [genAllocFound, markTaken, readNc, ipv4_add, bind, StateT.bind, pure, Except.bind,
      Except.pure, liftM, monadLift, MonadLift.monadLift, StateT.lift, Except.map]
    by_cases hge : c.netIp + x.1 ≥ ipSpace
    · rw [if_pos hge, if_pos hge]
    · rw [if_neg hge, if_neg hge]; rfl

/-- the hypothesis is needed: on an association list that is not a dictionary the model walks the entries, the code
    looks every key up again -/
example : let c : Netconfig := { netIp := 0, netmask := 0, host := none, range := [(1, true), (1, false)], ifs := [] }
    genAllocate c = .error .indexError ∧ (allocate c).map (fun p => (Int.ofNat p.1, p.2)) ≠ .error .indexError := by
  constructor
  · rfl
  · intro h; cases h

/-- `VMNetconfig.has_interface`: membership of the address AND identity of the object found (the dictionary read
    behind `and` is only made when the key is present, so no `KeyError`) -/
theorem hasInterface_matches_source (c : Netconfig) (i : Nat) (f : Iface) :
    genHasInterface c i f = .ok (hasInterface c i f) := by
  unfold genHasInterface hasInterface ifsGet
  have hk := alookup_isSome_iff_hasKey f.ip c.ifs
  cases hl : alookup f.ip c.ifs with
  | none =>
    rw [hl] at hk
    have : hasKey f.ip c.ifs = false := by simpa using hk.symm
    simp [this, pure, Except.pure]
  | some j =>
    rw [hl] at hk
    have : hasKey f.ip c.ifs = true := by simpa using hk.symm
    simp [this, pure, Except.pure, bind, Except.bind]

/-- `VMNetconfig.can_add_interface`: the order of the three tests, both `IndexError`s, the comparisons of network
    address and netmask, the returned Boolean -/
theorem canAdd_matches_source (c : Netconfig) (i : Nat) (f : Iface) : genCanAdd c i f = canAdd c i f := by
  unfold genCanAdd canAdd
  rw [hasInterface_matches_source]
  cases hasInterface c i f with
  | true => rfl
  | false =>
    by_cases h1 : networkIp f.ip c.bits = c.netIp <;> by_cases h2 : f.netmask = c.netmask <;>
      simp [h1, h2, bind, Except.bind, pure, Except.pure, throw, throwThe, MonadExceptOf.throw]

/-- `VMNetconfig.add_interface`: store under the address, set the back reference of the object stored there, validate
    (in this order; the state is dropped when `validate` raises, as in the model) -/
theorem addInterface_matches_source (s : Net) (n i : Nat) :
    genAddInterface n i s = (addInterface s n i).map (fun s' => ((), s')) := by
  unfold genAddInterface addInterface
  simp only [storeIface, setStoredNetconfig, validate_, bind, StateT.bind, pure, StateT.pure, Except.bind, Except.pure,
    Except.map]
  have : alookup (s.iface i).ip ((s.setNc n fun c => { c with ifs := aset (s.iface i).ip i c.ifs }).nc n).ifs = some i := by
    simp only [Net.setNc, if_true]
    exact alookup_aset_self _ _ _
  have hi : (s.setNc n fun c => { c with ifs := aset (s.iface i).ip i c.ifs }).iface i = s.iface i := rfl
  rw [hi, this]
  simp only
  cases validate _ n <;> rfl

/-- `VMNetconfig.translate_address`: Python's integer arithmetic `int(ip) - int(net_ip) + int(network(nat_ip))` with
    the range check of `ipaddress.IPv4Address(<integer>)` is the model's guarded natural number arithmetic; the
    network address of `nat_ip` is the atom `networkIp` on both sides -/
theorem translate_matches_source (c : Netconfig) (ip nat : Nat) :
    genTranslate c ip nat = (translate c ip nat).map Int.ofNat := by
  unfold genTranslate translate
  simp only [bind, Except.bind, pure, Except.pure]
  rw [ipv4_eq _ (ip + networkIp nat c.bits - c.netIp)
    (ip + networkIp nat c.bits < c.netIp ∨ ip + networkIp nat c.bits - c.netIp ≥ ipSpace)
    (by simp only [Int.ofNat_eq_natCast]; omega) (by simp only [Int.ofNat_eq_natCast]; omega)]
  by_cases h : ip + networkIp nat c.bits < c.netIp ∨ ip + networkIp nat c.bits - c.netIp ≥ ipSpace
  · simp only [if_pos h]; rfl
  · simp only [if_neg h]; rfl

/-- the getter of `VMNetconfig.mask_bit` — the four octets of the dotted netmask expanded by
    `bin(int(octet))[2:].zfill(8)`, concatenated, `rstrip("0")`, `len` — is the model's `maskBit` (`32 -` the number of
    trailing zero bits), for EVERY netmask (also non-contiguous ones); `m` is the netmask as a number and `octets m`
    its dotted form -/
theorem maskBit_matches_source (m : Nat) : genMaskBit m = Int.ofNat (maskBit m) := genMaskBit_eq m

example : genMaskBit 4294967040 = 24 ∧ genMaskBit 4278255360 = 24 ∧ genMaskBit 0 = 0 := by
  simp only [maskBit_matches_source]; decide

example : RangeIsDict (fromInterface { ip := 167837954, netmask := 4294967040, host := none, lo := 100, hi := 102, nc := none }) :=
  fromInterface_rangeIsDict _

end TranslatorTie

section TranslatorTieNetwork
open I2N.Extracted.GenNet I2N.Extracted.GenNetwork

/-- the key just stored is present -/
theorem hasKey_aset_self {α : Type} (k : Nat) (v : α) (l : List (Nat × α)) : hasKey k (aset k v l) = true := by
  rw [← alookup_isSome_iff_hasKey, alookup_aset_self]; rfl

/-- two stores into the same interface object are one store -/
theorem setIface_setIface (s : Net) (i : Nat) (f g : Iface → Iface) :
    (s.setIface i f).setIface i g = s.setIface i (fun x => g (f x)) := by
  unfold Net.setIface
  congr 1
  funext j
  by_cases h : j = i <;> simp [h]

/-- the proxy selection of `reattach_interface` (`proxy_nic != "" and proxy_nic != server_nic`, then the lookup of the
    proxy interface, which would be a `KeyError` for the empty name) is the model's `if p = some r then none else p`;
    it never raises and leaves the state alone -/
theorem reattachProxy_matches_source (r : Nat) (p : Option Nat) (s : Net) :
    genReattachProxy r p s = .ok ((if p = some r then none else p), s) := by
  unfold genReattachProxy genReattachProxySelected lookupNic
  cases p with
  | none => rfl
  | some q =>
    by_cases h : q = r
    · subst h
      simp [Id.run, pure, StateT.pure, Except.pure]
    · have h1 : ((some q : Option Nat) == some r) = false := by simp [h]
      have h0 : ((some q : Option Nat) == none) = false := by simp
      simp [Id.run, pure, StateT.pure, Except.pure, bind, StateT.bind, Except.bind, h, h0, h1]

/-- the attach part of `reattach_interface` — detach from the OLD netconfig (`KeyError` when the address is not
    registered there), allocate in the new one, store the address, `add_interface` — is the first half of the model's
    `reattach`, given the two netconfig references -/
theorem reattachAttach_eq (s : Net) (c tn on : Nat) (hc : (s.iface c).nc = some on) :
    genReattachAttach c tn s =
      (if !hasKey (s.iface c).ip (s.nc on).ifs then .error .keyError else
        let s1 := s.setNc on (fun k => { k with ifs := adel (s.iface c).ip k.ifs })
        match allocate (s1.nc tn) with
        | .error e => .error e
        | .ok (a, k') =>
          (addInterface ((s1.setNc tn (fun _ => k')).setIface c (fun f => { f with ip := a })) tn c).map
            (fun s' => ((), s'))) := by
  unfold genReattachAttach
  simp only [ncOf, ipOf, delIfs, allocM, setIp, bind, StateT.bind, pure, StateT.pure, Except.bind, Except.pure, hc]
  by_cases hk : hasKey (s.iface c).ip (s.nc on).ifs = true
  · simp only [hk, Bool.not_true, Bool.false_eq_true, if_false]
    cases allocate ((s.setNc on fun k => { k with ifs := adel (s.iface c).ip k.ifs }).nc tn) with
    | error e => rfl
    | ok q =>
      obtain ⟨a, k'⟩ := q
      simp only [addInterface_matches_source]
      cases addInterface _ tn c <;> rfl
  · have hk' : hasKey (s.iface c).ip (s.nc on).ifs = false := by simpa using hk
    simp only [hk', Bool.not_false, if_true]

/-- `VMNetwork.reattach_interface` (avocado_i2n/vmnet/network.py): the generated definition — pinned head (the nic
    roles resolved to the interface objects `c`, `r`), translated proxy selection, translated attach part (detach from
    the old netconfig, allocate in the new one, `add_interface`), translated proxy part, pinned tail — is the model's
    `reattach`, for every network state, every pair of interfaces and every proxy nic (without and with proxy): same
    final registry, same exception. -/
theorem reattach_matches_source (s : Net) (c r : Nat) (p : Option Nat) :
    genReattach c r p s = (reattach s c r p).map (fun s' => ((), s')) := by
  unfold genReattach reattach
  simp only [bind, StateT.bind, Except.bind, reattachProxy_matches_source]
  generalize (if p = some r then none else p) = p'
  cases hr : (s.iface r).nc with
  | none => simp only [ncOf, hr]; rfl
  | some tn =>
    simp only [ncOf, hr]
    cases hc : (s.iface c).nc with
    | none =>
      simp only [genReattachAttach, ncOf, hc, bind, StateT.bind, Except.bind]; rfl
    | some on =>
      rw [reattachAttach_eq s c tn on hc]
      by_cases hk : hasKey (s.iface c).ip (s.nc on).ifs = true
      · simp only [hk, Bool.not_true, Bool.false_eq_true, if_false]
        cases allocate ((s.setNc on fun k => { k with ifs := adel (s.iface c).ip k.ifs }).nc tn) with
        | error e => rfl
        | ok q =>
          obtain ⟨a, k'⟩ := q
          simp only
          cases hadd : addInterface (((s.setNc on fun k => { k with ifs := adel (s.iface c).ip k.ifs }).setNc tn
              fun _ => k').setIface c fun f => { f with ip := a }) tn c with
          | error e => rfl
          | ok s3 =>
            simp only [Except.map]
            cases p' with
            | none => rfl
            | some pi =>
              -- what `add_interface` left behind: the address of `c` is `a` and it is registered in `tn`
              have h3 : (s3.iface c).ip = a ∧ hasKey a (s3.nc tn).ifs = true := by
                rw [(addInterface_ok _ _ _ _ hadd).1, attachState_ip, attachState_nc, if_pos rfl, Net.setIface_iface,
                  if_pos rfl]
                exact ⟨rfl, hasKey_aset_self _ _ _⟩
              simp only [genReattachProxyPart, ipOf, delIfs, setIp, setNcRef, ncOf, allocM, bind, StateT.bind, pure,
                StateT.pure, Except.bind, Except.pure, h3.1, h3.2, Bool.not_true, Bool.false_eq_true, if_false]
              generalize hs5 : ((s3.setNc tn fun k => { k with ifs := adel a k.ifs }).setIface r fun f =>
                { f with ip := ((s3.setNc tn fun k => { k with ifs := adel a k.ifs }).iface pi).ip }) = s5
              cases hp : (s5.iface pi).nc with
              | none => rfl
              | some pn =>
                simp only
                cases allocate (s5.nc pn) with
                | error e => rfl
                | ok q2 =>
                  obtain ⟨a2, k2⟩ := q2
                  have hpi : (((s5.setNc pn fun _ => k2).setIface c fun f => { f with ip := a2 }).iface pi).nc = some pn := by
                    simp only [Net.setIface, Net.setNc]
                    by_cases h : pi = c
                    · simp only [h, if_true]; rw [← h]; exact hp
                    · simp only [h, if_false]; exact hp
                  simp only [hpi, setIface_setIface]
      · have hk' : hasKey (s.iface c).ip (s.nc on).ifs = false := by simpa using hk
        simp only [hk', Bool.not_false, if_true]
        rfl

/-- a concrete run through both translated parts: the selftest call with `proxy_nic="b1"` -/
example : ∃ s s', reattach s 0 3 (some 2) = .ok s' ∧ genReattach 0 3 (some 2) s = .ok ((), s') := by
  obtain ⟨s, s', _, _, h, _⟩ := witness_proxy_nic
  exact ⟨s, s', h, by rw [reattach_matches_source, h]; rfl⟩

/-! ### `VMNetconfig.validate` -/

/-- `ip_start` / `ip_end` of `validate`: the sum as an interface of the netconfig's prefix length -/
theorem ipv4_add_iface (a b bits : Nat) :
    (do let x ← ipv4 (Int.ofNat a + Int.ofNat b); pure (x.toNat, bits) : Except Err IpIface) =
      if a + b ≥ ipSpace then .error .valueError else .ok (a + b, bits) := by
  rw [ipv4_add]; split <;> rfl

theorem ipStartIface_eq (c : Netconfig) :
    ipStartIface c = if c.netIp + minOff c.range ≥ ipSpace then .error .valueError
      else .ok (c.netIp + minOff c.range, c.bits) := ipv4_add_iface _ _ _

theorem ipEndIface_eq (c : Netconfig) :
    ipEndIface c = if c.netIp + maxOff c.range ≥ ipSpace then .error .valueError
      else .ok (c.netIp + maxOff c.range, c.bits) := ipv4_add_iface _ _ _

/-- the body of the interface loop of `validate`: the two asserts (in this order, the `KeyError` of the dictionary
    read between them) and the `TestError` -/
theorem validateIfaces_matches_source (s : Net) (n : Nat) (c : Netconfig) (l : List (Nat × Nat)) :
    genValidateIfaces s n c l = validateIfs s n c l := by
  induction l with
  | nil => rfl
  | cons x rest ih =>
    obtain ⟨k, i⟩ := x
    simp only [genValidateIfaces, validateIfs, genValidateIface, ifsGet, bind, Except.bind, pure,
      Except.pure, throw, throwThe, MonadExceptOf.throw]
    by_cases h1 : (s.iface i).nc = some n
    · cases hl : alookup (s.iface i).ip c.ifs with
      | none => simp [h1]
      | some j =>
        by_cases h2 : j = i
        · by_cases h3 : inNet c (s.iface i).ip = true
          · simp [h1, h2, h3, ih, inNetwork]
          · have h3' : inNet c (s.iface i).ip = false := by simpa using h3
            simp [h1, h2, h3', inNetwork]
        · simp [h1, h2]
    · simp [h1]

/-- the loop over the address dictionary: `TestError` for the first address outside the own network -/
theorem validateAddrs_eq (c : Netconfig) (l : List IpIface) :
    genValidateAddrs c l = (match l.all (fun a => inNetwork c a) with | true => .ok () | false => .error .testError) := by
  induction l with
  | nil => rfl
  | cons a rest ih =>
    rw [List.all_cons]
    cases hx : inNetwork c a with
    | false =>
      simp only [genValidateAddrs, genValidateAddress, hx, bind, Except.bind, throw, throwThe, MonadExceptOf.throw,
        Bool.false_and]
      rfl
    | true =>
      simp only [genValidateAddrs, genValidateAddress, hx, bind, Except.bind, pure, Except.pure, ih, Bool.true_and]
      rfl

/-- `VMNetconfig.validate`: the generated definition — the address dictionary (host only when defined and non-empty,
    `ip_start`, `ip_end` with their `AddressValueError`), the `TestError` loop over it, the loop over the interfaces
    with its two asserts, the `KeyError` and the `TestError` — is the model's `validate`, for every network state and
    every netconfig: same exception or none. -/
theorem validate_matches_source (s : Net) (n : Nat) : genValidate s n = validate s n := by
  unfold genValidate validate
  simp only [genValidateAddresses, ipStartIface_eq, ipEndIface_eq, validateIfaces_matches_source, validateAddrs_eq,
    bind, Except.bind, pure, Except.pure]
  by_cases hs : (s.nc n).netIp + minOff (s.nc n).range ≥ ipSpace
  · simp [hs]
  · by_cases he : (s.nc n).netIp + maxOff (s.nc n).range ≥ ipSpace
    · simp [hs, he]
    · cases hh : (s.nc n).host with
      | none =>
        simp [hs, he, hh, hostOutside, inNetwork]
        cases inNet (s.nc n) ((s.nc n).netIp + minOff (s.nc n).range) <;>
          cases inNet (s.nc n) ((s.nc n).netIp + maxOff (s.nc n).range) <;> rfl
      | some h =>
        simp [hs, he, hh, hostOutside, inNetwork]
        cases inNet (s.nc n) h <;> cases inNet (s.nc n) ((s.nc n).netIp + minOff (s.nc n).range) <;>
          cases inNet (s.nc n) ((s.nc n).netIp + maxOff (s.nc n).range) <;> rfl

/-- `add_interface` with the generated `validate` inside (the atom `validate_` of `genAddInterface` is the hand
    model's `validate`, which is the generated one) -/
theorem validate__eq_genValidate (n : Nat) (s : Net) :
    validate_ n s = match genValidate s n with | .error e => .error e | .ok () => .ok ((), s) := by
  rw [validate_matches_source]; rfl

/-- a run of the generated `validate` that passes every check, on the selftest network -/
example : ∃ s, build inpA = .ok s ∧ genValidate s 0 = .ok () := by
  obtain ⟨s, hb, h1⟩ := holds_ok _ _ inpA_run
  simp only [Bool.and_eq_true] at h1
  refine ⟨s, hb, ?_⟩
  rw [validate_matches_source]
  cases hv : validate s 0 with
  | error e => rw [hv] at h1; cases h1.2
  | ok u => rfl

/-! ### `VMNetwork.integrate_node` -/

/-- the inner `for netconfig in self.netconfigs.values(): if netconfig.can_add_interface(interface): …; break` is the
    model's `findNc`: the first registered netconfig that accepts the interface, the exception of the first
    `can_add_interface` that raises, the state untouched -/
theorem findNc_matches_source (s : Net) (i : Nat) (l : List (Nat × Nat)) :
    genFindNc i l s = (findNc s i l).map (fun o => (o, s)) := by
  induction l with
  | nil => rfl
  | cons x rest ih =>
    obtain ⟨k, n⟩ := x
    simp only [genFindNc, findNc, genIntegrateTest, canAddM, canAdd_matches_source, bind, StateT.bind, Except.bind,
      pure]
    cases canAdd (s.nc n) i (s.iface i) with
    | error e => rfl
    | ok b => cases b <;> simp [ih, Except.map, pure, StateT.pure, Except.pure]

/-- `new_netconfig()` followed by `from_interface(interface)` is the model's one step creation -/
theorem newNetconfig_state (s : Net) (i : Nat) :
    ({ s with nNc := s.nNc + 1, nc := fun m => if m = s.nNc then default else s.nc m } : Net).setNc s.nNc
        (fun _ => fromInterface (s.iface i)) =
      { s with nNc := s.nNc + 1, nc := fun m => if m = s.nNc then fromInterface (s.iface i) else s.nc m } := by
  unfold Net.setNc
  congr 1
  funext m
  by_cases h : m = s.nNc <;> simp [h]

/-- `add_interface` does not change the network address of the netconfig -/
theorem addInterface_netIp (s s2 : Net) (n i : Nat) (h : addInterface s n i = .ok s2) :
    (s2.nc n).netIp = (s.nc n).netIp := by
  rw [(addInterface_ok s s2 n i h).1, attachState_netIp]

/-- the body of the second loop of `integrate_node` for one interface — the for/else over the registered netconfigs,
    `add_interface` to the first that accepts it, otherwise a NEW netconfig made from the interface, `add_interface`,
    and only then the registration under its network address — is the model's `place` -/
theorem place_matches_source (s : Net) (i : Nat) : genPlace i s = (place s i).map (fun s' => ((), s')) := by
  unfold genPlace place
  simp only [registered, bind, StateT.bind, Except.bind, findNc_matches_source]
  cases findNc s i s.reg with
  | error e => rfl
  | ok o =>
    cases o with
    | some n =>
      simp only [Except.map, genIntegrateFound, addInterface_matches_source, bind, StateT.bind, Except.bind]
      cases addInterface s n i <;> rfl
    | none =>
      simp only [Except.map, genIntegrateNew, newNetconfig, fromInterfaceM, registerNc, addInterface_matches_source,
        bind, StateT.bind, Except.bind, newNetconfig_state]
      cases hadd : addInterface ({ s with nNc := s.nNc + 1, nc := fun m => if m = s.nNc then fromInterface (s.iface i) else s.nc m } : Net) s.nNc i with
      | error e => rfl
      | ok s2 =>
        have := addInterface_netIp _ s2 s.nNc i hadd
        simp only [if_true] at this
        simp only [this]
        rfl

theorem placeAll_matches_source (l : List Nat) : ∀ s : Net,
    genPlaceAll l s = (placeAll s l).map (fun s' => ((), s')) := by
  induction l with
  | nil => intro s; rfl
  | cons i rest ih =>
    intro s
    simp only [genPlaceAll, placeAll, bind, StateT.bind, Except.bind, place_matches_source]
    cases place s i with
    | error e => rfl
    | ok s' => simp only [Except.map, ih]

/-- `VMNetwork.integrate_node` (avocado_i2n/vmnet/network.py): the generated definition — pinned guards and first loop
    (the new interface objects `first … first+count-1`), then for every interface the translated for/else over the
    registered netconfigs — is the model's `integrateNode`, for every network state and every number of nics: same
    final registry, same exception. -/
theorem integrateNode_matches_source (s : Net) (first count : Nat) :
    genIntegrateNode first count s = (integrateNode s first count).map (fun s' => ((), s')) :=
  placeAll_matches_source _ s

/-- a concrete run through both parts (a new netconfig, then a second interface added to it) -/
example : ∃ s', integrateNode (init inpA) 0 2 = .ok s' ∧ genIntegrateNode 0 2 (init inpA) = .ok ((), s') := by
  have h : isOk (integrateNode (init inpA) 0 2) = true := by decide +kernel
  cases hi : integrateNode (init inpA) 0 2 with
  | error e => rw [hi] at h; cases h
  | ok s' => exact ⟨s', rfl, by rw [integrateNode_matches_source, hi]; rfl⟩

/-! ### `VMNetwork.__init__` -/

theorem placeAll_append (l1 l2 : List Nat) : ∀ s : Net,
    placeAll s (l1 ++ l2) = (match placeAll s l1 with | .error e => .error e | .ok s' => placeAll s' l2) := by
  induction l1 with
  | nil => intro s; rfl
  | cons i rest ih =>
    intro s
    simp only [List.cons_append, placeAll]
    cases place s i with
    | error e => rfl
    | ok s' => exact ih s'

/-- the loop of the constructor over the vms, each with its own `integrate_node`, is one `placeAll` over all interface
    objects in creation order -/
theorem genInit_eq (counts : List Nat) : ∀ (first : Nat) (s : Net),
    genInit first counts s = (placeAll s (List.range' first counts.sum)).map (fun s' => ((), s')) := by
  induction counts with
  | nil => intro first s; rfl
  | cons k rest ih =>
    intro first s
    have hr : List.range' first (k :: rest).sum = List.range' first k ++ List.range' (first + k) rest.sum := by
      rw [List.sum_cons, List.range'_append_1]
    rw [hr, placeAll_append]
    simp only [genInit, genInitNode, newNode, bind, StateT.bind, Except.bind, pure, StateT.pure, Except.pure]
    have := integrateNode_matches_source s first k
    unfold integrateNode at this
    rw [this]
    cases placeAll s (List.range' first k) with
    | error e => rfl
    | ok s' => simp only [Except.map]; exact ih (first + k) s'

/-- `VMNetwork.__init__` (avocado_i2n/vmnet/network.py): the generated loop over the vms — for every vm a node object
    and `integrate_node` (translated), the vm lookup pinned, the registry empty in front of the loop (checked) — run on
    the model's initial state is the model's `build`, for every list of interfaces and every split of them into vms
    (`counts` = the number of nics of every vm, in order). -/
theorem init_matches_source (inp : List Iface) (counts : List Nat) (h : counts.sum = inp.length) :
    genInit 0 counts (init inp) = (build inp).map (fun s' => ((), s')) := by
  rw [genInit_eq, h]
  unfold build
  rw [List.range_eq_range']

/-- non-vacuity: the selftest network, two vms with two nics each -/
example : ([2, 2] : List Nat).sum = inpA.length := by decide

example : ∃ s', build inpA = .ok s' ∧ genInit 0 [2, 2] (init inpA) = .ok ((), s') := by
  obtain ⟨s, hb, _⟩ := holds_ok _ _ inpA_run
  exact ⟨s, hb, by rw [init_matches_source inpA [2, 2] (by decide), hb]; rfl⟩

end TranslatorTieNetwork

end I2N.Props.C18
