import I2N.Lemmas.Trav
import I2N.Lemmas.TravProgress
import I2N.Lemmas.TravTerm
import I2N.Lemmas.TravTermLazy
import I2N.Lemmas.TravGlobal
import I2N.Lemmas.TravGlobalN
import I2N.Lemmas.TravGlobalR
import I2N.Lemmas.TravFair
import I2N.Lemmas.TravFair2
import I2N.Lemmas.TravDefinite
import I2N.Lemmas.TravEval
import I2N.Model.TravMon
import I2N.Lemmas.GenReady
import I2N.Lemmas.GenLazy
/-!
# C02 — Traversal terminates and every selected test gets a definite result  (partial by design)

Single iterations (no pick from an exhausted node, exit only at the root, dry runs are inert); the path and mark
invariants of reachable states; termination of the loop between two suspension points; termination across suspensions
for one worker and, under a fair or a timed scheduler and with hypotheses on the classes, for several; the results at the
end of a run; the translator ties of readiness, drops, picks and lazy expansion.  Each section says what is missing for the
full statement (`traversal_terminates` stays the target).  What the check adds is correspondence: every implementation
run must exit cleanly within a virtual-time and event bound.
-/
namespace I2N.Props.C02
open I2N.Trav

/-- No pick from an exhausted node (children): as long as the node is not cleanup-ready for the worker,
`pick_child` finds a candidate — the availability filter of the pick is the filter of the readiness test. -/
theorem no_pick_from_exhausted_child (g : Graph) (s : State) (n w : Nat) (h : isCleanupReady g s n w = false) :
    ∃ c s', pickChild g s n w = some (c, s') ∧ relevant g w c = true ∧ c ∈ (g.node n).cleanup.map (·.1) := by
  obtain ⟨c, s', hp⟩ := I2N.Trav.Term.pick_some g s n w false h
  obtain ⟨h1, h2, _⟩ := I2N.Trav.Term.pick_spec g s n w false c s' hp
  exact ⟨c, s', hp, h2, h1⟩

/-- … and parents: a node that is not setup-ready for the worker has a parent left to pick. -/
theorem no_pick_from_exhausted_parent (g : Graph) (s : State) (n w : Nat) (h : isSetupReady g s n w = false) :
    ∃ c s', pickParent g s n w = some (c, s') ∧ relevant g w c = true ∧ c ∈ (g.node n).setup.map (·.1) := by
  obtain ⟨c, s', hp⟩ := I2N.Trav.Term.pick_some g s n w true h
  obtain ⟨h1, h2, _⟩ := I2N.Trav.Term.pick_spec g s n w true c s' hp
  exact ⟨c, s', hp, h2, h1⟩

/-- A worker leaves the loop only from the root: an iteration ends the traversal exactly when the root
is cleanup-ready for the worker, and then its path is `[root]` (otherwise the `assert` fails). -/
theorem exit_at_root (g : Graph) (s : State) (w : Nat) (s' : State) (evs : List Event)
    (h : iter g s w = (s', evs, Flow.exit)) :
    isCleanupReady g s g.root w = true ∧ (s.wd w).path = [g.root] ∧ evs = [Event.exit (g.worker w).id] := by
  have hx : (iter g s w).2.2.isExit = true := by rw [h]; rfl
  revert h hx
  fun_cases iter g s w
  case case1 hr hp =>
    intro h _
    cases h
    exact ⟨hr, by simpa using hp, rfl⟩
  case case7 | case12 =>
    intro _ hx
    rw [traverseNode_not_exit] at hx
    cases hx
  -- none of the remaining branches returns `Flow.exit`
  all_goals
    intro _ hx
    cases hx

/-- In a dry run nothing is executed and nothing is requested from the state control: both decisions
of a dry node are `False` and leave the state as it is. -/
theorem dry_run_inert (g : Graph) (s : State) (n w : Nat) (hdry : (g.node n).dryRun = true) :
    runDecision g s n w = .ok (false, s, []) ∧ cleanDecision g s n w = .ok false ∧ shouldRerun g s n w = .ok false := by
  refine ⟨?_, ?_, ?_⟩
  · unfold runDecision
    by_cases a : (g.node n).sharedRoot = true <;> simp [a, hdry]
  · unfold cleanDecision; simp [hdry]
  · unfold shouldRerun
    by_cases a : (s.nd n).rerunDisabled = true <;> simp [a, hdry]

/-! ## progress lemmas on reachable states

`ReachableF`, `EdgeSym`, `PInv`: Lemmas/TravProgress.lean.  `ReachableF` = initial state + `resume` steps of real
workers with positive fuel; `EdgeSym g` = every edge is recorded at both ends (decidable form `edgeSymB`). -/

/-- `path_connected`.  In every reachable state the path of a real worker is empty — and then the worker is done —
or starts at the root with every two consecutive entries joined by an edge of the graph as parsed so far
(`prev ∈ setup(next) ∨ prev ∈ cleanup(next)` in `vis g s`). -/
theorem path_connected (g : Graph) (hsym : EdgeSym g) (ncls : Nat) (store : List (String × List (String × String)))
    (s : State) (h : ReachableF g ncls store s) (w : Nat) (hw : w < s.workers.length) :
    ((s.wd w).path = [] ∧ (s.wd w).pc = .done) ∨
    ((s.wd w).path.head? = some g.root ∧
      ∀ i prev next, (s.wd w).path[i]? = some prev → (s.wd w).path[i + 1]? = some next → Adj (vis g s) prev next) := by
  rcases (h.pinv hsym).path w hw with h' | h'
  · exact Or.inl h'
  · exact Or.inr ⟨h'.head, h'.consecutive⟩

/-- `no_broken_path`.  The guard of the `AssertionError "Discontinuous path"` branch of `iter` is never met: in a
reachable state, for a path longer than one entry, the entry before the last is a child or a parent of the last one
in the visible graph — also after the lazy-expansion step `prepare` that `iterL` runs first (it only adds edges). -/
theorem no_broken_path (g : Graph) (hsym : EdgeSym g) (ncls : Nat) (store : List (String × List (String × String)))
    (s : State) (h : ReachableF g ncls store s) (w : Nat) (hw : w < s.workers.length) (next : Nat)
    (hlast : (s.wd w).path.getLast? = some next) (hlen : (s.wd w).path.length ≠ 1)
    (s1 : State) (hs1 : s1 = s ∨ s1 = prepare g s w) :
    (((vis g s1).node next).cleanup.map (·.1)).contains ((s.wd w).path.getD ((s.wd w).path.length - 2) 0) = true ∨
    (((vis g s1).node next).setup.map (·.1)).contains ((s.wd w).path.getD ((s.wd w).path.length - 2) 0) = true := by
  rcases (h.pinv hsym).path w hw with h' | h'
  · rw [h'.1] at hlast; simp at hlast
  · have hadj := (h'.last_two hlen next hlast).1
    have hadj1 : Adj (vis g s1) ((s.wd w).path.getD ((s.wd w).path.length - 2) 0) next := by
      rcases hs1 with e | e
      · rw [e]; exact hadj
      · rw [e]; exact adj_vis_mono g s _ (prepare_frame g s w).2.2.2 _ _ hadj
    rcases hadj1 with h1 | h1
    · right; simpa using h1
    · left; simpa using h1

/-- `no_raise_from_pick`.  The one pick of `iter` that is not guarded by the readiness test of the very node it picks
from — `pick_child` at a path of length one — is a pick from the root, which is not cleanup-ready there (the loop
would have ended); so it finds a child.  The other picks of the loop are guarded syntactically
(`if !isSetupReady … then pickParent`, `if isCleanupReady … else pickChild` on the same state), where
`no_pick_from_exhausted_parent` / `_child` apply directly: no pick of an iteration raises `RuntimeError`. -/
theorem no_raise_from_pick (g : Graph) (hsym : EdgeSym g) (ncls : Nat) (store : List (String × List (String × String)))
    (s : State) (h : ReachableF g ncls store s) (w : Nat) (hw : w < s.workers.length) (next : Nat)
    (hlast : (s.wd w).path.getLast? = some next) (hlen : (s.wd w).path.length = 1)
    (hnr : isCleanupReady (vis g s) s (vis g s).root w = false) :
    ∃ c s', pickChild (vis g s) s next w = some (c, s') ∧ relevant g w c = true := by
  rcases (h.pinv hsym).path w hw with h' | h'
  · rw [h'.1] at hlast; simp at hlast
  · have hp := h'.length_one hlen
    rw [hp] at hlast
    have hn : next = (vis g s).root := by
      rw [vis_root]; simpa using hlast.symm
    rw [hn]
    obtain ⟨c, s', h1, h2, _⟩ := no_pick_from_exhausted_child (vis g s) s (vis g s).root w hnr
    exact ⟨c, s', h1, by rw [← vis_relevant g s]; exact h2⟩

/-- `started_only_inside`.  In a reachable state a `started` mark of worker `v` on copy `m` means that `v` is
suspended inside the execution of `m` (pc `.test m …`: the test or its result wait) — or that `v` died with an
exception after entering `m` (pc `.failed`; the model keeps the mark then, like the code). -/
theorem started_only_inside (g : Graph) (hsym : EdgeSym g) (ncls : Nat) (store : List (String × List (String × String)))
    (s : State) (h : ReachableF g ncls store s) (m v : Nat) (hs : (s.nd m).started = some v) :
    (s.wd v).pc.node? = some m ∨ (s.wd v).pc = .failed :=
  (h.pinv hsym).markPc m v hs

/-- `bounce_needs_runner` (no deadlock between waiting workers).  In a reachable state between steps, if a worker `w`
that is neither executing nor dead finds node `n` occupied (so `iter` bounces it: `isOccupied` on the graph as parsed
so far, `gv = vis g s'` for any `s'`, in particular `g` itself), then some OTHER worker `v ≠ w` holds the mark of a
copy `m` of `n`'s class and is suspended inside the execution of `m` — or died inside it.  Hence the workers cannot
all be waiting for each other.
(The `failed` alternative is real in the model: a worker whose run decision raises keeps its mark.) -/
theorem bounce_needs_runner (g : Graph) (hsym : EdgeSym g) (ncls : Nat) (store : List (String × List (String × String)))
    (s : State) (h : ReachableF g ncls store s) (s' : State) (n w : Nat)
    (hocc : isOccupied (vis g s') s n w = true)
    (hpc : (s.wd w).pc.node? = none) (hnf : (s.wd w).pc ≠ .failed) :
    ∃ v m, v ≠ w ∧ m ∈ g.copies n ∧ (s.nd m).started = some v ∧
      ((s.wd v).pc.node? = some m ∨ (s.wd v).pc = .failed) := by
  obtain ⟨v, m, hm, hst⟩ := occupied_has_holder g (vis g s') (sameStatic_vis g s') s n w hocc
  have hv := (h.pinv hsym).markPc m v hst
  refine ⟨v, m, ?_, hm, hst, hv⟩
  intro hvw
  subst hvw
  rcases hv with h1 | h1
  · rw [hpc] at h1; cases h1
  · exact hnf h1

/-- the same combined with the exclusion invariant of C04 (`Inv`, `Lemmas/TravExcl.lean`): the reachable state also
satisfies the count bound, so the runners the bouncing worker waits for are at most `classLimit` many per scope -/
theorem bounce_state_excl (g : Graph) (hH : Homog g) (ncls : Nat) (store : List (String × List (String × String)))
    (s : State) (h : ReachableF g ncls store s) : Inv g s := by
  induction h with
  | init hidden => exact inv_initState g ncls store hidden
  | step s w out fuel _ _ _ ih => exact inv_resume g s w out fuel hH ih

/-- a two-node graph with one worker for the non-vacuity examples -/
def gTwo : Graph :=
  { workers := [{ id := "net1", swarm := "localhost" }],
    nodes := [{ cls := 0, owner := some 0, name := "root.net1", pfx := "0", sharedRoot := true, cleanup := [(1, ["vm1"])] },
              { cls := 1, owner := some 0, name := "leaf.net1", pfx := "1", setup := [(0, ["vm1"])] }],
    root := 0 }

/-- What the first step of the worker of `gTwo` shows, here and as side conditions below, from ONE kernel evaluation.
Evaluating a run is dear (for every `worker.id in name` the kernel decodes the UTF-8 of the node name), a `decide` per use
would evaluate it again from the initial state, and plain `decide` once more in the elaborator.  The theorems `g…_run` below
are of this kind, one per witness run; their clauses have the form of the hypotheses they are passed to: a form that fits
only up to unfolding makes Lean evaluate the run to compare them. -/
theorem gTwo_run :
    (((resume gTwo (initState gTwo 2 []) 0 ⟨none, 0⟩ 9).1.wd 0).pc.node? = some 1 ∧
      ((resume gTwo (initState gTwo 2 []) 0 ⟨none, 0⟩ 9).1.nd 1).started = some 0 ∧
      ((resume gTwo (initState gTwo 2 []) 0 ⟨none, 0⟩ 9).1.wd 0).path = [0, 1]) ∧
    0 < (resume gTwo (initState gTwo 2 []) 0 ⟨none, 0⟩ 9).1.workers.length := by
  simp only [resume_eq_resumeP, initState_hidden]
  decide +kernel

example : EdgeSym gTwo := edgeSymB_sound (by decide)
/-- after its first step the worker is suspended inside the execution of the leaf, holding its mark, with the
connected path `[root, leaf]` -/
example : ((resume gTwo (initState gTwo 2 []) 0 ⟨none, 0⟩ 9).1.wd 0).pc.node? = some 1 ∧
    ((resume gTwo (initState gTwo 2 []) 0 ⟨none, 0⟩ 9).1.nd 1).started = some 0 ∧
    ((resume gTwo (initState gTwo 2 []) 0 ⟨none, 0⟩ 9).1.wd 0).path = [0, 1] := gTwo_run.1
example := path_connected gTwo (edgeSymB_sound (by decide)) 2 [] _
  (.step _ 0 ⟨none, 0⟩ 9 (.init []) (by decide) (by decide)) 0 gTwo_run.2
example := started_only_inside gTwo (edgeSymB_sound (by decide)) 2 [] _
  (.step _ 0 ⟨none, 0⟩ 9 (.init []) (by decide) (by decide)) 1 0 gTwo_run.1.2.1

/-- Witness that the `failed` alternative of `started_only_inside` / `bounce_needs_runner` cannot be dropped: two
workers, one class with `max_tries = -1`.  Worker 0 runs its copy (PASS) and dies in the following run decision
(`ValueError`, mark already returned); worker 1 then enters its own copy, the run decision raises after the mark was
set — the worker is dead and still holds the mark (the code behaves the same: the exception leaves `traverse_node`
before `started_worker` is reset). -/
def gNeg : Graph :=
  { workers := [{ id := "net1", swarm := "localhost" }, { id := "net2", swarm := "localhost" }],
    nodes := [{ cls := 0, owner := none, name := "root", pfx := "0", sharedRoot := true,
                cleanup := [(1, ["vm1"]), (2, ["vm1"])] },
              { cls := 1, owner := some 0, name := "leaf.net1", pfx := "1", setup := [(0, ["vm1"])], maxTries := some (-1) },
              { cls := 1, owner := some 1, name := "leaf.net2", pfx := "2", setup := [(0, ["vm1"])], maxTries := some (-1) }],
    root := 0 }

def sNeg : State :=
  runSchedule gNeg 9 (initState gNeg 2 []) [(0, ⟨none, 0⟩), (0, ⟨some "PASS", 1⟩), (1, ⟨none, 0⟩)]

theorem dead_worker_keeps_mark : (sNeg.nd 2).started = some 1 ∧ (sNeg.wd 1).pc.isFailed = true := by
  rw [sNeg, runSchedule, (foldl_resume_eqP gNeg 9 _ _ (initState_hidden ..)).1]
  decide +kernel

/-! ## Termination of the loop between two suspension points (`Lemmas/TravTerm.lean`)

`runLoop g w fuel s evs` runs worker `w` from one suspension point to the next; `fuel` bounds the number of consecutive
iterations without suspension and the model emits `raise … "fuel"` when it runs out.  The theorems below show that
this branch is dead for `fuel ≥ bound g`, an explicit function of the static graph
(`bound g = 2·(2·|nodes|+3)·|edge ends| + 2·|nodes| + 4`), i.e. a worker never spins silently between two suspensions,
whatever the state of the other workers. -/

open I2N.Trav.Term in
/-- **Termination of a block.**  Graph: edges recorded at both ends, acyclic (`Ranked`).  State (`Good`): a dynamic
record for every node, registers for every class, no unexplored flat node, the path of the worker has the shape the walk
gives it (down from the root, then up; in particular `[root]`).  Then with `fuel ≥ bound g` the loop ends by itself —
in a suspension (test started, back-off sleep), the exit through the shared root or an exception of the traversal —
and its result does not depend on the fuel: `runLoopO` is `runLoop` with the exhaustion of the fuel made explicit. -/
theorem loop_terminates (g : Graph) (d : Nat → Nat) (hr : Ranked g d) (hsym : EdgeSym g) (w : Nat) (s : State)
    (evs : List Event) (hg : Good g d w s) (fuel : Nat) (hf : bound g ≤ fuel) :
    ∃ r, runLoopO g w (bound g) s evs = some r ∧ runLoop g w fuel s evs = r :=
  runLoop_terminates g d hr hsym w s evs hg fuel hf

open I2N.Trav.Term in
/-- the measure behind it: every iteration that neither suspends nor leaves the loop strictly lowers `phi`, which is
below `bound g` in good states, and leads to a good state again -/
theorem iteration_lowers_measure (g : Graph) (d : Nat → Nat) (hr : Ranked g d) (hsym : EdgeSym g) (w : Nat) (s : State)
    (hg : Good g d w s) (hc : (iterL g s w).2.2 = .cont) :
    phi g (iterL g s w).1 w < phi g s w ∧ phi g s w < bound g ∧ Good g d w (iterL g s w).1 :=
  ⟨(iterL_cont g d hr hsym s w hg hc).1, phi_lt_bound g d hr s w hg.walk, (iterL_cont g d hr hsym s w hg hc).2⟩

open I2N.Trav.Term in
/-- **No silent spinning after a back-off or at the start**: a worker standing at the root (initially, and after every
back-off sleep, which resets the path) reaches its next suspension, the exit or an exception within `bound g`
iterations, whatever the marks, results, registers and paths of the other workers are. -/
theorem loop_terminates_from_root (g : Graph) (d : Nat → Nat) (hr : Ranked g d) (hsym : EdgeSym g) (w : Nat) (s : State)
    (evs : List Event) (hn : s.nodes.length = g.nodes.length) (hc : ClsOK g s) (he : Explored g s)
    (hp : (s.wd w).path = [g.root]) (fuel : Nat) (hf : bound g ≤ fuel) :
    ∃ r, runLoopO g w (bound g) s evs = some r ∧ runLoop g w fuel s evs = r :=
  runLoop_terminates g d hr hsym w s evs (good_at_root g d w s hn hc he hp) fuel hf

open I2N.Trav.Term in
/-- the scheduler step of a worker that is in the loop or was bouncing does not depend on the fuel beyond `bound g`
(the driver uses 100000) -/
theorem resume_loop_fuel_independent (g : Graph) (d : Nat → Nat) (hr : Ranked g d) (hsym : EdgeSym g) (w : Nat) (s : State)
    (out : Outcome) (hg : Good g d w s) (hpc : (s.wd w).pc.node? = none) (fuel : Nat) (hf : bound g ≤ fuel) :
    resume g s w out fuel = resume g s w out (bound g) := by
  obtain ⟨r, h1, h2⟩ := runLoop_terminates g d hr hsym w s [] hg fuel hf
  have h3 := runLoop_of_runLoopO g w (bound g) s [] r h1 (bound g) (Nat.le_refl _)
  unfold resume
  split
  · rw [h2, h3]
  · rw [h2, h3]
  · next heq => rw [heq] at hpc; cases hpc
  · rfl
  · rfl

open I2N.Trav.Term in
/-- pre-parsed graphs (the only flat node is the shared root), initial state: every worker's first block terminates -/
theorem first_block_terminates (g : Graph) (hr : rankedB g = true) (hsym : edgeSymB g = true) (hflat : noFlatB g = true)
    (ncls : Nat) (hcls : ∀ n, n < g.nodes.length → (g.node n).cls < ncls)
    (store : List (String × List (String × String))) (w : Nat) (hw : w < g.workers.length) (fuel : Nat)
    (hf : bound g ≤ fuel) :
    ∃ r, runLoopO g w (bound g) (initState g ncls store) [] = some r ∧ runLoop g w fuel (initState g ncls store) [] = r := by
  refine runLoop_terminates g (depth g) (rankedB_sound hr) (edgeSymB_sound hsym) w _ [] ?_ fuel hf
  exact good_at_root g _ w _ (by simp [initState]) (clsOK_init g ncls store [] hcls) (explored_of_noFlat hflat _)
    (by rw [wd_init g ncls store [] w hw])

open I2N.Trav.Term in
/-- **Every reachable state.**  In every state the scheduler can reach (`ReachableF`: steps of real workers with positive
fuel, any interleaving, any outcomes) in which no flat node is unexplored, every worker is in a good state: the loop it
runs next terminates within `bound g` iterations.  The shape of the paths (`Walk`) is an invariant of the traversal
(`reachable_tinv`); registers and node records are those of the initial state (`hcls`: `ncls` exceeds every class). -/
theorem reachable_loop_terminates (g : Graph) (d : Nat → Nat) (hr : Ranked g d) (hsym : EdgeSym g) (ncls : Nat)
    (store : List (String × List (String × String))) (hcls : ∀ n, n < g.nodes.length → (g.node n).cls < ncls)
    (s : State) (h : ReachableF g ncls store s) (he : Explored g s) (w : Nat) (evs : List Event) (fuel : Nat)
    (hf : bound g ≤ fuel) : ∃ r, runLoopO g w (bound g) s evs = some r ∧ runLoop g w fuel s evs = r :=
  runLoop_terminates g d hr hsym w s evs (reachable_good hr hsym hcls h he w) fuel hf

open I2N.Trav.Term in
/-- **A resumed worker reaches its next suspension, the exit or an exception within `bound g` iterations**, whatever
the state of the other workers and the outcome of the test it was waiting for (`out`; also "never reported"): the
scheduler step `resume` — including the continuation after a test execution — is the same for every `fuel ≥ bound g`,
so the driver's fuel of 100000 never decides anything on graphs with `bound g ≤ 100000`. -/
theorem resume_within_bound (g : Graph) (d : Nat → Nat) (hr : Ranked g d) (hsym : EdgeSym g) (ncls : Nat)
    (store : List (String × List (String × String))) (hcls : ∀ n, n < g.nodes.length → (g.node n).cls < ncls)
    (s : State) (h : ReachableF g ncls store s) (he : Explored g s) (w : Nat) (out : Outcome) (fuel : Nat)
    (hf : bound g ≤ fuel) : resume g s w out fuel = resume g s w out (bound g) :=
  resume_fuel g d hr hsym ncls store hcls s h he w out fuel hf

open I2N.Trav.Term in
/-- the same with decidable hypotheses, for pre-parsed graphs (the only flat node is the shared root) -/
theorem preparsed_resume_within_bound (g : Graph) (hr : rankedB g = true) (hsym : edgeSymB g = true)
    (hflat : noFlatB g = true) (ncls : Nat) (hcls : ∀ n, n < g.nodes.length → (g.node n).cls < ncls)
    (store : List (String × List (String × String))) (s : State) (h : ReachableF g ncls store s) (w : Nat)
    (out : Outcome) (fuel : Nat) (hf : bound g ≤ fuel) : resume g s w out fuel = resume g s w out (bound g) :=
  resume_fuel g (depth g) (rankedB_sound hr) (edgeSymB_sound hsym) ncls store hcls s h (explored_of_noFlat hflat s) w out fuel hf

open I2N.Trav.Term in
/-- **Full termination of dry runs.**  Pre-parsed acyclic graph, every node a dry-run node, the root without parents,
at most one node per class concerns the worker (`classInjB`; real graphs: one copy per class and worker).  Then the
first scheduler step of the worker — from the initial state, with any fuel `≥ bound g` — is its WHOLE traversal: one
block without suspension and without exception that ends with the exit event and leaves the worker `done`.
(Beyond `loop_terminates` this needs the DFS invariant "the root is cleanup-ready only when the path is `[root]`",
`DryInv`: the child of the root at position one is not dropped while the worker is below it.) -/
theorem dry_run_terminates (g : Graph) (hr : rankedB g = true) (hsym : edgeSymB g = true) (hflat : noFlatB g = true)
    (w : Nat) (hw : w < g.workers.length) (hinj : classInjB g w = true) (hroot : (g.node g.root).setup = [])
    (hdry : ∀ n, n < g.nodes.length → (g.node n).dryRun = true)
    (ncls : Nat) (hcls : ∀ n, n < g.nodes.length → (g.node n).cls < ncls)
    (store : List (String × List (String × String))) (fuel : Nat) (hf : bound g ≤ fuel) :
    ∃ s' evs', resume g (initState g ncls store) w ⟨none, 0⟩ fuel = (s', evs' ++ [Event.exit (g.worker w).id]) ∧
      (s'.wd w).pc = .done :=
  dry_run_one_block g (depth g) (rankedB_sound hr) (edgeSymB_sound hsym) w hw (classInjB_sound hinj) hroot hdry hflat
    ncls hcls store fuel hf

open I2N.Trav.Term in
/-- **Lazily expanded graphs** (no `Explored` hypothesis).  While flat nodes are unexplored the loop has one more kind
of iteration without suspension: the "postpone the cleanup" jump back to the root, which drops nothing.  Static
hypotheses `LazyOK g`: the children of a flat node are its composite tests (`setless_form in id`), every flat node is
a child of the shared root, no node shares the class of a flat node.  State hypotheses `LState g d w s`: tables of the
right size, path of the right shape starting at the root, root and flat nodes parsed, and no unexplored flat node has
been dropped from the root for this worker.  Then the loop ends by itself within
`lazyBound g P = ((2|nodes|·(K·P+1) + K·P)·2 + 2)·bound g` iterations, `K` the number of children of the root and
`P = pickLevel g s` a level above the pick counters of the state (1 initially).
Measure (`mu`): (2·#unexplored − [the last node of the path is unexplored], Σ_{flat children c of the root} (P − picks c),
[#unexplored > 0 ∧ path ≠ [root]], `phi`) lexicographically: the expansion step unrolls an unexplored node at hand; a
jump resets the path; a pick at the root takes a flat child that was picked no more often than any unexplored one
(`pickChild_min`: the sort key is flat-first, fewest-picks-first), which uses up room below `P`; everything else
lowers `phi`. -/
theorem lazy_loop_terminates (g : Graph) (d : Nat → Nat) (hr : Ranked g d) (hsym : EdgeSym g) (hz : LazyOK g) (w : Nat)
    (s : State) (evs : List Event) (h : LState g d w s) (fuel : Nat) (hf : lazyBound g (pickLevel g s) ≤ fuel) :
    ∃ r, runLoopO g w (lazyBound g (pickLevel g s)) s evs = some r ∧ runLoop g w fuel s evs = r :=
  runLoop_terminates_lazy g d hr hsym hz w s evs h fuel hf

open I2N.Trav.Term in
/-- every `.cont` iteration on a lazily expanded graph lowers `mu` and keeps the invariant (`P` fixed for the block) -/
theorem lazy_iteration_lowers_measure (g : Graph) (d : Nat → Nat) (hr : Ranked g d) (hsym : EdgeSym g) (hz : LazyOK g)
    (w P : Nat) (s : State) (h : LInv g d w P s) (hc : (iterL g s w).2.2 = .cont) :
    mu g (iterL g s w).1 w P < mu g s w P ∧ LInv g d w P (iterL g s w).1 :=
  iterL_lazy g d hr hsym hz w P s h hc

open I2N.Trav.Term in
/-- decidable hypotheses, initial state with the composite nodes hidden: the first block of every worker terminates
within `lazyBound g 1` iterations.  `hidden` may also hold hidden EDGES (`edgeCode`, above every node index: the edge from a
flat node to a composite node that exists already as a dependency of a test of another set appears only when that flat node
is expanded); `hedge` (added with that model repair): the edges from the shared root to the flat nodes are not among them —
necessary, see `hidden_root_edge_spins`. -/
theorem lazy_first_block_terminates (g : Graph) (hr : rankedB g = true) (hsym : edgeSymB g = true) (hz : lazyOKB g = true)
    (ncls : Nat) (hcls : ∀ n, n < g.nodes.length → (g.node n).cls < ncls)
    (store : List (String × List (String × String))) (hidden : List Nat)
    (hroot : hidden.contains g.root = false) (hflat : hidden.all (fun x => !(g.node x).flat) = true)
    (hedge : (List.range g.nodes.length).all (fun f => !(g.node f).flat || !hidden.contains (edgeCode g g.root f)) = true)
    (w : Nat) (hw : w < g.workers.length) (fuel : Nat) (hf : lazyBound g 1 ≤ fuel) :
    ∃ r, runLoopO g w (lazyBound g 1) (initState g ncls store hidden) [] = some r ∧
      runLoop g w fuel (initState g ncls store hidden) [] = r := by
  rw [List.all_eq_true] at hflat hedge
  have hflat' : ∀ f, (g.node f).flat = true → hidden.contains f = false := by
    intro f hf
    cases hc : hidden.contains f
    · rfl
    · simpa [hf] using hflat f (List.contains_iff_mem.mp hc)
  have hedge' : ∀ f, (g.node f).flat = true → hidden.contains (edgeCode g g.root f) = false := by
    intro f hf
    by_cases hfN : f < g.nodes.length
    · simpa [hf] using hedge f (List.mem_range.mpr hfN)
    · rw [node_flat_of_ge g f hfN] at hf; cases hf
  have h := runLoop_terminates_lazy g (depth g) (rankedB_sound hr) (edgeSymB_sound hsym) (lazyOKB_sound hz) w
    (initState g ncls store hidden) [] (lstate_init g _ ncls store hidden hcls hroot hflat' hedge' w hw)
  rw [pickLevel_init] at h
  exact h fuel hf

open I2N.Trav.Term in
/-- **Every reachable state of a lazily expanded graph.**  `ReachableL g ncls store hidden`: the states the scheduler
reaches from the initial state in which exactly `hidden` is not parsed yet (root and flat nodes are parsed, `hedge`: and
the flat nodes hang below the root — hypothesis added when `State.hidden` learnt to hide single edges).  In each
of them, for every worker that has not left the loop, the state hypotheses `LState` hold (`reachable_lstate`: the path
shape as before; "no unexplored flat node has been dropped from the root" because a worker pops a child of the root
only after the expansion step has unrolled it, and the node of a test execution is never flat), hence the loop it runs
next terminates within `lazyBound g (pickLevel g s)` iterations. -/
theorem reachable_lazy_loop_terminates (g : Graph) (d : Nat → Nat) (hr : Ranked g d) (hsym : EdgeSym g) (hz : LazyOK g)
    (ncls : Nat) (store : List (String × List (String × String))) (hidden : List Nat)
    (hcls : ∀ n, n < g.nodes.length → (g.node n).cls < ncls)
    (hroot : hidden.contains g.root = false) (hflat : ∀ f, (g.node f).flat = true → hidden.contains f = false)
    (hedge : ∀ f, (g.node f).flat = true → hidden.contains (edgeCode g g.root f) = false)
    (s : State) (h : ReachableL g ncls store hidden s) (w : Nat) (hw : w < g.workers.length)
    (hnd : (s.wd w).pc ≠ .done) (evs : List Event) (fuel : Nat) (hf : lazyBound g (pickLevel g s) ≤ fuel) :
    ∃ r, runLoopO g w (lazyBound g (pickLevel g s)) s evs = some r ∧ runLoop g w fuel s evs = r :=
  runLoop_terminates_lazy g d hr hsym hz w s evs (reachable_lstate hr hsym hz hcls hroot hflat hedge h w hw hnd) fuel hf

/-- what remains partial about the loop between two suspension points: the bound for lazily expanded graphs depends on
the state through the level `pickLevel g s` of the pick counters (a static bound needs "an unexplored flat node was
picked at most once per worker" as one more reachable invariant), and the fuel independence of the whole scheduler step
(`resume_within_bound`) was lifted to reachable states for explored states only.  `Explored` itself is monotone: -/
theorem loop_terminates_partial (g : Graph) (s s' : State) (h : I2N.Trav.Term.Explored g s)
    (hh : ∀ x, x ∈ s'.hidden → x ∈ s.hidden) (hi : ∀ x, x ∈ s.incompatible → x ∈ s'.incompatible) :
    I2N.Trav.Term.Explored g s' := h.mono hh hi

/-! ### non-vacuity and necessity of the hypotheses -/

/-- a diamond of dry-run nodes below the root, one worker -/
def gDia : Graph :=
  { workers := [{ id := "net1", swarm := "localhost" }],
    nodes := [{ cls := 0, owner := some 0, name := "root.net1", pfx := "0", sharedRoot := true, cleanup := [(1, ["vm1"])] },
              { cls := 1, owner := some 0, name := "a.net1", pfx := "1", dryRun := true, setup := [(0, ["vm1"])],
                cleanup := [(2, ["vm1"]), (3, ["vm1"])] },
              { cls := 2, owner := some 0, name := "b.net1", pfx := "2", dryRun := true, setup := [(1, ["vm1"])],
                cleanup := [(4, ["vm1"])] },
              { cls := 3, owner := some 0, name := "c.net1", pfx := "3", dryRun := true, setup := [(1, ["vm1"])],
                cleanup := [(4, ["vm1"])] },
              { cls := 4, owner := some 0, name := "d.net1", pfx := "4", dryRun := true, setup := [(2, ["vm1"]), (3, ["vm1"])] }],
    root := 0 }

example : I2N.Trav.Term.bound gDia = 274 := by decide
example := first_block_terminates gDia (by decide) (by decide) (by decide) 5 (by decide) [] 0 (by decide) 100000 (by decide)
/-- the whole dry run of the diamond is one block of more than 14 iterations that ends with the exit event -/
example : (runLoop gDia 0 (I2N.Trav.Term.bound gDia) (initState gDia 5 []) []).2 = [Event.exit "net1"] ∧
    (runLoop gDia 0 14 (initState gDia 5 []) []).2 = [Event.raise "net1" "fuel"] := by
  simp only [runLoop_eq_runLoopP, initState_hidden]
  decide +kernel
/-- the hypotheses of `iteration_lowers_measure` are met by the first iteration (a push of the root's child) -/
example : (match (iterL gDia (initState gDia 5 []) 0).2.2 with | .cont => true | _ => false) = true ∧
    I2N.Trav.Term.phi gDia (initState gDia 5 []) 0 = 261 ∧
    I2N.Trav.Term.phi gDia (iterL gDia (initState gDia 5 []) 0).1 0 = 260 := by decide +kernel

/-- a reachable state in the middle of the traversal (the worker of `gTwo` is suspended inside its leaf): the hypotheses
of `reachable_loop_terminates` / `resume_within_bound` hold -/
example := preparsed_resume_within_bound gTwo (by decide) (by decide) (by decide) 2 (by decide) [] _
  (.step _ 0 ⟨none, 0⟩ 9 (.init []) (by decide) (by decide)) 0 ⟨some "PASS", 1⟩ 100000 (by decide)
example := reachable_loop_terminates gTwo _ (I2N.Trav.Term.rankedB_sound (by decide)) (edgeSymB_sound (by decide)) 2 []
  (by decide) _ (.step _ 0 ⟨none, 0⟩ 9 (.init []) (by decide) (by decide)) (I2N.Trav.Term.explored_of_noFlat (by decide) _)
  0 [] 100000 (by decide)

/-- the diamond, with its root made a dry-run node too, meets the hypotheses of `dry_run_terminates` -/
def gDiaDry : Graph :=
  { gDia with nodes := gDia.nodes.map (fun nd => { nd with dryRun := true }) }

example := dry_run_terminates gDiaDry (by decide +kernel) (by decide +kernel) (by decide +kernel) 0 (by decide)
  (by decide +kernel) (by decide) (by decide) 5 (by decide) [] 100000 (by decide +kernel)

/-- a lazily expanded graph in the shape the harness builds: shared root, two flat nodes below it, per worker the
composite tests `a` (child of the root, test of the first flat node) and `b` (child of `a`, test of the second flat
node); the composite nodes are hidden initially -/
def gLazy : Graph :=
  { workers := [{ id := "net1", swarm := "localhost" }, { id := "net2", swarm := "localhost" }],
    nodes := [{ cls := 0, owner := none, name := "root", pfx := "0", flat := true, sharedRoot := true,
                cleanup := [(1, []), (2, []), (3, ["vm1"]), (5, ["vm1"])] },
              { cls := 1, owner := none, name := "normal.nongui.a", pfx := "1", flat := true, setless := "a",
                setup := [(0, [])], cleanup := [(3, []), (5, [])] },
              { cls := 2, owner := none, name := "normal.nongui.b", pfx := "2", flat := true, setless := "b",
                setup := [(0, [])], cleanup := [(4, []), (6, [])] },
              { cls := 3, owner := some 0, name := "a.net1", pfx := "1", dryRun := true, setup := [(0, ["vm1"]), (1, [])],
                cleanup := [(4, ["vm1"])] },
              { cls := 4, owner := some 0, name := "b.net1", pfx := "2", dryRun := true, setup := [(3, ["vm1"]), (2, [])] },
              { cls := 3, owner := some 1, name := "a.net2", pfx := "1", dryRun := true, setup := [(0, ["vm1"]), (1, [])],
                cleanup := [(6, ["vm1"])] },
              { cls := 4, owner := some 1, name := "b.net2", pfx := "2", dryRun := true, setup := [(5, ["vm1"]), (2, [])] }],
    root := 0 }

example := lazy_first_block_terminates gLazy (by decide +kernel) (by decide +kernel) (by decide +kernel) 5 (by decide) []
  [3, 4, 5, 6] (by decide) (by decide) (by decide) 0 (by decide) 200000 (by decide +kernel)
theorem gLazy_run :
    (((I2N.Trav.Term.tracePaths gLazy 0 9 (initState gLazy 5 [] [3, 4, 5, 6])).drop 7 = [[0, 1, 3], [0]]) ∧
      (runLoop gLazy 0 24 (initState gLazy 5 [] [3, 4, 5, 6]) []).2 = [Event.exit "net1"]) ∧
    I2N.Trav.Global.isOver ((resume gLazy (initState gLazy 5 [] [3, 4, 5, 6]) 0 ⟨none, 0⟩ 100).1.wd 1).pc = false := by
  decide +kernel

/-- the block of the first worker contains a postponement jump (from `[root, a-flat, a.net1]` straight to `[root]`, the
ninth iteration, while the second flat node is unexplored) and ends with the exit after 24 iterations -/
example : ((I2N.Trav.Term.tracePaths gLazy 0 9 (initState gLazy 5 [] [3, 4, 5, 6])).drop 7 = [[0, 1, 3], [0]]) ∧
    (runLoop gLazy 0 24 (initState gLazy 5 [] [3, 4, 5, 6]) []).2 = [Event.exit "net1"] := gLazy_run.1

/-- a reachable state of `gLazy` (after the whole traversal of the first worker): the second worker's loop terminates -/
example := reachable_lazy_loop_terminates gLazy _ (I2N.Trav.Term.rankedB_sound (by decide +kernel))
  (edgeSymB_sound (by decide +kernel)) (I2N.Trav.Term.lazyOKB_sound (by decide +kernel)) 5 [] [3, 4, 5, 6] (by decide)
  (by decide)
  (by intro f hf; have : ¬ (f = 3 ∨ f = 4 ∨ f = 5 ∨ f = 6) := by
        rintro (h | h | h | h) <;> subst h <;> revert hf <;> decide
      simp only [List.contains_cons, List.contains_nil, Bool.or_false, Bool.or_eq_false_iff, beq_eq_false_iff_ne]
      omega)
  (by intro f _
      show ([3, 4, 5, 6] : List Nat).contains (7 * (0 + 1) + f) = false
      simp only [List.contains_cons, List.contains_nil, Bool.or_false, Bool.or_eq_false_iff, beq_eq_false_iff_ne]
      omega)
  _ (.step _ 0 ⟨none, 0⟩ 100 .init (by decide) (by decide)) 1 (by decide)
  (fun h => by
    have := gLazy_run.2
    rw [h] at this
    cases this) [] _ (Nat.le_refl _)

/-- Necessity of acyclicity (model level; real graphs are acyclic by construction): on a graph with a cycle `a ⇄ b`
the worker pushes parents for ever — the loop does run out of fuel. -/
def gCyc : Graph :=
  { workers := [{ id := "net1", swarm := "localhost" }],
    nodes := [{ cls := 0, owner := some 0, name := "root.net1", pfx := "0", sharedRoot := true, cleanup := [(1, ["vm1"])] },
              { cls := 1, owner := some 0, name := "a.net1", pfx := "1", dryRun := true, setup := [(0, ["vm1"]), (2, ["vm1"])],
                cleanup := [(2, ["vm1"])] },
              { cls := 2, owner := some 0, name := "b.net1", pfx := "2", dryRun := true, setup := [(1, ["vm1"])],
                cleanup := [(1, ["vm1"])] }],
    root := 0 }

theorem cyclic_graph_spins : edgeSymB gCyc = true ∧ I2N.Trav.Term.rankedB gCyc = false ∧
    (runLoop gCyc 0 20 (initState gCyc 3 []) []).2 = [Event.raise "net1" "fuel"] ∧
    ((runLoop gCyc 0 20 (initState gCyc 3 []) []).1.wd 0).path.length = 19 := by
  simp only [runLoop_eq_runLoopP, initState_hidden]
  decide +kernel

/-- Necessity of `ClsOK`: with registers for two of the five classes only, the drops of the other classes are lost and
the worker walks up and down between `a` and `b` for ever. -/
theorem missing_registers_spin :
    (runLoop gDia 0 25 (initState gDia 2 []) []).2 = [Event.raise "net1" "fuel"] := by
  simp only [runLoop_eq_runLoopP, initState_hidden]
  decide +kernel

/-- Necessity of `Explored` (model level): a flat node that is nobody's child can never be unrolled, so every cleanup
is postponed by a jump back to the root that drops nothing.  In the graphs the parser and the harness build, every flat
node is a child of the shared root and gets unrolled by the first worker that picks it; the termination of the
postponement phase then rests on the pick counters (fewest picks first) and is NOT covered by the theorems above. -/
def gUnx : Graph :=
  { workers := [{ id := "net1", swarm := "localhost" }],
    nodes := [{ cls := 0, owner := some 0, name := "root.net1", pfx := "0", sharedRoot := true, cleanup := [(1, ["vm1"])] },
              { cls := 1, owner := some 0, name := "a.net1", pfx := "1", dryRun := true, setup := [(0, ["vm1"])] },
              { cls := 2, owner := none, name := "f", pfx := "2", flat := true, setless := "zzz" }],
    root := 0 }

theorem unexplored_orphan_spins : I2N.Trav.Term.rankedB gUnx = true ∧ edgeSymB gUnx = true ∧
    (runLoop gUnx 0 25 (initState gUnx 3 []) []).2 = [Event.raise "net1" "fuel"] := by
  simp only [runLoop_eq_runLoopP, initState_hidden]
  decide +kernel

/-- Necessity of `hedge` (model level): `gLazy` with the edge from the shared root to the second flat node hidden as well
(`edgeCode gLazy 0 2 = 9`).  Nothing ever reveals an edge below the shared root (only the expansion of a flat node reveals
edges, those to its own composite nodes), so the second flat node stays unexplored and every cleanup is postponed by a jump
back to the root.  The lazy parser never builds this: flat nodes are hung below the shared root before the traversal starts
(`TestRunner.run_workers`), and `harness/travlib.py` hides edges from non-root flat nodes to composite nodes only. -/
theorem hidden_root_edge_spins : edgeCode gLazy gLazy.root 2 = 9 ∧
    (runLoop gLazy 0 60 (initState gLazy 5 [] [3, 4, 5, 6, 9]) []).2 = [Event.raise "net1" "fuel"] := by decide +kernel

/-- **Mixed-set lazy expansion** (the shape of the shipped selection `leaves..tutorial_get, normal..tutorial_gui`): ONE composite
node `x` (node 3) is the test of the flat node `normal.gui.x` (node 2) and the setup of `y` (node 4), the test of the flat
node `leaves.y` (node 1).  Expanding `leaves.y` parses `x` as a dependency; `x` becomes a child of ITS flat node only when that
one is expanded too (`hidden` holds the codes of both flat-to-composite edges: `edgeCode gMix 1 4 = 14`,
`edgeCode gMix 2 3 = 18`). -/
def gMix : Graph :=
  { workers := [{ id := "net1", swarm := "localhost" }],
    nodes := [{ cls := 0, owner := none, name := "root", pfx := "0", flat := true, sharedRoot := true,
                cleanup := [(1, []), (2, []), (3, ["vm1"])] },
              { cls := 1, owner := none, name := "leaves.y", pfx := "1", flat := true, setless := "y",
                setup := [(0, [])], cleanup := [(4, [])] },
              { cls := 2, owner := none, name := "normal.gui.x", pfx := "2", flat := true, setless := "x", rank := 1,
                setup := [(0, [])], cleanup := [(3, [])] },
              { cls := 3, owner := some 0, name := "all.x.net1", pfx := "1a", dryRun := true, setup := [(0, ["vm1"]), (2, [])],
                cleanup := [(4, ["vm1"])] },
              { cls := 4, owner := some 0, name := "leaves.y.net1", pfx := "1", dryRun := true, setup := [(3, ["vm1"]), (1, [])] }],
    root := 0 }

/-- after the expansion of `leaves.y` (second iteration) the shared node `x` is parsed but is not yet a child of its own flat
node (`hidden = [18]`), which therefore still counts as unexplored: the cleanup of `y` is postponed (jump from
`[root, leaves.y, y]` to `[root]`, as the code does it), the worker then picks and expands `normal.gui.x`, and only then are
both composite nodes cleaned up; the block ends with the exit and nothing hidden.  With the edge visible from the start (the
model before the repair; `hidden = [3, 4]`) `normal.gui.x` counts as unrolled as soon as `x` is parsed, nothing is postponed
and the worker walks up from `x` into its flat node instead (`[root, leaves.y, y, x, normal.gui.x]`). -/
theorem mixed_set_edge_appears_with_expansion :
    edgeCode gMix 1 4 = 14 ∧ edgeCode gMix 2 3 = 18 ∧ I2N.Trav.Term.lazyOKB gMix = true ∧
    ((I2N.Trav.Term.tracePaths gMix 0 14 (initState gMix 5 [] [3, 4, 14, 18])).drop 8 =
      [[0, 1, 4, 3], [0, 1, 4], [0], [0, 2], [0, 2, 0], [0, 2]]) ∧
    ((iterL gMix (iterL gMix (initState gMix 5 [] [3, 4, 14, 18]) 0).1 0).1.hidden = [18] ∧
     unexploredNodes (vis gMix (iterL gMix (iterL gMix (initState gMix 5 [] [3, 4, 14, 18]) 0).1 0).1)
       (iterL gMix (iterL gMix (initState gMix 5 [] [3, 4, 14, 18]) 0).1 0).1 = [2] ∧
     ((vis gMix (iterL gMix (iterL gMix (initState gMix 5 [] [3, 4, 14, 18]) 0).1 0).1).node 2).cleanup = []) ∧
    (runLoop gMix 0 40 (initState gMix 5 [] [3, 4, 14, 18]) []).2 = [Event.exit "net1"] ∧
    (runLoop gMix 0 40 (initState gMix 5 [] [3, 4, 14, 18]) []).1.hidden = [] ∧
    ((I2N.Trav.Term.tracePaths gMix 0 9 (initState gMix 5 [] [3, 4])).drop 6 = [[0, 1, 4, 3], [0, 1, 4, 3, 2], [0, 1, 4, 3, 2, 0]]) := by
  decide +kernel

/-! ## Termination ACROSS suspensions: a single worker (`Lemmas/TravGlobal.lean`)

The scheduler view of a run of a graph with ONE worker: a list of steps `(outcome of the awaited test, fuel)`; the state
evolves by `resume g s 0 out fuel` (`runSteps`), starting from `initState g ncls store` (pre-parsed: nothing hidden).
Static hypotheses, all decidable: one worker, `rankedB` (acyclic), `edgeSymB` (edges recorded at both ends), `noFlatB` (no
flat node but the shared root), `graphWF` (edge ends are node indices), a register record for every class; every step
has `fuel ≥ bound g`.  Outcomes are arbitrary: any status, results that never arrive (`status = none`), any duration. -/

theorem done_or_failed_of_isOver {pc : Pc} (h : I2N.Trav.Global.isOver pc = true) : pc = .done ∨ pc = .failed := by
  cases pc <;> first | exact Or.inl rfl | exact Or.inr rfl | cases h

open I2N.Trav.Term I2N.Trav.Global in
/-- **single_worker_never_bounces.**  With one worker nobody else can hold a `started` mark, so `is_occupied` is false
whenever the worker examines a node: along EVERY run the worker never enters the back-off branch — its program counter
is never `bounce`, its back-off record stays empty, no `max_concurrent_tries` is ever bumped — and after every step it
is suspended inside a test (result wait `≤ 10`), has left the loop through the shared root (`done`) or died with an
exception (`failed`); in particular no block runs out of fuel. -/
theorem single_worker_never_bounces (g : Graph) (h1 : g.workers.length = 1) (hr : rankedB g = true)
    (hsym : edgeSymB g = true) (hflat : noFlatB g = true) (hwf : graphWF g = true) (ncls : Nat)
    (hcls : ∀ n, n < g.nodes.length → (g.node n).cls < ncls) (store : List (String × List (String × String)))
    (steps : List (Outcome × Nat)) (hfuel : ∀ x ∈ steps, bound g ≤ x.2) :
    ((runSteps g (initState g ncls store) steps).wd 0).pc ≠ .bounce ∧
    ((runSteps g (initState g ncls store) steps).wd 0).occAt = [] ∧
    NoBump (runSteps g (initState g ncls store) steps) ∧
    (steps ≠ [] →
      (∃ n ph dir uid tag wait, ((runSteps g (initState g ncls store) steps).wd 0).pc = .test n ph dir uid tag wait ∧ wait ≤ 10) ∨
      ((runSteps g (initState g ncls store) steps).wd 0).pc = .done ∨
      ((runSteps g (initState g ncls store) steps).wd 0).pc = .failed) := by
  have st : Static g ncls := ⟨h1, hr, hsym, hflat, hwf, hcls⟩
  obtain ⟨y, hfin⟩ := run_ginv st steps _ (ginv_init st store) hfuel
  refine ⟨fun hb => ?_, y.occ, y.reachP.noBump, fun hne => ?_⟩
  · cases steps with
    | nil =>
      have hb' : ((initState g ncls store []).wd 0).pc = .bounce := hb
      rw [I2N.Trav.GlobalN.init_pc] at hb'
      cases hb'
    | cons a r => exact ne_bounce_of_final (hfin (List.cons_ne_nil a r)) hb
  · have hf := hfin hne
    cases hpc : ((runSteps g (initState g ncls store) steps).wd 0).pc with
    | test n ph dir uid tag wait => exact Or.inl ⟨n, ph, dir, uid, tag, wait, rfl, y.wait n ph dir uid tag wait hpc⟩
    | done => exact Or.inr (Or.inl rfl)
    | failed => exact Or.inr (Or.inr rfl)
    | loop => rw [hpc] at hf; cases hf
    | bounce => rw [hpc] at hf; cases hf

open I2N.Trav.Term I2N.Trav.Global in
/-- **single_worker_terminates_partial** (termination across suspensions, one worker).  Extra decidable hypotheses:
`noRootsB g` — no object roots (no two-step creations) — and `classesOKB g` — every class is covered by a budget theorem
of C03: a class of stateless tests whose copies agree on `max_tries`, or a class of setup tests whose copies agree on
`max_tries` and the scope shape, whose result names match the scope filter (`statefulClass`) and whose
`max_concurrent_tries` is unset or `≤ max(max_tries, 1)`.  Then there is an explicit number depending on the static graph
only, `stepBound g = 23·Σ_n max(max_tries n, 1) + 23`, such that after ANY `stepBound g` (or more) `resume` steps — whatever
the tests do: any statuses incl. FAIL/ERROR, results that never arrive, any durations — the worker is `done` or `failed`:
the traversal ends after at most `stepBound g` suspensions.

Why: nobody bounces (`single_worker_never_bounces`), so a step that does not end the traversal is a tick of the result wait
(at most 10 per execution) or ends an execution and starts the next one, which appends a result (the UNKNOWN placeholder)
to a node; `23·#results + (1 + wait)` strictly grows with every such step (`Global.resume_cnt`), and `#results` never exceeds
`Σ_n max(max_tries n, 1)` by the retry budgets (`budget_stateless`, `budget_stateful` of C03; no bump as nobody bounces).

MISSING for the full statement: (1) object roots — the two-step creation files results under the name of the pre-step
and the C03 budget of roots is proved for `max_tries ≤ 1` only; the counter argument also needs "a placeholder tag occurs
once" for roots, which `Basic` does not provide; (2) classes whose copies disagree on `max_tries`/shape or whose names do
not match the scope filter (see `design.d/C02.md`); (3) `max_concurrent_tries > max(max_tries, 1)` (the budget then depends
on the threshold).  The conditional form without (2)/(3), given any bound on the number of results, is
`single_worker_terminates_of_result_bound`. -/
theorem single_worker_terminates_partial (g : Graph) (h1 : g.workers.length = 1) (hr : rankedB g = true)
    (hsym : edgeSymB g = true) (hflat : noFlatB g = true) (hwf : graphWF g = true) (ncls : Nat)
    (hcls : ∀ n, n < g.nodes.length → (g.node n).cls < ncls) (hroots : noRootsB g = true) (hcl : classesOKB g = true)
    (store : List (String × List (String × String)))
    (steps : List (Outcome × Nat)) (hfuel : ∀ x ∈ steps, bound g ≤ x.2) (hlen : stepBound g ≤ steps.length) :
    ((runSteps g (initState g ncls store) steps).wd 0).pc = .done ∨
    ((runSteps g (initState g ncls store) steps).wd 0).pc = .failed := by
  have st : Static g ncls := ⟨h1, hr, hsym, hflat, hwf, hcls⟩
  exact done_or_failed_of_isOver
    (run_over st hroots store (resultBound g) (fun s hs => total_le_resultBound st hcl hs) steps hfuel hlen)

open I2N.Trav.Term I2N.Trav.Global in
/-- the conditional form: for graphs without object roots ANY bound `R` on the number of results (placeholders included)
of the states reachable without over-waiting (`ReachableP`) gives termination within `23·R + 23` steps -/
theorem single_worker_terminates_of_result_bound (g : Graph) (h1 : g.workers.length = 1) (hr : rankedB g = true)
    (hsym : edgeSymB g = true) (hflat : noFlatB g = true) (hwf : graphWF g = true) (ncls : Nat)
    (hcls : ∀ n, n < g.nodes.length → (g.node n).cls < ncls) (hroots : noRootsB g = true)
    (store : List (String × List (String × String))) (R : Nat)
    (hR : ∀ s, ReachableP g ncls store s → total g s ≤ R)
    (steps : List (Outcome × Nat)) (hfuel : ∀ x ∈ steps, bound g ≤ x.2) (hlen : 23 * R + 23 ≤ steps.length) :
    ((runSteps g (initState g ncls store) steps).wd 0).pc = .done ∨
    ((runSteps g (initState g ncls store) steps).wd 0).pc = .failed := by
  have st : Static g ncls := ⟨h1, hr, hsym, hflat, hwf, hcls⟩
  exact done_or_failed_of_isOver (run_over st hroots store R hR steps hfuel hlen)

/-! Concrete runs are evaluated through the evaluator of `Lemmas/TravEval.lean` (the model with `g` for every `vis g s`; it
agrees with the model on pre-parsed runs and is several times cheaper for the kernel). -/

def runStepsNP (g : Graph) (s : State) (steps : List I2N.Trav.GlobalN.StepN) : State :=
  steps.foldl (fun s st => (resumeP g s st.1 st.2.1 st.2.2).1) s

theorem hidden_runStepsNP (g : Graph) (steps : List I2N.Trav.GlobalN.StepN) (s : State) :
    (runStepsNP g s steps).hidden = s.hidden := by
  induction steps generalizing s with
  | nil => rfl
  | cons a r ih => exact (ih _).trans (hidden_resumeP ..)

theorem runStepsN_eqP {g : Graph} {s : State} {steps : List I2N.Trav.GlobalN.StepN} (h : s.hidden = []) :
    I2N.Trav.GlobalN.runStepsN g s steps = runStepsNP g s steps := by
  induction steps generalizing s with
  | nil => rfl
  | cons a r ih =>
    rw [I2N.Trav.GlobalN.runStepsN, List.foldl_cons, I2N.Trav.GlobalN.stepN, resume_eq_resumeP h]
    exact ih ((hidden_resumeP ..).trans h)

theorem stepN_eqP {g : Graph} {s : State} {a : I2N.Trav.GlobalN.StepN} (h : s.hidden = []) :
    I2N.Trav.GlobalN.stepN g s a = (resumeP g s a.1 a.2.1 a.2.2).1 := by
  rw [I2N.Trav.GlobalN.stepN, resume_eq_resumeP h]

theorem runW_eq_runStepsN (g : Graph) (w : Nat) (s : State) (steps : List (Outcome × Nat)) :
    I2N.Trav.GlobalN.runW g w s steps = I2N.Trav.GlobalN.runStepsN g s (steps.map (fun x => (w, x.1, x.2))) := by
  rw [I2N.Trav.GlobalN.runW, I2N.Trav.GlobalN.runStepsN, List.foldl_map]
  rfl

theorem runSteps_eq_runStepsN (g : Graph) (s : State) (steps : List (Outcome × Nat)) :
    I2N.Trav.Global.runSteps g s steps = I2N.Trav.GlobalN.runStepsN g s (steps.map (fun x => (0, x.1, x.2))) :=
  runW_eq_runStepsN g 0 s steps

/-- "is `done`" / "waits for the result of node `n` with counter `wait`", for the examples -/
def pcIsDone : Pc → Bool
  | .done => true
  | _ => false

def pcWaitOf : Pc → Option (Nat × Nat)
  | .test n _ _ _ _ wait => some (n, wait)
  | _ => none

/-- a diamond with real tests: a setup test `a` (sets a state), `b` with `max_tries = 2`, `c`, and `d` below both -/
def gRun : Graph :=
  { workers := [{ id := "net1", swarm := "localhost" }],
    nodes := [{ cls := 0, owner := some 0, name := "root.net1", pfx := "0", sharedRoot := true, cleanup := [(1, ["vm1"])] },
              { cls := 1, owner := some 0, name := "a.net1", pfx := "1", setup := [(0, ["vm1"])],
                cleanup := [(2, ["vm1"]), (3, ["vm1"])], sets := [("vm1", "a")], objs := ["vm1"] },
              { cls := 2, owner := some 0, name := "b.net1", pfx := "2", setup := [(1, ["vm1"])],
                cleanup := [(4, ["vm1"])], maxTries := some 2 },
              { cls := 3, owner := some 0, name := "c.net1", pfx := "3", setup := [(1, ["vm1"])],
                cleanup := [(4, ["vm1"])] },
              { cls := 4, owner := some 0, name := "d.net1", pfx := "4", setup := [(2, ["vm1"]), (3, ["vm1"])] }],
    root := 0 }

/-- a run of `gRun`: `a` passes, `b` fails (and is retried later: `max_tries = 2`), the result of `c` never arrives (ten
ticks of the result wait, then the default), the retry of `b` and `d` pass -/
def runOfGRun : List (Outcome × Nat) :=
  [(⟨none, 0⟩, 274), (⟨some "PASS", 1⟩, 274), (⟨some "FAIL", 1⟩, 274)] ++ List.replicate 11 (⟨none, 0⟩, 274) ++
    [(⟨some "PASS", 1⟩, 274), (⟨some "PASS", 1⟩, 274)]

def runNOfGRun : List I2N.Trav.GlobalN.StepN := runOfGRun.map (fun x => (0, x.1, x.2))

theorem gRun_run :
    (pcIsDone ((I2N.Trav.Global.runSteps gRun (initState gRun 5 []) runOfGRun).wd 0).pc = true ∧
      pcIsDone ((I2N.Trav.Global.runSteps gRun (initState gRun 5 []) (runOfGRun.take 15)).wd 0).pc = false ∧
      pcWaitOf ((I2N.Trav.Global.runSteps gRun (initState gRun 5 []) (runOfGRun.take 13)).wd 0).pc = some (3, 10) ∧
      ((I2N.Trav.Global.runSteps gRun (initState gRun 5 []) runOfGRun).nd 2).results.map (·.status) = ["FAIL", "PASS"]) ∧
    (pcIsDone ((I2N.Trav.GlobalN.runStepsN gRun (initState gRun 5 []) runNOfGRun).wd 0).pc = true ∧
      ((I2N.Trav.GlobalN.runStepsN gRun (initState gRun 5 []) runNOfGRun).nd 3).results.map (fun r => (r.status, r.tag)) =
        [("UNKNOWN", 3)] ∧
      (I2N.Trav.GlobalN.runStepsN gRun (initState gRun 5 []) runNOfGRun).jobResults.map (fun r => r.1) =
        ["a.net1", "b.net1", "b.net1", "d.net1"]) ∧
    ((I2N.Trav.GlobalN.runStepsN gRun (initState gRun 5 []) runNOfGRun).nd 3).results =
      [⟨"c.net1", "UNKNOWN", "", 3, 0⟩] := by
  rw [runNOfGRun]
  simp only [runSteps_eq_runStepsN, runStepsN_eqP, initState_hidden]
  decide +kernel

/-- the hypotheses of the single-worker theorems hold for `gRun` -/
example : gRun.workers.length = 1 ∧ I2N.Trav.Term.rankedB gRun = true ∧ edgeSymB gRun = true ∧
    I2N.Trav.Term.noFlatB gRun = true ∧ graphWF gRun = true ∧ I2N.Trav.Global.noRootsB gRun = true ∧
    I2N.Trav.Global.classesOKB gRun = true ∧ I2N.Trav.Term.bound gRun = 274 ∧ I2N.Trav.Global.stepBound gRun = 161 := by
  decide +kernel
/-- the run above ends with `done` after 16 steps — well within `stepBound gRun = 161` — having been inside the result
wait of `c` with `wait = 10`, and having started `b` twice -/
example : pcIsDone ((I2N.Trav.Global.runSteps gRun (initState gRun 5 []) runOfGRun).wd 0).pc = true ∧
    pcIsDone ((I2N.Trav.Global.runSteps gRun (initState gRun 5 []) (runOfGRun.take 15)).wd 0).pc = false ∧
    pcWaitOf ((I2N.Trav.Global.runSteps gRun (initState gRun 5 []) (runOfGRun.take 13)).wd 0).pc = some (3, 10) ∧
    ((I2N.Trav.Global.runSteps gRun (initState gRun 5 []) runOfGRun).nd 2).results.map (·.status) = ["FAIL", "PASS"] :=
  gRun_run.1
example := single_worker_never_bounces gRun (by decide) (by decide) (by decide) (by decide) (by decide) 5 (by decide) []
  runOfGRun (by decide)
example := single_worker_terminates_partial gRun (by decide) (by decide) (by decide) (by decide) (by decide) 5 (by decide)
  (by decide) (by decide +kernel) [] (List.replicate 161 (⟨none, 0⟩, 274))
  (fun x hx => by rw [List.eq_of_mem_replicate hx]; decide) (by rw [List.length_replicate]; decide)

/-- Witness that a hypothesis like `classesOKB` cannot be dropped IN THE MODEL (a graph no parser builds: two copies of
one class that both concern the same worker).  Setup class 1, scope shape `own` (result filter `"localhost.net1"`): copy 1
is named `a.localhost.net1` (`max_tries = 1`), copy 2 — reached through another parent — is named `a.net1` (`max_tries = 3`).
Copy 1 runs once; its result is counted by the rerun rule of copy 2 (1 < 3), the results of copy 2 itself are not
(their name does not contain the filter string): copy 2 is re-run without end. -/
def gMis : Graph :=
  { workers := [{ id := "net1", swarm := "localhost" }],
    nodes := [{ cls := 0, owner := some 0, name := "root.net1", pfx := "0", sharedRoot := true,
                cleanup := [(1, ["vm1"]), (3, ["vm1"])] },
              { cls := 1, owner := some 0, name := "a.localhost.net1", pfx := "1", setup := [(0, ["vm1"])],
                sets := [("vm1", "a")], objs := ["vm1"], shape := .own, maxTries := some 1 },
              { cls := 1, owner := some 0, name := "a.net1", pfx := "2", setup := [(3, ["vm1"])],
                sets := [("vm1", "a")], objs := ["vm1"], shape := .own, maxTries := some 3 },
              { cls := 2, owner := some 0, name := "p.net1", pfx := "3", setup := [(0, ["vm1"])], cleanup := [(2, ["vm1"])] }],
    root := 0 }

/-- `gMis` meets every hypothesis of `single_worker_terminates_partial` but `classesOKB`; with all tests passing, after 12
steps the worker is inside the 10th execution of copy 2 (`max_tries = 3`), each step having been one more execution of
it (`#eval` shows the same for any number of steps tried, e.g. 168 results after 170 steps, `stepBound gMis = 161`). -/
theorem unmatched_copy_reruns :
    gMis.workers.length = 1 ∧ I2N.Trav.Term.rankedB gMis = true ∧ edgeSymB gMis = true ∧
    I2N.Trav.Term.noFlatB gMis = true ∧ graphWF gMis = true ∧ I2N.Trav.Global.noRootsB gMis = true ∧
    I2N.Trav.Global.classesOKB gMis = false ∧ I2N.Trav.Term.bound gMis = 144 ∧
    (fun s : State => (pcWaitOf (s.wd 0).pc, (s.nd 2).results.length))
      (I2N.Trav.Global.runSteps gMis (initState gMis 3 []) (List.replicate 12 (⟨some "PASS", 1⟩, 144))) = (some (2, 0), 10) := by
  simp only [runSteps_eq_runStepsN, runStepsN_eqP, initState_hidden]
  decide +kernel

/-! ## Progress ACROSS suspensions: any number of workers (`Lemmas/TravGlobalN.lean`)

The scheduler view of a run of a pre-parsed graph with ANY number of workers: a list of steps `(worker, outcome of the test
it awaited, fuel)` (`GlobalN.StepN`), any interleaving; the state evolves by `resume g s w out fuel` (`GlobalN.runStepsN`)
from `initState g ncls store`.  A step is *productive* (`GlobalN.productive`, a function of the stepping worker's program
counter before and after the step) unless it is a step of a worker whose traversal is over, or a worker in the loop / waking
up from a back-off sleep goes to sleep (again) at an occupied node.  `GlobalN.Patient`: no worker steps after it has waited at
occupied nodes for longer than `timeout · max(max_tries, 1)` of such a node — so no `max_concurrent_tries` is ever bumped. -/

open I2N.Trav.Term I2N.Trav.Global I2N.Trav.GlobalN in
/-- **nonbounce_steps_bounded** (`_partial`: class hypotheses and patience).  Pre-parsed acyclic graph, ANY number of
workers, any interleaving of steps of real workers with `fuel ≥ bound g`, any outcomes (any status, results that never
arrive, any duration); `noRootsB`, `classesOKB` as in `single_worker_terminates_partial`; the run is `Patient`.  Then the
number of productive steps of the WHOLE run — every step of a worker that is inside a test (ticks of the result wait
included), and every step of a worker in the loop or waking up from a back-off sleep that does not end in a back-off sleep
again — is at most `24 · Σ_n max(max_tries n, 1) + |workers|`, a function of the static graph.  So the ONLY way a run can be
long is workers sleeping at occupied nodes (`unproductive_step_is_backoff`: every other step is a no-op of a finished
worker or a `loop/bounce → bounce` step).

Why: `cntN = 24·#results + Σ_v q(pc v)` (`q` = the wait counter inside a test, 12 in the loop / back-off sleep, 13 when over)
never falls and grows with every productive step (`GlobalN.step_cntN`; a block with `fuel ≥ bound g` ends by itself, so a
wake-up that does not end asleep ends inside a fresh test, done or dead); `#results ≤ Σ_n max(max_tries n, 1)` by the C03
budgets for any number of workers (`GlobalN.total_le_resultBoundN`).

MISSING for the full statement: object roots and the class hypotheses (as for one worker); `Patient` — without it the
thresholds grow with every over-waited back-off and the C03 budget `max(max_tries, classLimit)` grows with them, so no bound
in terms of the static graph alone follows from the invariants at hand (whether the model really produces more results then
is not decided here: the bump involves `Float` comparisons, which `decide` cannot evaluate). -/
theorem nonbounce_steps_bounded_partial (g : Graph) (hr : rankedB g = true) (hsym : edgeSymB g = true)
    (hflat : noFlatB g = true) (hwf : graphWF g = true) (ncls : Nat)
    (hcls : ∀ n, n < g.nodes.length → (g.node n).cls < ncls) (hroots : noRootsB g = true) (hcl : classesOKB g = true)
    (store : List (String × List (String × String))) (steps : List StepN)
    (hreal : ∀ x ∈ steps, x.1 < g.workers.length) (hfuel : ∀ x ∈ steps, bound g ≤ x.2.2)
    (hpat : Patient g (initState g ncls store) steps) :
    productiveSteps g (initState g ncls store) steps ≤ 24 * resultBound g + g.workers.length :=
  productive_le ⟨hr, hsym, hflat, hwf, hcls⟩ hroots hcl store steps hreal hfuel hpat

open I2N.Trav.GlobalN I2N.Trav.Global in
/-- the steps `nonbounce_steps_bounded_partial` does not count (any graph, any state): the worker's traversal was over and
the step changed nothing, or the worker was in the loop / in a back-off sleep and ends the step in a back-off sleep -/
theorem unproductive_step_is_backoff (g : Graph) (s : State) (w : Nat) (out : Outcome) (fuel : Nat)
    (h : productive (s.wd w).pc ((resume g s w out fuel).1.wd w).pc = false) :
    (((s.wd w).pc = .done ∨ (s.wd w).pc = .failed) ∧ (resume g s w out fuel).1 = s) ∨
    (((s.wd w).pc = .loop ∨ (s.wd w).pc = .bounce) ∧ ((resume g s w out fuel).1.wd w).pc = .bounce) := by
  rcases unproductive_step g s w out fuel h with ⟨h1, h2⟩ | h1
  · exact Or.inl ⟨done_or_failed_of_isOver h1, h2⟩
  · exact Or.inr h1

/-- two workers of one swarm, one stateless class with a copy each: the second worker finds the class occupied -/
def gDuo : Graph :=
  { workers := [{ id := "net1", swarm := "localhost" }, { id := "net2", swarm := "localhost" }],
    nodes := [{ cls := 0, owner := none, name := "root", pfx := "0", sharedRoot := true,
                cleanup := [(1, ["vm1"]), (2, ["vm1"])] },
              { cls := 1, owner := some 0, name := "leaf.net1", pfx := "1", setup := [(0, ["vm1"])] },
              { cls := 1, owner := some 1, name := "leaf.net2", pfx := "2", setup := [(0, ["vm1"])] }],
    root := 0 }

/-- worker 0 starts its leaf, worker 1 bounces off the occupied class (an unproductive step), worker 0 finishes -/
def runOfGDuo : List I2N.Trav.GlobalN.StepN := [(0, ⟨none, 0⟩, 82), (1, ⟨none, 0⟩, 82), (0, ⟨some "PASS", 1⟩, 82)]

def pcIsBounce : Pc → Bool
  | .bounce => true
  | _ => false

theorem pc_done_of_isDone {pc : Pc} (h : pcIsDone pc = true) : pc = .done := by
  cases pc <;> first | rfl | cases h

theorem pc_bounce_of_isBounce {pc : Pc} (h : pcIsBounce pc = true) : pc = .bounce := by
  cases pc <;> first | rfl | cases h

example : I2N.Trav.Term.rankedB gDuo = true ∧ edgeSymB gDuo = true ∧ I2N.Trav.Term.noFlatB gDuo = true ∧
    graphWF gDuo = true ∧ I2N.Trav.Global.noRootsB gDuo = true ∧ I2N.Trav.Global.classesOKB gDuo = true ∧
    I2N.Trav.Term.bound gDuo = 82 ∧ I2N.Trav.Global.resultBound gDuo = 3 := by decide +kernel

/-- `runOfGDuo` (worker 0 starts, worker 1 bounces off the occupied class, worker 0 passes and leaves), then worker 1 wakes
up and leaves through the shared root, then 146 resumes of the finished worker 0: 150 steps -/
def fairRunOfGDuo : List I2N.Trav.GlobalN.StepN :=
  runOfGDuo ++ [(1, ⟨none, 0⟩, 82)] ++ List.replicate 146 (0, ⟨none, 0⟩, 82)

def fairRunOfGDuo2 : List I2N.Trav.GlobalN.StepN := fairRunOfGDuo ++ List.replicate 400 (0, ⟨none, 0⟩, 82)

theorem gDuo_run :
    ((I2N.Trav.GlobalN.productiveSteps gDuo (initState gDuo 2 []) runOfGDuo = 2 ∧
        pcIsDone ((I2N.Trav.GlobalN.runStepsN gDuo (initState gDuo 2 []) runOfGDuo).wd 0).pc = true ∧
        pcIsBounce ((I2N.Trav.GlobalN.runStepsN gDuo (initState gDuo 2 []) runOfGDuo).wd 1).pc = true) ∧
      (((initState gDuo 2 []).wd 0).occAt = [] ∧
        ((I2N.Trav.GlobalN.stepN gDuo (initState gDuo 2 []) (0, ⟨none, 0⟩, 82)).wd 1).occAt = [] ∧
        ((I2N.Trav.GlobalN.stepN gDuo (I2N.Trav.GlobalN.stepN gDuo (initState gDuo 2 []) (0, ⟨none, 0⟩, 82))
          (1, ⟨none, 0⟩, 82)).wd 0).occAt = []) ∧
      (pcIsDone ((I2N.Trav.GlobalN.runW gDuo 1 (I2N.Trav.GlobalN.runStepsN gDuo (initState gDuo 2 []) runOfGDuo)
          [(⟨none, 0⟩, 82)]).wd 1).pc = true ∧
        (fun s : State => (pcIsDone (s.wd 0).pc, pcIsBounce ((resume gDuo s 1 ⟨none, 0⟩ 0).1.wd 1).pc))
          (I2N.Trav.GlobalN.runStepsN gDuo (initState gDuo 2 []) runOfGDuo) = (true, true)) ∧
      (pcIsBounce ((resume gDuo (I2N.Trav.GlobalN.runStepsN gDuo (initState gDuo 2 []) (runOfGDuo.take 1)) 1
          ⟨none, 0⟩ 82).1.wd 1).pc = true ∧
        (resume gDuo (I2N.Trav.GlobalN.runStepsN gDuo (initState gDuo 2 []) (runOfGDuo.take 1)) 1
          ⟨none, 0⟩ 82).2.getLast? = some (Event.sleep "net2" 10)) ∧
      (((I2N.Trav.GlobalN.runStepsN gDuo (initState gDuo 2 []) (runOfGDuo.take 1)).nd 1).results.map
          (fun r => (r.status, r.tag)) = [("UNKNOWN", 1)] ∧
        pcWaitOf ((I2N.Trav.GlobalN.runStepsN gDuo (initState gDuo 2 []) (runOfGDuo.take 1)).wd 0).pc = some (1, 0)) ∧
      ((I2N.Trav.GlobalN.runStepsN gDuo (initState gDuo 2 []) (runOfGDuo.take 1)).nd 1).results =
        [⟨"leaf.net1", "UNKNOWN", "", 1, 0⟩]) ∧
    ((I2N.Trav.Fair.FairW gDuo 2 (initState gDuo 2 []) fairRunOfGDuo ∧
        I2N.Trav.Fair.bumpFreeB gDuo (initState gDuo 2 []) fairRunOfGDuo = true ∧
        fairRunOfGDuo.length = 150 ∧
        pcIsBounce ((I2N.Trav.GlobalN.runStepsN gDuo (initState gDuo 2 []) (fairRunOfGDuo.take 2)).wd 1).pc = true) ∧
      (pcIsDone ((I2N.Trav.GlobalN.runStepsN gDuo (initState gDuo 2 []) fairRunOfGDuo).wd 0).pc = true ∧
        pcIsDone ((I2N.Trav.GlobalN.runStepsN gDuo (initState gDuo 2 []) fairRunOfGDuo).wd 1).pc = true) ∧
      (I2N.Trav.Term.classInjB gDuo 0 = true ∧ I2N.Trav.Term.classInjB gDuo 1 = true ∧
        I2N.Trav.Definite.selected gDuo 1 = true ∧ I2N.Trav.Definite.selected gDuo 2 = true ∧
        ((I2N.Trav.GlobalN.runStepsN gDuo (initState gDuo 2 []) fairRunOfGDuo).nd 2).results = [] ∧
        ((I2N.Trav.GlobalN.runStepsN gDuo (initState gDuo 2 []) fairRunOfGDuo).nd 1).results.map (·.status) = ["PASS"]) ∧
      (∀ x ∈ fairRunOfGDuo, x.1 < gDuo.workers.length) ∧ (∀ x ∈ fairRunOfGDuo, I2N.Trav.Term.bound gDuo ≤ x.2.2) ∧
      (24 * I2N.Trav.Global.resultBound gDuo + gDuo.workers.length + 1) * 2 ≤ fairRunOfGDuo.length) ∧
    ((I2N.Trav.GlobalR.classesOKRB gDuo = true ∧ I2N.Trav.Fair2.resultBoundB gDuo = 9 ∧ fairRunOfGDuo2.length = 550 ∧
        I2N.Trav.Fair.FairW gDuo 2 (initState gDuo 2 []) fairRunOfGDuo2 ∧
        I2N.Trav.Fair.bumpFreeB gDuo (initState gDuo 2 []) fairRunOfGDuo2 = true) ∧
      (∀ x ∈ fairRunOfGDuo2, x.1 < gDuo.workers.length) ∧ (∀ x ∈ fairRunOfGDuo2, I2N.Trav.Term.bound gDuo ≤ x.2.2) ∧
      (24 * I2N.Trav.Global.resultBound gDuo + 12 * gDuo.workers.length + 1) * 2 ≤ fairRunOfGDuo2.length ∧
      (24 * I2N.Trav.Fair2.resultBoundB gDuo + 12 * gDuo.workers.length + 1) * 2 ≤ fairRunOfGDuo2.length) := by
  -- the step of worker 1 after `runOfGDuo` is spelt as what it is, the fourth step of the fair runs
  simp only [runW_eq_runStepsN, List.map_cons, List.map_nil, ← I2N.Trav.Fair.runStepsN_append]
  decide +kernel

/-- the run has two productive steps and one back-off step; afterwards worker 0 is done and worker 1 sleeps -/
example : I2N.Trav.GlobalN.productiveSteps gDuo (initState gDuo 2 []) runOfGDuo = 2 ∧
    pcIsDone ((I2N.Trav.GlobalN.runStepsN gDuo (initState gDuo 2 []) runOfGDuo).wd 0).pc = true ∧
    pcIsBounce ((I2N.Trav.GlobalN.runStepsN gDuo (initState gDuo 2 []) runOfGDuo).wd 1).pc = true := gDuo_run.1.1
/-- the run is patient: no worker that steps has bounced before -/
theorem runOfGDuo_patient : I2N.Trav.GlobalN.Patient gDuo (initState gDuo 2 []) runOfGDuo :=
  ⟨not_overWaited_of_nil gDuo_run.1.2.1.1, not_overWaited_of_nil gDuo_run.1.2.1.2.1,
    not_overWaited_of_nil gDuo_run.1.2.1.2.2, trivial⟩

/-- The state is rewritten into a `resume` step by the equations of the run and not left to unification: asked whether the
two are the same term, elaborator and kernel both evaluate the run. -/
theorem gDuo_first_step_reachable :
    ReachableF gDuo 2 [] (I2N.Trav.GlobalN.runStepsN gDuo (initState gDuo 2 []) (runOfGDuo.take 1)) := by
  rw [show runOfGDuo.take 1 = [(0, ⟨none, 0⟩, 82)] from rfl, I2N.Trav.GlobalN.runStepsN, List.foldl_cons, List.foldl_nil,
    I2N.Trav.GlobalN.stepN]
  exact .step _ 0 ⟨none, 0⟩ 82 (.init []) (by decide) (by decide)
example := nonbounce_steps_bounded_partial gDuo (by decide) (by decide) (by decide) (by decide) 2 (by decide) (by decide)
  (by decide +kernel) [] runOfGDuo (by decide) (by decide) runOfGDuo_patient

open I2N.Trav.GlobalN in
/-- **bounce_only_while_someone_runs** (`bounce_needs_runner` lifted from states to steps).  Any graph with edges recorded
at both ends (lazily expanded ones included), any reachable state, any real worker `w`, any outcome, positive fuel: if the
step of `w` ENDS in the back-off sleep — whatever it did before in that step: settle a test, walk, clean up —, then some
OTHER real worker `v` is, at the beginning of the step (and, `w`'s step not touching `v`'s record, at its end), suspended
inside a test execution or dead (`failed`).  Hence workers never sleep waiting for each other only, and a worker all of whose
peers are `done` never sleeps (`last_worker_terminates_partial`).
Proof: if every other worker is neither inside a test nor dead, no `started` mark exists while `w` is in its loop
(`PInvO.markPc`), so `is_occupied` is false in every iteration of the step (`GlobalN.resume_quiet`: one more walk through
`traverseNode`, `iter`, `iterL`, `runLoop`, `continueAfter`, `resumeTest`, `resume`).
`0 < fuel` is needed for the trivial reason that a step without fuel leaves a sleeping worker asleep
(`fuelless_step_stays_asleep`); the `failed` alternative is needed because a dead worker keeps its mark
(`dead_holder_blocks_last_worker`). -/
theorem bounce_only_while_someone_runs (g : Graph) (hsym : EdgeSym g) (ncls : Nat)
    (store : List (String × List (String × String))) (s : State) (h : ReachableF g ncls store s) (w : Nat)
    (hw : w < g.workers.length) (out : Outcome) (fuel : Nat) (hf : 0 < fuel)
    (hb : ((resume g s w out fuel).1.wd w).pc = .bounce) :
    ∃ v, v ≠ w ∧ v < g.workers.length ∧ ((∃ m, (s.wd v).pc.node? = some m) ∨ (s.wd v).pc = .failed) :=
  bounce_has_runner g hsym s w out fuel hf hw (h.pinv hsym) hb

open I2N.Trav.Term I2N.Trav.Global I2N.Trav.GlobalN in
/-- **last_worker_terminates** (`_partial`: class hypotheses; the prefix of the run is patient).  Hypotheses of
`nonbounce_steps_bounded_partial`; `pre` is any patient run of any workers after which every real worker but `w` is `done`.
Then, whatever `w`'s own back-off record is (it may have over-waited before) and whatever its tests do from now on:
along ANY further steps of `w` with `fuel ≥ bound g` the others stay done, `w` never ends a step in the back-off sleep,
and after any `24·Σ_n max(max_tries n, 1) + 13·|workers| + 1` such steps `w` is `done` or `failed` — the whole traversal is
over.  With one worker and `pre = []` this is `single_worker_terminates_partial` again (with a slightly larger bound).
"`done`" cannot be weakened to "`done` or `failed`": a dead worker keeps its `started` mark, and the last worker sleeps in
front of it for ever (`dead_holder_blocks_last_worker` shows the first sleep; in the code the exception of one worker
propagates through `asyncio.gather` in `plugins/runner.py` and ends the whole run, so there the sleeping worker is simply
not resumed any more — the endless sleep is a property of the model's scheduler view only). -/
theorem last_worker_terminates_partial (g : Graph) (hr : rankedB g = true) (hsym : edgeSymB g = true)
    (hflat : noFlatB g = true) (hwf : graphWF g = true) (ncls : Nat)
    (hcls : ∀ n, n < g.nodes.length → (g.node n).cls < ncls) (hroots : noRootsB g = true) (hcl : classesOKB g = true)
    (store : List (String × List (String × String))) (pre : List StepN)
    (hreal : ∀ x ∈ pre, x.1 < g.workers.length) (hfuel : ∀ x ∈ pre, bound g ≤ x.2.2)
    (hpat : Patient g (initState g ncls store) pre) (w : Nat) (hw : w < g.workers.length)
    (hdone : ∀ v, v ≠ w → v < g.workers.length → ((runStepsN g (initState g ncls store) pre).wd v).pc = .done)
    (steps : List (Outcome × Nat)) (hfuel' : ∀ x ∈ steps, bound g ≤ x.2) :
    (∀ v, v ≠ w → v < g.workers.length →
      ((runW g w (runStepsN g (initState g ncls store) pre) steps).wd v).pc = .done) ∧
    (steps ≠ [] → ((runW g w (runStepsN g (initState g ncls store) pre) steps).wd w).pc ≠ .bounce) ∧
    (24 * resultBound g + 13 * g.workers.length + 1 ≤ steps.length →
      ((runW g w (runStepsN g (initState g ncls store) pre) steps).wd w).pc = .done ∨
      ((runW g w (runStepsN g (initState g ncls store) pre) steps).wd w).pc = .failed) := by
  have st : StaticN g ncls := ⟨hr, hsym, hflat, hwf, hcls⟩
  obtain ⟨y, _⟩ := run_cntN st hroots pre _ (ginvN_init g ncls store) hreal hfuel hpat
  obtain ⟨_, z2, z3, _⟩ := lastWorker_run st hroots w hw steps _ y hdone hfuel'
  exact ⟨z2, z3, fun hlen => done_or_failed_of_isOver (lastWorker_over st hroots hcl w hw steps _ y hdone hfuel' hlen)⟩

/-- non-vacuity: after `runOfGDuo` worker 0 is done and worker 1 — asleep in front of the class worker 0 had occupied — is
the last worker; its next step (fuel `≥ bound gDuo = 82`) does not end asleep: it leaves through the shared root -/
example : ((I2N.Trav.GlobalN.runW gDuo 1 (I2N.Trav.GlobalN.runStepsN gDuo (initState gDuo 2 []) runOfGDuo)
    [(⟨none, 0⟩, 82)]).wd 1).pc ≠ .bounce :=
  (last_worker_terminates_partial gDuo (by decide) (by decide) (by decide) (by decide) 2 (by decide) (by decide)
    (by decide +kernel) [] runOfGDuo (by decide) (by decide) runOfGDuo_patient 1 (by decide)
    (by
      intro v hv hvl
      have hv0 : v = 0 := by
        have : v < 2 := hvl
        omega
      subst hv0
      exact pc_done_of_isDone gDuo_run.1.1.2.1)
    [(⟨none, 0⟩, 82)] (by decide)).2.1 (by simp)
example : pcIsDone ((I2N.Trav.GlobalN.runW gDuo 1 (I2N.Trav.GlobalN.runStepsN gDuo (initState gDuo 2 []) runOfGDuo)
    [(⟨none, 0⟩, 82)]).wd 1).pc = true := gDuo_run.1.2.2.1.1
/-- the step of worker 1 in `runOfGDuo` ends asleep, and worker 0 is inside a test then -/
example := bounce_only_while_someone_runs gDuo (edgeSymB_sound (by decide)) 2 []
  (I2N.Trav.GlobalN.runStepsN gDuo (initState gDuo 2 []) (runOfGDuo.take 1))
  gDuo_first_step_reachable 1 (by decide) ⟨none, 0⟩ 82 (by decide) (pc_bounce_of_isBounce gDuo_run.1.2.2.2.1.1)

/-- Witness that `0 < fuel` cannot be dropped from `bounce_only_while_someone_runs`: a step without fuel leaves the sleeping
worker 1 of `gDuo` asleep although worker 0 is done. -/
theorem fuelless_step_stays_asleep :
    (fun s : State => (pcIsDone (s.wd 0).pc, pcIsBounce ((resume gDuo s 1 ⟨none, 0⟩ 0).1.wd 1).pc))
      (I2N.Trav.GlobalN.runStepsN gDuo (initState gDuo 2 []) runOfGDuo) = (true, true) := gDuo_run.1.2.2.1.2

/-- three workers of one swarm, one class with `max_tries = -1` (as `gNeg`) -/
def gNeg3 : Graph :=
  { workers := [{ id := "net1", swarm := "localhost" }, { id := "net2", swarm := "localhost" },
                { id := "net3", swarm := "localhost" }],
    nodes := [{ cls := 0, owner := none, name := "root", pfx := "0", sharedRoot := true,
                cleanup := [(1, ["vm1"]), (2, ["vm1"]), (3, ["vm1"])] },
              { cls := 1, owner := some 0, name := "leaf.net1", pfx := "1", setup := [(0, ["vm1"])], maxTries := some (-1) },
              { cls := 1, owner := some 1, name := "leaf.net2", pfx := "2", setup := [(0, ["vm1"])], maxTries := some (-1) },
              { cls := 1, owner := some 2, name := "leaf.net3", pfx := "3", setup := [(0, ["vm1"])], maxTries := some (-1) }],
    root := 0 }

/-- Witness that "the others are `done`" cannot be weakened to "the others are over" in `last_worker_terminates_partial`,
and that the `failed` alternative of `bounce_only_while_someone_runs` is needed: worker 0 dies after its test (mark returned),
worker 1 dies inside the run decision of its copy and keeps the mark (`dead_worker_keeps_mark`); worker 2 — the last one
alive — finds the class occupied and goes to sleep, with nobody left to wake it up. -/
theorem dead_holder_blocks_last_worker :
    (fun s : State => ((s.wd 0).pc.isFailed, (s.wd 1).pc.isFailed, (s.nd 2).started, pcIsBounce (s.wd 2).pc))
      (I2N.Trav.GlobalN.runStepsN gNeg3 (initState gNeg3 2 [])
        [(0, ⟨none, 0⟩, 144), (0, ⟨some "PASS", 1⟩, 144), (1, ⟨none, 0⟩, 144), (2, ⟨none, 0⟩, 144)]) =
      (true, true, some 1, true) := by
  simp only [runStepsN_eqP, initState_hidden]
  decide +kernel

/-! ## One worker, object roots allowed (`Lemmas/TravGlobalR.lean`) -/

open I2N.Trav.Term I2N.Trav.Global I2N.Trav.GlobalR in
/-- **single_worker_terminates_roots_partial**: `single_worker_terminates_partial` without `noRootsB`.  The class
hypothesis becomes `classesOKRB g`: as `classesOKB`, and a class of setup tests may contain OBJECT ROOTS (two-step creation:
pre-step on a copy of the root's results, then the test proper) provided `max_tries` is unset or `≤ 1` and the name of the
creation pre-step is not counted by an observer that does not see the root (`statefulClassRoots`, the hypothesis of C03's
`budget_stateful_roots`).  Then after ANY `24·Σ_n max(max_tries n, 1) + 23` `resume` steps — whatever the tests and the
creation pre-steps do: pass, fail, never report — the only worker is `done` or `failed`.

Why: besides `Basic`, the run keeps `RInv`: `tagsBelow`/`tagsOnce` also for object roots (`RN`), and while the worker is
inside the pre-step of root `n` with placeholder tag `t` its copy is `results n ++ [placeholder t]` with every tag of
`results n` below `t` (`R3`; there is nobody else who could touch the root).  Hence settling a test proper keeps the number
of results also at a root, and a failed or never reported pre-step files exactly one result at the root
(`GlobalR.stepR`/`ShapeR`); the potential `24·#results + qR(pc)` — `qR(pre … wait) = 12 + wait`, `qR(test … wait) = wait`,
`qR(loop) = 11`, `qR(over) = 23` — grows with every step that does not end the traversal (`GlobalR.resume_cntR`), and
`#results ≤ Σ_n max(max_tries n, 1)` by the C03 budgets, roots included (`GlobalR.total_le_resultBoundR`).

MISSING for the full statement: object roots with `max_tries ≥ 2` (the C03 bound is FALSE there, `root_creation_hidden`) and
stateless object roots (no budget invariant); the other class hypotheses as before.  For several workers `RInv` would need
"an object root is cared for by one worker only" — not done. -/
theorem single_worker_terminates_roots_partial (g : Graph) (h1 : g.workers.length = 1) (hr : rankedB g = true)
    (hsym : edgeSymB g = true) (hflat : noFlatB g = true) (hwf : graphWF g = true) (ncls : Nat)
    (hcls : ∀ n, n < g.nodes.length → (g.node n).cls < ncls) (hcl : classesOKRB g = true)
    (store : List (String × List (String × String)))
    (steps : List (Outcome × Nat)) (hfuel : ∀ x ∈ steps, bound g ≤ x.2)
    (hlen : 24 * resultBound g + 23 ≤ steps.length) :
    ((runSteps g (initState g ncls store) steps).wd 0).pc = .done ∨
    ((runSteps g (initState g ncls store) steps).wd 0).pc = .failed := by
  have st : Static g ncls := ⟨h1, hr, hsym, hflat, hwf, hcls⟩
  exact done_or_failed_of_isOver (run_overR st hcl store steps hfuel hlen)

/-- one worker; the shared root, an object root (vm creation, `max_tries` unset) and a leaf below it -/
def gRoot : Graph :=
  { workers := [{ id := "net1", swarm := "localhost" }],
    nodes := [{ cls := 0, owner := none, name := "all.internal.stateless.noop", pfx := "0", flat := true, sharedRoot := true,
                cleanup := [(1, ["vm1"])] },
              { cls := 1, owner := some 0, name := "all.root.vms.vm1.nets.localhost.net1", pfx := "1a1", objectRoot := true,
                sets := [("vm1", "root")], objs := ["vm1"], setup := [(0, ["vm1"])], cleanup := [(2, ["vm1"])] },
              { cls := 2, owner := some 0, name := "leaf.vm1.net1", pfx := "2", setup := [(1, ["vm1"])] }],
    root := 0 }

theorem gRoot_static : gRoot.workers.length = 1 ∧ I2N.Trav.Term.rankedB gRoot = true ∧ edgeSymB gRoot = true ∧
    I2N.Trav.Term.noFlatB gRoot = true ∧ graphWF gRoot = true ∧ I2N.Trav.GlobalR.classesOKRB gRoot = true ∧
    I2N.Trav.Global.noRootsB gRoot = false ∧ I2N.Trav.Global.classesOKB gRoot = false ∧
    I2N.Trav.Term.bound gRoot = 82 ∧ I2N.Trav.Global.resultBound gRoot = 3 := by decide +kernel

/-- `gRoot` meets the hypotheses of `single_worker_terminates_roots_partial` and NOT those of
`single_worker_terminates_partial` -/
example : gRoot.workers.length = 1 ∧ I2N.Trav.Term.rankedB gRoot = true ∧ edgeSymB gRoot = true ∧
    I2N.Trav.Term.noFlatB gRoot = true ∧ graphWF gRoot = true ∧ I2N.Trav.GlobalR.classesOKRB gRoot = true ∧
    I2N.Trav.Global.noRootsB gRoot = false ∧ I2N.Trav.Global.classesOKB gRoot = false ∧
    I2N.Trav.Term.bound gRoot = 82 ∧ I2N.Trav.Global.resultBound gRoot = 3 := gRoot_static
def pcPreOf : Pc → Option (Nat × Nat)
  | .test n .pre _ _ _ wait => some (n, wait)
  | _ => none

/-- a run in which the creation pre-step of the root never reports: after the first step the worker is inside the pre-step
(working on a copy: the root has no result yet), after ten ticks still so.
(What follows was checked with `#eval` only: with the twelfth step the placeholder itself is filed at the root and the leaf is
started, the leaf passes and the worker is `done` after 13 steps; when the pre-step reports PASS / FAIL the root ends with the
results `["PASS"]` / `["FAIL"]` and the worker is `done` after 4 / 3 steps.  These cannot be `decide`d: the name of the
pre-step is built with `String.splitOn`, which the kernel does not evaluate, and it is compared as soon as a result is looked
up or counted.) -/
example :
    (fun s : State => (pcPreOf (s.wd 0).pc, (s.nd 1).results.length, (s.wd 0).preResults.length))
      (I2N.Trav.Global.runSteps gRoot (initState gRoot 3 []) [(⟨none, 0⟩, 82)]) = (some (1, 0), 0, 1) ∧
    (fun s : State => (pcPreOf (s.wd 0).pc, (s.nd 1).results.length))
      (I2N.Trav.Global.runSteps gRoot (initState gRoot 3 []) (List.replicate 11 (⟨none, 0⟩, 82))) = (some (1, 10), 0) := by
  simp only [runSteps_eq_runStepsN, runStepsN_eqP, initState_hidden]
  decide +kernel
example := single_worker_terminates_roots_partial gRoot (by decide) (by decide) (by decide) (by decide) (by decide) 3
  (by decide) gRoot_static.2.2.2.2.2.1 [] (List.replicate 95 (⟨none, 0⟩, 82))
  (fun x hx => by rw [List.eq_of_mem_replicate hx]; decide) (by rw [List.length_replicate]; decide)

/-! ## Several workers, FAIR scheduler: the whole traversal terminates (`Lemmas/TravFair.lean`)

Scheduler view as above (`GlobalN.StepN`, `GlobalN.runStepsN`).  `Fair.FairW g K s steps`: every `K` consecutive steps of the
run resume every real worker whose traversal is not over at the beginning of those `K` steps (an inductive predicate over
the list of resumes; decidable).  `Fair.BumpFree g s steps`: no step of the run raises a `max_concurrent_tries` counter
(weaker than `GlobalN.Patient`, which implies it — `Fair.bumpFree_of_patient` —, and observable in the states of the run:
`Fair.bumpFreeB`).  `Fair.Alive g s`: some real worker is not over and no real worker is `failed`. -/

open I2N.Trav.Term I2N.Trav.Global I2N.Trav.GlobalN I2N.Trav.Fair in
/-- **fair_window_has_progress** (the bounded-bounces-between-progress lemma).  Static hypotheses of
`nonbounce_steps_bounded_partial` without the class hypotheses; `pre` any admissible run from the initial state, `win` any
further steps.  If nobody is dead and somebody is not over after `pre`, and `win` resumes every worker that is not over
after `pre` at least once, then `win` contains a PRODUCTIVE step (a step inside a test, or a step from the loop / a
back-off sleep that does not end in a back-off sleep).  Hence under fairness with window `K` at most `K - 1` consecutive
steps are back-off steps or no-ops of finished workers.
Why: if some worker is inside a test, its first step in `win` is productive; otherwise steps of finished workers change
nothing, and the first step of a worker that is not over finds no `started` mark (`bounce_only_while_someone_runs`), so it
does not end asleep.  "Nobody is dead" cannot be dropped: `dead_holder_blocks_last_worker`. -/
theorem fair_window_has_progress (g : Graph) (hr : rankedB g = true) (hsym : edgeSymB g = true)
    (hflat : noFlatB g = true) (hwf : graphWF g = true) (ncls : Nat)
    (hcls : ∀ n, n < g.nodes.length → (g.node n).cls < ncls)
    (store : List (String × List (String × String))) (pre win : List StepN)
    (hreal : ∀ x ∈ pre ++ win, x.1 < g.workers.length) (hfuel : ∀ x ∈ pre ++ win, bound g ≤ x.2.2)
    (hcalm : BumpFree g (initState g ncls store) (pre ++ win))
    (hcov : ∀ v, v < g.workers.length → isOver ((runStepsN g (initState g ncls store) pre).wd v).pc = false →
      v ∈ win.map (·.1))
    (halive : Alive g (runStepsN g (initState g ncls store) pre)) :
    1 ≤ productiveSteps g (runStepsN g (initState g ncls store) pre) win := by
  have st : StaticN g ncls := ⟨hr, hsym, hflat, hwf, hcls⟩
  obtain ⟨ok1, ok2⟩ := runOK_append g pre win _ (runOK_of g _ _ hreal hfuel hcalm)
  exact window_productive st _ (ginvN_run st pre _ (ginvN_init g ncls store) ok1) win ok2 hcov halive

open I2N.Trav.Term I2N.Trav.Global I2N.Trav.GlobalN I2N.Trav.Fair in
/-- **multi_worker_terminates_fair** (`_partial`: class hypotheses, no bump).  Pre-parsed acyclic graph, ANY number of
workers, any outcomes (any status, results that never arrive, any duration), steps of real workers with `fuel ≥ bound g`;
`noRootsB`, `classesOKB` as in `nonbounce_steps_bounded_partial`; no step raises a `max_concurrent_tries` (`BumpFree`); the
run is FAIR with window `K ≥ 1` (`FairW`: every `K` consecutive resumes resume every worker that is not over).  Then after
ANY such run of at least `(24·Σ_n max(max_tries n, 1) + |workers| + 1)·K` resumes every worker is `done` — or some worker is
`failed` (in the code the exception of one worker ends the whole run through `asyncio.gather`).

Why: the number of productive steps is at most `24·Σ_n max(max_tries n, 1) + |workers|` (`Fair.productive_le_run`, the
counter of `nonbounce_steps_bounded_partial`), and every window of `K` steps that ends with somebody not over and nobody
dead contains one (`fair_window_has_progress`); being over and being dead are absorbing.

Hypotheses: `FairW` cannot be dropped — a scheduler that never resumes the worker inside the test lets the other one sleep
again and again, each step `bounce → bounce` (not `decide`d: the second sleep at one node evaluates a `Float` comparison,
which the kernel cannot); the `failed` alternative cannot be dropped (`dead_holder_blocks_last_worker`: a dead worker
keeps its mark and the survivors sleep for ever under every fair schedule); `0 < K` is technical (`window_zero_is_vacuous`:
with `K = 0` the empty run is fair and long enough).  MISSING for the full statement: as for
`nonbounce_steps_bounded_partial` — object roots, the class hypotheses, and `BumpFree` (after a bump the C03 budget grows). -/
theorem multi_worker_terminates_fair_partial (g : Graph) (hr : rankedB g = true) (hsym : edgeSymB g = true)
    (hflat : noFlatB g = true) (hwf : graphWF g = true) (ncls : Nat)
    (hcls : ∀ n, n < g.nodes.length → (g.node n).cls < ncls) (hroots : noRootsB g = true) (hcl : classesOKB g = true)
    (store : List (String × List (String × String))) (K : Nat) (hK : 0 < K) (steps : List StepN)
    (hreal : ∀ x ∈ steps, x.1 < g.workers.length) (hfuel : ∀ x ∈ steps, bound g ≤ x.2.2)
    (hcalm : BumpFree g (initState g ncls store) steps) (hfair : FairW g K (initState g ncls store) steps)
    (hlen : (24 * resultBound g + g.workers.length + 1) * K ≤ steps.length) :
    (∀ v, v < g.workers.length → ((runStepsN g (initState g ncls store) steps).wd v).pc = .done) ∨
    (∃ v, v < g.workers.length ∧ ((runStepsN g (initState g ncls store) steps).wd v).pc = .failed) :=
  not_alive (fair_run_over ⟨hr, hsym, hflat, hwf, hcls⟩ hroots hcl store K hK steps
    (runOK_of g _ _ hreal hfuel hcalm) hfair hlen)

/-- non-vacuity: the run is fair with window 2, bumps nothing, contains a back-off step, and has the
`(24·3 + 2 + 1)·2 = 150` steps the theorem asks for -/
example : I2N.Trav.Fair.FairW gDuo 2 (initState gDuo 2 []) fairRunOfGDuo ∧
    I2N.Trav.Fair.bumpFreeB gDuo (initState gDuo 2 []) fairRunOfGDuo = true ∧
    fairRunOfGDuo.length = 150 ∧
    pcIsBounce ((I2N.Trav.GlobalN.runStepsN gDuo (initState gDuo 2 []) (fairRunOfGDuo.take 2)).wd 1).pc = true :=
  gDuo_run.2.1.1
example := multi_worker_terminates_fair_partial gDuo (by decide) (by decide) (by decide) (by decide) 2 (by decide)
  (by decide) (by decide +kernel) [] 2 (by decide) fairRunOfGDuo gDuo_run.2.1.2.2.2.1 gDuo_run.2.1.2.2.2.2.1
  (I2N.Trav.Fair.bumpFree_of_B _ _ _ gDuo_run.2.1.1.2.1) gDuo_run.2.1.1.1 gDuo_run.2.1.2.2.2.2.2
example : pcIsDone ((I2N.Trav.GlobalN.runStepsN gDuo (initState gDuo 2 []) fairRunOfGDuo).wd 0).pc = true ∧
    pcIsDone ((I2N.Trav.GlobalN.runStepsN gDuo (initState gDuo 2 []) fairRunOfGDuo).wd 1).pc = true := gDuo_run.2.1.2.1

/-- Witness that `0 < K` cannot be dropped from `multi_worker_terminates_fair_partial`: with `K = 0` the empty run is fair
and long enough, and nobody has moved. -/
theorem window_zero_is_vacuous :
    I2N.Trav.Fair.FairW gDuo 0 (initState gDuo 2 []) [] ∧
    (24 * I2N.Trav.Global.resultBound gDuo + gDuo.workers.length + 1) * 0 ≤ ([] : List I2N.Trav.GlobalN.StepN).length ∧
    pcIsDone ((I2N.Trav.GlobalN.runStepsN gDuo (initState gDuo 2 []) []).wd 0).pc = false := by decide +kernel

/-! ### the same with a virtual clock instead of windows

`Fair.Timed g q T wake s steps` (an inductive predicate over the list of resumes; decidable): the event-driven scheduler of
`asyncio` under virtual time.  `wake v` = the time at which worker `v` is due; every entry of the run is a resume
`(worker, outcome, fuel)` together with the duration `d` of the suspension the step ENDS in; the resumed worker is not over
and is due first among the workers that are not over (ties: any); a step that ends in the back-off sleep has `q ≤ d` (the
code sleeps `max(timeout·max_tries/1000, 0.1)` s: `q = 10` hundredths); a step that ends inside a test — start of a test or
of a creation pre-step, a tick of the result wait — has `d ≤ T` (every started test ends, with any status or none, and the
task returns within `T`; the ticks sleep 30 s); afterwards `wake w := wake w + d`. -/

open I2N.Trav.Term I2N.Trav.Global I2N.Trav.GlobalN I2N.Trav.Fair in
/-- **timed_bounces_bounded**: along every timed run from the initial state (static hypotheses of
`fair_window_has_progress`, `0 < q`), every stretch of `|workers|·(T/q + 1) + 1` consecutive resumes that ends with somebody
not over and nobody dead contains a productive step (`Fair.Lively`): at most `|workers|·(T/q + 1)` consecutive resumes are
back-off steps.
Why: if nobody is inside a test the next resume does not end asleep (`bounce_only_while_someone_runs`).  Otherwise let `v`
be inside a test: `wake v ≤ wake u + T` for every `u` that is not over (invariant `Fair.Due`: `v` was due first when it
started and the clock of the others only advances); a worker `u` is resumed only while `wake u ≤ wake v`, and every back-off
step adds at least `q` to `wake u`, so `Σ_u ⌊(wake v + q − wake u)/q⌋ ≤ |workers|·(T/q + 1)` falls with every back-off
step (`Fair.backoff_stretch_le`), and the resume of `v` itself is productive. -/
theorem timed_bounces_bounded (g : Graph) (hr : rankedB g = true) (hsym : edgeSymB g = true)
    (hflat : noFlatB g = true) (hwf : graphWF g = true) (ncls : Nat)
    (hcls : ∀ n, n < g.nodes.length → (g.node n).cls < ncls)
    (store : List (String × List (String × String))) (q T : Nat) (hq : 0 < q) (wake : Nat → Nat) (steps : List TStepN)
    (hreal : ∀ x ∈ steps.map (·.1), x.1 < g.workers.length) (hfuel : ∀ x ∈ steps.map (·.1), bound g ≤ x.2.2)
    (hcalm : BumpFree g (initState g ncls store) (steps.map (·.1)))
    (ht : Timed g q T wake (initState g ncls store) steps) :
    Lively g (g.workers.length * (T / q + 1) + 1) (initState g ncls store) (steps.map (·.1)) := by
  exact timed_lively ⟨hr, hsym, hflat, hwf, hcls⟩ q T hq steps wake _ (ginvN_init g ncls store)
    (runOK_of g _ _ hreal hfuel hcalm) ht (due_init g ncls store T wake)

open I2N.Trav.Term I2N.Trav.Global I2N.Trav.GlobalN I2N.Trav.Fair in
/-- **multi_worker_terminates_timed** (`_partial`: class hypotheses, no bump).  Hypotheses of
`multi_worker_terminates_fair_partial` with the clock (`Timed`, back-off sleeps of at least `q > 0`, every suspension inside
a test of at most `T`) in place of the windows.  Then a run after which somebody is not over and nobody is dead has FEWER
than `(24·Σ_n max(max_tries n, 1) + |workers| + 1)·(|workers|·(T/q + 1) + 1)` resumes — within that many resumes every
worker is `done`, or some worker is `failed`.  (Stated in this form because a timed run does not resume finished workers:
it cannot be longer once everybody is over.)
`0 < q` cannot be dropped: with sleeps of no duration a worker is due again at once and bounces any number of times at one
virtual instant while the test of the other is pending (not `decide`d: the second sleep at one node evaluates a `Float`
comparison); `T` bounds the time a started test and each tick of the result wait take — without it the waiting workers
sleep unboundedly often.  MISSING: as for `multi_worker_terminates_fair_partial`. -/
theorem multi_worker_terminates_timed_partial (g : Graph) (hr : rankedB g = true) (hsym : edgeSymB g = true)
    (hflat : noFlatB g = true) (hwf : graphWF g = true) (ncls : Nat)
    (hcls : ∀ n, n < g.nodes.length → (g.node n).cls < ncls) (hroots : noRootsB g = true) (hcl : classesOKB g = true)
    (store : List (String × List (String × String))) (q T : Nat) (hq : 0 < q) (wake : Nat → Nat) (steps : List TStepN)
    (hreal : ∀ x ∈ steps.map (·.1), x.1 < g.workers.length) (hfuel : ∀ x ∈ steps.map (·.1), bound g ≤ x.2.2)
    (hcalm : BumpFree g (initState g ncls store) (steps.map (·.1)))
    (ht : Timed g q T wake (initState g ncls store) steps)
    (halive : Alive g (runStepsN g (initState g ncls store) (steps.map (·.1)))) :
    steps.length < (24 * resultBound g + g.workers.length + 1) * (g.workers.length * (T / q + 1) + 1) := by
  apply Nat.lt_of_not_le
  intro hlen
  exact timed_run_over ⟨hr, hsym, hflat, hwf, hcls⟩ hroots hcl store q T hq wake steps
    (runOK_of g _ _ hreal hfuel hcalm) ht hlen halive

/-- `gDuo` under the clock: worker 0 starts its test at time 0 (it takes 0.1 s), worker 1 finds the class occupied and sleeps
0.1 s; both are due at 0.1 s: worker 0 passes and leaves, worker 1 wakes up and leaves -/
def timedRunOfGDuo : List I2N.Trav.Fair.TStepN :=
  [((0, ⟨none, 0⟩, 82), 10), ((1, ⟨none, 0⟩, 82), 10), ((0, ⟨some "PASS", 1⟩, 82), 0), ((1, ⟨none, 0⟩, 82), 0)]

theorem gDuo_timed_run :
    (I2N.Trav.Fair.Timed gDuo 10 10 (fun _ => 0) (initState gDuo 2 []) timedRunOfGDuo ∧
      I2N.Trav.Fair.bumpFreeB gDuo (initState gDuo 2 []) (timedRunOfGDuo.map (·.1)) = true ∧
      pcIsBounce ((I2N.Trav.GlobalN.runStepsN gDuo (initState gDuo 2 []) ((timedRunOfGDuo.take 2).map (·.1))).wd 1).pc = true ∧
      pcIsDone ((I2N.Trav.GlobalN.runStepsN gDuo (initState gDuo 2 []) (timedRunOfGDuo.map (·.1))).wd 0).pc = true ∧
      pcIsDone ((I2N.Trav.GlobalN.runStepsN gDuo (initState gDuo 2 []) (timedRunOfGDuo.map (·.1))).wd 1).pc = true) ∧
    ((∀ x ∈ timedRunOfGDuo.map (·.1), x.1 < gDuo.workers.length) ∧
      (∀ x ∈ timedRunOfGDuo.map (·.1), I2N.Trav.Term.bound gDuo ≤ x.2.2)) ∧
    ((∀ x ∈ (timedRunOfGDuo.take 2).map (·.1), x.1 < gDuo.workers.length) ∧
      (∀ x ∈ (timedRunOfGDuo.take 2).map (·.1), I2N.Trav.Term.bound gDuo ≤ x.2.2) ∧
      I2N.Trav.Fair.bumpFreeB gDuo (initState gDuo 2 []) ((timedRunOfGDuo.take 2).map (·.1)) = true) ∧
    I2N.Trav.Global.isOver ((I2N.Trav.GlobalN.runStepsN gDuo (initState gDuo 2 [])
      ((timedRunOfGDuo.take 2).map (·.1))).wd 0).pc = false ∧
    ∀ u, u < 2 → ((I2N.Trav.GlobalN.runStepsN gDuo (initState gDuo 2 [])
      ((timedRunOfGDuo.take 2).map (·.1))).wd u).pc.isFailed = false := by
  /- The lists are written out first, their entries left in the form `x.1` in which `Timed` steps through them (hence
  `-proj`): the kernel shares the evaluation of a state only between identical terms, and would evaluate the run once for
  each spelling of its steps.  `Timed` and `bumpFreeB` are unfolded along these few steps so that every step goes
  through the evaluator. -/
  simp -proj only [timedRunOfGDuo, List.take_succ_cons, List.take_zero, List.map_cons, List.map_nil, I2N.Trav.Fair.Timed,
    I2N.Trav.Fair.bumpFreeB, stepN_eqP, runStepsN_eqP, hidden_resumeP, initState_hidden]
  decide +kernel

/-- non-vacuity: the run is timed with `q = T = 10` (hundredths of a second), bumps nothing, its second step is a back-off
step, after two steps somebody is not over and nobody is dead, and it ends with both workers done -/
example : I2N.Trav.Fair.Timed gDuo 10 10 (fun _ => 0) (initState gDuo 2 []) timedRunOfGDuo ∧
    I2N.Trav.Fair.bumpFreeB gDuo (initState gDuo 2 []) (timedRunOfGDuo.map (·.1)) = true ∧
    pcIsBounce ((I2N.Trav.GlobalN.runStepsN gDuo (initState gDuo 2 []) ((timedRunOfGDuo.take 2).map (·.1))).wd 1).pc = true ∧
    pcIsDone ((I2N.Trav.GlobalN.runStepsN gDuo (initState gDuo 2 []) (timedRunOfGDuo.map (·.1))).wd 0).pc = true ∧
    pcIsDone ((I2N.Trav.GlobalN.runStepsN gDuo (initState gDuo 2 []) (timedRunOfGDuo.map (·.1))).wd 1).pc = true :=
  gDuo_timed_run.1
theorem gDuo_alive_after_two : I2N.Trav.Fair.Alive gDuo
    (I2N.Trav.GlobalN.runStepsN gDuo (initState gDuo 2 []) ((timedRunOfGDuo.take 2).map (·.1))) := by
  refine ⟨⟨0, by decide, gDuo_timed_run.2.2.2.1⟩, fun v hv e => ?_⟩
  have := gDuo_timed_run.2.2.2.2 v hv
  rw [e] at this
  cases this
example := timed_bounces_bounded gDuo (by decide) (by decide) (by decide) (by decide) 2 (by decide) [] 10 10 (by decide)
  (fun _ => 0) timedRunOfGDuo gDuo_timed_run.2.1.1 gDuo_timed_run.2.1.2
  (I2N.Trav.Fair.bumpFree_of_B _ _ _ gDuo_timed_run.1.2.1) gDuo_timed_run.1.1
example := multi_worker_terminates_timed_partial gDuo (by decide) (by decide) (by decide) (by decide) 2 (by decide)
  (by decide) (by decide +kernel) [] 10 10 (by decide) (fun _ => 0) (timedRunOfGDuo.take 2) gDuo_timed_run.2.2.1.1
  gDuo_timed_run.2.2.1.2.1 (I2N.Trav.Fair.bumpFree_of_B _ _ _ gDuo_timed_run.2.2.1.2.2)
  (I2N.Trav.Fair.timed_take gDuo 10 10 2 timedRunOfGDuo _ _ gDuo_timed_run.1.1) gDuo_alive_after_two

open I2N.Trav.Fair in
/-- **backoff_sleeps_a_tenth**: the clock hypothesis `q ≤ d` of `Timed` with `q = 10` (hundredths of a second) is what the
model announces.  Any graph with edges recorded at both ends (lazily expanded ones included), any reachable state, any real
worker, positive fuel: if the step ENDS in the back-off sleep, the LAST event it emits is `Event.sleep <worker id> k` with
`k ≥ 10` — the `asyncio.sleep(round(max(timeout·max_tries/1000, 0.1), 2))` of the back-off branch; whatever the step did
before (settle a test, walk, clean up), nothing is emitted after it.  One more walk through `iter`, `iterL`, `runLoop`,
`continueAfter`, `resumeTest`, `resume` (`Fair.resume_sleep`). -/
theorem backoff_sleeps_a_tenth (g : Graph) (hsym : EdgeSym g) (ncls : Nat)
    (store : List (String × List (String × String))) (s : State) (h : ReachableF g ncls store s) (w : Nat)
    (hw : w < g.workers.length) (out : Outcome) (fuel : Nat) (hf : 0 < fuel)
    (hb : ((resume g s w out fuel).1.wd w).pc = .bounce) :
    ∃ k, 10 ≤ k ∧ (resume g s w out fuel).2.getLast? = some (Event.sleep (g.worker w).id k) :=
  resume_sleep g hsym s w out fuel hf hw (h.pinv hsym) hb

/-- non-vacuity: the step of worker 1 in `runOfGDuo` ends asleep; the sleep it announces -/
example := backoff_sleeps_a_tenth gDuo (edgeSymB_sound (by decide)) 2 []
  (I2N.Trav.GlobalN.runStepsN gDuo (initState gDuo 2 []) (runOfGDuo.take 1))
  gDuo_first_step_reachable 1 (by decide) ⟨none, 0⟩ 82 (by decide) (pc_bounce_of_isBounce gDuo_run.1.2.2.2.1.1)
example : (resume gDuo (I2N.Trav.GlobalN.runStepsN gDuo (initState gDuo 2 []) (runOfGDuo.take 1)) 1
    ⟨none, 0⟩ 82).2.getLast? = some (Event.sleep "net2" 10) := gDuo_run.1.2.2.2.1.2

/-! ## Several workers: object roots, bumps of `max_concurrent_tries`, the sleeps of the result wait (`Lemmas/TravFair2.lean`)

Scheduler view and notions of fairness as in the previous section (`Fair.FairW`, `Fair.Timed`, `Fair.Alive`).  The
development of `TravFair2` does not use `NoBump`: a bound on the number of results is needed at the END of the run only. -/

open I2N.Trav.Term I2N.Trav.Global I2N.Trav.GlobalN I2N.Trav.GlobalR I2N.Trav.Fair I2N.Trav.Fair2 in
/-- **multi_worker_terminates_fair_roots** (`_partial`: class hypotheses, no bump).  `multi_worker_terminates_fair_partial`
WITHOUT `noRootsB`: pre-parsed acyclic graph, ANY number of workers, any outcomes; the class hypothesis is `classesOKRB g` of
`single_worker_terminates_roots_partial` (setup classes may contain OBJECT ROOTS with `max_tries ≤ 1`, the hypothesis of
C03's `budget_stateful_roots`); no step raises a `max_concurrent_tries`; the run is fair with window `K ≥ 1`.  Then after
ANY such run of at least `(24·Σ_n max(max_tries n, 1) + 12·|workers| + 1)·K` resumes every worker is `done`, or some worker is
`failed`.

Why: `Fair2.RInvN` — `RInv` of the one-worker theorem for EVERY worker: while `w` is inside the creation pre-step of root
`n` its copy is `results n ++ [placeholder]`.  A step of `v` changes the results of an object root only from inside a test
of that root (`Fair2.resume_root_results`), a worker inside a test of `n` cares for `n` (`PInv.testOwn`), and under
`classesOKRB` an object root is cared for by one worker (`Fair2.rootsOwned_of_classesOKRB`: `BClass.uniq`; stateless classes
have no roots) — so the steps of the others leave `w`'s copy consistent.  Hence every step has the shape `GlobalR.ShapeR`,
the counter `24·#results + Σ_v qR(pc v)` never falls and grows with every productive step (`Fair2.step_cntRN`),
`#results ≤ Σ_n max(max_tries n, 1)` (`GlobalR.total_le_resultBoundR`, stated for any number of workers), and the
composition with fairness is that of `Lemmas/TravFair.lean`, which needs no `NoBump` (`Fair.fair_lively`).
MISSING for the full statement: object roots with `max_tries ≥ 2` or in stateless classes, the other class hypotheses,
lazily expanded graphs; for runs WITH bumps see `multi_worker_terminates_fair_bumps_partial`. -/
theorem multi_worker_terminates_fair_roots_partial (g : Graph) (hr : rankedB g = true) (hsym : edgeSymB g = true)
    (hflat : noFlatB g = true) (hwf : graphWF g = true) (ncls : Nat)
    (hcls : ∀ n, n < g.nodes.length → (g.node n).cls < ncls) (hcl : classesOKRB g = true)
    (store : List (String × List (String × String))) (K : Nat) (hK : 0 < K) (steps : List StepN)
    (hreal : ∀ x ∈ steps, x.1 < g.workers.length) (hfuel : ∀ x ∈ steps, bound g ≤ x.2.2)
    (hcalm : BumpFree g (initState g ncls store) steps) (hfair : FairW g K (initState g ncls store) steps)
    (hlen : (24 * resultBound g + 12 * g.workers.length + 1) * K ≤ steps.length) :
    (∀ v, v < g.workers.length → ((runStepsN g (initState g ncls store) steps).wd v).pc = .done) ∨
    (∃ v, v < g.workers.length ∧ ((runStepsN g (initState g ncls store) steps).wd v).pc = .failed) :=
  not_alive (fair_run_over_roots ⟨hr, hsym, hflat, hwf, hcls⟩ hcl store K hK steps
    (runOK2_of g _ hreal hfuel) hcalm hfair hlen)

open I2N.Trav.Term I2N.Trav.Global I2N.Trav.GlobalN I2N.Trav.GlobalR I2N.Trav.Fair I2N.Trav.Fair2 in
/-- **multi_worker_terminates_timed_roots** (`_partial`): the same with the virtual clock — a timed run (`Timed`, `0 < q`)
without bumps, object roots allowed (`classesOKRB`), after which somebody is not over and nobody is dead has FEWER than
`(24·Σ_n max(max_tries n, 1) + 12·|workers| + 1)·(|workers|·(T/q + 1) + 1)` resumes. -/
theorem multi_worker_terminates_timed_roots_partial (g : Graph) (hr : rankedB g = true) (hsym : edgeSymB g = true)
    (hflat : noFlatB g = true) (hwf : graphWF g = true) (ncls : Nat)
    (hcls : ∀ n, n < g.nodes.length → (g.node n).cls < ncls) (hcl : classesOKRB g = true)
    (store : List (String × List (String × String))) (q T : Nat) (hq : 0 < q) (wake : Nat → Nat) (steps : List TStepN)
    (hreal : ∀ x ∈ steps.map (·.1), x.1 < g.workers.length) (hfuel : ∀ x ∈ steps.map (·.1), bound g ≤ x.2.2)
    (hcalm : BumpFree g (initState g ncls store) (steps.map (·.1)))
    (ht : Timed g q T wake (initState g ncls store) steps)
    (halive : Alive g (runStepsN g (initState g ncls store) (steps.map (·.1)))) :
    steps.length < (24 * resultBound g + 12 * g.workers.length + 1) * (g.workers.length * (T / q + 1) + 1) := by
  apply Nat.lt_of_not_le
  intro hlen
  exact timed_run_over_roots ⟨hr, hsym, hflat, hwf, hcls⟩ hcl store q T hq wake steps
    (runOK2_of g _ hreal hfuel) hcalm ht hlen halive

open I2N.Trav.Fair2 in
/-- **bumps_bounded**: the total number of bumps of a run is bounded by the static graph.  Any graph with edges recorded at
both ends (lazily expanded ones included), any reachable state (any interleaving of steps of real workers with positive
fuel, any outcomes, no patience assumed): the bump counter of copy `i` — how often `max_concurrent_tries` was incremented on
it — is at most `max(1, |workers| + 1 - max_concurrent_tries₀ i)`, `max_concurrent_tries₀` = the configured value or 0.
Why: a bump happens in the back-off branch only, i.e. at an occupied copy: at least `max(mctOf i, 1)` DIFFERENT workers
of the scope hold a `started` mark of the class (`is_started` with a threshold), all of them real workers other than the
bouncing one (`PInvO.markPc`; for the scope shape `own` the copy would have to be marked by the bouncing worker itself:
impossible); after the first bump `mctOf i = max_concurrent_tries₀ + bump`, so a further bump needs
`max_concurrent_tries₀ + bump ≤ |workers|`.  (The first bump may LOWER the threshold — `max_concurrent_tries` unset and
`max_tries > 1`: `get_numeric("max_concurrent_tries", 0) + 1` — which is why the count starts at 1.)
Note on the code (`cartgraph/graph.py`, back-off branch of `traverse_object_trees`): `occupied_wait` is reset only when the
worker bounces at a node it has not bounced at before and `occupied_at` is never cleared, so once a worker has over-waited,
EVERY later bounce at a known node bumps that node — the bound above is what stops this, not the waiting time. -/
theorem bumps_bounded (g : Graph) (hsym : EdgeSym g) (ncls : Nat) (store : List (String × List (String × String)))
    (s : State) (h : ReachableF g ncls store s) (i : Nat) :
    (s.nd i).bump ≤ max 1 ((g.workers.length : Int) + 1 - (g.node i).mct.getD 0).toNat :=
  reachable_bcap hsym h i

open I2N.Trav.Term I2N.Trav.Global I2N.Trav.GlobalN I2N.Trav.GlobalR I2N.Trav.Fair I2N.Trav.Fair2 in
/-- **multi_worker_terminates_fair_bumps** (`_partial`: class hypotheses only — `BumpFree` is DROPPED).  Hypotheses of
`multi_worker_terminates_fair_roots_partial` without `BumpFree`: workers may over-wait and raise `max_concurrent_tries` as
the code does.  After ANY fair run of at least `(24·B + 12·|workers| + 1)·K` resumes, where
`B = Σ_n max(max(max_tries n, 1) + 1, |workers| + 1)` (`Fair2.resultBoundB`), every worker is `done`, or some worker is
`failed`.  In particular a run with an overrunning test (a test that takes longer than `timeout·max_tries`, the case the
bump is made for) terminates in the model.
Why: the C03 budget of a setup class is `max(max(max_tries, 1), classLimit)`, `classLimit` = the largest threshold that has
been in force on a copy of the class; by `bumps_bounded` and `mctWithin` (`max_concurrent_tries₀ ≤ max(max_tries, 1)`) it is at
most `max(max(max_tries, 1) + 1, |workers| + 1)` (`Fair2.classLimit_le_of_bcap`); stateless classes keep their budget
`max(max_tries, 1)` whatever is bumped.  Everything else as in `multi_worker_terminates_fair_roots_partial`.
MISSING: as there (class hypotheses; object roots with `max_tries ≥ 2`; lazily expanded graphs). -/
theorem multi_worker_terminates_fair_bumps_partial (g : Graph) (hr : rankedB g = true) (hsym : edgeSymB g = true)
    (hflat : noFlatB g = true) (hwf : graphWF g = true) (ncls : Nat)
    (hcls : ∀ n, n < g.nodes.length → (g.node n).cls < ncls) (hcl : classesOKRB g = true)
    (store : List (String × List (String × String))) (K : Nat) (hK : 0 < K) (steps : List StepN)
    (hreal : ∀ x ∈ steps, x.1 < g.workers.length) (hfuel : ∀ x ∈ steps, bound g ≤ x.2.2)
    (hfair : FairW g K (initState g ncls store) steps)
    (hlen : (24 * resultBoundB g + 12 * g.workers.length + 1) * K ≤ steps.length) :
    (∀ v, v < g.workers.length → ((runStepsN g (initState g ncls store) steps).wd v).pc = .done) ∨
    (∃ v, v < g.workers.length ∧ ((runStepsN g (initState g ncls store) steps).wd v).pc = .failed) :=
  not_alive (fair_run_over_bumps ⟨hr, hsym, hflat, hwf, hcls⟩ hcl store K hK steps
    (runOK2_of g _ hreal hfuel) hfair hlen)

open I2N.Trav.Term I2N.Trav.Global I2N.Trav.GlobalN I2N.Trav.GlobalR I2N.Trav.Fair I2N.Trav.Fair2 in
/-- **multi_worker_terminates_timed_bumps** (`_partial`: class hypotheses only): the clock version without `BumpFree` — a
timed run after which somebody is not over and nobody is dead has FEWER than
`(24·B + 12·|workers| + 1)·(|workers|·(T/q + 1) + 1)` resumes, `B = Fair2.resultBoundB g`.  This is the statement that covers
the runs in which bumps really happen: under the clock a worker over-waits after about a thousand sleeps at one node. -/
theorem multi_worker_terminates_timed_bumps_partial (g : Graph) (hr : rankedB g = true) (hsym : edgeSymB g = true)
    (hflat : noFlatB g = true) (hwf : graphWF g = true) (ncls : Nat)
    (hcls : ∀ n, n < g.nodes.length → (g.node n).cls < ncls) (hcl : classesOKRB g = true)
    (store : List (String × List (String × String))) (q T : Nat) (hq : 0 < q) (wake : Nat → Nat) (steps : List TStepN)
    (hreal : ∀ x ∈ steps.map (·.1), x.1 < g.workers.length) (hfuel : ∀ x ∈ steps.map (·.1), bound g ≤ x.2.2)
    (ht : Timed g q T wake (initState g ncls store) steps)
    (halive : Alive g (runStepsN g (initState g ncls store) (steps.map (·.1)))) :
    steps.length < (24 * resultBoundB g + 12 * g.workers.length + 1) * (g.workers.length * (T / q + 1) + 1) := by
  apply Nat.lt_of_not_le
  intro hlen
  exact timed_run_over_bumps ⟨hr, hsym, hflat, hwf, hcls⟩ hcl store q T hq wake steps
    (runOK2_of g _ hreal hfuel) ht hlen halive

open I2N.Trav.Fair2 in
/-- **result_wait_sleeps_thirty_seconds**: the part of `T` (the bound of `Timed` on a suspension inside a test) that is the
model's own.  Any graph (`graphWF`), any reachable state, real worker, positive fuel: if the step ENDS inside a test with
wait counter `wait' ≠ 0`, then it was a tick of the result wait of the SAME test (same node, same placeholder tag; the
counter was `wait' - 1` before), `wait' ≤ 10`, and the LAST event of the step is `Event.sleep <worker id> 3000`
(`asyncio.sleep(30)`, hundredths of a second).  Every other step that ends inside a test has just started it (counter 0:
`Global.startFrom_pc`).  So a test is suspended once for its own duration — the only assumption left in `T` — and then at
most ten times for exactly the 30 s the model announces: `T = max(duration of a test, 3000)`. -/
theorem result_wait_sleeps_thirty_seconds (g : Graph) (hwf : graphWF g = true) (ncls : Nat)
    (store : List (String × List (String × String))) (s : State) (h : ReachableR g ncls store s) (w : Nat)
    (hw : w < g.workers.length) (out : Outcome) (fuel : Nat) (hf : 0 < fuel)
    (n' : Nat) (ph' : Phase) (dir' : Dir) (uid' : String) (tag' wait' : Nat)
    (hpc : ((resume g s w out fuel).1.wd w).pc = .test n' ph' dir' uid' tag' wait') (hne : wait' ≠ 0) :
    (resume g s w out fuel).2.getLast? = some (Event.sleep (g.worker w).id 3000) ∧ wait' ≤ 10 ∧
      ∃ ph dir uid wait, (s.wd w).pc = .test n' ph dir uid tag' wait ∧ wait' = wait + 1 :=
  have b := h.basic hwf
  resume_tick_sleep g (GraphWF.of_bool hwf) s w out fuel hf (by rw [b.workersLen]; exact hw) (b.paths w) hpc hne

/-- two workers of one swarm; the shared root, an object root (vm creation) per worker — one class, scope shape global — and
a leaf per worker below its root -/
def gRoot2 : Graph :=
  { workers := [{ id := "net1", swarm := "localhost" }, { id := "net2", swarm := "localhost" }],
    nodes := [{ cls := 0, owner := none, name := "all.internal.stateless.noop", pfx := "0", flat := true, sharedRoot := true,
                cleanup := [(1, ["vm1"]), (2, ["vm1"])] },
              { cls := 1, owner := some 0, name := "all.root.vms.vm1.nets.localhost.net1", pfx := "1a1", objectRoot := true,
                sets := [("vm1", "root")], objs := ["vm1"], setup := [(0, ["vm1"])], cleanup := [(3, ["vm1"])] },
              { cls := 1, owner := some 1, name := "all.root.vms.vm1.nets.localhost.net2", pfx := "1a2", objectRoot := true,
                sets := [("vm1", "root")], objs := ["vm1"], setup := [(0, ["vm1"])], cleanup := [(4, ["vm1"])] },
              { cls := 2, owner := some 0, name := "leaf.vm1.net1", pfx := "2", setup := [(1, ["vm1"])] },
              { cls := 2, owner := some 1, name := "leaf.vm1.net2", pfx := "3", setup := [(2, ["vm1"])] }],
    root := 0 }

/-- worker 0 enters the creation pre-step of its root at time 0, worker 1 finds the class of the roots occupied and sleeps
0.1 s, then worker 0 ticks (the pre-step has not reported; the tick sleeps 30 s).  The run stops there: the next resume would
be a second sleep of worker 1, which evaluates a `Float` comparison the kernel cannot decide -/
def timedRunOfGRoot2 : List I2N.Trav.Fair.TStepN :=
  [((0, ⟨none, 0⟩, 222), 10), ((1, ⟨none, 0⟩, 222), 10), ((0, ⟨none, 0⟩, 222), 3000)]

theorem gRoot2_run :
    (I2N.Trav.Term.rankedB gRoot2 = true ∧ edgeSymB gRoot2 = true ∧ I2N.Trav.Term.noFlatB gRoot2 = true ∧
      graphWF gRoot2 = true ∧ I2N.Trav.GlobalR.classesOKRB gRoot2 = true ∧ I2N.Trav.Global.noRootsB gRoot2 = false ∧
      I2N.Trav.Term.bound gRoot2 = 222 ∧ I2N.Trav.Global.resultBound gRoot2 = 5 ∧
      I2N.Trav.Fair2.resultBoundB gRoot2 = 15) ∧
    (I2N.Trav.Fair.Timed gRoot2 10 3000 (fun _ => 0) (initState gRoot2 3 []) timedRunOfGRoot2 ∧
      I2N.Trav.Fair.bumpFreeB gRoot2 (initState gRoot2 3 []) (timedRunOfGRoot2.map (·.1)) = true ∧
      pcIsBounce ((I2N.Trav.GlobalN.runStepsN gRoot2 (initState gRoot2 3 []) (timedRunOfGRoot2.map (·.1))).wd 1).pc = true ∧
      pcPreOf ((I2N.Trav.GlobalN.runStepsN gRoot2 (initState gRoot2 3 []) (timedRunOfGRoot2.map (·.1))).wd 0).pc =
        some (1, 1)) ∧
    ((∀ x ∈ timedRunOfGRoot2.map (·.1), x.1 < gRoot2.workers.length) ∧
      (∀ x ∈ timedRunOfGRoot2.map (·.1), I2N.Trav.Term.bound gRoot2 ≤ x.2.2)) ∧
    (I2N.Trav.Global.isOver ((I2N.Trav.GlobalN.runStepsN gRoot2 (initState gRoot2 3 [])
        (timedRunOfGRoot2.map (·.1))).wd 0).pc = false ∧
      ∀ u, u < 2 → ((I2N.Trav.GlobalN.runStepsN gRoot2 (initState gRoot2 3 [])
        (timedRunOfGRoot2.map (·.1))).wd u).pc.isFailed = false) ∧
    (resume gRoot2 (I2N.Trav.GlobalN.runStepsN gRoot2 (initState gRoot2 3 []) ((timedRunOfGRoot2.take 2).map (·.1))) 0
      ⟨none, 0⟩ 222).2.getLast? = some (Event.sleep "net1" 3000) := by
  simp -proj only [timedRunOfGRoot2, List.take_succ_cons, List.take_zero, List.map_cons, List.map_nil, I2N.Trav.Fair.Timed,
    I2N.Trav.Fair.bumpFreeB, stepN_eqP, runStepsN_eqP, resume_eq_resumeP, hidden_runStepsNP, hidden_resumeP,
    initState_hidden]
  decide +kernel

/-- `gRoot2` meets the static hypotheses of the theorems of this section and NOT `noRootsB` -/
example : I2N.Trav.Term.rankedB gRoot2 = true ∧ edgeSymB gRoot2 = true ∧ I2N.Trav.Term.noFlatB gRoot2 = true ∧
    graphWF gRoot2 = true ∧ I2N.Trav.GlobalR.classesOKRB gRoot2 = true ∧ I2N.Trav.Global.noRootsB gRoot2 = false ∧
    I2N.Trav.Term.bound gRoot2 = 222 ∧ I2N.Trav.Global.resultBound gRoot2 = 5 ∧
    I2N.Trav.Fair2.resultBoundB gRoot2 = 15 := gRoot2_run.1

/-- non-vacuity on a graph WITH object roots: the run is timed (`q = 10`, `T = 3000`), bumps nothing, its second step is a
back-off step in front of the occupied class of the roots, worker 0 is inside the creation pre-step of its root (a tick
later), and it ends alive -/
example : I2N.Trav.Fair.Timed gRoot2 10 3000 (fun _ => 0) (initState gRoot2 3 []) timedRunOfGRoot2 ∧
    I2N.Trav.Fair.bumpFreeB gRoot2 (initState gRoot2 3 []) (timedRunOfGRoot2.map (·.1)) = true ∧
    pcIsBounce ((I2N.Trav.GlobalN.runStepsN gRoot2 (initState gRoot2 3 []) (timedRunOfGRoot2.map (·.1))).wd 1).pc = true ∧
    pcPreOf ((I2N.Trav.GlobalN.runStepsN gRoot2 (initState gRoot2 3 []) (timedRunOfGRoot2.map (·.1))).wd 0).pc =
      some (1, 1) := gRoot2_run.2.1
theorem gRoot2_alive : I2N.Trav.Fair.Alive gRoot2
    (I2N.Trav.GlobalN.runStepsN gRoot2 (initState gRoot2 3 []) (timedRunOfGRoot2.map (·.1))) := by
  refine ⟨⟨0, by decide, gRoot2_run.2.2.2.1.1⟩, fun v hv e => ?_⟩
  have := gRoot2_run.2.2.2.1.2 v hv
  rw [e] at this
  cases this
example := multi_worker_terminates_timed_roots_partial gRoot2 (by decide) (by decide) (by decide) (by decide) 3 (by decide)
  gRoot2_run.1.2.2.2.2.1 [] 10 3000 (by decide) (fun _ => 0) timedRunOfGRoot2 gRoot2_run.2.2.1.1 gRoot2_run.2.2.1.2
  (I2N.Trav.Fair.bumpFree_of_B _ _ _ gRoot2_run.2.1.2.1) gRoot2_run.2.1.1 gRoot2_alive
example := multi_worker_terminates_timed_bumps_partial gRoot2 (by decide) (by decide) (by decide) (by decide) 3 (by decide)
  gRoot2_run.1.2.2.2.2.1 [] 10 3000 (by decide) (fun _ => 0) timedRunOfGRoot2 gRoot2_run.2.2.1.1 gRoot2_run.2.2.1.2
  gRoot2_run.2.1.1 gRoot2_alive

/-- non-vacuity of the window forms (`gDuo` has no object root, but meets `classesOKRB`): the run is fair with window 2, bumps
nothing and has the `(24·3 + 12·2 + 1)·2 = 194` resp. `(24·9 + 12·2 + 1)·2 = 482` steps asked for -/
example : I2N.Trav.GlobalR.classesOKRB gDuo = true ∧ I2N.Trav.Fair2.resultBoundB gDuo = 9 ∧ fairRunOfGDuo2.length = 550 ∧
    I2N.Trav.Fair.FairW gDuo 2 (initState gDuo 2 []) fairRunOfGDuo2 ∧
    I2N.Trav.Fair.bumpFreeB gDuo (initState gDuo 2 []) fairRunOfGDuo2 = true := gDuo_run.2.2.1
example := multi_worker_terminates_fair_roots_partial gDuo (by decide) (by decide) (by decide) (by decide) 2 (by decide)
  gDuo_run.2.2.1.1 [] 2 (by decide) fairRunOfGDuo2 gDuo_run.2.2.2.1 gDuo_run.2.2.2.2.1
  (I2N.Trav.Fair.bumpFree_of_B _ _ _ gDuo_run.2.2.1.2.2.2.2) gDuo_run.2.2.1.2.2.2.1 gDuo_run.2.2.2.2.2.1
example := multi_worker_terminates_fair_bumps_partial gDuo (by decide) (by decide) (by decide) (by decide) 2 (by decide)
  gDuo_run.2.2.1.1 [] 2 (by decide) fairRunOfGDuo2 gDuo_run.2.2.2.1 gDuo_run.2.2.2.2.1 gDuo_run.2.2.1.2.2.2.1
  gDuo_run.2.2.2.2.2.2

/-- `bumps_bounded` on the states of `gRoot2`: at most `max(1, 2 + 1 - 0) = 3` bumps per copy -/
example := bumps_bounded gRoot2 (edgeSymB_sound (by decide)) 3 []
  (I2N.Trav.GlobalN.runStepsN gRoot2 (initState gRoot2 3 []) ((timedRunOfGRoot2.take 1).map (·.1)))
  (by
    rw [show (timedRunOfGRoot2.take 1).map (·.1) = [(0, ⟨none, 0⟩, 222)] from rfl, I2N.Trav.GlobalN.runStepsN,
      List.foldl_cons, List.foldl_nil, I2N.Trav.GlobalN.stepN]
    exact .step _ 0 ⟨none, 0⟩ 222 (.init []) (by decide) (by decide)) 1

/-- `result_wait_sleeps_thirty_seconds` on the third step of `timedRunOfGRoot2`: the tick of worker 0 inside the creation
pre-step of its root -/
example : (resume gRoot2 (I2N.Trav.GlobalN.runStepsN gRoot2 (initState gRoot2 3 []) ((timedRunOfGRoot2.take 2).map (·.1))) 0
    ⟨none, 0⟩ 222).2.getLast? = some (Event.sleep "net1" 3000) := gRoot2_run.2.2.2.2

end I2N.Props.C02

/-! ## Translator tie: readiness, drops and picks are the Python source (`harness/pygen_pxready.py`)

`Extracted/GenReady.lean` is regenerated on every run from the CURRENT source of `TestNode.is_setup_ready`,
`is_cleanup_ready`, `drop_parent`, `drop_child`, `pick_parent`, `pick_child` (avocado_i2n/cartgraph/node.py) by the
translator `harness/pygen.py`.  The theorems below state that the generated definitions ARE the hand written model
functions, for every graph, state, node and worker (no hypotheses).  A change of the Python changes the generated text
and these proofs (or the closed forms in `Lemmas/GenReady.lean`) stop compiling.  Atoms (trusted): a node / worker is its
index; `self.setup_nodes` = the parents in dictionary order; `node.is_flat()` = `Node.flat`; `worker.id in
node.params["name"]` = `Graph.idIn`; `worker.id in <register>.get_workers(node)` = membership in `regWorkers` of the
register of the class of `self` under the key of the class of `node`; `<register>.register(node, worker)` = `regAdd`;
`<register>.get_counters()` = `regTotal`; `prefix_priority` = comparison of the exported ranks; `sorted(key=…)` = the
stable insertion sort of the model by that key. -/
namespace I2N.Props.C02
open I2N.Trav
open I2N.Extracted.GenReady
open I2N.GenReady

/-- **The hand written `isSetupReady` is the Python source of `is_setup_ready`** (the loop over the parents, the
`continue` for composite parents of other workers, `return False` at the first parent the worker has not dropped,
`return True` otherwise), for every graph, state, node and worker.  No hypotheses. -/
theorem isSetupReady_matches_source (g : Graph) (s : State) (n w : Nat) :
    isSetupReady g s n w =
      genIsSetupReady ((g.node n).setup.map (·.1)) (fun p => (g.node p).flat) (fun p => g.idIn w p)
        (fun p => (regWorkers (s.cr (g.node n).cls).droppedSetup (some (g.node p).cls)).contains w) := by
  rw [genIsSetupReady_all, isSetupReady, List.all_map]
  rfl

/-- the same for `isCleanupReady` / `is_cleanup_ready`.  No hypotheses. -/
theorem isCleanupReady_matches_source (g : Graph) (s : State) (n w : Nat) :
    isCleanupReady g s n w =
      genIsCleanupReady ((g.node n).cleanup.map (·.1)) (fun p => (g.node p).flat) (fun p => g.idIn w p)
        (fun p => (regWorkers (s.cr (g.node n).cls).droppedCleanup (some (g.node p).cls)).contains w) := by
  rw [genIsCleanupReady_all, isCleanupReady, List.all_map]
  rfl

/-- the generated readiness computes: a composite parent of another worker is skipped, a flat parent is not -/
example : genIsSetupReady [1, 2] (fun _ => false) (fun p => p == 1) (fun _ => false) = false ∧
    genIsSetupReady [1, 2] (fun _ => false) (fun p => p == 1) (fun p => p == 1) = true ∧
    genIsSetupReady [1, 2] (fun p => p == 2) (fun p => p == 1) (fun p => p == 1) = false ∧
    genIsCleanupReady [] (fun _ => false) (fun _ => false) (fun _ => false) = true := by decide

/-- **The hand written `dropParent` is the Python source of `drop_parent`** on its non-raising path: the model's new
state is the old one with the registers of the child's class replaced by what the generated function leaves
(`execRegs` = run the generated action on the registers and keep the registers; the adapter is needed because the model
has no raising path — see `drop_raises_for_non_neighbour`).  For every graph, state, nodes and worker; no hypotheses. -/
theorem dropParent_matches_source (g : Graph) (s : State) (child parent w : Nat) :
    dropParent g s child parent w =
      s.setCr (g.node child).cls (execRegs (genDropParent true ((g.node parent).cls, w))) := rfl

/-- the same for `dropChild` / `drop_child` -/
theorem dropChild_matches_source (g : Graph) (s : State) (parent child w : Nat) :
    dropChild g s parent child w =
      s.setCr (g.node parent).cls (execRegs (genDropChild true ((g.node child).cls, w))) := rfl

/-- complete description of the generated drops, for every flag, key and register record (result AND registers; the
exception layer of `RegM` is outside the state, so a mark made before a `raise` would be seen): not a neighbour ⇒
`ValueError` and NOTHING is registered (a path the model does not have: its callers drop the node they came from); a
neighbour ⇒ exactly one `regAdd` on the dropped register of that side, the three other registers untouched -/
theorem drop_raises_for_non_neighbour (b : Bool) (key : Nat × Nat) (r : ClassRegs) :
    (genDropParent b key).run.run r =
      (if b then (.ok (), { r with droppedSetup := regAdd r.droppedSetup key }) else (.error "ValueError", r)) ∧
    (genDropChild b key).run.run r =
      (if b then (.ok (), { r with droppedCleanup := regAdd r.droppedCleanup key }) else (.error "ValueError", r)) := by
  cases b <;> exact ⟨rfl, rfl⟩

/-- the order of the model's single sort is the lexicographic combination of the three Python sort keys -/
theorem pickKey_order (g : Graph) (s : State) (parent : Bool) :
    (fun a b => keyLe (pickKey g s parent a) (pickKey g s parent b)) =
      I2N.PyGenSort.lexLe (flatKey (fun p => (g.node p).flat))
        (I2N.PyGenSort.lexLe (fun p => regTotal (if parent then (s.cr (g.node p).cls).pickedByCleanup
            else (s.cr (g.node p).cls).pickedBySetup))
          (I2N.PyGenSort.keyOrd (fun p => (g.node p).rank))) := by
  funext a b
  simp only [keyLe, pickKey, I2N.PyGenSort.lexLe, I2N.PyGenSort.keyOrd, flatKey]
  cases parent <;> rfl

/-- **The hand written `pickParent` is the Python source of `pick_parent`**: the two candidate filters, the
`RuntimeError` for an exhausted node, the three stable sorts (prefix priority, then picks so far, then flat first; the
model sorts once with the lexicographic key — `Lemmas/PyGenSort.stableSort_comp`), the first element, and the one
`register` on the picked-by-cleanup register of the class of the PICKED node — same result, same new state, same
exception (and then an UNCHANGED state), for every graph, state, node and worker.  No hypotheses. -/
theorem pickParent_matches_source (g : Graph) (s : State) (n w : Nat) :
    (genPickParent g ((g.node n).setup.map (·.1)) (fun p => (g.node p).flat) (fun p => g.idIn w p)
        (fun p => (regWorkers (s.cr (g.node n).cls).droppedSetup (some (g.node p).cls)).contains w)
        (fun p => regTotal (s.cr (g.node p).cls).pickedByCleanup) (fun p => (g.node p).rank)
        ((g.node n).cls, w)).run.run s =
      (match pickParent g s n w with
        | some r => (.ok r.1, r.2)
        | none => (.error "RuntimeError", s)) := by
  rw [genPickParent_run, pickParent, pickKey_order g s true]
  simp only [relevant, if_true]
  cases stableSort _ _ <;> rfl

/-- the same for `pickChild` / `pick_child` (picked-by-setup register) -/
theorem pickChild_matches_source (g : Graph) (s : State) (n w : Nat) :
    (genPickChild g ((g.node n).cleanup.map (·.1)) (fun p => (g.node p).flat) (fun p => g.idIn w p)
        (fun p => (regWorkers (s.cr (g.node n).cls).droppedCleanup (some (g.node p).cls)).contains w)
        (fun p => regTotal (s.cr (g.node p).cls).pickedBySetup) (fun p => (g.node p).rank)
        ((g.node n).cls, w)).run.run s =
      (match pickChild g s n w with
        | some r => (.ok r.1, r.2)
        | none => (.error "RuntimeError", s)) := by
  rw [genPickChild_run, pickChild, pickKey_order g s false]
  simp only [relevant, Bool.false_eq_true, if_false]
  cases stableSort _ _ <;> rfl

/-! ## The END of a run: every selected test has a definite result (`Lemmas/TravDefinite.lean`)

Scheduler view as above (`GlobalN.StepN`, `GlobalN.runStepsN`; any graph with `graphWF`, lazily expanded ones included:
`initState g ncls store hidden`).  A *placeholder* is a result with status `"UNKNOWN"` and tag `≥ 1`: `run_test_node` appends
`{"name": …, "status": "UNKNOWN"}` before it awaits the task and removes it when it has found the report (the model tags
the placeholder objects `1, 2, …`; the results that replace them carry tag `0` and the status the job reported).
`Definite.Abandoned g s steps m t`: some step of the run was taken by a worker that was inside execution `t` of copy `m`
with `wait ≥ 10` — the task ended, ten sleeps of the result wait followed — while the report `(name, uid)` was still missing
among the job results: the execution was given up. -/

open I2N.Trav.GlobalN I2N.Trav.Definite in
/-- **unknown_only_inside_or_abandoned** (the invariant behind `no_unknown_at_end`).  After ANY run of real workers with
positive fuel, on every copy `m` that is not an object root: a placeholder with tag `t` exists only while some real worker
is suspended inside execution `t` of `m` (program counter `test m plain … t …`: the task is running, or the worker sleeps
waiting for the report) — or execution `t` was given up on the way (`Abandoned`), in which case the placeholder stays for
ever (`never_reported_defaults_to_error`, `abandoned_placeholder_stays`).
Hypotheses: `graphWF` (edge ends are node indices); `1 ≤ r.tag` singles out placeholders — a test that REPORTS the status
`UNKNOWN` files a definite result with that status (`reported_unknown_is_not_a_placeholder`); object roots are excluded
because their creation pre-step works on a copy of the result list (`preResults`), which `Basic` does not describe. -/
theorem unknown_only_inside_or_abandoned (g : Graph) (hwf : graphWF g = true) (ncls : Nat)
    (store : List (String × List (String × String))) (hidden : List Nat) (steps : List StepN)
    (hreal : ∀ x ∈ steps, x.1 < g.workers.length) (hfuel : ∀ x ∈ steps, 0 < x.2.2)
    (m : Nat) (hm : (g.node m).objectRoot = false) (r : Result)
    (hr : r ∈ ((runStepsN g (initState g ncls store hidden) steps).nd m).results)
    (hu : r.status = "UNKNOWN") (ht : 1 ≤ r.tag) :
    (∃ v, v < g.workers.length ∧ ∃ dir uid wait,
      ((runStepsN g (initState g ncls store hidden) steps).wd v).pc = .test m .plain dir uid r.tag wait) ∨
    Abandoned g (initState g ncls store hidden) steps m r.tag := by
  have W := GraphWF.of_bool hwf
  rcases run_placeholder W ncls store hidden steps hreal hfuel m hm r hr hu ht with h | h
  · exact Or.inl (owner_real (basic_run W steps _ (Basic.init g W ncls store hidden) hreal hfuel) h)
  · exact Or.inr h

open I2N.Trav.GlobalN I2N.Trav.Definite in
/-- **never_reported_defaults_to_error**: what the model (and `run_test_node`) does when the report never arrives.  State
`s` reachable (`ReachableR`), worker `w` inside execution `tag` of copy `n` with `wait ≥ 10` (the eleventh resumption: the
task ended at `wait = 0`, ten sleeps of 30 s followed), report `(name n, uid)` not among the job results.  Then the step
of `w` IS the continuation after a test that counts as failed — `continueAfter … ok := false`, the runner's default
`error`: `traverse_node` ends, the run decision is taken again — on the unchanged state: no result is filed, the
placeholder of `tag` STAYS in `n`'s results (all old results do), and afterwards nobody is inside execution `tag` of `n`. -/
theorem never_reported_defaults_to_error (g : Graph) (hwf : graphWF g = true) (ncls : Nat)
    (store : List (String × List (String × String))) (s : State) (hs : ReachableR g ncls store s)
    (w : Nat) (out : Outcome) (fuel : Nat) (hf : 0 < fuel) (n : Nat) (dir : Dir) (uid : String) (tag wait : Nat)
    (hpc : (s.wd w).pc = .test n .plain dir uid tag wait) (hge : 10 ≤ wait)
    (hnone : s.jobResults.find? (fun r => r.1 == (g.node n).name && r.2.1 == uid) = none) :
    resume g s w out fuel = resumeTest.continueAfter g w n .plain dir fuel s false [] ∧
    phOf (g.node n).name tag ∈ ((resume g s w out fuel).1.nd n).results ∧
    (s.nd n).results <+: ((resume g s w out fuel).1.nd n).results ∧
    ¬ Owner (resume g s w out fuel).1 n tag :=
  ⟨resume_abandon g s w out fuel hpc hge hnone,
    abandon_keeps (GraphWF.of_bool hwf) (hs.basic hwf) w out fuel hf hpc hge hnone⟩

open I2N.Trav.GlobalN I2N.Trav.Definite in
/-- **no_unknown_outside_tests**: in a state of a run in which no real worker is suspended inside a test — in particular
when all real workers are `done` (`no_unknown_at_end`) — every placeholder on a copy that is not an object root belongs to
an execution that was given up. -/
theorem no_unknown_outside_tests (g : Graph) (hwf : graphWF g = true) (ncls : Nat)
    (store : List (String × List (String × String))) (hidden : List Nat) (steps : List StepN)
    (hreal : ∀ x ∈ steps, x.1 < g.workers.length) (hfuel : ∀ x ∈ steps, 0 < x.2.2)
    (hquiet : ∀ v, v < g.workers.length → ((runStepsN g (initState g ncls store hidden) steps).wd v).pc.isTest = false)
    (m : Nat) (hm : (g.node m).objectRoot = false) (r : Result)
    (hr : r ∈ ((runStepsN g (initState g ncls store hidden) steps).nd m).results)
    (hu : r.status = "UNKNOWN") (ht : 1 ≤ r.tag) :
    Abandoned g (initState g ncls store hidden) steps m r.tag := by
  rcases unknown_only_inside_or_abandoned g hwf ncls store hidden steps hreal hfuel m hm r hr hu ht with
    ⟨v, hv, _, _, _, hp⟩ | h
  · have := hquiet v hv
    rw [hp] at this; cases this
  · exact h

open I2N.Trav.GlobalN I2N.Trav.Definite in
/-- **no_unknown_at_end.**  When all real workers are `done`: no copy (object roots aside) carries an in-flight UNKNOWN
placeholder, EXCEPT for executions whose report never arrived within the ten sleeps of the result wait (`Abandoned`); for
those the runner went on with its default `error` and left the placeholder in place (`never_reported_defaults_to_error`).
The exception is real: `abandoned_placeholder_stays`.  If every step of the run is given a status (`Reports`: whenever a
test task ends it has reported) there is no exception: `no_unknown_at_end_reported`. -/
theorem no_unknown_at_end (g : Graph) (hwf : graphWF g = true) (ncls : Nat)
    (store : List (String × List (String × String))) (hidden : List Nat) (steps : List StepN)
    (hreal : ∀ x ∈ steps, x.1 < g.workers.length) (hfuel : ∀ x ∈ steps, 0 < x.2.2)
    (hdone : ∀ v, v < g.workers.length → ((runStepsN g (initState g ncls store hidden) steps).wd v).pc = .done)
    (m : Nat) (hm : (g.node m).objectRoot = false) (r : Result)
    (hr : r ∈ ((runStepsN g (initState g ncls store hidden) steps).nd m).results)
    (hu : r.status = "UNKNOWN") (ht : 1 ≤ r.tag) :
    Abandoned g (initState g ncls store hidden) steps m r.tag :=
  no_unknown_outside_tests g hwf ncls store hidden steps hreal hfuel (fun v hv => by rw [hdone v hv]; rfl) m hm r hr hu ht

open I2N.Trav.GlobalN I2N.Trav.Definite in
/-- **no_unknown_at_end_reported.**  If every resumption is given a status (`Reports steps`: no test task ends without a
report; the status is arbitrary), no execution is ever given up, no worker ever sleeps in the result wait, and at the
end — nobody inside a test — no copy that is not an object root carries a placeholder: every `UNKNOWN` left is a status
that was reported (tag `0`). -/
theorem no_unknown_at_end_reported (g : Graph) (hwf : graphWF g = true) (ncls : Nat)
    (store : List (String × List (String × String))) (hidden : List Nat) (steps : List StepN)
    (hreal : ∀ x ∈ steps, x.1 < g.workers.length) (hfuel : ∀ x ∈ steps, 0 < x.2.2) (hrep : Reports steps)
    (hquiet : ∀ v, v < g.workers.length → ((runStepsN g (initState g ncls store hidden) steps).wd v).pc.isTest = false)
    (m : Nat) (hm : (g.node m).objectRoot = false) (r : Result)
    (hr : r ∈ ((runStepsN g (initState g ncls store hidden) steps).nd m).results) (hu : r.status = "UNKNOWN") :
    r.tag = 0 := by
  by_cases ht : 1 ≤ r.tag
  · have W := GraphWF.of_bool hwf
    exact absurd (no_unknown_outside_tests g hwf ncls store hidden steps hreal hfuel hquiet m hm r hr hu ht)
      (not_abandoned W steps _ (Basic.init g W ncls store hidden) (w0_init g ncls store hidden) hreal hfuel hrep m r.tag)
  · omega

/-- **The literal statement "no UNKNOWN result at the end" is FALSE** (in the model, and in `run_test_node`, which removes
its placeholder only inside the branch that found the report): in `runOfGRun` the report of `c` (copy 3) never arrives;
the worker ends `done`, `c` was executed once, and its only result is the placeholder (status `UNKNOWN`). -/
theorem abandoned_placeholder_stays :
    pcIsDone ((I2N.Trav.GlobalN.runStepsN gRun (initState gRun 5 []) runNOfGRun).wd 0).pc = true ∧
    ((I2N.Trav.GlobalN.runStepsN gRun (initState gRun 5 []) runNOfGRun).nd 3).results.map (fun r => (r.status, r.tag)) =
      [("UNKNOWN", 3)] ∧
    (I2N.Trav.GlobalN.runStepsN gRun (initState gRun 5 []) runNOfGRun).jobResults.map (fun r => r.1) =
      ["a.net1", "b.net1", "b.net1", "d.net1"] := gRun_run.2.1

/-- … and the theorems above apply to it: the placeholder is one of an execution that was given up -/
example : I2N.Trav.Definite.Abandoned gRun (initState gRun 5 []) runNOfGRun 3 3 :=
  no_unknown_at_end gRun (by decide) 5 [] [] runNOfGRun (by decide) (by decide)
    (by
      intro v hv
      have hv0 : v = 0 := by
        have : v < 1 := hv
        omega
      subst hv0
      exact pc_done_of_isDone abandoned_placeholder_stays.1)
    3 (by decide) ⟨"c.net1", "UNKNOWN", "", 3, 0⟩
    (by rw [gRun_run.2.2]; exact List.mem_cons_self)
    rfl (by decide)

/-- Witness that `1 ≤ r.tag` cannot be dropped: a test that REPORTS the status `UNKNOWN` files a result with that status
(tag `0`); nobody is inside that execution any more and nothing was given up. -/
theorem reported_unknown_is_not_a_placeholder :
    ((I2N.Trav.GlobalN.runStepsN gRun (initState gRun 5 []) [(0, ⟨none, 0⟩, 274), (0, ⟨some "UNKNOWN", 1⟩, 274)]).nd 1).results.map
      (fun r => (r.status, r.tag)) = [("UNKNOWN", 0)] ∧
    pcWaitOf ((I2N.Trav.GlobalN.runStepsN gRun (initState gRun 5 []) [(0, ⟨none, 0⟩, 274), (0, ⟨some "UNKNOWN", 1⟩, 274)]).wd 0).pc ≠
      some (1, 0) := by
  simp only [runStepsN_eqP, initState_hidden]
  decide +kernel

/-- non-vacuity of `unknown_only_inside_or_abandoned`: after the first step of `runOfGDuo` worker 0 is inside execution 1
of its leaf, whose only result is the placeholder -/
example : ((I2N.Trav.GlobalN.runStepsN gDuo (initState gDuo 2 []) (runOfGDuo.take 1)).nd 1).results.map
      (fun r => (r.status, r.tag)) = [("UNKNOWN", 1)] ∧
    pcWaitOf ((I2N.Trav.GlobalN.runStepsN gDuo (initState gDuo 2 []) (runOfGDuo.take 1)).wd 0).pc = some (1, 0) :=
  gDuo_run.1.2.2.2.2.1
example := unknown_only_inside_or_abandoned gDuo (by decide) 2 [] [] (runOfGDuo.take 1) (by decide) (by decide) 1 (by decide)
  ⟨"leaf.net1", "UNKNOWN", "", 1, 0⟩
  (by rw [gDuo_run.1.2.2.2.2.2]; exact List.mem_cons_self)
  rfl (by decide)
/-- non-vacuity of `no_unknown_at_end_reported`: a run of `gDuo` in which every resumption is given a status; both workers
end `done`, the class has the one result `PASS` -/
def reportedRunOfGDuo : List I2N.Trav.GlobalN.StepN :=
  [(0, ⟨some "PASS", 1⟩, 82), (1, ⟨some "PASS", 1⟩, 82), (0, ⟨some "PASS", 1⟩, 82), (1, ⟨some "PASS", 1⟩, 82)]

/-- a fair run of `gDuo` in which every resumption is given a status (150 steps, window 2) -/
def fairReportedRunOfGDuo : List I2N.Trav.GlobalN.StepN :=
  reportedRunOfGDuo ++ List.replicate 146 (0, ⟨some "PASS", 1⟩, 82)

theorem gDuo_reported_run :
    (pcIsDone ((I2N.Trav.GlobalN.runStepsN gDuo (initState gDuo 2 []) reportedRunOfGDuo).wd 0).pc = true ∧
      pcIsDone ((I2N.Trav.GlobalN.runStepsN gDuo (initState gDuo 2 []) reportedRunOfGDuo).wd 1).pc = true ∧
      ((I2N.Trav.GlobalN.runStepsN gDuo (initState gDuo 2 []) reportedRunOfGDuo).nd 1).results.map (·.status) = ["PASS"]) ∧
    I2N.Trav.Fair.FairW gDuo 2 (initState gDuo 2 []) fairReportedRunOfGDuo ∧
    I2N.Trav.Fair.bumpFreeB gDuo (initState gDuo 2 []) fairReportedRunOfGDuo = true ∧
    fairReportedRunOfGDuo.length = 150 := by decide +kernel

example : I2N.Trav.Definite.Reports reportedRunOfGDuo := by
  intro x hx
  simp only [reportedRunOfGDuo, List.mem_cons, List.not_mem_nil, or_false] at hx
  rcases hx with h | h | h | h <;> rw [h] <;> simp
example : pcIsDone ((I2N.Trav.GlobalN.runStepsN gDuo (initState gDuo 2 []) reportedRunOfGDuo).wd 0).pc = true ∧
    pcIsDone ((I2N.Trav.GlobalN.runStepsN gDuo (initState gDuo 2 []) reportedRunOfGDuo).wd 1).pc = true ∧
    ((I2N.Trav.GlobalN.runStepsN gDuo (initState gDuo 2 []) reportedRunOfGDuo).nd 1).results.map (·.status) = ["PASS"] :=
  gDuo_reported_run.1

/-! ### every selected test was run

`Definite.selected g n`: copy `n` is a test the stateless branch of `default_run_decision` decides about — not the shared
root, not a dry run, not flat, not a clone source, sets no state.  `Definite.Below g w n`: `n` is reachable from the shared
root through children that worker `w` cares for (`relevant`: flat, or `w`'s id occurs in the name) — the copies `w` is
responsible for.  Pre-parsed graphs (`initState g ncls store`, nothing hidden). -/

open I2N.Trav.Term I2N.Trav.GlobalN I2N.Trav.Definite in
/-- **all_selected_run.**  After ANY run (real workers, positive fuel, any outcomes) in which worker `w` has left through
the shared root (`done`): every selected stateless copy `n` that `w` is responsible for (`Below g w n`, `n` not the root)
has a result in its class — some copy `m` of the class of `n` (`m ∈ g.copies n`: `n` itself or a bridged copy) carries a
result `r`: the test was executed, by `w` or by a worker whose copy is bridged to `w`'s.  The worker cannot leave while a
leaf it is responsible for has no result.
Why (`Definite.DInv`, `Definite.below_done`): the loop is left only when `isCleanupReady root w`; a child class enters the
`droppedCleanup` register of a parent class for `w` only in the downward branch of the loop body after
`next.should_run(w)` said "no" and `next` was cleanup-ready for `w` (`afterTraverse`); "no" for a selected stateless copy
means `shared_results ≠ []` (`Definite.runDecision_false_selected`); registers and non-empty result lists only grow.  So
readiness of the root descends along `Below`.
Hypotheses: `graphWF`; `edgeSymB` (technical: the path invariant `PInv` — the tested node is `w`'s own copy — is proved for
edge-symmetric graphs); `classInjB g w` — two copies of one class that both concern `w` are equal: the registers are per
CLASS, so with two such copies "dropped" would not say WHICH copy was decided about (no parser builds that; same
hypothesis as `dry_run_terminates`); `done` — a worker that is still inside or died (`failed`) has run nothing yet / leaves
its leaves unrun (`nothing_run_before_the_end`).  Stateful copies (`sets ≠ []`) are not covered: their decision goes by the
state scan, and "not run" then means "the state exists" (C01). -/
theorem all_selected_run (g : Graph) (hwf : graphWF g = true) (hsym : edgeSymB g = true) (ncls : Nat)
    (store : List (String × List (String × String))) (steps : List StepN)
    (hreal : ∀ x ∈ steps, x.1 < g.workers.length) (hfuel : ∀ x ∈ steps, 0 < x.2.2)
    (w : Nat) (hinj : classInjB g w = true)
    (hdone : ((runStepsN g (initState g ncls store) steps).wd w).pc = .done)
    (n : Nat) (hb : Below g w n) (hn : n ≠ g.root) (hsel : selected g n = true) :
    ∃ m r, m ∈ g.copies n ∧ r ∈ ((runStepsN g (initState g ncls store) steps).nd m).results := by
  have d := dinv_run hwf (edgeSymB_sound hsym) ncls store steps _ (.init []) (.init []) (DInv.init g ncls store) hreal hfuel
  have h := (below_done (GraphWF.of_bool hwf) d w (classInjB_sound hinj) (d.done w hdone) n hb).2 hn hsel
  obtain ⟨r, hr⟩ := List.exists_mem_of_ne_nil _ h
  obtain ⟨m, hm, hr'⟩ := List.mem_flatMap.mp hr
  exact ⟨m, r, hm, hr'⟩

/-- `done` cannot be dropped from `all_selected_run` (trivially): before the end nothing need have run — in the initial
state of `gDuo` the leaf of worker 0 is selected, below the root, and no copy of its class has a result -/
theorem nothing_run_before_the_end :
    I2N.Trav.Definite.selected gDuo 1 = true ∧ sharedResults gDuo (initState gDuo 2 []) 1 = [] ∧
    pcIsDone ((initState gDuo 2 []).wd 0).pc = false := by decide

/-- non-vacuity: in `gDuo` the leaves 1 (worker 0) and 2 (worker 1) are selected and below the root for their workers; after
`fairRunOfGDuo` both workers are done.  Worker 1 never executed its own copy: the result is on worker 0's copy of the class. -/
example : I2N.Trav.Term.classInjB gDuo 0 = true ∧ I2N.Trav.Term.classInjB gDuo 1 = true ∧ I2N.Trav.Definite.selected gDuo 1 = true ∧
    I2N.Trav.Definite.selected gDuo 2 = true ∧
    ((I2N.Trav.GlobalN.runStepsN gDuo (initState gDuo 2 []) fairRunOfGDuo).nd 2).results = [] ∧
    ((I2N.Trav.GlobalN.runStepsN gDuo (initState gDuo 2 []) fairRunOfGDuo).nd 1).results.map (·.status) = ["PASS"] :=
  gDuo_run.2.1.2.2.1
example := all_selected_run gDuo (by decide) (by decide) 2 [] fairRunOfGDuo gDuo_run.2.1.2.2.2.1 (by decide +kernel) 1
  gDuo_run.2.1.2.2.1.2.1 (pc_done_of_isDone gDuo_run.2.1.2.1.2)
  2 (.child ["vm1"] .root (by decide) (by decide)) (by decide) gDuo_run.2.1.2.2.1.2.2.2.1

open I2N.Trav.Term I2N.Trav.Global I2N.Trav.GlobalN I2N.Trav.Fair I2N.Trav.Definite in
/-- **done_run_has_definite_results** (`_partial`: the hypotheses of `multi_worker_terminates_fair_partial`).  Pre-parsed
acyclic graph without object roots, class hypotheses `classesOKB`, any number of workers, any outcomes, `fuel ≥ bound g`,
no bump, FAIR with window `K ≥ 1`; `classInjB` for every real worker.  After ANY such run of at least
`(24·Σ_n max(max_tries n, 1) + |workers| + 1)·K` resumes: some worker is `failed`, or all workers are `done` and
(1) every selected stateless copy a worker is responsible for has a result in its class (`all_selected_run`), and
(2) every UNKNOWN placeholder left anywhere belongs to an execution whose report never arrived (`no_unknown_at_end`).
If moreover every resumption is given a status (`Reports`), (2) becomes: no placeholder is left — every result of the
run is a definite one (`done_run_has_definite_results_reported`). -/
theorem done_run_has_definite_results_partial (g : Graph) (hr : rankedB g = true) (hsym : edgeSymB g = true)
    (hflat : noFlatB g = true) (hwf : graphWF g = true) (ncls : Nat)
    (hcls : ∀ n, n < g.nodes.length → (g.node n).cls < ncls) (hroots : noRootsB g = true) (hcl : classesOKB g = true)
    (hinj : ∀ w, w < g.workers.length → classInjB g w = true)
    (store : List (String × List (String × String))) (K : Nat) (hK : 0 < K) (steps : List StepN)
    (hreal : ∀ x ∈ steps, x.1 < g.workers.length) (hfuel : ∀ x ∈ steps, bound g ≤ x.2.2)
    (hcalm : BumpFree g (initState g ncls store) steps) (hfair : FairW g K (initState g ncls store) steps)
    (hlen : (24 * resultBound g + g.workers.length + 1) * K ≤ steps.length) :
    (∃ v, v < g.workers.length ∧ ((runStepsN g (initState g ncls store) steps).wd v).pc = .failed) ∨
    ((∀ v, v < g.workers.length → ((runStepsN g (initState g ncls store) steps).wd v).pc = .done) ∧
     (∀ w, w < g.workers.length → ∀ n, Below g w n → n ≠ g.root → selected g n = true →
        ∃ m r, m ∈ g.copies n ∧ r ∈ ((runStepsN g (initState g ncls store) steps).nd m).results) ∧
     (∀ m, ∀ r ∈ ((runStepsN g (initState g ncls store) steps).nd m).results, r.status = "UNKNOWN" → 1 ≤ r.tag →
        Abandoned g (initState g ncls store) steps m r.tag)) := by
  have hfuel' : ∀ x ∈ steps, 0 < x.2.2 := fun x hx => Nat.lt_of_lt_of_le (bound_pos g) (hfuel x hx)
  rcases multi_worker_terminates_fair_partial g hr hsym hflat hwf ncls hcls hroots hcl store K hK steps hreal hfuel hcalm
    hfair hlen with hd | hf
  · right
    refine ⟨hd, fun w hw n hb hn hsel => ?_, fun m r hr hu ht => ?_⟩
    · exact all_selected_run g hwf hsym ncls store steps hreal hfuel' w (hinj w hw) (hd w hw) n hb hn hsel
    · exact no_unknown_at_end g hwf ncls store [] steps hreal hfuel' hd m (noRoots_spec hroots m) r hr hu ht
  · exact Or.inl hf

open I2N.Trav.Term I2N.Trav.Global I2N.Trav.GlobalN I2N.Trav.Fair I2N.Trav.Definite in
/-- **done_run_has_definite_results_reported**: the same when every resumption is given a status — at the end of every
sufficiently long fair run some worker is `failed`, or every selected stateless copy a worker is responsible for has, in
its class, a DEFINITE result (not a placeholder: status `UNKNOWN` only if that is what the test reported). -/
theorem done_run_has_definite_results_reported_partial (g : Graph) (hr : rankedB g = true) (hsym : edgeSymB g = true)
    (hflat : noFlatB g = true) (hwf : graphWF g = true) (ncls : Nat)
    (hcls : ∀ n, n < g.nodes.length → (g.node n).cls < ncls) (hroots : noRootsB g = true) (hcl : classesOKB g = true)
    (hinj : ∀ w, w < g.workers.length → classInjB g w = true)
    (store : List (String × List (String × String))) (K : Nat) (hK : 0 < K) (steps : List StepN)
    (hreal : ∀ x ∈ steps, x.1 < g.workers.length) (hfuel : ∀ x ∈ steps, bound g ≤ x.2.2)
    (hcalm : BumpFree g (initState g ncls store) steps) (hfair : FairW g K (initState g ncls store) steps)
    (hlen : (24 * resultBound g + g.workers.length + 1) * K ≤ steps.length) (hrep : Reports steps) :
    (∃ v, v < g.workers.length ∧ ((runStepsN g (initState g ncls store) steps).wd v).pc = .failed) ∨
    (∀ w, w < g.workers.length → ∀ n, Below g w n → n ≠ g.root → selected g n = true →
        ∃ m r, m ∈ g.copies n ∧ r ∈ ((runStepsN g (initState g ncls store) steps).nd m).results ∧
          (r.status = "UNKNOWN" → r.tag = 0)) := by
  have hfuel' : ∀ x ∈ steps, 0 < x.2.2 := fun x hx => Nat.lt_of_lt_of_le (bound_pos g) (hfuel x hx)
  rcases done_run_has_definite_results_partial g hr hsym hflat hwf ncls hcls hroots hcl hinj store K hK steps hreal hfuel
    hcalm hfair hlen with hf | ⟨hd, h1, _⟩
  · exact Or.inl hf
  · right
    intro w hw n hb hn hsel
    obtain ⟨m, r, hm, hr'⟩ := h1 w hw n hb hn hsel
    exact ⟨m, r, hm, hr', fun hu => no_unknown_at_end_reported g hwf ncls store [] steps hreal hfuel' hrep
      (fun v hv => by rw [hd v hv]; rfl) m (noRoots_spec hroots m) r hr' hu⟩

/-- non-vacuity of `done_run_has_definite_results_partial`: `fairRunOfGDuo` meets the hypotheses -/
example := done_run_has_definite_results_partial gDuo (by decide) (by decide) (by decide) (by decide) 2 (by decide)
  (by decide) (by decide +kernel)
  (by
    intro w hw
    have : w = 0 ∨ w = 1 := by
      have : w < 2 := hw
      omega
    rcases this with h | h <;> rw [h]
    · exact gDuo_run.2.1.2.2.1.1
    · exact gDuo_run.2.1.2.2.1.2.1)
  [] 2 (by decide) fairRunOfGDuo gDuo_run.2.1.2.2.2.1 gDuo_run.2.1.2.2.2.2.1
  (I2N.Trav.Fair.bumpFree_of_B _ _ _ gDuo_run.2.1.1.2.1) gDuo_run.2.1.1.1 gDuo_run.2.1.2.2.2.2.2

example : I2N.Trav.Fair.FairW gDuo 2 (initState gDuo 2 []) fairReportedRunOfGDuo ∧
    I2N.Trav.Fair.bumpFreeB gDuo (initState gDuo 2 []) fairReportedRunOfGDuo = true ∧
    fairReportedRunOfGDuo.length = 150 := gDuo_reported_run.2
example : I2N.Trav.Definite.Reports fairReportedRunOfGDuo := by
  intro x hx
  unfold fairReportedRunOfGDuo reportedRunOfGDuo at hx
  rcases List.mem_append.mp hx with h | h
  · simp only [List.mem_cons, List.not_mem_nil, or_false] at h
    rcases h with h | h | h | h <;> rw [h] <;> simp
  · rw [List.eq_of_mem_replicate h]; simp

end I2N.Props.C02

/-! ## Translator tie: `is_unrolled`, `should_parse` and the one-line atoms are the Python source (`harness/pygen_pxloc.py`)

`Extracted/GenLazy.lean` is regenerated on every run from the CURRENT source of `TestNode.is_unrolled`, `should_parse`,
`is_flat`, `is_shared_root`, `is_object_root`, `get_stateful_objects` (avocado_i2n/cartgraph/node.py).  Atoms (trusted,
the table is the docstring of `harness/pygen_pxloc.py`): a node / worker is its index; `self.incompatible_workers` = the
workers `w` with `(f, w)` in `State.incompatible`; `self.cleanup_nodes` = the children in dictionary order;
`self.setless_form`, `node.id`, `worker.id` = `Node.setless`, `Graph.nodeId`, `Worker.id` (the two substring tests are
TRANSLATED, with the model's `strIn`); `self.shared_involved_workers` = `involved` (a set, iterated for an existence
test). -/
namespace I2N.Props.C02
open I2N.Trav
open I2N.Extracted.GenLazy

/-- **The hand written `isUnrolled` is the Python source of `is_unrolled`** on every node the Python accepts (the shared
root and flat nodes), for every visible graph, state, node and worker argument (`none` = "for any worker"): the order
of the tests (shared root first, then the incompatible workers, then the search among the children), the two
substring tests `setless_form in node.id` and `worker.id in node.id`, the `worker is None` alternative.  For a node
that is neither the shared root nor flat the source raises `RuntimeError` — a path the model does not have (its callers
`unexploredNodes`, `prepare`, `shouldParse` ask flat nodes only); the theorem states that too.  No hypotheses. -/
theorem isUnrolled_matches_source (gv : Graph) (s : State) (f : Nat) (w : Option Nat) :
    genIsUnrolled (gv.node f).sharedRoot (gv.node f).flat w ((s.incompatible.filter (·.1 == f)).map (·.2))
        ((gv.node f).cleanup.map (·.1)) (gv.node f).setless gv.nodeId (fun v => (gv.worker v).id) =
      if (gv.node f).sharedRoot || (gv.node f).flat then .ok (isUnrolled gv s f w) else .error "RuntimeError" := by
  rw [I2N.GenLazy.genIsUnrolled_eq, isUnrolled]
  have h1 := I2N.GenLazy.incompatOf_contains s f
  have h2 := I2N.GenLazy.incompatOf_isEmpty s f
  unfold I2N.GenLazy.incompatOf at h1 h2
  cases (gv.node f).sharedRoot <;> cases (gv.node f).flat <;> cases w <;>
    simp only [h1, h2, Bool.false_or, Bool.true_or, Bool.or_false, Bool.or_true, if_true, if_false, Bool.not_true,
      Bool.not_false, Bool.false_eq_true]

/-- the generated `is_unrolled` computes: a composite node raises; the shared root is unrolled; a flat node is unrolled
for a worker when a child carries both the setless form and the worker's id, or the worker is recorded as incompatible;
for nobody in particular as soon as one child carries the setless form -/
example :
    genIsUnrolled false false none [] [] "" (fun _ => "") (fun _ => "") = .error "RuntimeError" ∧
    genIsUnrolled true false none [] [] "" (fun _ => "") (fun _ => "") = .ok true ∧
    genIsUnrolled false true (some 1) [] [5, 6] "tutorial1" (fun c => if c == 5 then "1-net1.tutorial1" else "2-net2.other")
      (fun v => if v == 1 then "net1" else "net2") = .ok true ∧
    genIsUnrolled false true (some 2) [] [5, 6] "tutorial1" (fun c => if c == 5 then "1-net1.tutorial1" else "2-net2.other")
      (fun v => if v == 1 then "net1" else "net2") = .ok false ∧
    genIsUnrolled false true (some 2) [2] [5, 6] "tutorial1" (fun c => if c == 5 then "1-net1.tutorial1" else "2-net2.other")
      (fun v => if v == 1 then "net1" else "net2") = .ok true ∧
    genIsUnrolled false true none [] [5, 6] "tutorial1" (fun c => if c == 5 then "1-net1.tutorial1" else "2-net2.other")
      (fun v => if v == 1 then "net1" else "net2") = .ok true ∧
    genIsUnrolled false true none [] [6] "tutorial1" (fun c => if c == 5 then "1-net1.tutorial1" else "2-net2.other")
      (fun v => if v == 1 then "net1" else "net2") = .ok false := ⟨rfl, rfl, rfl, rfl, rfl, rfl, rfl⟩

/-- **The hand written `shouldParse` is the Python source of `should_parse`**: the loop over the involved workers and
the three-part test (`is_unrolled(v) and is_cleanup_ready(v) and len(v.restrs) == 0`) that answers `False` at the first
such worker, `True` otherwise — for every visible graph, state and flat node.  Hypothesis `hr`: the restriction lists
given to the generated function are empty exactly for the workers the model calls unrestricted (the model keeps one bit
per worker, `Worker.restricted`; it excludes nothing: `example` below). -/
theorem shouldParse_matches_source (gv : Graph) (s : State) (f : Nat) (restrs : Nat → List String)
    (hr : ∀ v, (restrs v).isEmpty = !(gv.worker v).restricted) :
    shouldParse gv s f =
      genShouldParse (involved gv s f) (fun v => isUnrolled gv s f (some v)) (fun v => isCleanupReady gv s f v) restrs := by
  rw [I2N.GenLazy.genShouldParse_eq, shouldParse]
  simp only [hr]

/-- non-vacuity of `hr`: for every graph there are such lists -/
example (gv : Graph) : ∀ v, ((fun v => if (gv.worker v).restricted then ["only x"] else []) v).isEmpty
    = !(gv.worker v).restricted := by
  intro v; cases h : (gv.worker v).restricted <;> simp [h]

/-- the generated `should_parse` computes: parse unless an involved, unrestricted worker has the node unrolled and
cleanup ready -/
example :
    genShouldParse [0, 1] (fun v => v == 1) (fun _ => true) (fun _ => []) = false ∧
    genShouldParse [0, 1] (fun v => v == 1) (fun _ => true) (fun v => if v == 1 then ["only x"] else []) = true ∧
    genShouldParse [0] (fun v => v == 1) (fun _ => true) (fun _ => []) = true ∧
    genShouldParse [] (fun _ => true) (fun _ => true) (fun _ => []) = true := by decide

/-- **The one-line atoms are their source**: `is_flat()` = "the node has no test objects", `is_shared_root()` = the
Boolean parameter `shared_root` with default `False`, `is_object_root()` = "`object_root` is a parameter key",
`get_stateful_objects(do)` = the objects with a true `<do>_state`, in object order.  These are what the exported fields
`Node.flat`, `Node.sharedRoot`, `Node.objectRoot`, `Node.sets` / `Node.gets` stand for (the atoms `flat`, `sharedRoot`
of the other specs); the export (`harness/travlib.py`) calls the real methods.  No hypotheses. -/
theorem one_line_atoms_match_source (objects : List String) (getBoolean : String → Bool → Bool) (paramKeys : List String)
    (kind : String) (objs : List Nat) (hasState : String → Nat → Bool) :
    genIsFlat objects = objects.isEmpty ∧
    genIsSharedRoot getBoolean = getBoolean "shared_root" false ∧
    genIsObjectRoot paramKeys = paramKeys.contains "object_root" ∧
    genGetStatefulObjects kind objs hasState = objs.filter (hasState kind) :=
  ⟨I2N.GenLazy.genIsFlat_eq objects, rfl, rfl, I2N.GenLazy.genGetStatefulObjects_eq kind objs hasState⟩

end I2N.Props.C02
