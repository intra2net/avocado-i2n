import I2N.Lemmas.Graph
import I2N.Lemmas.GraphResolve
import I2N.Lemmas.GraphComplete
/-!
# C06 — The parsed dependency graph is well formed

Part 1 (this section): the verified checker.  `Graph.wellFormed` is the function the compiled driver
`drv_graph` runs on every graph extracted from a real `TestGraph`; the theorems below say what an `ok`
means (`WF`, for graphs of any size and paths of any length) and that the witnesses printed for a failure
are genuine.
-/
namespace I2N.Props.C06
open I2N.Graph

/-- The checker is sound: an accepted graph is well formed in the sense of C06 — unique identities, every
dependency inside the graph and recorded on both ends, no cycle of any length, exactly one starting node (the
shared root) which every node reaches, exactly one same-worker/same-variant producer of exactly the required
state per required object state, one net and the parameters' vms per test, clone sources never runnable. -/
theorem wellFormed_sound (g : Graph) (h : g.wellFormed = true) : WF g :=
  I2N.Graph.wellFormed_sound g h

/-- Acyclicity needs nothing about how the rank was found: *any* labelling that strictly decreases along every
setup edge excludes cycles of every length. -/
theorem acyclic_of_rank (g : Graph) (rank : List Nat) (h : g.rankOK rank = true) : ∀ n, ¬ g.Reach n n :=
  rankOK_acyclic g rank h

/-- Along every setup path (any length) the rank strictly decreases — so the rank also bounds path lengths. -/
theorem rank_strictly_decreases (g : Graph) (rank : List Nat) (h : g.rankOK rank = true) (c a : Nat)
    (hr : g.Reach c a) : rank.getD a 0 < rank.getD c 0 :=
  rank_decreases g rank h c a hr

/-- Every node of an accepted graph other than the root has the root among its ancestors, and the root is the
only node without setup. -/
theorem reachable_from_single_root (g : Graph) (h : g.wellFormed = true) :
    ∃ r, r < g.size ∧ (∀ i, i < g.size → (g.parents i = [] ↔ i = r)) ∧
      ∀ i, i < g.size → i ≠ r → g.Reach i r := by
  obtain ⟨r, h1, h2, h3, _⟩ := (I2N.Graph.wellFormed_sound g h).single_root
  exact ⟨r, h1, h2, h3⟩

/-- In an accepted graph the two records of a dependency agree, so "reachable from the root along cleanup
edges" and "reaches the root along setup edges" are the same relation. -/
theorem edges_symmetric (g : Graph) (h : g.wellFormed = true) (e : Edge) : e ∈ g.setup ↔ e ∈ g.cleanup :=
  (I2N.Graph.wellFormed_sound g h).symmetric e

/-- Exactly one producer: the list of parents providing a required object state has length one (none missing,
none duplicated) and that parent is of the same worker, has the same object variant and provides exactly the
required state, or is the object's creation node. -/
theorem unique_producer (g : Graph) (h : g.wellFormed = true) (c : Nat) (n : Node)
    (hn : g.nodes[c]? = some n) (hf : n.flat = false) (hs : n.cloneSource = false)
    (o : Obj) (ho : o ∈ n.objs) (hg : o.get ≠ "") :
    ∃ p pn, g.parentsVia c o.oid = [p] ∧ g.nodes[p]? = some pn ∧ ProducerOK n.worker o pn :=
  (I2N.Graph.wellFormed_sound g h).unique_producer c n hn hf hs o ho hg

/-- Sources of clones are never runnable: the guard shared by the run, clean and rerun decisions is false. -/
theorem clone_sources_not_runnable (n : Node) (h : n.cloneSource = true) : n.mayRun = false := by
  simp [Node.mayRun, h]

/-! ### the failing direction: printed witnesses are genuine -/

/-- a closed walk accepted by `isCycle` is a cycle, hence the graph is not well formed -/
theorem cycle_witness_genuine (g : Graph) (a : Nat) (l : List Nat) (h : g.isWalk (a :: l ++ [a]) = true) :
    ¬ WF g :=
  fun wf => wf.acyclic a (isWalk_reach g l a a h)

/-- a reported duplicate identity is one -/
theorem duplicate_witness_genuine (g : Graph) (x : String)
    (h : findDuplicateId (g.nodes.map (·.id)) = some x) : ¬ WF g :=
  fun wf => findDuplicateId_sound _ x h wf.ids_nodup

/-- a reported one-sided edge is one -/
theorem asymmetric_witness_genuine (g : Graph) (k : String) (e : Edge)
    (h : g.findAsymmetricEdge = some (k, e)) : ¬ WF g :=
  fun wf => findAsymmetricEdge_sound g k e h wf.symmetric

/-! ### non-vacuity -/

/-- a leaf depending on the install node of its image, which hangs under the shared root -/
def demo : Graph :=
  { nodes := [
      { id := "1-leaf", worker := "net1", flat := false, sharedRoot := false, objectRoot := "", cloneSource := false,
        paramNets := ["net1"], paramVms := ["vm1"],
        objs := [⟨"nets", "net1", "N", "", "0root", ""⟩, ⟨"vms", "vm1", "V", "", "0root", ""⟩,
                 ⟨"images", "image1_vm1", "I", "install", "install", ""⟩] },
      { id := "1a1-install", worker := "net1", flat := false, sharedRoot := false, objectRoot := "I",
        cloneSource := false, paramNets := ["net1"], paramVms := ["vm1"],
        objs := [⟨"nets", "net1", "N", "", "0root", ""⟩, ⟨"vms", "vm1", "V", "", "", ""⟩,
                 ⟨"images", "image1_vm1", "I", "", "0root", "install"⟩] },
      { id := "1-noop", worker := "", flat := true, sharedRoot := true, objectRoot := "", cloneSource := false,
        paramNets := [], paramVms := [], objs := [] }],
    setup := [⟨0, 1, "I"⟩, ⟨1, 2, "I"⟩],
    cleanup := [⟨0, 1, "I"⟩, ⟨1, 2, "I"⟩] }

example : demo.wellFormed = true := by decide +kernel
example : WF demo := wellFormed_sound demo (by decide +kernel)
/-- the same graph with a back edge is rejected, and the printed witness is a checked cycle -/
example : ({ demo with setup := demo.setup ++ [⟨1, 0, "I"⟩], cleanup := demo.cleanup ++ [⟨1, 0, "I"⟩] } : Graph).wellFormed
    = false := by decide +kernel
example : ({ demo with setup := demo.setup ++ [⟨1, 0, "I"⟩] } : Graph).isCycle [0, 1, 0] = true := by decide +kernel
/-- dropping the producer edge of the leaf is rejected by the producer clause -/
example : ({ demo with setup := [⟨1, 2, "I"⟩, ⟨0, 2, "I"⟩], cleanup := [⟨1, 2, "I"⟩, ⟨0, 2, "I"⟩] } : Graph).checkProducers
    = false := by decide +kernel


/-!
# Part 2: the resolver's graphs are well formed

The same clauses for `I2N.Resolve.resolve`, the specification graph the implementation's graph is compared with
(C07): for every suite whose declared producer relation is acyclic (`RankOK`: some rank on the tests strictly
decreases along every `get` declaration), every selection, restrictions and worker set.
-/
section resolver
open I2N.Resolve

/-- acyclic, for paths of any length -/
theorem resolve_acyclic (S : Suite) (user : List (String × VLine)) (sel : List RLine) (ws : List Worker)
    (rk : Name → Nat) (hrk : RankOK S rk) : ∀ x, ¬ RReach (resolve S user sel ws) x x := by
  intro x hx
  have hedge : ∀ e ∈ (resolve S user sel ws).edges, rk e.parent.test < rk e.child.test := by
    intro e he
    obtain ⟨w, _, hew⟩ := (mem_resolve_edges S user sel ws e).mp he
    exact worker_edge_rank S user sel w rk hrk e hew
  exact Nat.lt_irrefl _ (rreach_rank _ rk hedge x x hx)

/-- no worker's copy contains a node twice; with distinct worker names neither does the whole graph contain a
(worker, node) pair of one worker in another's copy -/
theorem resolve_ids_nodup (S : Suite) (user : List (String × VLine)) (sel : List RLine) (w : Worker) :
    ((resolveWorker S user sel w).nodes.map (·.inst)).Nodup :=
  worker_nodes_inst S user sel w ▸ nodup_dedup _

/-- every dependency connects two nodes of the same worker's copy (recorded once: the resolver's single edge list
is both the setup and the cleanup record) -/
theorem resolve_edges_in_graph (S : Suite) (user : List (String × VLine)) (sel : List RLine) (w : Worker)
    (e : GEdge) (he : e ∈ (resolveWorker S user sel w).edges) :
    (∃ n ∈ (resolveWorker S user sel w).nodes, n.inst.key = e.child ∧ n.worker = e.worker) ∧
    (∃ n ∈ (resolveWorker S user sel w).nodes, n.inst.key = e.parent ∧ n.worker = e.worker) :=
  worker_edge_ends S user sel w e he

/-- unique producer: a resolved node has exactly one parent per declared object slot the configuration has a
producer for, none for the others (the parent tags are the filtered slot tags, in order), and that parent is an
instance of a declared producer composed on the node's own variant of the object's vm — see
`I2N.Props.C07.parents_sound` / `producer_same_variant` for the second half -/
theorem resolve_unique_producer (S : Suite) (allow : String → List String) (f : Nat) (t : Test) (asg : Asg)
    (i : Inst) (hi : i ∈ insts S allow (f + 1) t asg)
    (hslots : ((instSlots t asg).map (fun s => (s.vm, s.kind))).Nodup) :
    i.parents.map tag =
      ((instSlots t asg).filter (fun s => !(prods S allow f asg s).isEmpty)).map (fun s => (s.vm, s.kind)) ∧
    (i.parents.map tag).Nodup :=
  ⟨insts_parent_tags S allow f t asg i hi, insts_parent_tags_nodup S allow f t asg i hi hslots⟩

/-- one net: every node of the graph belongs to exactly the one worker whose copy it is in, and so do its edges -/
theorem resolve_one_net (S : Suite) (user : List (String × VLine)) (sel : List RLine) (ws : List Worker)
    (n : GNode) (hn : n ∈ (resolve S user sel ws).nodes) : ∃ w ∈ ws, n.worker = w.name := by
  obtain ⟨w, hw, hnw⟩ := (mem_resolve_nodes S user sel ws n).mp hn
  exact ⟨w, hw, ((mem_worker_nodes S user sel w n).mp hnw).1⟩

/-- non-vacuity: the demo suite (a creation test, a two-producer group, a dependant of the whole group, a leaf) has
a rank, so all of the above applies to it -/
example : RankOK Demo.demo Demo.rk := by unfold RankOK; decide +kernel
example : ∀ x, ¬ RReach (resolve Demo.demo [] [⟨false, [[["leaves"]]]⟩] [⟨"net1", []⟩, ⟨"net2", []⟩]) x x :=
  resolve_acyclic _ _ _ _ Demo.rk (by unfold RankOK; decide +kernel)
example : (resolve Demo.demo [] [⟨false, [[["leaves"]]]⟩] [⟨"net1", []⟩, ⟨"net2", []⟩]).nodes.length = 28 := by decide +kernel

end resolver

end I2N.Props.C06


/-!
# Part 3: the checker is complete — an exact decision procedure

`wellFormed_sound` says what an `ok` means.  The theorems below say what a `fail` means: the checker rejects a
graph only if the graph violates C06 as the checker states it (`WF'`), for graphs of any size.  `WF'` is `WF` plus
three demands the checker makes and `WF` does not state (net object first, no node its own clone, every flagged
clone source has a clone); that `WF` alone does *not* imply acceptance is proved on three concrete graphs.
-/
namespace I2N.Props.C06
open I2N.Graph

/-- `WF'` is stronger than `WF`. -/
theorem WF'_implies_WF (g : Graph) (h : WF' g) : WF g := h.toWF

/-- Completeness of the checker: every graph that is well formed in the sense of `WF'` (the clauses of `WF`, the
net object being the first object of every composite node, no node recorded as its own clone, every node flagged
as clone source having a recorded clone) is accepted — any number of nodes and edges, in particular the rank
computed by `size` relaxation rounds does strictly decrease along every edge of every acyclic graph. -/
theorem wellFormed_complete (g : Graph) (h : WF' g) : g.wellFormed = true := wellFormed_complete' g h

/-- The checker decides `WF'` exactly. -/
theorem wellFormed_iff (g : Graph) : g.wellFormed = true ↔ WF' g := wellFormed_iff' g

/-- A rejection by the Lean checker alone proves that the graph violates C06 (as stated by `WF'`). -/
theorem rejected_not_WF' (g : Graph) (h : g.wellFormed = false) : ¬ WF' g :=
  fun wf => Bool.noConfusion ((wellFormed_complete g wf).symm.trans h)

/-- A rejected graph violates `WF` itself unless the rejection is for one of the three extra demands. -/
theorem rejected_not_WF_or_extra (g : Graph) (h : g.wellFormed = false) :
    ¬ WF g ∨
    ¬ (∀ n ∈ g.nodes, n.flat = false → ∃ o rest, n.objs = o :: rest ∧ o.key = "nets") ∨
    ¬ (∀ sc ∈ g.clones, sc.1 ≠ sc.2) ∨
    ¬ (∀ i n, g.nodes[i]? = some n → n.cloneSource = true → ∃ sc ∈ g.clones, sc.1 = i) := by
  refine Classical.byContradiction fun hn => ?_
  simp only [not_or, Classical.not_not] at hn
  exact rejected_not_WF' g h ⟨hn.1, hn.2.1, hn.2.2.1, hn.2.2.2⟩

/-- Completeness of the acyclicity clause on its own: if every setup edge connects two nodes of the graph and no
node is its own proper ancestor (paths of any length), then the rank computed by `size` relaxation rounds from
all-zero strictly decreases along every setup edge.  (The relaxation converges within `size` rounds on a DAG: a
value still rising in round `k+1` starts a walk of `k+1` edges, and an acyclic graph has no walk of `size` edges.) -/
theorem checkAcyclic_complete (g : Graph)
    (hr : ∀ e ∈ g.setup, e.child < g.size ∧ e.parent < g.size) (hac : ∀ n, ¬ g.Reach n n) :
    g.checkAcyclic = true := I2N.Graph.checkAcyclic_complete g hr hac

/-- the acyclicity clause decides acyclicity on graphs with in-range edges -/
theorem checkAcyclic_iff (g : Graph) (hr : ∀ e ∈ g.setup, e.child < g.size ∧ e.parent < g.size) :
    g.checkAcyclic = true ↔ ∀ n, ¬ g.Reach n n := I2N.Graph.checkAcyclic_iff g hr

/-- the in-range hypothesis of `checkAcyclic_complete` cannot be dropped: an edge from outside the graph has no
rank to decrease from -/
example : (∀ n, ¬ ({ nodes := [], setup := [⟨0, 1, "I"⟩], cleanup := [] } : Graph).Reach n n) ∧
    ({ nodes := [], setup := [⟨0, 1, "I"⟩], cleanup := [] } : Graph).checkAcyclic = false := by
  refine ⟨rankOK_acyclic _ [1, 0] (by decide +kernel), by decide +kernel⟩

/-- A graph rejected by the acyclicity clause (its edges being in range) has a cycle. -/
theorem rejected_has_cycle (g : Graph) (hrg : g.checkRange = true) (hac : g.checkAcyclic = false) :
    ∃ n, g.Reach n n := cycle_of_rejected g hrg hac

/-- The remaining clauses are decided exactly, each by its own statement. -/
theorem clauses_iff (g : Graph) :
    (g.checkIds = true ↔ (g.nodes.map (·.id)).Nodup) ∧
    (g.checkRange = true ↔
      (∀ e ∈ g.setup, e.child < g.size ∧ e.parent < g.size ∧ e.child ≠ e.parent) ∧
      (∀ e ∈ g.cleanup, e.child < g.size ∧ e.parent < g.size)) ∧
    (g.checkSymmetric = true ↔ ∀ e, e ∈ g.setup ↔ e ∈ g.cleanup) ∧
    (g.checkRoot = true ↔ g.RootOK) ∧
    (g.checkProducers = true ↔ g.ProducersOK) ∧
    (g.checkEdgeObjects = true ↔ g.EdgeObjectsOK) ∧
    (g.checkObjects = true ↔ ∀ n ∈ g.nodes, n.ObjectsOK) ∧
    (g.checkClones = true ↔ g.ClonesOK) :=
  ⟨checkIds_iff g, checkRange_iff g, checkSymmetric_iff g, checkRoot_iff g, checkProducers_iff g,
   checkEdgeObjects_iff g, checkObjects_iff g, checkClones_iff g⟩

/-! ### `WF` alone does not imply acceptance: the three gaps, each on a concrete graph -/

/-- `demo` with the vm object of the leaf listed before its net object -/
def demoNetSecond : Graph :=
  { demo with nodes := [
      { id := "1-leaf", worker := "net1", flat := false, sharedRoot := false, objectRoot := "", cloneSource := false,
        paramNets := ["net1"], paramVms := ["vm1"],
        objs := [⟨"vms", "vm1", "V", "", "0root", ""⟩, ⟨"nets", "net1", "N", "", "0root", ""⟩,
                 ⟨"images", "image1_vm1", "I", "install", "install", ""⟩] },
      { id := "1a1-install", worker := "net1", flat := false, sharedRoot := false, objectRoot := "I",
        cloneSource := false, paramNets := ["net1"], paramVms := ["vm1"],
        objs := [⟨"nets", "net1", "N", "", "0root", ""⟩, ⟨"vms", "vm1", "V", "", "", ""⟩,
                 ⟨"images", "image1_vm1", "I", "", "0root", "install"⟩] },
      { id := "1-noop", worker := "", flat := true, sharedRoot := true, objectRoot := "", cloneSource := false,
        paramNets := [], paramVms := [], objs := [] }] }

/-- `demo` with the leaf flagged as a clone source; `clones` is supplied by the two variants below -/
def demoFlagged (clones : List (Nat × Nat)) : Graph :=
  { demo with
    nodes := [
      { id := "1-leaf", worker := "net1", flat := false, sharedRoot := false, objectRoot := "", cloneSource := true,
        paramNets := ["net1"], paramVms := ["vm1"],
        objs := [⟨"nets", "net1", "N", "", "0root", ""⟩, ⟨"vms", "vm1", "V", "", "0root", ""⟩,
                 ⟨"images", "image1_vm1", "I", "install", "install", ""⟩] },
      { id := "1a1-install", worker := "net1", flat := false, sharedRoot := false, objectRoot := "I",
        cloneSource := false, paramNets := ["net1"], paramVms := ["vm1"],
        objs := [⟨"nets", "net1", "N", "", "0root", ""⟩, ⟨"vms", "vm1", "V", "", "", ""⟩,
                 ⟨"images", "image1_vm1", "I", "", "0root", "install"⟩] },
      { id := "1-noop", worker := "", flat := true, sharedRoot := true, objectRoot := "", cloneSource := false,
        paramNets := [], paramVms := [], objs := [] }],
    clones := clones }

/-- Gap 1 (`net_first`): a graph whose leaf lists its vm before its net satisfies `WF` (it has exactly one net,
equal to the `nets` parameter) and is rejected (`Node.checkObjects` demands the net *first*). -/
theorem WF_not_complete_net_first : WF demoNetSecond ∧ demoNetSecond.wellFormed = false := by
  refine ⟨WF_of_clauses _ (by decide) (by decide) (by decide) (by decide) (by decide) (by decide) (by decide)
    ?_ (checkClones_sound _ (by decide)).2, by decide⟩
  intro n hn _
  simp only [demoNetSecond, List.mem_cons, List.not_mem_nil, or_false] at hn
  rcases hn with rfl | rfl | rfl
  · exact ⟨"net1", by decide, by decide, by decide⟩
  · exact ⟨"net1", by decide, by decide, by decide⟩
  · contradiction

/-- Gap 2 (`clones_irrefl`): a node recorded as its own clone satisfies `WF.clone_sources` and is rejected. -/
theorem WF_not_complete_self_clone : WF (demoFlagged [(0, 0)]) ∧ (demoFlagged [(0, 0)]).wellFormed = false := by
  refine ⟨WF_of_clauses _ (by decide) (by decide) (by decide) (by decide) (by decide) (by decide) (by decide)
    (checkObjects_sound _ (by decide)) ?_, by decide⟩
  intro sc hsc
  simp only [demoFlagged, List.mem_cons, List.not_mem_nil, or_false] at hsc
  subst hsc
  exact ⟨_, _, rfl, rfl, by decide, by decide, by decide, by decide⟩

/-- Gap 3 (`clone_flag`): a node flagged as clone source without any recorded clone satisfies `WF` (its
`clone_sources` only speaks about recorded pairs) and is rejected. -/
theorem WF_not_complete_flag_without_clone : WF (demoFlagged []) ∧ (demoFlagged []).wellFormed = false := by
  refine ⟨WF_of_clauses _ (by decide) (by decide) (by decide) (by decide) (by decide) (by decide) (by decide)
    (checkObjects_sound _ (by decide)) ?_, by decide⟩
  intro sc hsc
  simp [demoFlagged] at hsc

/-- Hence completeness with respect to `WF` as stated is false of the checker. -/
theorem wellFormed_complete_for_WF_false : ¬ ∀ g : Graph, WF g → g.wellFormed = true := fun h =>
  Bool.noConfusion ((h _ WF_not_complete_net_first.1).symm.trans WF_not_complete_net_first.2)

/-! ### non-vacuity -/

/-- the accepted 3-node graph satisfies `WF'` (hypothesis of `wellFormed_complete`) … -/
example : WF' demo := (wellFormed_iff demo).mp (by decide +kernel)
/-- … and the three gap graphs do not, although they satisfy `WF` -/
example : ¬ WF' demoNetSecond := rejected_not_WF' _ (by decide +kernel)
example : ¬ WF' (demoFlagged [(0, 0)]) := rejected_not_WF' _ (by decide +kernel)
example : ¬ WF' (demoFlagged []) := rejected_not_WF' _ (by decide +kernel)
/-- the 3-node graph with a back edge: rejected by the checker, therefore (no oracle, no printed witness needed)
not well formed, and it has a cycle -/
example : ¬ WF' ({ demo with setup := demo.setup ++ [⟨1, 0, "I"⟩], cleanup := demo.cleanup ++ [⟨1, 0, "I"⟩] } : Graph) :=
  rejected_not_WF' _ (by decide +kernel)
example : ∃ n, ({ demo with setup := demo.setup ++ [⟨1, 0, "I"⟩], cleanup := demo.cleanup ++ [⟨1, 0, "I"⟩] } : Graph).Reach n n :=
  rejected_has_cycle _ (by decide +kernel) (by decide +kernel)
/-- the 3-node graph with the producer edge re-routed: rejected, hence not well formed -/
example : ¬ WF' ({ demo with setup := [⟨1, 2, "I"⟩, ⟨0, 2, "I"⟩], cleanup := [⟨1, 2, "I"⟩, ⟨0, 2, "I"⟩] } : Graph) :=
  rejected_not_WF' _ (by decide +kernel)
/-- `checkAcyclic_complete` on a non-trivial instance: `demo`'s edges are in range and it is acyclic -/
example : (∀ e ∈ demo.setup, e.child < demo.size ∧ e.parent < demo.size) ∧ ∀ n, ¬ demo.Reach n n :=
  ⟨by decide +kernel, acyclic_of_rank demo [2, 1, 0] (by decide +kernel)⟩

end I2N.Props.C06
