import I2N.Lemmas.Trav
import I2N.Lemmas.TravExcl
import I2N.Model.TravMon
import I2N.Lemmas.PyGen
import I2N.Extracted.GenScope
import I2N.Extracted.GenBackoff
import I2N.Lemmas.TravBackoff
import I2N.Lemmas.TravEval
/-!
# C04 — A test is never executed by two workers of one scope at the same time

Model: `I2N/Model/Trav.lean`, `TravStep.lean` (the one `drv_trav` runs); monitors: `TravMon.lean`.

The headline is `exclusion` (below): in every state the scheduler can reach — any graph, any number of workers,
any interleaving of `resume` steps, any test outcomes — the number of workers within one reuse scope that hold the
`started` mark of a class (the mark is set before the run decision and cleared after the test and its clean-up, so
it covers every execution, DESIGN.md §6) is at most the class' threshold.  Vocabulary and the preservation proofs
per model function are in `I2N/Lemmas/TravExcl.lean`.
-/
namespace I2N.Props.C04
open I2N.Trav

/-- What the overlap monitor decides: it accepts a trace exactly when every execution interval `j`
starts with fewer than `limit` executions of the same class open within the scope of `j`'s worker —
unless an earlier execution of that class overran its timeout budget (then the code deliberately
allows re-entrancy and the property's guarantee is void for that class). -/
theorem overlapOk_iff (g : Graph) (t : List MEv) :
    overlapOk g t = true ↔
      ∀ j ∈ intervals t,
        ((intervals t).filter (fun i => i.cls == j.cls && i.s < j.s && j.s < i.e && inScope g j.cls j.w i.w)).length + 1
            ≤ limitOf g j.cls j.w ∨ overran g (intervals t) j = true := by
  unfold overlapOk overlapViolations
  rw [filterMap_ite_isEmpty]
  refine forall₂_congr fun j _ => ?_
  simp only [Bool.and_eq_false_imp, decide_eq_true_eq, Bool.not_eq_false']
  constructor
  · intro h
    by_cases hc : ((intervals t).filter (fun i => i.cls == j.cls && i.s < j.s && j.s < i.e && inScope g j.cls j.w i.w)).length + 1
        > limitOf g j.cls j.w
    · exact Or.inr (h hc)
    · exact Or.inl (by omega)
  · exact fun h hc => h.resolve_left (by omega)

/-- A worker that finds the node it stands at occupied does not block and does not join in: the
iteration ends in a sleep of a bounded period `q = max(timeout·max(tries,1)/10, 10)` hundredths of a second
(at least 0.1 s, one per mille of the node's budget), its path is reset to the root so that it looks
for other work, and no node's `started` mark or result list is touched. -/
theorem bounce_backs_off (g : Graph) (s : State) (w next : Nat)
    (hroot : isCleanupReady g s g.root w = false)
    (hlast : (s.wd w).path.getLast? = some next) (hlen : (s.wd w).path.length ≠ 1)
    (hocc : isOccupied g s next w = true) :
    ∃ s' q, iter g s w = (s', [Event.sleep (g.worker w).id q], Flow.suspend) ∧ 10 ≤ q ∧
      q = max (((g.node next).timeout * max ((g.node next).maxTries.getD 1) 1 : Int).toNat / 10) 10 ∧
      (∀ n, (s'.nd n).started = (s.nd n).started ∧ (s'.nd n).results = (s.nd n).results) := by
  unfold iter
  simp only [hroot, hlast, hlen, hocc, Bool.false_eq_true, if_false, if_true, beq_iff_eq]
  refine ⟨_, _, rfl, by omega, rfl, ?_⟩
  intro n
  constructor
  · split
    · split <;> simp [nd_setNd_proj (·.started)]
    · simp
  · split
    · split <;> simp [nd_setNd_proj (·.results)]
    · simp

/-- The occupation check and the `started` mark are one atomic block: `traverse_node` on an occupied
node marks nothing (`if test_node.is_occupied(worker): return`). -/
theorem enter_only_if_free (g : Graph) (s : State) (n w : Nat) (hocc : isOccupied g s n w = true) :
    reverseNode g s n w = .ok (s, []) := by
  simp [reverseNode, hocc]

/-! ### non-vacuity: three workers converging on one `customize` node -/

def g3 : Graph :=
  { workers := [{ id := "net1", swarm := "localhost" }, { id := "net2", swarm := "localhost" }, { id := "net3", swarm := "localhost" }],
    nodes := [
      { cls := 0, owner := some 0, name := "all.customize.vms.vm1.nets.localhost.net1", pfx := "1a1", sets := [("vm1", "customize")], objs := ["vm1"], setup := [(3, ["vm1"])] },
      { cls := 0, owner := some 1, name := "all.customize.vms.vm1.nets.localhost.net2", pfx := "1a1", sets := [("vm1", "customize")], objs := ["vm1"], setup := [(3, ["vm1"])] },
      { cls := 0, owner := some 2, name := "all.customize.vms.vm1.nets.localhost.net3", pfx := "1a1", sets := [("vm1", "customize")], objs := ["vm1"], setup := [(3, ["vm1"])] },
      { cls := 1, owner := none, name := "all.internal.stateless.noop", pfx := "1", flat := true, sharedRoot := true,
        cleanup := [(0, ["vm1"]), (1, ["vm1"]), (2, ["vm1"])] }],
    root := 3 }

def s3 : State :=
  let s := initState g3 2 []
  -- net1 is inside the customize node; net2 stands at its own copy
  (s.setNd 0 (fun d => { d with started := some 0 })).setWd 1 (fun d => { d with path := [3, 1] })

/-- What the iteration of net2 in `s3` shows, here and for `backoff_matches_source` below, from ONE kernel evaluation.
Evaluating the model on a concrete graph is dear (for every `worker.id in name` the kernel decodes the UTF-8 of the node
name), each `decide` would do it again, and plain `decide` once more in the elaborator. -/
theorem s3_bounce :
    (isCleanupReady g3 s3 g3.root 1 = false ∧ (s3.wd 1).path.getLast? = some 1 ∧
      ((s3.wd 1).path.length == 1) = false ∧ isOccupied g3 s3 1 1 = true) ∧
    (iter g3 s3 1).2.1 = [Event.sleep "net2" 10] := by decide +kernel

example : isOccupied g3 s3 1 1 = true := s3_bounce.1.2.2.2
example : isCleanupReady g3 s3 g3.root 1 = false := s3_bounce.1.1
example : (iter g3 s3 1).2.1 = [Event.sleep "net2" 10] := s3_bounce.2

/-! ### the exclusion invariant over all reachable states

Vocabulary (`Lemmas/TravExcl.lean`): `scopedCount g s n w` is the very number `is_started` compares with its threshold
for copy `n` and worker `w` (the workers within `w`'s scope — `own`: `w` only, `swarm`: `w`'s swarm, `global`: all — that
have some copy of `n`'s class started); `limit g s n = max(mct, 1)` is the threshold of `is_occupied` in force for copy `n`
(it includes the bumps); `peakLimit` the largest threshold copy `n` has had so far; `classLimit g s c` the maximum of
`peakLimit` over the copies of class `c`; `Inv g s` says `scopedCount g s n w ≤ classLimit g s (cls n)` for all parsed
copies `n` and all `w`.

Hypothesis `Homog g` (static, decidable): the copies of one class agree on the scope shape, and a flat node does not
share a class with a parsed one.  Both halves are needed in the model: an `own`-shaped copy ignores the threshold
(witness `mixed_shapes_overlap` below), and a flat node is never occupied, so its mark would be unguarded.
No well-formedness of the state or of the edges is needed.

Why `peakLimit` and not the current `limit`: the first bump sets `max_concurrent_tries := get_numeric(mct, 0) + 1`,
which *lowers* the threshold of that copy from `max_tries` to 1 when `max_concurrent_tries` was not configured and
`max_tries > 1` (witness `first_bump_may_lower_limit`); workers that entered under the old threshold are still inside.
The bound by the thresholds currently in force is `exclusion_now` (for graphs where thresholds only grow) and
`exclusion_static` (no bump). -/

/-- The bridge: `is_occupied` is "the count within the worker's scope has reached the threshold"
(for shape `own` the code ignores the threshold: occupied iff the worker itself holds the class). -/
theorem occupied_iff_count (g : Graph) (s : State) (n w : Nat) :
    isOccupied g s n w = true ↔
      (g.node n).flat = false ∧
        (match (g.node n).shape with
         | .own => w ∈ sharedStarted g s n
         | .swarm => limit g s n ≤ scopedCount g s n w
         | .global => limit g s n ≤ scopedCount g s n w) :=
  isOccupied_iff g s n w

/-- a worker is let in only when its scope has room -/
theorem room_when_let_in (g : Graph) (s : State) (n w : Nat) (hf : (g.node n).flat = false)
    (h : isOccupied g s n w = false) : scopedCount g s n w < limit g s n :=
  room_of_not_occupied g s n w hf h

/-- initially nothing is started -/
theorem inv_init (g : Graph) (ncls : Nat) (store : List (String × List (String × String))) (hidden : List Nat) :
    Inv g (initState g ncls store hidden) :=
  inv_initState g ncls store hidden

/-- one scheduler step of any worker, with any outcome of the awaited test and any fuel, preserves the invariant -/
theorem inv_resume (g : Graph) (s : State) (w : Nat) (out : Outcome) (fuel : Nat) (hH : Homog g) (hI : Inv g s) :
    Inv g (resume g s w out fuel).1 :=
  I2N.Trav.inv_resume g s w out fuel hH hI

/-- **C04.** In every reachable state, for every parsed copy `n` and every observer `w`, the number of workers in
`w`'s scope that have `n`'s class started is at most the largest threshold of the class. -/
theorem exclusion (g : Graph) (ncls : Nat) (store : List (String × List (String × String))) (s : State)
    (hH : Homog g) (hr : Reachable g ncls store s) : Inv g s := by
  induction hr with
  | init hidden => exact inv_init g ncls store hidden
  | step s w out fuel _ ih => exact inv_resume g s w out fuel hH ih

/-- the same, spelled out -/
theorem exclusion_count (g : Graph) (ncls : Nat) (store : List (String × List (String × String))) (s : State)
    (hH : Homog g) (hr : Reachable g ncls store s) (n : Nat) (hn : n < g.nodes.length) (hf : (g.node n).flat = false)
    (w : Nat) :
    ((sharedStarted g s n).filter (inScopeOf (g.node n).shape g w)).length ≤ classLimit g s (g.node n).cls :=
  exclusion g ncls store s hH hr n hn hf w

/-- the same for an explicit schedule: any list of (worker, outcome) pairs, of any length -/
theorem exclusion_schedule (g : Graph) (ncls : Nat) (store : List (String × List (String × String))) (fuel : Nat)
    (l : List (Nat × Outcome)) (hH : Homog g) (hidden : List Nat := []) :
    Inv g (runSchedule g fuel (initState g ncls store hidden) l) :=
  exclusion g ncls store _ hH (reachable_runSchedule g ncls store fuel l _ (Reachable.init hidden))

/-- Without a bump the static thresholds bound the count: if every copy of `n`'s class has
`max(max_concurrent_tries (default max_tries (default 1)), 1) ≤ B`, at most `B` workers of a scope hold the class. -/
theorem exclusion_static (g : Graph) (ncls : Nat) (store : List (String × List (String × String))) (s : State)
    (hH : Homog g) (hr : Reachable g ncls store s) (hb : NoBump s)
    (n : Nat) (hn : n < g.nodes.length) (hf : (g.node n).flat = false) (B : Nat)
    (hB : ∀ m, m < g.nodes.length → (g.node m).cls = (g.node n).cls → limit0 g m ≤ B) (w : Nat) :
    scopedCount g s n w ≤ B :=
  Nat.le_trans (exclusion g ncls store s hH hr n hn hf w) (classLimit_noBump_le g s _ B hb hB)

/-- uniform static `max_concurrent_tries` within the class: the count never exceeds `max(mct, 1)` -/
theorem exclusion_static_uniform (g : Graph) (ncls : Nat) (store : List (String × List (String × String))) (s : State)
    (hH : Homog g) (hr : Reachable g ncls store s) (hb : NoBump s)
    (n : Nat) (hn : n < g.nodes.length) (hf : (g.node n).flat = false)
    (hU : ∀ m, m < g.nodes.length → (g.node m).cls = (g.node n).cls →
      (g.node m).mct = (g.node n).mct ∧ (g.node m).maxTries = (g.node n).maxTries) (w : Nat) :
    scopedCount g s n w ≤ (max ((g.node n).mct.getD ((g.node n).maxTries.getD 1)) 1).toNat := by
  apply exclusion_static g ncls store s hH hr hb n hn hf _ _ w
  intro m hm hc
  unfold limit0
  rw [(hU m hm hc).1, (hU m hm hc).2]
  exact Nat.le_refl _

/-- Where thresholds only grow (`max_concurrent_tries` configured, or `max_tries ≤ 1`, on every node) the bound is the
maximum over the class of the thresholds *currently* in force, bumps included. -/
theorem exclusion_now (g : Graph) (ncls : Nat) (store : List (String × List (String × String))) (s : State)
    (hH : Homog g) (hM : MonoLimits g) (hr : Reachable g ncls store s)
    (n : Nat) (hn : n < g.nodes.length) (hf : (g.node n).flat = false) (w : Nat) :
    scopedCount g s n w ≤ classLimitNow g s (g.node n).cls := by
  rw [← classLimit_eq_now g s _ hM]
  exact exclusion g ncls store s hH hr n hn hf w

/-- **The sentence of the property.** With threshold 1 on the class (the default) and no bump, two marks of the class
held at the same instant within one scope belong to one and the same worker: a test is never executed by two workers
of one scope at the same time. -/
theorem never_two_workers (g : Graph) (ncls : Nat) (store : List (String × List (String × String))) (s : State)
    (hH : Homog g) (hr : Reachable g ncls store s) (hb : NoBump s)
    (n : Nat) (hn : n < g.nodes.length) (hf : (g.node n).flat = false)
    (h1 : ∀ m, m < g.nodes.length → (g.node m).cls = (g.node n).cls → limit0 g m ≤ 1)
    (i j v v' : Nat) (hi : i ∈ g.copies n) (hj : j ∈ g.copies n)
    (hv : (s.nd i).started = some v) (hv' : (s.nd j).started = some v')
    (hsc : inScopeOf (g.node n).shape g v v' = true) : v = v' :=
  same_worker_of_count_le_one g s n i j v v'
    (exclusion_static g ncls store s hH hr hb n hn hf 1 h1 v) hi hj hv hv' hsc

/-! ### non-vacuity of the invariant theorems -/

/-- a test that never reports -/
def noOut : Outcome := { status := none }

/-- net1 has gone to the customize node and suspended inside it; then net2 came to its own copy, found the class
occupied and bounced -/
def s3r : State := runSchedule g3 10 (initState g3 2 []) [(0, noOut), (1, noOut)]

example : Homog g3 := by decide +kernel
example : MonoLimits g3 := by decide
example : Reachable g3 2 [] s3r := reachable_runSchedule g3 2 [] 10 _ _ (Reachable.init [])
example : Inv g3 s3r := exclusion_schedule g3 2 [] 10 _ (by decide +kernel)

set_option maxRecDepth 100000 in
/-- the reached state is not trivial: one worker inside, the second one turned away at a full class -/
example : (s3r.nd 0).started = some 0 ∧ (s3r.nd 1).started = none ∧ (s3r.wd 1).path = [3] ∧
    scopedCount g3 s3r 1 1 = 1 ∧ classLimit g3 s3r 0 = 1 ∧ isOccupied g3 s3r 1 1 = true ∧
    s3r.nodes.all (fun d => d.bump == 0) = true := by
  rw [show s3r = runSchedP g3 10 _ _ from (foldl_resume_eqP g3 10 _ _ (initState_hidden g3 2 [])).1]
  decide +kernel

/-! lazy expansion: the three composite customize nodes are not parsed at the start (`hidden = [0, 1, 2]`); net1 reaches
the flat customize node, expands it for itself, goes on to its copy and suspends inside it; then net2 expands the flat
node for itself, reaches its own copy, finds the class occupied and bounces. -/

def g3l : Graph :=
  { workers := g3.workers,
    nodes := [
      { cls := 0, owner := some 0, name := "all.customize.vms.vm1.nets.localhost.net1", pfx := "1a1", sets := [("vm1", "customize")], objs := ["vm1"], setup := [(4, ["vm1"])] },
      { cls := 0, owner := some 1, name := "all.customize.vms.vm1.nets.localhost.net2", pfx := "1a1", sets := [("vm1", "customize")], objs := ["vm1"], setup := [(4, ["vm1"])] },
      { cls := 0, owner := some 2, name := "all.customize.vms.vm1.nets.localhost.net3", pfx := "1a1", sets := [("vm1", "customize")], objs := ["vm1"], setup := [(4, ["vm1"])] },
      { cls := 1, owner := none, name := "all.internal.stateless.noop", pfx := "1", flat := true, sharedRoot := true,
        cleanup := [(4, [])] },
      { cls := 2, owner := none, name := "all.customize.vms.vm1", pfx := "1a", flat := true, setless := "all.customize.vms.vm1",
        setup := [(3, [])], cleanup := [(0, ["vm1"]), (1, ["vm1"]), (2, ["vm1"])] }],
    root := 3 }

def s3l : State := runSchedule g3l 30 (initState g3l 3 [] [0, 1, 2]) [(0, noOut), (1, noOut)]

example : Homog g3l := by decide +kernel
example : Reachable g3l 3 [] s3l := reachable_runSchedule g3l 3 [] 30 _ _ (Reachable.init [0, 1, 2])
example : Inv g3l s3l := exclusion_schedule g3l 3 [] 30 _ (by decide +kernel) [0, 1, 2]

set_option maxRecDepth 100000 in
example : s3l.hidden = [2] ∧ (s3l.nd 0).started = some 0 ∧ (s3l.nd 1).started = none ∧ (s3l.wd 1).path = [3] ∧
    scopedCount g3l s3l 1 1 = 1 ∧ classLimit g3l s3l 0 = 1 ∧ isOccupied g3l s3l 1 1 = true := by decide +kernel

/-- the first bump lowers the threshold of a copy with `max_tries = 3` and no `max_concurrent_tries` from 3 to 1 -/
def gB : Graph :=
  { workers := [{ id := "net1", swarm := "localhost" }],
    nodes := [{ cls := 0, owner := some 0, name := "all.t.vms.vm1.nets.localhost.net1", pfx := "1", maxTries := some 3 }],
    root := 0 }

theorem first_bump_may_lower_limit :
    limit gB (initState gB 1 []) 0 = 3 ∧
    limit gB ((initState gB 1 []).setNd 0 (fun d => { d with bump := d.bump + 1 })) 0 = 1 ∧
    peakLimit gB ((initState gB 1 []).setNd 0 (fun d => { d with bump := d.bump + 1 })) 0 = 3 := by decide

/-- `Homog` cannot be dropped: give net2's copy of the customize node the `own` shape (an lxc worker without swarm
next to globally scoped ones); it ignores the threshold and joins net1, so two workers of net1's (global) scope hold
the class although every copy has threshold 1. -/
def g3m : Graph :=
  { g3 with nodes := g3.nodes.modify 1 (fun nd => { nd with shape := .own }) }

def s3m : State := runSchedule g3m 10 (initState g3m 2 []) [(0, noOut), (1, noOut)]

set_option maxRecDepth 100000 in
theorem mixed_shapes_overlap :
    ¬ Homog g3m ∧ Reachable g3m 2 [] s3m ∧ scopedCount g3m s3m 0 0 = 2 ∧ classLimit g3m s3m 0 = 1 :=
  have run : scopedCount g3m s3m 0 0 = 2 ∧ classLimit g3m s3m 0 = 1 := by
    rw [show s3m = runSchedP g3m 10 _ _ from (foldl_resume_eqP g3m 10 _ _ (initState_hidden g3m 2 [])).1]
    decide +kernel
  ⟨by decide +kernel, reachable_runSchedule g3m 2 [] 10 _ _ (Reachable.init []), run.1, run.2⟩

/-! ## The regenerated scope selection (`harness/pygen.py`)

`I2N/Extracted/GenScope.lean` is regenerated on every run from the source of `TestNode.is_started` / `is_finished`
(the selection between counting per worker, per swarm, globally; the three *bodies* are pinned verbatim by the
translator and stand for the Boolean they return) and from `shape_of` of `harness/travlib.py` (the function that
computes the `shape=` field of the static node lines the model is fed with).  The model itself does not read
`nets_spawner` / `pool_scope`: it dispatches on the exported `Node.shape`.  The theorems below close that gap: with the
shape the harness exports, the model's `isStarted` / `isFinished` is the Python's selection applied to the model's three
ways of counting. -/

section Regenerated
open I2N.Extracted.GenScope

/-- how `Driver/Trav.lean` (`parseNode`) reads the `shape=` field of a static node line -/
def shapeOfField (s : String) : Shape := if s = "own" then .own else if s = "swarm" then .swarm else .global

/-- the arm of `scopeCount` for `Shape.own` (Python: `return worker in self.shared_*_workers`) -/
def ownArm (set : List Nat) (w : Nat) : Bool := set.contains w

/-- the arm of `scopeCount` for `Shape.swarm` (Python: the `own_cluster` block) -/
def swarmArm (g : Graph) (s : State) (n : Nat) (set : List Nat) (w : Nat) (thr : Int) : Bool :=
  let own := set.filter (fun v => (g.worker v).swarm == (g.worker w).swarm)
  if thr == -1 then
    sameList own ((involved g s n).filter (fun v => (g.worker v).swarm == (g.worker w).swarm))
  else decide ((own.length : Int) ≥ thr)

/-- the arm of `scopeCount` for `Shape.global` (Python: the final `else`) -/
def globalArm (g : Graph) (s : State) (n : Nat) (set : List Nat) (thr : Int) : Bool :=
  if thr == -1 then sameList set (involved g s n) else decide ((set.length : Int) ≥ thr)

/-- `scopeCount` is the dispatch on the exported shape over the three arms (by definition) -/
theorem scopeCount_arms (g : Graph) (s : State) (n : Nat) (set : List Nat) (w : Nat) (thr : Int) :
    scopeCount g s n set w thr =
      match (g.node n).shape with
      | .own => ownArm set w
      | .swarm => swarmArm g s n set w thr
      | .global => globalArm g s n set thr := by
  unfold scopeCount ownArm swarmArm globalArm
  cases (g.node n).shape <;> rfl

/-- **The harness' `shape_of` is the selection of `is_started` and of `is_finished`.**  For every value of
`nets_spawner` (any string or missing), every `pool_scope` (abstracted to the two substring tests the code makes) and
any three branch values: the Python selection with a worker given returns the branch that `shape_of` names.  No
hypotheses; both sides are generated from source. -/
theorem shapeOf_matches_source (sp : Option String) (sw cl : Bool) (flat o c gl : Bool) :
    genIsStarted flat true sp sw cl o c gl =
      (if flat then false else
        match shapeOfField (genShapeOf sp sw cl) with | .own => o | .swarm => c | .global => gl) ∧
    genIsFinished flat true sp sw cl o c gl =
      (if flat then true else
        match shapeOfField (genShapeOf sp sw cl) with | .own => o | .swarm => c | .global => gl) := by
  rcases PyGen.optStr_cases2 sp "lxc" "remote" with rfl | rfl | rfl | ⟨s, rfl, h1, h2⟩ <;>
    cases flat <;> cases sw <;> cases cl <;>
    simp [genIsStarted, genIsFinished, genShapeOf, shapeOfField, *]

/-- **The model's `isStarted` is the Python source's selection** applied to the model's three ways of counting,
whenever the node's `shape` is the one the harness exports for the node's `nets_spawner` / `pool_scope`.
Hypothesis `hshape`: the static description was produced by `shape_of` (it is, by construction of
`travlib.spec_lines`; a hand-made graph with another shape is outside this tie). -/
theorem isStarted_matches_source (g : Graph) (s : State) (n w : Nat) (thr : Int) (sp : Option String) (sw cl : Bool)
    (hshape : (g.node n).shape = shapeOfField (genShapeOf sp sw cl)) :
    isStarted g s n w thr =
      genIsStarted (g.node n).flat true sp sw cl (ownArm (sharedStarted g s n) w)
        (swarmArm g s n (sharedStarted g s n) w thr) (globalArm g s n (sharedStarted g s n) thr) := by
  rw [(shapeOf_matches_source sp sw cl _ _ _ _).1, isStarted, scopeCount_arms, hshape]

/-- the same for `isFinished` / `is_finished` -/
theorem isFinished_matches_source (g : Graph) (s : State) (n w : Nat) (thr : Int) (sp : Option String) (sw cl : Bool)
    (hshape : (g.node n).shape = shapeOfField (genShapeOf sp sw cl)) :
    isFinished g s n w thr =
      genIsFinished (g.node n).flat true sp sw cl (ownArm (sharedFinished g s n) w)
        (swarmArm g s n (sharedFinished g s n) w thr) (globalArm g s n (sharedFinished g s n) thr) := by
  rw [(shapeOf_matches_source sp sw cl _ _ _ _).2, isFinished, scopeCount_arms, hshape]

/-- Without a worker (`worker=None`, e.g. the `flag` lambdas of `intertest_setup.py`) the Python counts globally whatever
the spawner and scope are; the model has no such call (every `isStarted` / `isFinished` takes a worker). -/
theorem no_worker_counts_globally (sp : Option String) (sw cl o c gl : Bool) :
    genIsStarted false false sp sw cl o c gl = gl ∧ genIsFinished false false sp sw cl o c gl = gl := by
  simp [genIsStarted, genIsFinished]

/-- non-vacuity of `hshape`: the three shapes are all exported (lxc without swarm scope, remote without cluster scope,
anything else), and the `own` copy of `g3m` satisfies `hshape` for an lxc worker without swarm scope -/
example : shapeOfField (genShapeOf (some "lxc") false true) = .own ∧
    shapeOfField (genShapeOf (some "remote") true false) = .swarm ∧
    shapeOfField (genShapeOf (some "lxc") true true) = .global ∧
    shapeOfField (genShapeOf none false false) = .global := by decide
example : (g3m.node 1).shape = shapeOfField (genShapeOf (some "lxc") false true) := by decide

/-! ### The threshold of `is_occupied`

`genIsOccupied` is regenerated from `TestNode.is_occupied`: `max(get_numeric("max_concurrent_tries",
get_numeric("max_tries", 1)), 1)` handed to `is_started`.  The model keeps the static parameters (`Node.mct`,
`Node.maxTries`) and counts the emergency increments separately (`NodeDyn.bump`); `mctParam` says what the parameter
`max_concurrent_tries` of the real copy is in a state of the model — the static one while nobody bumped it, otherwise
the result of `bump` assignments `params["max_concurrent_tries"] = params.get_numeric("max_concurrent_tries", 0) + 1`
(graph.py, the back-off branch of `traverse_object_trees`). -/

/-- the parameter `max_concurrent_tries` of copy `n` in state `s` (`none` = not set) -/
def mctParam (g : Graph) (s : State) (n : Nat) : Option Int :=
  if (((s.nd n).bump : Nat) : Int) > 0 then some (((g.node n).mct.getD 0) + ((s.nd n).bump : Nat)) else (g.node n).mct

/-- **The hand written `isOccupied` is the Python source of `is_occupied`** (threshold computation: the default chain
`max_concurrent_tries` → `max_tries` → 1 and the lower bound 1), for every graph, state, copy and worker; the count
itself is `isStarted` (tied by `isStarted_matches_source`).  No hypotheses. -/
theorem isOccupied_matches_source (g : Graph) (s : State) (n w : Nat) :
    isOccupied g s n w = genIsOccupied (mctParam g s n) (g.node n).maxTries (fun t => isStarted g s n w t) := by
  unfold isOccupied genIsOccupied mctOf mctParam
  by_cases h : (((s.nd n).bump : Nat) : Int) > 0
  · simp only [h, if_true, Option.getD_some]; rfl
  · simp only [h, if_false]; rfl

/-- `mctParam` follows the assignment of the back-off branch: one more bump is
`params["max_concurrent_tries"] = params.get_numeric("max_concurrent_tries", 0) + 1` -/
theorem mctParam_bump (g : Graph) (s s' : State) (n : Nat) (h : (s'.nd n).bump = (s.nd n).bump + 1) :
    mctParam g s' n = some ((mctParam g s n).getD 0 + 1) := by
  unfold mctParam
  rw [h]
  by_cases hb : (s.nd n).bump = 0
  · simp [hb]
  · have : (((s.nd n).bump : Nat) : Int) > 0 := by omega
    have h2 : ((((s.nd n).bump + 1 : Nat)) : Int) > 0 := by omega
    simp only [this, h2, if_true, Option.getD_some]
    congr 1; omega

/-- the generated definition computes: unset parameters give threshold 1, `max_tries=3` alone gives 3, an explicit
`max_concurrent_tries=0` is raised to 1 -/
example : genIsOccupied none none (fun t => t == 1) = true ∧ genIsOccupied none (some 3) (fun t => t == 3) = true ∧
    genIsOccupied (some 0) (some 3) (fun t => t == 1) = true ∧ genIsOccupied (some 2) (some 3) (fun t => t == 2) = true := by
  decide

/-! ### The back-off branch of the worker loop (`traverse_object_trees`)

`genBackoff` (I2N/Extracted/GenBackoff.lean) is regenerated on every run from the body of `if next.is_occupied(worker):`
in the `while` loop of `TestGraph.traverse_object_trees`, cut at its `await asyncio.sleep(<arg>)` (harness/pygen_pxtrav.py):
budget `test_timeout * max(max_tries, 1)`, time out `round(max(budget / 1000, 0.1), 2)`, the test `next in occupied_at`,
the bump of `max_concurrent_tries` when `occupied_wait > budget`, `occupied_wait += time out` against the reset to 0.0,
`occupied_at.add(next)`, the path reset to the root; its value is the frame the coroutine holds when it suspends,
INCLUDING the argument of the sleep.  The three float operations are the Lean `Float` operations of `Trav.iter`
(declared in harness/pygen_pxtrav.py `FLOAT_OPS`); the comparison, the accumulation and the slept time are translated. -/

open I2N.Extracted.GenBackoff in
/-- adapter: the step of worker `w` that the generated branch describes — run it on the loop state of `w` (`occAt`,
`occWait`) and the parameters of the copy `next`, store the frame in the worker record (program counter `bounce`: the
coroutine is suspended in the sleep) and announce the sleep of the duration the branch hands to `asyncio.sleep` -/
def backoffStep (g : Graph) (s : State) (w next : Nat) : Step :=
  let wd := s.wd w
  let nd := g.node next
  let r := (genBackoff (nd.timeout : Int) nd.maxTries next g.root wd.occAt wd.occWait).run s
  (r.2.setWd w (fun d => { d with occAt := r.1.1, occWait := r.1.2.1, path := r.1.2.2.1, pc := .bounce }),
   [Event.sleep (g.worker w).id r.1.2.2.2], .suspend)

open I2N.Extracted.GenBackoff in
/-- **The back-off branch of the hand written `iter` is the Python source**: for every graph, state and worker, whenever
the loop reaches the test `if next.is_occupied(worker):` and it holds (the hypotheses are exactly the tests of the loop
skeleton in front of the branch, which is not translated: the root is not cleanup ready, the path has at least two
entries, `next` is its last entry), one iteration of the model IS the generated branch: same new state (worker record,
bump of the copy), same event (the sleep of the duration the source hands to `asyncio.sleep`, in hundredths), same
flow (suspension).  Not covered: the loop skeleton around the branch and the lazy expansion step in front of it
(`iterL`). -/
theorem backoff_matches_source (g : Graph) (s : State) (w next : Nat)
    (hroot : isCleanupReady g s g.root w = false)
    (hlast : (s.wd w).path.getLast? = some next)
    (hlen : ((s.wd w).path.length == 1) = false)
    (hocc : isOccupied g s next w = true) :
    iter g s w = backoffStep g s w next := by
  unfold iter backoffStep
  simp only [hroot, hlast, hlen, hocc, Bool.false_eq_true, if_false, if_true, genBackoff_run]
  refine Prod.ext ?_ rfl
  show _ = _
  by_cases hin : (s.wd w).occAt.contains next = true
  · by_cases hgt : (s.wd w).occWait > Float.ofInt (((g.node next).timeout : Int) * max ((g.node next).maxTries.getD 1) 1)
    · simp only [hin, hgt, if_true, decide_true, Bool.and_self, setWd_setWd]
      apply setWd_congr
      simp only [Function.comp, wd_setNd, hin, if_true, setAdd, hundredths]
    · simp only [hin, hgt, if_true, if_false, decide_false, Bool.and_false, Bool.false_eq_true, setWd_setWd]
      apply setWd_congr
      simp only [Function.comp, hin, if_true, setAdd, hundredths]
  · simp only [hin, if_false, Bool.false_and, Bool.false_eq_true, setWd_setWd]
    apply setWd_congr
    simp only [Function.comp, hin, if_false, setAdd, Bool.false_eq_true]

/-- non-vacuity: net2 of `g3` stands at its copy of the customize node while net1 is inside the class (`s3` above) -/
example : isCleanupReady g3 s3 g3.root 1 = false ∧ (s3.wd 1).path.getLast? = some 1 ∧
    ((s3.wd 1).path.length == 1) = false ∧ isOccupied g3 s3 1 1 = true := s3_bounce.1

open I2N.Extracted.GenBackoff in
/-- what the source accounts is what it sleeps: at a node the worker was turned away from before, the wait grows by
exactly the duration handed to `asyncio.sleep` (the fourth component of the frame, in hundredths); at a new node it is
reset.  A statement about the GENERATED definition (so about /repo's current source), for all arguments. -/
theorem backoff_sleep_is_accounted (T : Int) (mt : Option Int) (next root : Nat) (occ : List Nat) (wait : Float) (s : State) :
    let fr := ((genBackoff T mt next root occ wait).run s).1
    fr.2.1 = (if occ.contains next then wait + Float.ofNat fr.2.2.2 / 100.0 else 0.0) ∧
    fr.1 = setAdd occ next ∧ fr.2.2.1 = [root] ∧ fr.2.2.2 = hundredths (T * max (mt.getD 1) 1) := by
  simp only [genBackoff_run, and_self]

end Regenerated

end I2N.Props.C04
