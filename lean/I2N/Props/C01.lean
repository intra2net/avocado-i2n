import I2N.Lemmas.TravStates
import I2N.Lemmas.TravStatesRm
import I2N.Model.TravMon
import I2N.Lemmas.TravEval
/-!
# C01 — Every test starts only with its required object states available

The full statement (`start_has_states`: at every start of the model, every required state is
available-or-excepted) is NOT proved — and it is false of the current code: a state left only in a peer's own pool
(finding F5 of DESIGN.md, witness `f5_state_only_in_peer_pool`), and non-lxc workers that share within the swarm
although the `swarm` scope is disabled (known finding `non-lxc-workers-share-although-swarm-scope-disabled`, called
F10 below, witness `f10_swarm_scope_disabled`).  The file holds:
* what the run-time monitor `statesOk` decides (`statesOk_iff`, `stateAvailable_iff`); the monitor is applied to every
  implementation trace and to the model's traces;
* the inverse-DFS discipline of `traverse_object_trees`: a test is started only on a setup-ready node, and setup-ready
  means that this worker has traversed every relevant parent (`start_after_parents_traversed`, `…_eager`), with
  `owner_names_needed` for the hypothesis on the names;
* the statement under explicit hypotheses on the graph and the initial store, without removal of states
  (`start_has_states_partial`, `start_has_states_partial_eager`, `states_sourced`), and the two witnesses above for the
  hypotheses that exclude the findings;
* the statement with removal on pre-parsed graphs (`start_has_states_removal_partial`,
  `start_has_states_removal_single_worker`, `start_has_states_removal_symmetric_partial`), and witnesses that neither
  additional hypothesis can simply be dropped (`removed_state_stale_location`, `retries_cross_swarm_stale_restart`).
-/
namespace I2N.Props.C01
open I2N.Trav

/-- What the state monitor decides: at every start of a test proper (of the copy `n` the starting
worker owns), every state the test is configured to start from is at hand (`stateAvailable`). -/
theorem statesOk_iff (g : Graph) (init : Store) (t : List MEv) :
    statesOk g init t = true ↔
      ∀ x ∈ mainStarts g t, ∀ vs ∈ (g.node x.2.2).gets, stateAvailable g init t x.2.1 x.1 x.2.2 vs = true := by
  unfold statesOk statesViolations
  simp only [List.isEmpty_iff, List.flatMap_eq_nil_iff, List.map_eq_nil_iff, List.filter_eq_nil_iff]
  exact forall₂_congr fun x _ => forall₂_congr fun vs _ => by simp

/-- … and "at hand" means: in the starting worker's own pool, or in a listed location the worker may
use under the test's pool scope (shared pool: `shared` enabled; a worker of the same swarm: `swarm`;
of another swarm: `cluster`), or nobody in the graph produces it for this test (externally provided state of a
permanent object, taken as given), or its producing class / the creation of the object has a non-passing
attempt earlier in the run.  The store is the one the run's own events imply (`replayStore`). -/
theorem stateAvailable_iff (g : Graph) (init : Store) (t : List MEv) (i : Nat) (e : MEv) (n : Nat) (vs : String × String) :
    stateAvailable g init t i e n vs = true ↔
      ((g.node n).setup.any (fun (_, vms) => vms.contains vs.1)) = false ∨
      (storeGet (replayStore g init (t.take i)) (g.worker e.w).id).contains vs = true ∨
      (∃ loc ∈ (match e.locs.find? (·.1 == vs.1) with | some (_, l) => l | none => []),
          allowedLoc g n e.w loc = true ∧
          (storeGet (replayStore g init (t.take i)) (if loc == "" then "shared" else loc)).contains vs = true) ∨
      excepted g t i n vs.1 = true := by
  unfold stateAvailable
  simp only [Bool.or_eq_true, List.any_eq_true, Bool.and_eq_true, Bool.not_eq_true', or_assoc]
  rfl

/-- Inverse DFS: a test is started only from a node that is setup-ready for the worker — every
parent the worker has to care about (its own copies and flat nodes) was dropped by it before. -/
theorem start_only_when_setup_ready (g : Graph) (s s' : State) (w : Nat) (evs : List Event) (f : Flow)
    (h : iter g s w = (s', evs, f)) (hstart : ∃ cls uid locs k, Event.start (g.worker w).id cls uid locs k ∈ evs) :
    ∃ next, (s.wd w).path.getLast? = some next ∧ isSetupReady g s next w = true := by
  obtain ⟨cls, uid, locs, k, hm⟩ := hstart
  have hi := iter_iter g s w
  rw [h] at hi
  -- only a visit of the last node of the path, which is then setup-ready, starts a test
  cases hi with
  | lost | fromRoot | toParent => exact nomatch hm
  | exit | bounce => exact nomatch List.mem_singleton.mp hm
  | undecided n _ _ _ hv | start n _ _ _ _ hv | create n _ _ _ _ hv | skip n _ _ _ _ _ hv => exact ⟨n, hv.last, hv.ready⟩

/-- … and setup-readiness is exactly "every relevant parent dropped by this worker". -/
theorem setup_ready_iff (g : Graph) (s : State) (n w : Nat) :
    isSetupReady g s n w = true ↔
      ∀ p ∈ (g.node n).setup, relevant g w p.1 = true →
        w ∈ regWorkers (s.cr (g.node n).cls).droppedSetup (some (g.node p.1).cls) :=
  setup_ready_iff' g s n w

/-- A parent is dropped on the way up only after `traverse_node` decided that it needs no (more)
running: the second evaluation of the run decision, after `pull_locations` and a possible run. -/
theorem parent_dropped_only_when_decided (g : Graph) (s : State) (w next prev : Nat) (s' : State) (evs : List Event)
    (f : Flow) (h : afterTraverse g s w next prev Dir.up = (s', evs, f))
    (hdrop : (regWorkers (s'.cr (g.node prev).cls).droppedSetup (some (g.node next).cls)).length
      ≠ (regWorkers (s.cr (g.node prev).cls).droppedSetup (some (g.node next).cls)).length) :
    ∃ s1 e1, runDecision g s next w = .ok (false, s1, e1) := by
  have ha := afterTraverse_after g s w next prev Dir.up
  rw [h] at ha
  cases ha with
  | undecided => exact absurd rfl hdrop
  | up run s1 e1 _ hd =>
    cases run with
    | false => exact ⟨_, _, hd⟩
    | true =>
      -- neither the run decision nor `popPath` touches the registers
      have hcr : s1.cr (g.node prev).cls = s.cr (g.node prev).cls := by
        rcases runDecision_state g s next w true s1 _ hd with h' | h'
        · rw [h']
        · rw [h']; rfl
      exact absurd (by rw [← hcr]; rfl) hdrop
  | again _ _ hdir | postponed _ _ hdir | cleaned _ _ _ _ hdir | uncleaned _ _ _ hdir | descend _ _ _ _ hdir
  | childless _ _ hdir => cases hdir

/-! ## the inverse-DFS invariants over ALL reachable states

`ReachH g ncls store H0 s` (`Lemmas/TravReady.lean`): `s` is reached from the initial state in which exactly the nodes `H0`
are not parsed yet (`[]`: pre-parsed graph) by any finite sequence of `resume` steps of any workers with any outcomes and
any fuel.  Hypotheses on the graph, all decidable: `graphWF g` (edges and root are node indices), the root is flat (the
shared root), `OwnerNames g` (a worker's id occurs in the names of exactly its own parsed copies — decidable form
`ownerNamesB`; without it a copy could be traversed by a foreign worker, which is the substring-identity trap of the
code), `FlatClass g` (the copies of a class are all flat or all parsed). -/

/-- The `finished` mark of a parsed copy is only ever written with the worker that owns the copy: `traverse_node` is
called with nodes of the worker's path only, and the path holds flat nodes and own copies only. -/
theorem finished_means_traversed_by_owner (g : Graph) (hwf : graphWF g = true) (hroot : (g.node g.root).flat = true)
    (hO : OwnerNames g) {ncls : Nat} {store : Store} {H0 : List Nat} {s : State} (hr : ReachH g ncls store H0 s)
    (n v : Nat) (hn : n < g.nodes.length) (hf : (g.node n).flat = false) (h : (s.nd n).finished = some v) :
    (g.node n).owner = some v :=
  (hO v n hn hf).mp ((hr.trv (GraphWF.of_bool hwf) hroot hO.uniq).finOwner n v hn hf h)

/-- … and once a worker has traversed its copy, the mark stays (no step of any worker overwrites it). -/
theorem traversed_mark_stable (g : Graph) (hwf : graphWF g = true) (hroot : (g.node g.root).flat = true)
    (hO : OwnerNames g) {ncls : Nat} {store : Store} {H0 : List Nat} {s : State} (hr : ReachH g ncls store H0 s)
    (v : Nat) (out : Outcome) (fuel : Nat) (p w : Nat) (hp : p < g.nodes.length) (hf : (g.node p).flat = false)
    (h : (s.nd p).finished = some w) : ((resume g s v out fuel).1.nd p).finished = some w :=
  (hr.trv (GraphWF.of_bool hwf) hroot hO.uniq).stable (GraphWF.of_bool hwf) hroot hO.uniq v out fuel p w hp hf h

/-- A parent is dropped only after this worker traversed it: in every reachable state, if worker `w` is registered in
`droppedSetup` of the class of `n` for the class of a parsed parent `p`, then `w`'s own copy of `p`'s class carries
`w`'s `finished` mark (`traverse_node` ran to its end on it for `w`: the run decision said "no (more) running"). -/
theorem dropped_parent_was_traversed (g : Graph) (hwf : graphWF g = true) (hroot : (g.node g.root).flat = true)
    (hO : OwnerNames g) (hF : FlatClass g) {ncls : Nat} {store : Store} {H0 : List Nat} {s : State}
    (hr : ReachH g ncls store H0 s) (n p w : Nat) (hp : p < g.nodes.length) (hfp : (g.node p).flat = false)
    (h : w ∈ regWorkers (s.cr (g.node n).cls).droppedSetup (some (g.node p).cls)) :
    ∃ p', p' < g.nodes.length ∧ (g.node p').cls = (g.node p).cls ∧ (g.node p').owner = some w ∧
      (s.nd p').finished = some w :=
  ((hr.trv (GraphWF.of_bool hwf) hroot hO.uniq).dropS _ _ w h).owned hO hF hp hfp

/-- Setup-readiness therefore means "traversed": in a state satisfying the invariant (every reachable state, and every
intermediate state of a step), a node that is setup-ready for `w` on a graph `gv` with the nodes of `g` (the graph as parsed
so far) has all its relevant parsed parents traversed by `w`. -/
theorem setup_ready_parents_traversed (g : Graph) (hwf : graphWF g = true) (hO : OwnerNames g) (hF : FlatClass g)
    {H0 : List Nat} {s : State} (t : Trv g H0 s) (gv : Graph) (hsn : SameNodes gv g)
    (hsub : ∀ n p, p ∈ (gv.node n).setup → p ∈ (g.node n).setup) (n w : Nat)
    (h : isSetupReady gv s n w = true) :
    ∀ p ∈ (gv.node n).setup, relevant g w p.1 = true → (g.node p.1).flat = false →
      ∃ p', p' < g.nodes.length ∧ (g.node p').cls = (g.node p.1).cls ∧ (g.node p').owner = some w ∧
        (s.nd p').finished = some w := by
  intro p hp hrel hfp
  have h1 := (setup_ready_iff' gv s n w).mp h p hp (by rw [relevant_sameNodes hsn]; exact hrel)
  rw [hsn.cls, hsn.cls] at h1
  exact (t.dropS _ _ w h1).owned hO hF ((GraphWF.of_bool hwf).setup_lt n p (hsub n p hp)) hfp

/-- Every start happens after the parents were traversed: whenever a `resume` step of worker `w` emits a `start` event,
it is the start of (a phase `ph` of) a node `n` that `w` owns, and in the state `sd` of this step in which the test was
started (`sd` satisfies the invariant `Trv`, and the other workers' records are those of `s`) every relevant parsed parent
of `n` — on the graph visible with `hid` hidden, where `hid` lies between what is hidden in `sd` and what was hidden
initially; for the two-step creation of an object root it is the graph visible when the creation was started — has been
traversed by `w`: `w`'s own copy of its class carries `w`'s `finished` mark. -/
theorem start_after_parents_traversed (g : Graph) (hwf : graphWF g = true) (hroot : (g.node g.root).flat = true)
    (hO : OwnerNames g) (hF : FlatClass g) {ncls : Nat} {store : Store} {H0 : List Nat} {s : State}
    (hr : ReachH g ncls store H0 s) (w : Nat) (out : Outcome) (fuel : Nat)
    (wid cname uid : String) (locs : List (String × String)) (k : Nat)
    (he : Event.start wid cname uid locs k ∈ (resume g s w out fuel).2) :
    wid = (g.worker w).id ∧ ∃ n ph sd hid, cname = clsName g n ph ∧ n < g.nodes.length ∧ (g.node n).owner = some w ∧
      (g.node n).flat = false ∧ (∀ h ∈ sd.hidden, h ∈ hid) ∧ (∀ h ∈ hid, h ∈ H0) ∧ Trv g H0 sd ∧
      (∀ v, v ≠ w → sd.wd v = s.wd v) ∧
      ∀ p ∈ ((visH g hid).node n).setup, relevant g w p.1 = true → (g.node p.1).flat = false →
        ∃ p', p' < g.nodes.length ∧ (g.node p').cls = (g.node p.1).cls ∧ (g.node p').owner = some w ∧
          (sd.nd p').finished = some w := by
  have t := hr.trv (GraphWF.of_bool hwf) hroot hO.uniq
  obtain ⟨h0, n, ph, sd, h1, h2, hn, hid, hfl, hd, h3, h4, h5⟩ :=
    ((resume_ok g H0 (GraphWF.of_bool hwf) hroot s w out fuel t).2 _ he).2 wid cname uid locs k rfl
  have td := t.upd hO.uniq h2
  exact ⟨h0, n, ph, sd, hd, h1, hn, (hO w n hn hfl).mp hid, hfl, h3, h4, td, h2.others,
    setup_ready_parents_traversed g hwf hO hF td (visH g hd) (sameNodes_visH g hd) (fun n p => visH_setup_sub g hd n p) n w h5⟩

/-- … on a pre-parsed graph (nothing hidden initially) these are all parents of `n`. -/
theorem start_after_parents_traversed_eager (g : Graph) (hwf : graphWF g = true) (hroot : (g.node g.root).flat = true)
    (hO : OwnerNames g) (hF : FlatClass g) {ncls : Nat} {store : Store} {s : State}
    (hr : ReachH g ncls store [] s) (w : Nat) (out : Outcome) (fuel : Nat)
    (wid cname uid : String) (locs : List (String × String)) (k : Nat)
    (he : Event.start wid cname uid locs k ∈ (resume g s w out fuel).2) :
    wid = (g.worker w).id ∧ ∃ n ph sd, cname = clsName g n ph ∧ n < g.nodes.length ∧ (g.node n).owner = some w ∧
      Trv g [] sd ∧ (∀ v, v ≠ w → sd.wd v = s.wd v) ∧
      ∀ p ∈ (g.node n).setup, relevant g w p.1 = true → (g.node p.1).flat = false →
        ∃ p', p' < g.nodes.length ∧ (g.node p').cls = (g.node p.1).cls ∧ (g.node p').owner = some w ∧
          (sd.nd p').finished = some w := by
  obtain ⟨h0, n, ph, sd, hid, h1, hn, ho, _, _, h4, td, h5, h6⟩ :=
    start_after_parents_traversed g hwf hroot hO hF hr w out fuel wid cname uid locs k he
  obtain rfl : hid = [] := List.subset_nil.mp h4
  exact ⟨h0, n, ph, sd, h1, hn, ho, td, h5, h6⟩

/-! ### non-vacuity (the instance `exGraph` of `Lemmas/TravReady.lean`) -/

example : graphWF exGraph = true ∧ (exGraph.node exGraph.root).flat = true ∧ ownerNamesB exGraph = true :=
  ⟨Clean.exGraph_wellFormed.1.1, rfl, Clean.exGraph_wellFormed.1.2.1⟩
example : FlatClass exGraph := Clean.exGraph_wellFormed.1.2.2.1
example : ReachH exGraph 3 [] [] exS2 := reachH_runSched exGraph 3 [] [] 100 _ _ ReachH.init

set_option maxRecDepth 100000 in
/-- after `a` passed, net1 is registered as having dropped the parent class `a` (0) of its node `b` (class 1), its copy of
`a` carries its mark, and the step that did this emitted the start of `b` -/
example : 0 ∈ regWorkers (exS2.cr (exGraph.node 2).cls).droppedSetup (some (exGraph.node 0).cls) ∧
    (exS2.nd 0).finished = some 0 ∧ (exGraph.node 0).owner = some 0 ∧
    Event.start "net1" "1" "2a1" [("vm1", ":/pool/shared net1:/pool/swarm")] 1 ∈ (resume exGraph exS1 0 exPass 100).2 :=
  exGraph_run.1

/-! lazy expansion: initially the four parsed nodes are hidden (`H0 = [0, 1, 2, 3]`); net1 reveals its copies (2 and its
ancestor 0) at the flat node, runs `a`, drops it and starts `b` -/

example : graphWF exLazy = true ∧ (exLazy.node exLazy.root).flat = true ∧ ownerNamesB exLazy = true := by decide +kernel
example : FlatClass exLazy := by decide
example : ReachH exLazy 4 [] [0, 1, 2, 3] exL2 := reachH_runSched exLazy 4 [] _ 100 _ _ ReachH.init

set_option maxRecDepth 100000 in
example : exL2.hidden = [1, 3] ∧
    0 ∈ regWorkers (exL2.cr (exLazy.node 2).cls).droppedSetup (some (exLazy.node 0).cls) ∧
    (exL2.nd 0).finished = some 0 ∧
    Event.start "net1" "1" "2a1" [("vm1", ":/pool/shared net1:/pool/swarm")] 1 ∈ (resume exLazy exL1 0 exPass 100).2 :=
  exLazy_run.1

set_option maxRecDepth 100000 in
/-- `OwnerNames` is needed: when a worker's id is a substring of the name of a foreign copy (`net1` in `…net11`), the
worker traverses the foreign copy and leaves its own mark on it — `finished_means_traversed_by_owner` fails. -/
theorem owner_names_needed :
    ownerNamesB exBad = false ∧ graphWF exBad = true ∧ (exBad.node exBad.root).flat = true ∧
    ReachH exBad 2 [] [] (runSched exBad 100 (initState exBad 2 [] []) [(0, exNoOut), (0, exPass)]) ∧
    ((runSched exBad 100 (initState exBad 2 [] []) [(0, exNoOut), (0, exPass)]).nd 0).finished = some 0 ∧
    (exBad.node 0).owner = some 1 :=
  ⟨by decide +kernel, by decide +kernel, by decide +kernel, reachH_runSched exBad 2 [] [] 100 _ _ ReachH.init,
    by rw [show runSched exBad 100 (initState exBad 2 [] []) [(0, exNoOut), (0, exPass)] = runSchedP exBad 100 _ _ from
        (foldl_resume_eqP exBad 100 _ _ (initState_hidden exBad 2 [])).1]
       decide +kernel,
    rfl⟩

/-! ## the semantic core in a restricted setting: `start_has_states_partial`

`ReachS` (`Lemmas/TravStates.lean`) is `ReachH` with steps of workers of the run and positive fuel (what the identifier
invariant of C03 needs).  Hypotheses besides those above, all decidable, each excluding a known finding or a gap of
the statement: `SemHyp g` = `FullScope` (every parsed node has the `global` shape and all four pool scopes — excludes
finding F10, witness `f10_swarm_scope_disabled`), `PlainNodes` (parsed nodes are neither shared root, dry run, clone
source nor object root: the creation of objects and cloning are not covered), `NoRemoval` (no `f.` unset mode,
`pool_filter` ∈ {reuse, block}: `sync_states` never touches the store — removal is C05's concern), `ProducerSets` (a
parsed parent sets what the child gets through the edge — C07's concern), `UniqueProducer` (a state is set by one class
only: otherwise a worker skips a producer because it holds the state from another class and nobody is told its pool),
`SetsClass` (copies of a class set the same states), `OwnersReal` (owners are workers of the run); `InitShared store`
(initial states are in the shared pool only — excludes finding F5, witness `f5_state_only_in_peer_pool`);
`NamesInj g`, `PreNamesFresh g` (C03's hypotheses for distinct result identifiers: the record a worker reads is the
one its own execution reported — otherwise a stale PASS could be read without a production).  Retries are NOT excluded. -/

/-- Whenever a `resume` step of worker `w` emits a `start` event, it is the start of the test proper of a node `n` that
`w` owns, told the locations `locs` = the `get_location` entries of `n` in the state `sd` in which the start was
decided, and for every state `vs` that `n` gets through a setup edge `e` (visible then) from a parsed parent relevant to
`w`: `vs` is in `w`'s own pool, or in the shared pool, or in the pool of a worker `v` whose location is contained in the
entry of `vs`'s vm in `locs` and which `w` may use, or the parent's class has a result that did not pass ("excepted").

Partial w.r.t. the full C01 statement in exactly the hypotheses listed above (and the states obtained through flat
parents / without producer edge, e.g. of permanent objects, are not covered). -/
theorem start_has_states_partial (g : Graph) (hwf : graphWF g = true) (hroot : (g.node g.root).flat = true)
    (hO : OwnerNames g) (hF : FlatClass g) (hy : SemHyp g) (hN : NamesInj g) (hP : PreNamesFresh g)
    {ncls : Nat} {store : Store} (hI : InitShared store) {H0 : List Nat} {s : State}
    (hr : ReachS g ncls store H0 s) (w : Nat) (out : Outcome) (fuel : Nat)
    (wid cname uid : String) (locs : List (String × String)) (k : Nat)
    (he : Event.start wid cname uid locs k ∈ (resume g s w out fuel).2) :
    ∃ n sd hid, cname = clsName g n .plain ∧ locs = (sd.nd n).getLoc ∧ n < g.nodes.length ∧ (g.node n).owner = some w ∧
      (∀ h ∈ sd.hidden, h ∈ hid) ∧ (∀ h ∈ hid, h ∈ H0) ∧ Trv g H0 sd ∧
      ∀ e ∈ ((visH g hid).node n).setup, (g.node e.1).flat = false → relevant g w e.1 = true →
        ∀ vs ∈ (g.node n).gets, vs.1 ∈ e.2 →
          vs ∈ storeGet sd.store (g.worker w).id ∨ vs ∈ storeGet sd.store "shared" ∨
          (∃ v, vs ∈ storeGet sd.store (g.worker v).id ∧ HasLoc locs vs.1 (workerLoc g v) ∧ mayUse g n w v = true) ∨
          (∃ r ∈ sharedResults g sd e.1, r.status ≠ "PASS") := by
  have sc : SemCtx g store := ⟨hy, hO, hF, hI⟩
  have hw := GraphWF.of_bool hwf
  obtain ⟨n, sd, hid, h1, h2, hn, hidn, hfl, h3, h4, td, _, hav⟩ :=
    (resume_sem g H0 hw hroot sc s w out fuel (hr.reachR.basic hwf) (hr.reachR.uids hwf hN hP)
      (hr.reachH.trv hw hroot hO.uniq) (hr.sem hwf hroot sc hN hP)).2 _ he wid cname uid locs k rfl
  refine ⟨n, sd, hid, h1, h2, hn, (hO w n hn hfl).mp hidn, h3, h4, td, fun e hemem hfp hrel vs hvs hvm => ?_⟩
  rcases hav e hemem hfp hrel vs hvs hvm with h | ⟨v, hv, hl⟩ | h
  · exact Or.inr (Or.inl h)
  · exact Or.inr (Or.inr (Or.inl ⟨v, hv, by rw [h2]; exact hl, mayUse_full hy.fullScope hn hfl w v⟩))
  · exact Or.inr (Or.inr (Or.inr h))

/-- … and the invariant behind it, for every reachable state: (i) what is in a pool was there initially or was produced
by the pool's worker on one of its own parsed copies, which has a result; (ii) the states set by a traversed parsed
copy are sourced — shared pool, pool of a worker `pull_locations` names for the class, or a non-passing result. -/
theorem states_sourced (g : Graph) (hwf : graphWF g = true) (hroot : (g.node g.root).flat = true)
    (hO : OwnerNames g) (hF : FlatClass g) (hy : SemHyp g) (hN : NamesInj g) (hP : PreNamesFresh g)
    {ncls : Nat} {store : Store} (hI : InitShared store) {H0 : List Nat} {s : State} (hr : ReachS g ncls store H0 s) :
    Sem g store s :=
  hr.sem hwf hroot ⟨hy, hO, hF, hI⟩ hN hP

/-- … on a pre-parsed graph (nothing hidden initially): for all setup edges of `n`. -/
theorem start_has_states_partial_eager (g : Graph) (hwf : graphWF g = true) (hroot : (g.node g.root).flat = true)
    (hO : OwnerNames g) (hF : FlatClass g) (hy : SemHyp g) (hN : NamesInj g) (hP : PreNamesFresh g)
    {ncls : Nat} {store : Store} (hI : InitShared store) {s : State}
    (hr : ReachS g ncls store [] s) (w : Nat) (out : Outcome) (fuel : Nat)
    (wid cname uid : String) (locs : List (String × String)) (k : Nat)
    (he : Event.start wid cname uid locs k ∈ (resume g s w out fuel).2) :
    ∃ n sd, cname = clsName g n .plain ∧ locs = (sd.nd n).getLoc ∧ n < g.nodes.length ∧ (g.node n).owner = some w ∧
      Trv g [] sd ∧
      ∀ e ∈ (g.node n).setup, (g.node e.1).flat = false → relevant g w e.1 = true →
        ∀ vs ∈ (g.node n).gets, vs.1 ∈ e.2 →
          vs ∈ storeGet sd.store (g.worker w).id ∨ vs ∈ storeGet sd.store "shared" ∨
          (∃ v, vs ∈ storeGet sd.store (g.worker v).id ∧ HasLoc locs vs.1 (workerLoc g v) ∧ mayUse g n w v = true) ∨
          (∃ r ∈ sharedResults g sd e.1, r.status ≠ "PASS") := by
  obtain ⟨n, sd, hid, h1, h2, hn, ho, _, h4, td, hav⟩ :=
    start_has_states_partial g hwf hroot hO hF hy hN hP hI hr w out fuel wid cname uid locs k he
  obtain rfl : hid = [] := List.subset_nil.mp h4
  exact ⟨n, sd, h1, h2, hn, ho, td, hav⟩

/-! ### non-vacuity and the two findings the hypotheses exclude (instances `exSt…` of `Lemmas/TravStates.lean`:
test `a` sets `vm1/a`, net2's test `b` gets it; net1 has a copy of `a` only) -/

theorem exSt_hyps : graphWF exSt = true ∧ (exSt.node exSt.root).flat = true ∧ OwnerNames exSt ∧ FlatClass exSt ∧ SemHyp exSt ∧
    NamesInj exSt ∧ PreNamesFresh exSt ∧ InitShared ([] : Store) :=
  ⟨by decide +kernel, by decide +kernel, ownerNamesB_sound (by decide +kernel), by decide +kernel,
    ⟨by decide +kernel, by decide +kernel, by decide +kernel, by decide +kernel, by decide +kernel, by decide +kernel,
      by decide +kernel⟩,
    namesInjB_sound (by decide +kernel), preFreshB_sound (by decide +kernel), by decide +kernel⟩

example : ReachS exSt 3 [] [] exSt2 :=
  runSched_reachS exSt 3 [] [] 100 (by decide) _ (by decide +kernel) _ ReachS.init

set_option maxRecDepth 100000 in
/-- net1 ran `a` and passed; net2 skips its copy of `a` (the class is finished) and starts `b`, told net1's pool, where
the state is: the third disjunct of `start_has_states_partial` -/
example : Event.start "net2" "1" "2a1" [("vm1", ":/pool/shared net1:/pool/swarm")] 1 ∈ (resume exSt exSt2 1 exNoOut 100).2 ∧
    ("vm1", "a") ∈ storeGet (resume exSt exSt2 1 exNoOut 100).1.store "net1" ∧
    strIn (workerLoc exSt 0) ":/pool/shared net1:/pool/swarm" = true := by
  have h := foldl_resume_eqP exSt 100 [(0, exNoOut), (0, exPass)] _ (initState_hidden exSt 3 [])
  rw [show exSt2 = runSchedP exSt 100 _ _ from h.1, resume_eq_resumeP h.2]
  decide +kernel

example := start_has_states_partial_eager exSt exSt_hyps.1 exSt_hyps.2.1 exSt_hyps.2.2.1 exSt_hyps.2.2.2.1
  exSt_hyps.2.2.2.2.1 exSt_hyps.2.2.2.2.2.1 exSt_hyps.2.2.2.2.2.2.1 exSt_hyps.2.2.2.2.2.2.2
  (runSched_reachS exSt 3 [] [] 100 (by decide) [(0, exNoOut), (0, exPass)] (by decide +kernel) _ ReachS.init) 1 exNoOut 100

set_option maxRecDepth 100000 in
/-- Finding F5 (why `InitShared` is needed): the state exists initially in net1's own pool only.  net1 finds it there
and skips `a` without a result; net2 skips its copy (the class counts as finished, no scan) and starts `b` told the
shared pool only — the state is neither in its own pool, nor in the shared pool, nor is any pool named, nor has the
producing class any result: every disjunct of `start_has_states_partial` fails. -/
theorem f5_state_only_in_peer_pool :
    ¬ InitShared exStore5 ∧
    ReachS exSt 3 exStore5 [] exSt5_1 ∧
    Event.start "net2" "1" "2a1" [("vm1", ":/pool/shared")] 1 ∈ (resume exSt exSt5_1 1 exNoOut 100).2 ∧
    ("vm1", "a") ∉ storeGet (resume exSt exSt5_1 1 exNoOut 100).1.store "net2" ∧
    ("vm1", "a") ∉ storeGet (resume exSt exSt5_1 1 exNoOut 100).1.store "shared" ∧
    strIn (workerLoc exSt 0) ":/pool/shared" = false ∧
    sharedResults exSt (resume exSt exSt5_1 1 exNoOut 100).1 1 = [] :=
  ⟨by decide +kernel, runSched_reachS exSt 3 exStore5 [] 100 (by decide) _ (by decide +kernel) _ ReachS.init, by
    have h := foldl_resume_eqP exSt 100 [(0, exNoOut)] _ (initState_hidden exSt 3 exStore5)
    rw [show exSt5_1 = runSchedP exSt 100 _ _ from h.1, resume_eq_resumeP h.2]
    decide +kernel⟩

set_option maxRecDepth 100000 in
/-- Known finding `non-lxc-workers-share-although-swarm-scope-disabled` (F10; why `FullScope` is needed): with the `swarm` scope disabled net2 is still told net1's pool — the only
place where the state is — which it may not use; the producing class has passed, so nothing excepts the start. -/
theorem f10_swarm_scope_disabled :
    ¬ FullScope exSt10 ∧
    ReachS exSt10 3 [] [] exSt10_2 ∧
    Event.start "net2" "1" "2a1" [("vm1", ":/pool/shared net1:/pool/swarm")] 1 ∈ (resume exSt10 exSt10_2 1 exNoOut 100).2 ∧
    ("vm1", "a") ∉ storeGet (resume exSt10 exSt10_2 1 exNoOut 100).1.store "net2" ∧
    ("vm1", "a") ∉ storeGet (resume exSt10 exSt10_2 1 exNoOut 100).1.store "shared" ∧
    ("vm1", "a") ∈ storeGet (resume exSt10 exSt10_2 1 exNoOut 100).1.store "net1" ∧
    mayUse exSt10 2 1 0 = false ∧
    (sharedResults exSt10 (resume exSt10 exSt10_2 1 exNoOut 100).1 1).all (fun r => r.status == "PASS") = true :=
  ⟨by decide +kernel, runSched_reachS exSt10 3 [] [] 100 (by decide) _ (by decide +kernel) _ ReachS.init, by
    have h := foldl_resume_eqP exSt10 100 [(0, exNoOut), (0, exPass)] _ (initState_hidden exSt10 3 [])
    rw [show exSt10_2 = runSchedP exSt10 100 _ _ from h.1, resume_eq_resumeP h.2]
    decide +kernel⟩

/-! ## the semantic core WITH state removal on pre-parsed graphs: `start_has_states_removal_partial`

`NoRemoval` is dropped.  Common hypotheses (all decidable): `Clean.WellFormed g ncls` (the hypotheses of C05's run-level
theorem: edges recorded at both ends, one copy per class and worker, flat root without parents, registers for every
class, …), `SemHypR g` = `SemHyp g` with `NoRemoval` replaced by `NoCopyBack` (`pool_filter` ∈ {reuse, block}: backing
out never copies states from the shared pool into the own one); nothing hidden initially (`ReachS … []`).

Invariant (`Lemmas/TravStatesRm.lean`), inductive without further hypotheses: `SemR` = `Prov` ∧ `FinSrcR` ∧ `FinRes` — the
set states of a traversed parsed copy are sourced, OR a removable copy of its class is cleanup-ready for its owner
(`reverse_node` is only reached on a cleanup-ready node, and `droppedCleanup` registers only grow); the class of a
traversed stateless copy has a result.  At the start of a dependant `n` the second alternative has to be refuted:

* `start_has_states_removal_partial`: `RemovableSingle` (a class one of whose set states has an `f…` unset mode has ONE
  parsed copy — in particular every graph with a single worker, `start_has_states_removal_single_worker`).  The copy is
  then the starting worker's own one, and C05's invariant `CInv` on the state the step ends in says that the worker, which
  awaits the test on `n`, has not dropped `n` — but a cleanup-ready parent has.
* `start_has_states_removal_symmetric_partial`: `SymCopies` (the copies of a removable class have dependants of the
  same classes) and `MaxTriesOne` (no retries), any number of copies.  The owner of the cleanup-ready copy has dropped,
  hence traversed, its copy of the class of `n`; but without retries `n` is only run when its class has no result
  (stateless) or no traversed copy (stateful).

Neither can simply be dropped: `removed_state_stale_location` (two copies, the dependant parsed for one worker only). -/

theorem start_semR (g : Graph) {ncls : Nat} (hW : Clean.WellFormed g ncls) (hy : SemHypR g) (hN : NamesInj g)
    (hP : PreNamesFresh g) {store : Store} (hI : InitShared store) {s : State} (hr : ReachS g ncls store [] s) (w : Nat)
    (out : Outcome) (fuel : Nat) (wid cname uid : String) (locs : List (String × String)) (k : Nat)
    (he : Event.start wid cname uid locs k ∈ (resume g s w out fuel).2) :
    StartSemR g store w (resume g s w out fuel).1 (.start wid cname uid locs k) := by
  have hO : OwnerNames g := ownerNamesB_sound hW.2.1
  have sc : SemCtxR g store := ⟨hy, hO, hW.2.2.1, hI⟩
  have hgw := GraphWF.of_bool hW.1
  exact ((resume_semR g hgw hW.hyp.top.1 sc s w out fuel (hr.reachR.basic hW.1) (hr.reachR.uids hW.1 hN hP)
    (hr.reachH.trv hgw hW.hyp.top.1 hO.uniq) (hr.semR hW.1 hW.hyp.top.1 sc hN hP)).2 _ he).resolve_left
      (fun hns => hns wid cname uid locs k rfl)

/-- With removal, one copy per removable class: whenever a `resume` step (positive fuel) of a worker `w` of the run emits
a `start` event on a pre-parsed graph, it is the start of the test proper of a node `n` that `w` owns, told the locations
`locs` = the `get_location` entries of `n` in the state `sd` in which the start was decided, and every state `vs` that `n`
gets through a setup edge from a parsed parent relevant to `w` is — in `sd`, i.e. not removed — in `w`'s own pool, or in
the shared pool, or in the pool of a worker `v` of the run whose location is contained in the entry of `vs`'s vm in
`locs` and which `w` may use, or the parent's class has a result that did not pass.

Partial w.r.t. the full C01 statement in the hypotheses of `start_has_states_partial` (minus `NoRemoval`) and in:
pre-parsed graph, `NoCopyBack`, `RemovableSingle`. -/
theorem start_has_states_removal_partial (g : Graph) {ncls : Nat} (hW : Clean.WellFormed g ncls) (hy : SemHypR g)
    (hRS : RemovableSingle g)
    (hN : NamesInj g) (hP : PreNamesFresh g) {store : Store} (hI : InitShared store) {s : State}
    (hr : ReachS g ncls store [] s) (w : Nat) (hw : w < g.workers.length) (out : Outcome) (fuel : Nat) (hfuel : 0 < fuel)
    (wid cname uid : String) (locs : List (String × String)) (k : Nat)
    (he : Event.start wid cname uid locs k ∈ (resume g s w out fuel).2) :
    ∃ n sd, cname = clsName g n .plain ∧ locs = (sd.nd n).getLoc ∧ n < g.nodes.length ∧ (g.node n).owner = some w ∧
      Trv g [] sd ∧
      ∀ e ∈ (g.node n).setup, (g.node e.1).flat = false → relevant g w e.1 = true →
        ∀ vs ∈ (g.node n).gets, vs.1 ∈ e.2 →
          vs ∈ storeGet sd.store (g.worker w).id ∨ vs ∈ storeGet sd.store "shared" ∨
          (∃ v, v < g.workers.length ∧ vs ∈ storeGet sd.store (g.worker v).id ∧ HasLoc locs vs.1 (workerLoc g v) ∧
            mayUse g n w v = true) ∨
          (∃ r ∈ sharedResults g sd e.1, r.status ≠ "PASS") := by
  have hO : OwnerNames g := ownerNamesB_sound hW.2.1
  have H := hW.hyp
  have hgw := GraphWF.of_bool hW.1
  obtain ⟨n, sd, h1, h2, hn, hidn, hfl, td, _, hav, _, hreg, hwl, hpc⟩ :=
    start_semR g hW hy hN hP hI hr w out fuel wid cname uid locs k he wid cname uid locs k rfl
  -- C05's invariant on the state the step ends in: `w` awaits the test on `n` and has not dropped `n`
  have ci := (hr.reachC.cinv H hW.2.2.2.2.2.2.1).step H w out fuel hw hfuel
  obtain ⟨dir, uid', tag, hpc'⟩ := hpc (by rw [← hwl, ci.wl]; exact hw)
  have hnd := ci.not_dropped_in_flight w n .plain dir uid' tag 0 hpc'
  refine ⟨n, sd, h1, h2, hn, (hO w n hn hfl).mp hidn, td, fun e hemem hfp hrel vs hvs hvm => ?_⟩
  rcases hav e hemem hfp hrel vs hvs hvm with h | ⟨v, hvl, hv, hl⟩ | h | ⟨i, u, hil, hfi, hic, hio, hrem, hcr⟩
  · exact Or.inr (Or.inl h)
  · exact Or.inr (Or.inr (Or.inl ⟨v, hvl, hv, by rw [h2]; exact hl, mayUse_full hy.fullScope hn hfl w v⟩))
  · exact Or.inr (Or.inr (Or.inr h))
  · -- the removable copy is `w`'s own copy of the parent; it is cleanup-ready for `w`: then `w` has dropped `n`
    exfalso
    have hpl : e.1 < g.nodes.length := hgw.setup_lt n e hemem
    have hie : i = e.1 := hRS i hil e.1 hpl hfi hfp hrem hic
    rw [hie] at hio hcr
    have hou : (g.node e.1).owner = some w := (hO w e.1 hpl hfp).mp (relevant_nonflat hrel hfp)
    rw [hou] at hio
    cases hio
    have hsym : n ∈ (g.node e.1).cleanup.map (·.1) := (H.sym e.1 hpl n hn).mp (List.mem_map.mpr ⟨e, hemem, rfl⟩)
    obtain ⟨q, hq, hqn⟩ := List.mem_map.mp hsym
    have := (cleanup_ready_iff g sd e.1 w).mp hcr q hq (by rw [hqn]; exact relevant_of_idIn hidn)
    rw [hqn] at this
    exact hnd ⟨(g.node e.1).cls, by rw [hreg]; exact this⟩

/-- The single-worker case: with ONE worker no hypothesis on the removal policies is needed beyond `NoCopyBack`
(the worker's own removals never precede its own dependants' starts) — `RemovableSingle` follows from one copy per class
and worker (`CopyUniq`, part of `WellFormed`) and from every parsed node having an owner (`ParsedOwned`).  Every state
a started test gets from a parsed parent is then in the worker's own pool, in the shared pool, or the parent's class
has a result that did not pass. -/
theorem start_has_states_removal_single_worker (g : Graph) {ncls : Nat} (hW : Clean.WellFormed g ncls)
    (h1 : g.workers.length = 1) (hPO : ParsedOwned g) (hy : SemHypR g)
    (hN : NamesInj g) (hP : PreNamesFresh g) {store : Store} (hI : InitShared store) {s : State}
    (hr : ReachS g ncls store [] s) (out : Outcome) (fuel : Nat) (hfuel : 0 < fuel)
    (wid cname uid : String) (locs : List (String × String)) (k : Nat)
    (he : Event.start wid cname uid locs k ∈ (resume g s 0 out fuel).2) :
    ∃ n sd, cname = clsName g n .plain ∧ locs = (sd.nd n).getLoc ∧ n < g.nodes.length ∧ (g.node n).owner = some 0 ∧
      Trv g [] sd ∧
      ∀ e ∈ (g.node n).setup, (g.node e.1).flat = false → relevant g 0 e.1 = true →
        ∀ vs ∈ (g.node n).gets, vs.1 ∈ e.2 →
          vs ∈ storeGet sd.store (g.worker 0).id ∨ vs ∈ storeGet sd.store "shared" ∨
          (∃ r ∈ sharedResults g sd e.1, r.status ≠ "PASS") := by
  obtain ⟨n, sd, a1, a2, a3, a4, a5, hav⟩ := start_has_states_removal_partial g hW hy
    (removableSingle_of_one_worker h1 hy.ownersReal hPO hW.2.2.2.2.1)
    hN hP hI hr 0 (by omega) out fuel hfuel wid cname uid locs k he
  refine ⟨n, sd, a1, a2, a3, a4, a5, fun e hemem hfp hrel vs hvs hvm => ?_⟩
  rcases hav e hemem hfp hrel vs hvs hvm with h | h | ⟨v, hvl, hv, _, _⟩ | h
  · exact Or.inl h
  · exact Or.inr (Or.inl h)
  · have hv0 : v = 0 := by omega
    subst hv0; exact Or.inl hv
  · exact Or.inr (Or.inr h)

/-- Several copies of a removable class: with `SymCopies` (for every dependant of a copy of a removable class that the
copy's owner cares for, every removable copy of the class has a dependant of the same class that ITS owner cares for) and
`MaxTriesOne` (no retries) the same conclusion holds for every step of every worker — whoever removed the state had
dropped, hence traversed, its own copy of the dependant's class, and a class with a traversed copy (stateful) or a result
(stateless) is never run again without retries.  No hypothesis on the scopes of the workers. -/
theorem start_has_states_removal_symmetric_partial (g : Graph) {ncls : Nat} (hW : Clean.WellFormed g ncls)
    (hy : SemHypR g) (hSym : SymCopies g) (hMT : MaxTriesOne g)
    (hN : NamesInj g) (hP : PreNamesFresh g) {store : Store} (hI : InitShared store) {s : State}
    (hr : ReachS g ncls store [] s) (w : Nat) (out : Outcome) (fuel : Nat)
    (wid cname uid : String) (locs : List (String × String)) (k : Nat)
    (he : Event.start wid cname uid locs k ∈ (resume g s w out fuel).2) :
    ∃ n sd, cname = clsName g n .plain ∧ locs = (sd.nd n).getLoc ∧ n < g.nodes.length ∧ (g.node n).owner = some w ∧
      Trv g [] sd ∧
      ∀ e ∈ (g.node n).setup, (g.node e.1).flat = false → relevant g w e.1 = true →
        ∀ vs ∈ (g.node n).gets, vs.1 ∈ e.2 →
          vs ∈ storeGet sd.store (g.worker w).id ∨ vs ∈ storeGet sd.store "shared" ∨
          (∃ v, v < g.workers.length ∧ vs ∈ storeGet sd.store (g.worker v).id ∧ HasLoc locs vs.1 (workerLoc g v) ∧
            mayUse g n w v = true) ∨
          (∃ r ∈ sharedResults g sd e.1, r.status ≠ "PASS") := by
  have hO : OwnerNames g := ownerNamesB_sound hW.2.1
  have hF : FlatClass g := hW.2.2.1
  have H := hW.hyp
  have hgw := GraphWF.of_bool hW.1
  obtain ⟨n, sd, h1, h2, hn, hidn, hfl, td, jd, hav, hwhy, _, _, _⟩ :=
    start_semR g hW hy hN hP hI hr w out fuel wid cname uid locs k he wid cname uid locs k rfl
  obtain ⟨w1, w2⟩ := hwhy (hMT n hn)
  refine ⟨n, sd, h1, h2, hn, (hO w n hn hfl).mp hidn, td, fun e hemem hfp hrel vs hvs hvm => ?_⟩
  rcases hav e hemem hfp hrel vs hvs hvm with h | ⟨v, hvl, hv, hl⟩ | h | ⟨i, u, hil, hfi, hic, hio, hrem, hcr⟩
  · exact Or.inr (Or.inl h)
  · exact Or.inr (Or.inr (Or.inl ⟨v, hvl, hv, by rw [h2]; exact hl, mayUse_full hy.fullScope hn hfl w v⟩))
  · exact Or.inr (Or.inr (Or.inr h))
  · -- a removable copy `i` of the parent's class is cleanup-ready for its owner `u`: `u` has traversed its copy `x` of
    -- the class of `n`, so `n` would not have been run
    exfalso
    have hpl : e.1 < g.nodes.length := hgw.setup_lt n e hemem
    have hoe : (g.node e.1).owner = some w := (hO w e.1 hpl hfp).mp (relevant_nonflat hrel hfp)
    have hsym : n ∈ (g.node e.1).cleanup.map (·.1) := (H.sym e.1 hpl n hn).mp (List.mem_map.mpr ⟨e, hemem, rfl⟩)
    obtain ⟨q, hq, hqn⟩ := List.mem_map.mp hsym
    obtain ⟨c', hc'mem, hc'cls, hc'rel⟩ := hSym e.1 hpl i hil hfp hfi hic.symm hrem w (hy.ownersReal.lt hpl hoe) u
      (hy.ownersReal.lt hil hio) hoe hio q hq (by rw [hqn]; exact relevant_of_idIn hidn)
    have hdr := (cleanup_ready_iff g sd i u).mp hcr c' hc'mem hc'rel
    obtain ⟨x, hxl, hxc, _, hxf⟩ := td.dropC _ _ u hdr
    have hxn : (g.node x).cls = (g.node n).cls := by rw [hxc, hc'cls, hqn]
    have hflx : (g.node x).flat = false := by rw [hF x hxl n hn hxn]; exact hfl
    have hfx := hxf hflx
    cases hs : (g.node n).sets with
    | nil =>
      have hsx : (g.node x).sets = [] := by rw [hy.setsClass x hxl n hn hxn]; exact hs
      obtain ⟨r, hr'⟩ := jd.res x hxl hflx (by rw [hfx]; rfl) hsx
      have := sharedResults_class g sd x n hxl hn hflx hfl hxn r hr'
      rw [w1 hs] at this
      cases this
    | cons a l =>
      have := w2 (by rw [hs]; exact List.cons_ne_nil a l) x ((mem_copies g n x hn hfl).mpr ⟨hxl, hxn⟩)
      rw [hfx] at this
      cases this

/-! ### non-vacuity (instances `exRm1`, `exRm2`, `exRmSym` of `Lemmas/TravStatesRm.lean`) -/

theorem exRm1_hyps : Clean.WellFormed exRm1 3 ∧ exRm1.workers.length = 1 ∧ ParsedOwned exRm1 ∧ SemHypR exRm1 ∧
    NamesInj exRm1 ∧ PreNamesFresh exRm1 ∧ ¬ NoRemoval exRm1 :=
  ⟨by decide +kernel, by decide +kernel, by decide +kernel,
    ⟨by decide +kernel, by decide +kernel, by decide +kernel, by decide +kernel, by decide +kernel, by decide +kernel,
      by decide +kernel⟩,
    namesInjB_sound (by decide +kernel), preFreshB_sound (by decide +kernel), by decide +kernel⟩

example : ReachS exRm1 3 [] [] exRm1_2 :=
  runSched_reachS exRm1 3 [] [] 100 (by decide) _ (by decide +kernel) _ ReachS.init

set_option maxRecDepth 100000 in
/-- one worker, `a` sets `vm1/a` with the removal policy `fi`: when `a` has passed, `b` is started with the state in
the worker's own pool; when `b` has passed, `b` is dropped, `a` is reversed and only then the state is removed -/
example : Event.start "net1" "1" "2a1" [("vm1", ":/pool/shared net1:/pool/swarm")] 1 ∈ (resume exRm1 exRm1_1 0 exPass 100).2 ∧
    ("vm1", "a") ∈ storeGet (resume exRm1 exRm1_1 0 exPass 100).1.store "net1" ∧
    Event.door "net1" "unset" [("vm1", "a")] ["own"] true ∈ (resume exRm1 exRm1_2 0 exPass 100).2 ∧
    ("vm1", "a") ∉ storeGet (resume exRm1 exRm1_2 0 exPass 100).1.store "net1" := by
  have h := foldl_resume_eqP exRm1 100 [(0, exNoOut)] _ (initState_hidden exRm1 3 [])
  rw [show exRm1_2 = (resume exRm1 exRm1_1 0 exPass 100).1 from runSched_snoc exRm1 100 _ [(0, exNoOut)] 0 exPass,
    show exRm1_1 = runSchedP exRm1 100 _ _ from h.1,
    resume_eq_resumeP h.2, resume_eq_resumeP ((hidden_resumeP ..).trans h.2)]
  decide +kernel

example := start_has_states_removal_single_worker exRm1 exRm1_hyps.1 exRm1_hyps.2.1 exRm1_hyps.2.2.1 exRm1_hyps.2.2.2.1
  exRm1_hyps.2.2.2.2.1 exRm1_hyps.2.2.2.2.2.1 (by decide : InitShared ([] : Store))
  (runSched_reachS exRm1 3 [] [] 100 (by decide) [(0, exNoOut)] (by decide +kernel) _ ReachS.init) exPass 100 (by decide)

/-- two workers in one scope, the removable class parsed for one of them only: the hypotheses of
`start_has_states_removal_partial` are satisfiable with `g.workers.length = 2` -/
theorem exRm2_hyps : Clean.WellFormed exRm2 4 ∧ SemHypR exRm2 ∧ RemovableSingle exRm2 ∧ NamesInj exRm2 ∧
    PreNamesFresh exRm2 ∧ exRm2.workers.length = 2 ∧ Clean.OneScope exRm2 ∧ ¬ NoRemoval exRm2 :=
  ⟨by decide +kernel,
    ⟨by decide +kernel, by decide +kernel, by decide +kernel, by decide +kernel, by decide +kernel, by decide +kernel,
      by decide +kernel⟩,
    by decide +kernel, namesInjB_sound (by decide +kernel), preFreshB_sound (by decide +kernel), by decide +kernel,
    by decide +kernel, by decide +kernel⟩

example := start_has_states_removal_partial exRm2 exRm2_hyps.1 exRm2_hyps.2.1 exRm2_hyps.2.2.1 exRm2_hyps.2.2.2.1
  exRm2_hyps.2.2.2.2.1 (by decide : InitShared ([] : Store))
  (runSched_reachS exRm2 4 [] [] 100 (by decide) [(1, exNoOut), (0, exNoOut)] (by decide +kernel) _ ReachS.init)
  1 (by decide) exPass 100 (by decide)

/-- two workers, every class parsed for both (two copies of the removable class): the hypotheses of
`start_has_states_removal_symmetric_partial` hold, `RemovableSingle` does not -/
theorem exRmSym_hyps : Clean.WellFormed exRmSym 4 ∧ SemHypR exRmSym ∧ SymCopies exRmSym ∧ MaxTriesOne exRmSym ∧
    NamesInj exRmSym ∧ PreNamesFresh exRmSym ∧ ¬ RemovableSingle exRmSym ∧ ¬ NoRemoval exRmSym :=
  ⟨by decide +kernel,
    ⟨by decide +kernel, by decide +kernel, by decide +kernel, by decide +kernel, by decide +kernel, by decide +kernel,
      by decide +kernel⟩,
    by decide +kernel, by decide +kernel, namesInjB_sound (by decide +kernel), preFreshB_sound (by decide +kernel),
    by decide +kernel, by decide +kernel⟩

set_option maxRecDepth 100000 in
/-- net1 ran `a` (PASS) and is running `b`; net2 skips its copy of `a` and starts `d`, told net1's pool, where the state
still is (net1 cannot reverse `a` before it has dropped `b` and `d`) -/
example : Event.start "net2" "3" "3a1" [("vm1", ":/pool/shared net1:/pool/swarm")] 1 ∈ (resume exRmSym exRmSym_2 1 exNoOut 100).2 ∧
    ("vm1", "a") ∈ storeGet (resume exRmSym exRmSym_2 1 exNoOut 100).1.store "net1" := by
  have h := foldl_resume_eqP exRmSym 100 [(0, exNoOut), (0, exPass)] _ (initState_hidden exRmSym 4 [])
  rw [show exRmSym_2 = runSchedP exRmSym 100 _ _ from h.1, resume_eq_resumeP h.2]
  decide +kernel

example := start_has_states_removal_symmetric_partial exRmSym exRmSym_hyps.1 exRmSym_hyps.2.1 exRmSym_hyps.2.2.1
  exRmSym_hyps.2.2.2.1 exRmSym_hyps.2.2.2.2.1 exRmSym_hyps.2.2.2.2.2.1 (by decide : InitShared ([] : Store))
  (runSched_reachS exRmSym 4 [] [] 100 (by decide) [(0, exNoOut), (0, exPass)] (by decide +kernel) _ ReachS.init)
  1 exNoOut 100

set_option maxRecDepth 100000 in
/-- Why `RemovableSingle` resp. `SymCopies` is needed — the stale location.  `exRmStale`: two workers of one scope, the
class `a` (sets `vm1/a`, removal policy `fi`) has a copy for each, the dependant `b` is parsed for net2 only; the graph is
well-formed in the sense of C05, there are no retries, and every other hypothesis of the two theorems holds.  net1 runs
`a` (PASS: the state is in net1's pool), finds its copy without dependants, is the only involved worker (net2 has not
picked `a` yet) and removes the state.  net2 then comes to its copy of `a`: the class counts as finished, so **no scan**
takes place and the rerun rule (`max_tries = 1`) says no; net2 skips `a` and starts `b`, told the shared pool and net1's
pool — the state is in neither, nor in net2's own pool, and the only result of the producing class is the PASS: every
disjunct of the theorems fails.  (The argument "a late worker finds the state missing in its own scan and re-runs the
producer" is not true of `default_run_decision`: the scan is skipped as soon as anybody has finished the class.) -/
theorem removed_state_stale_location :
    Clean.WellFormed exRmStale 3 ∧ Clean.OneScope exRmStale ∧ SemHypR exRmStale ∧ MaxTriesOne exRmStale ∧
    ¬ RemovableSingle exRmStale ∧ ¬ SymCopies exRmStale ∧
    ReachS exRmStale 3 [] [] exRmStale_2 ∧
    Event.door "net1" "unset" [("vm1", "a")] ["own"] true ∈
      (resume exRmStale (runSched exRmStale 100 (initState exRmStale 3 [] []) [(0, exNoOut)]) 0 exPass 100).2 ∧
    Event.start "net2" "1" "2a1" [("vm1", ":/pool/shared net1:/pool/swarm")] 1 ∈ (resume exRmStale exRmStale_2 1 exNoOut 100).2 ∧
    ("vm1", "a") ∉ storeGet (resume exRmStale exRmStale_2 1 exNoOut 100).1.store "net2" ∧
    ("vm1", "a") ∉ storeGet (resume exRmStale exRmStale_2 1 exNoOut 100).1.store "shared" ∧
    ("vm1", "a") ∉ storeGet (resume exRmStale exRmStale_2 1 exNoOut 100).1.store "net1" ∧
    (sharedResults exRmStale (resume exRmStale exRmStale_2 1 exNoOut 100).1 1).all (fun r => r.status == "PASS") = true :=
  ⟨by decide +kernel, by decide +kernel,
    ⟨by decide +kernel, by decide +kernel, by decide +kernel, by decide +kernel, by decide +kernel, by decide +kernel,
      by decide +kernel⟩,
    by decide +kernel, by decide +kernel, by decide +kernel,
    runSched_reachS exRmStale 3 [] [] 100 (by decide) _ (by decide +kernel) _ ReachS.init, by
    have h := foldl_resume_eqP exRmStale 100 [(0, exNoOut)] _ (initState_hidden exRmStale 3 [])
    rw [show exRmStale_2 = (resume exRmStale (runSched exRmStale 100 (initState exRmStale 3 [] []) [(0, exNoOut)]) 0 exPass
        100).1 from runSched_snoc exRmStale 100 _ [(0, exNoOut)] 0 exPass,
      show runSched exRmStale 100 (initState exRmStale 3 [] []) [(0, exNoOut)] = runSchedP exRmStale 100 _ _ from h.1,
      resume_eq_resumeP h.2, resume_eq_resumeP ((hidden_resumeP ..).trans h.2)]
    decide +kernel⟩

set_option maxRecDepth 100000 in
/-- Why `MaxTriesOne` is needed in `start_has_states_removal_symmetric_partial` (which has no hypothesis on the scopes).
`exRmRetry`: the symmetric graph with the two workers in DIFFERENT swarms, `d` with `max_tries = 3` and
`rerun_status = fail`; every other hypothesis holds.  `c1.net1` runs `a` (PASS) and `b`; `c2.net2` skips `a` and starts
`d` (state in `c1.net1`'s pool).  `c1.net1` finishes `b`, comes to its copy of `d`: the peer's placeholder `UNKNOWN` is
not in the rerun set, so the run decision is negative although `d` has not been decided yet; it drops `d`, its copy of
`a` is cleanup-ready, the clean decision waits for its own swarm only (the known cross-swarm finding of C05) and the state
is removed.  Then `d` FAILS on `c2.net2`: now every status is in the rerun set, two tries are left, and `c2.net2` starts `d`
again (`3a1r1`), told `c1.net1`'s pool — where the state no longer is. -/
theorem retries_cross_swarm_stale_restart :
    Clean.WellFormed exRmRetry 4 ∧ SemHypR exRmRetry ∧ SymCopies exRmRetry ∧ ¬ MaxTriesOne exRmRetry ∧
    ¬ Clean.OneScope exRmRetry ∧
    ReachS exRmRetry 4 [] [] exRmRetry_4 ∧
    Event.start "c2.net2" "3" "3a1r1" [("vm1", ":/pool/shared c1.net1:/pool/swarm")] 1 ∈ (resume exRmRetry exRmRetry_4 1 exFail 100).2 ∧
    ("vm1", "a") ∉ storeGet (resume exRmRetry exRmRetry_4 1 exFail 100).1.store "c2.net2" ∧
    ("vm1", "a") ∉ storeGet (resume exRmRetry exRmRetry_4 1 exFail 100).1.store "shared" ∧
    ("vm1", "a") ∉ storeGet (resume exRmRetry exRmRetry_4 1 exFail 100).1.store "c1.net1" ∧
    (sharedResults exRmRetry (resume exRmRetry exRmRetry_4 1 exFail 100).1 1).all (fun r => r.status == "PASS") = true :=
  ⟨by decide +kernel,
    ⟨by decide +kernel, by decide +kernel, by decide +kernel, by decide +kernel, by decide +kernel, by decide +kernel,
      by decide +kernel⟩,
    by decide +kernel, by decide +kernel, by decide +kernel,
    runSched_reachS exRmRetry 4 [] [] 100 (by decide) _ (by decide +kernel) _ ReachS.init, by
    have h := foldl_resume_eqP exRmRetry 100 [(0, exNoOut), (0, exPass), (1, exNoOut), (0, exPass)] _
      (initState_hidden exRmRetry 4 [])
    rw [show exRmRetry_4 = runSchedP exRmRetry 100 _ _ from h.1, resume_eq_resumeP h.2]
    decide +kernel⟩

end I2N.Props.C01
