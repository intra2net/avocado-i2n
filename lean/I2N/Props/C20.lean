import I2N.Lemmas.Tools
import I2N.Lemmas.ToolsChain
import I2N.Lemmas.ToolsTerm
import I2N.Extracted.GenManu
/-!
# C20 — Manual steps act once per selected vm and worker, in the given order

Model: `I2N/Model/Tools.lean` (the one `Driver/Tools.lean` runs).

* the star graph a step builds under the shared root (`buildPerVm`, `buildOneNode`) and its traversal by any number of
  workers under any interleaving (`runSched`: a schedule is an arbitrary list of worker slices) with the run policy
  the tools install (`not shared root and this worker has not finished it`);
* the setup chain loop of `Manu.run` (`runChain`), the return values of the built-in steps (`stepOutcome`) and what
  a reusing step leaves in `config["param_dict"]` (`reuseEnvAfter`).

`NamesWF g` (checked on every real graph by the harness): a node's name contains the id of exactly one worker of the
graph, the one it was parsed for — so `worker.id in node.params["name"]` is ownership.
-/
namespace I2N.Props.C20
open I2N.Tools

/-! ## executions of one step -/

/-- Safety under every interleaving, finished or not: no class of nodes (one test for one vm variant on one worker)
is executed twice by its worker. -/
theorem at_most_once (g : Star) (hwf : NamesWF g) (sched : List Nat) (w : Nat) (k : String) :
    cnt g (runSched g .star sched {}) w k ≤ 1 := by
  have h := (inv_runSched hwf sched {} (inv_init g)).count w k
  rw [h]; split <;> omega

/-- Only the worker a node was parsed for executes it (any interleaving, any prefix of the run). -/
theorem only_owner_executes (g : Star) (hwf : NamesWF g) (sched : List Nat) :
    ∀ e ∈ (runSched g .star sched {}).execs, owns g e.1 e.2 :=
  (inv_runSched hwf sched {} (inv_init g)).execOwned

/-- **once_per_vm_worker** — when the workers are done (whatever the interleaving was), every node class that exists
for a worker has been executed by that worker exactly once.  No bound on the number of vms, variants or workers. -/
theorem once_per_vm_worker (g : Star) (hwf : NamesWF g) (sched : List Nat)
    (hdone : allDone g (runSched g .star sched {}) = true) (w n : Nat) (ho : owns g w n) :
    cnt g (runSched g .star sched {}) w (keyOf g n) = 1 := by
  have inv := inv_runSched hwf sched {} (inv_init g)
  rw [inv.count w (keyOf g n)]
  simp [busy, done_dropped hwf hdone ho]

/-- … and nothing else is executed: an execution counted for `(w, k)` is the execution of a node of class `k` that
exists in the graph for worker `w`. -/
theorem nothing_else_executed (g : Star) (hwf : NamesWF g) (sched : List Nat) (w : Nat) (k : String)
    (h : 0 < cnt g (runSched g .star sched {}) w k) : ∃ n, owns g w n ∧ keyOf g n = k := by
  unfold cnt at h
  obtain ⟨e, he⟩ := List.exists_mem_of_length_pos h
  simp only [List.mem_filter, Bool.and_eq_true, beq_iff_eq] at he
  have := only_owner_executes g hwf sched e he.1
  exact ⟨e.2, by rw [← he.2.1]; exact this, he.2.2⟩

/-- The finished-worker test in the run flag is what makes this true: without it (`noFinishedCheck`) a single worker
with a single node executes it again on every visit. -/
example : let g : Star := { workers := ["net1"], nodes := [{ owner := 0, vms := ["vm1"], name := "t.vm1.net1", key := "t.vm1", params := [] }] }
    (runSched g .noFinishedCheck [0, 0, 0, 0, 0, 0] {}).execs = [(0, 0), (0, 0), (0, 0)] := by decide +kernel

/-! ## which nodes a step creates: selected vms × compatible workers, with the step's parameters -/

/-- **once per selected vm and compatible worker** (state steps `check … clean`): for every worker, every selected vm
object and every node the parser yields for them (none when the worker is incompatible with the vm), the finished
step has executed that node's class exactly once on that worker. -/
theorem step_once_per_vm_worker (workers vmObjs : List String) (parse : Parser) (pd step : Dict) (sched : List Nat)
    (hwf : NamesWF { workers := workers, nodes := buildPerVm workers.length vmObjs parse pd step })
    (hdone : allDone { workers := workers, nodes := buildPerVm workers.length vmObjs parse pd step }
      (runSched { workers := workers, nodes := buildPerVm workers.length vmObjs parse pd step } .star sched {}) = true)
    (w : Nat) (hw : w < workers.length) (vm : String) (hvm : vm ∈ vmObjs) (p : PNode) (hp : p ∈ parse w [vm]) :
    cnt { workers := workers, nodes := buildPerVm workers.length vmObjs parse pd step }
      (runSched { workers := workers, nodes := buildPerVm workers.length vmObjs parse pd step } .star sched {}) w p.key = 1 := by
  have hmem : ({ owner := w, vms := [vm], name := p.name, key := p.key, rank := p.rank,
                 params := ("object_suffix", vm) :: perVmDict pd step vm } : SNode) ∈
      buildPerVm workers.length vmObjs parse pd step := mem_buildPerVm.mpr ⟨w, hw, vm, hvm, p, hp, rfl⟩
  obtain ⟨n, hn⟩ := List.mem_iff_getElem?.mp hmem
  have ho : owns { workers := workers, nodes := buildPerVm workers.length vmObjs parse pd step } w n := ⟨_, hn, rfl⟩
  have := once_per_vm_worker _ hwf sched hdone w n ho
  simpa [keyOf, hn] using this

/-- **never_unselected** (state steps): every node of the step — hence every execution, by `only_owner_executes` —
is a node of exactly one selected vm, on a worker of the graph, and it is one the parser offered for that pair. -/
theorem never_unselected (nw : Nat) (vmObjs : List String) (parse : Parser) (pd step : Dict) (nd : SNode)
    (h : nd ∈ buildPerVm nw vmObjs parse pd step) :
    nd.owner < nw ∧ ∃ vm ∈ vmObjs, nd.vms = [vm] ∧ ∃ p ∈ parse nd.owner [vm], nd.name = p.name ∧ nd.key = p.key := by
  obtain ⟨w, hw, vm, hvm, p, hp, rfl⟩ := mem_buildPerVm.mp h
  exact ⟨hw, vm, hvm, rfl, p, hp, rfl, rfl⟩

/-- **params_applied** (state steps): in every node of the step the step's own dictionary wins over the command
line, the command line parameters the step does not mention are passed on, and `vms` is the node's vm. -/
theorem params_applied (nw : Nat) (vmObjs : List String) (parse : Parser) (pd step : Dict) (nd : SNode)
    (h : nd ∈ buildPerVm nw vmObjs parse pd step) :
    (∃ vm, nd.vms = [vm] ∧ dget nd.params "vms" = some vm ∧ dget nd.params "object_suffix" = some vm) ∧
    (∀ k v, k ≠ "vms" → k ≠ "object_suffix" → dget step k = some v → dget nd.params k = some v) ∧
    (∀ k, k ≠ "vms" → k ≠ "object_suffix" → dhas step k = false → dget nd.params k = dget pd k) := by
  obtain ⟨w, hw, vm, hvm, p, hp, rfl⟩ := mem_buildPerVm.mp h
  -- a key other than the two set per node is looked up in the step's dictionary, then in the command line's
  have key : ∀ k, k ≠ "vms" → k ≠ "object_suffix" →
      dget (("object_suffix", vm) :: perVmDict pd step vm) k = if dhas step k then dget step k else dget pd k := by
    intro k hk1 hk2
    rw [dget_cons_ne _ _ _ (by simpa using Ne.symm hk2), perVmDict, dget_cons_ne _ _ _ (by simpa using Ne.symm hk1),
      dupdate, dget_append]
  refine ⟨⟨vm, rfl, ?_, ?_⟩, fun k v hk1 hk2 hs => ?_, fun k hk1 hk2 hs => ?_⟩
  · simp [perVmDict, dget, List.find?]
  · simp [dget, List.find?]
  · rw [key k hk1 hk2, dhas_of_dget hs, if_pos rfl, hs]
  · rw [key k hk1 hk2, hs]
    rfl

/-- the dictionaries of the reusing steps (`collect`, `create`, `clean`) reach the nodes as well: the temporary
update of the command line dictionary is in force while the nodes are parsed -/
theorem reuse_params_applied (t : ToolSpec) (nw : Nat) (vms vmObjs : List String) (parse : Parser) (pd : Dict)
    (hk : t.kind = .perVm) (hu : t.unsetDefaults = false) (nodes : List SNode)
    (hb : buildTool t nw vms vmObjs parse pd = .ok nodes) (nd : SNode) (h : nd ∈ nodes)
    (k v : String) (hk1 : k ≠ "vms") (hk2 : k ≠ "object_suffix") (hs : dhas t.step k = false)
    (hr : dget t.reuse k = some v) : dget nd.params k = some v := by
  simp only [buildTool, hk, stepDict, hu, Bool.false_eq_true, if_false, Except.ok.injEq] at hb
  subst hb
  rw [(params_applied _ _ _ _ _ nd h).2.2 k hk1 hk2 hs, dupdate, dget_append, dhas_of_dget hr, if_pos rfl, hr]

/-- **multi-vm steps** (`boot … shutdown`): every node of the step is the one variant the parser has for a worker and
*all* selected vms at once, with `main_vm` the first of them and the command line parameters passed on. -/
theorem one_node_sound (nw : Nat) (vms : List String) (parse : Parser) (pd : Dict)
    (nodes : List SNode) (hb : buildOneNode nw vms parse pd = .ok nodes) (nd : SNode) (h : nd ∈ nodes) :
    nd.owner < nw ∧ nd.vms = vms ∧ (∃ p, parse nd.owner vms = [p] ∧ nd.name = p.name ∧ nd.key = p.key) ∧
      dget nd.params "vms" = some (" ".intercalate vms) ∧ dget nd.params "main_vm" = vms.head? ∧
      (∀ k, k ≠ "vms" → k ≠ "main_vm" → dget nd.params k = dget pd k) := by
  cases vms with
  | nil => simp [buildOneNode] at hb
  | cons first rest =>
    simp only [buildOneNode] at hb
    obtain ⟨w, hw, p, hp, rfl⟩ := (mem_oneNodeLoop hb nd).mp h
    refine ⟨List.mem_range.mp hw, rfl, ⟨p, hp, rfl, rfl⟩, ?_, ?_, ?_⟩
    · simp [oneNodeDict, dupdate, dget]
    · simp [oneNodeDict, dupdate, dget]
    · intro k h1 h2
      simp only [oneNodeDict, dupdate, List.cons_append, List.nil_append]
      rw [dget_cons_ne _ _ _ (by simpa using Ne.symm h1), dget_cons_ne _ _ _ (by simpa using Ne.symm h2)]

/-- … and every worker that has exactly one variant gets its node (workers without a variant get none, by
`one_node_sound`: a node's worker has exactly one). -/
theorem one_node_complete (nw : Nat) (vms : List String) (parse : Parser) (pd : Dict)
    (nodes : List SNode) (hb : buildOneNode nw vms parse pd = .ok nodes) (w : Nat) (hw : w < nw) (p : PNode)
    (hp : parse w vms = [p]) : ∃ nd ∈ nodes, nd.owner = w ∧ nd.vms = vms ∧ nd.name = p.name ∧ nd.key = p.key := by
  cases vms with
  | nil => simp [buildOneNode] at hb
  | cons first rest =>
    simp only [buildOneNode] at hb
    exact ⟨_, (mem_oneNodeLoop hb _).mpr ⟨w, List.mem_range.mpr hw, p, hp, rfl⟩, rfl, rfl, rfl, rfl⟩

/-- a multi-vm step is refused (`RuntimeError`, before anything runs) only when some worker has several variants of
the test for the selected vms; an empty selection is an `IndexError` -/
theorem one_node_error (nw : Nat) (vms : List String) (parse : Parser) (pd : Dict) (e : Err)
    (hb : buildOneNode nw vms parse pd = .error e) :
    (vms = [] ∧ e = .indexError) ∨ (e = .runtimeError ∧ ∃ w, w < nw ∧ 2 ≤ (parse w vms).length) := by
  cases vms with
  | nil => simp [buildOneNode] at hb; exact Or.inl ⟨rfl, hb.symm⟩
  | cons first rest =>
    simp only [buildOneNode] at hb
    obtain ⟨h1, w, hw, h2⟩ := oneNodeLoop_error hb
    exact Or.inr ⟨h1, w, List.mem_range.mp hw, h2⟩

/-- What the two examples about this graph show (here and after `step_fair_exactly_once`), from ONE kernel evaluation:
the graph is built by the parser loop, and a `decide` per example would build it and run the schedules on it again. -/
theorem demoStar_runs :
    let parse : Parser := fun w vms =>
      if vms == ["vm1"] then [{ name := s!"all.check.vm1.net{w + 1}", key := "check.vm1" },
                             { name := s!"nonleaves.check.vm1.net{w + 1}", key := "check.vm1" }]
      else if vms == ["vm3"] && w == 0 then [{ name := "all.check.vm3.Kali.net1", key := "check.vm3.Kali", rank := 1 },
                                             { name := "all.check.vm3.Ubuntu.net1", key := "check.vm3.Ubuntu" }]
      else []
    let g : Star := { workers := ["net1", "net2"], nodes := buildPerVm 2 ["vm1", "vm3", "vm3"] parse [("nets", "net1 net2")] (stateStep "check") }
    let fin := runSched g .star [0, 1, 1, 0, 0, 0, 1, 0, 0, 1, 0] {}
    let sched := List.replicate 5 0 ++ List.replicate 4 1 ++ List.replicate 7 0
    (g.nodes.length = 8 ∧ allDone g fin = true ∧ fin.execs = [(0, 0), (1, 6), (0, 3), (0, 2)] ∧
      cnt g fin 0 "check.vm1" = 1 ∧ cnt g fin 0 "check.vm3.Kali" = 1 ∧ cnt g fin 1 "check.vm3.Kali" = 0) ∧
    (namesOk g = true ∧ relCount g 0 = 6 ∧ relCount g 1 = 2 ∧
      (∀ w, w < g.workers.length → 2 * relCount g w ≤ sched.count w) ∧
      allDone g (runSched g .star sched {}) = true ∧
      (runSched g .star sched {}).execs = [(0, 0), (0, 3), (0, 2), (1, 6)] ∧
      effSlices g sched {} = 8 ∧ totMu g {} = 18 ∧ totMu g (runSched g .star sched {}) = 2 ∧
      workerDone g (runSched g .star [0, 1] {}) 0 = false ∧
      mu g (runSched g .star [0, 1] {}) 0 = 12 ∧ mu g (runSched g .star [0, 1, 0] {}) 0 = 9) := by decide +kernel

/-- non-vacuity: two workers, two vms (one with two variants and twins in two test sets, one incompatible with the
second worker); an arbitrary interleaving finishes and each class ran once -/
example :
    let parse : Parser := fun w vms =>
      if vms == ["vm1"] then [{ name := s!"all.check.vm1.net{w + 1}", key := "check.vm1" },
                             { name := s!"nonleaves.check.vm1.net{w + 1}", key := "check.vm1" }]
      else if vms == ["vm3"] && w == 0 then [{ name := "all.check.vm3.Kali.net1", key := "check.vm3.Kali", rank := 1 },
                                             { name := "all.check.vm3.Ubuntu.net1", key := "check.vm3.Ubuntu" }]
      else []
    let g : Star := { workers := ["net1", "net2"], nodes := buildPerVm 2 ["vm1", "vm3", "vm3"] parse [("nets", "net1 net2")] (stateStep "check") }
    let fin := runSched g .star [0, 1, 1, 0, 0, 0, 1, 0, 0, 1, 0] {}
    g.nodes.length = 8 ∧ allDone g fin = true ∧ fin.execs = [(0, 0), (1, 6), (0, 3), (0, 2)] ∧
      cnt g fin 0 "check.vm1" = 1 ∧ cnt g fin 0 "check.vm3.Kali" = 1 ∧ cnt g fin 1 "check.vm3.Kali" = 0 := demoStar_runs.1

/-! ## the setup chain of `Manu.run` -/

/-- **chain_order_kept / chain_runs_all**: whatever the steps do (return, fail, raise — `f` is arbitrary), the loop
calls every step of the chain exactly once, in the given order, the `i`-th with tag index `i`; repeated steps are
called as often as they occur.  A failing step does not prevent the later ones. -/
theorem chain_order_kept {σ : Type} (known : String → Bool) (f : σ → String → Nat → Outcome × σ) (env : σ)
    (chain : List String) (hk : ∀ st ∈ chain, known st = true) :
    (runChain known f env chain).executed = chain.zipIdx := by
  simp only [runChain]
  exact (runChainFrom_known known f chain env 0 0 hk).1

/-- in particular: as many calls as the chain has steps, and the `k`-th call is the `k`-th step -/
theorem chain_runs_all {σ : Type} (known : String → Bool) (f : σ → String → Nat → Outcome × σ) (env : σ)
    (chain : List String) (hk : ∀ st ∈ chain, known st = true) :
    (runChain known f env chain).executed.length = chain.length ∧
    (runChain known f env chain).executed.map (·.1) = chain := by
  rw [chain_order_kept known f env chain hk]
  simp

/-- regression (before 3361dd0 the chain was `Params.objects(setup)`): `run, boot, run` ran `run, boot` only; now all
three calls are made -/
example : (runChainFrom (fun _ => true) (fun (_ : Unit) _ _ => (Outcome.ret 0, ())) () 0 0 (objects ["run", "boot", "run"])).executed
      = [("run", 0), ("boot", 1)] ∧
    (runChain (fun _ => true) (fun (_ : Unit) _ _ => (Outcome.ret 0, ())) () ["run", "boot", "run"]).executed
      = [("run", 0), ("boot", 1), ("run", 2)] := by decide +kernel

/-- **chain_fails_iff_any**: the return code is 1 exactly when some executed step returned something else than
`None`/0 or raised; otherwise 0.  (All chains; induction on the list.) -/
theorem chain_fails_iff_any {σ : Type} (known : String → Bool) (f : σ → String → Nat → Outcome × σ) (env : σ)
    (chain : List String) (hk : ∀ st ∈ chain, known st = true) :
    (runChain known f env chain).ret = .ok (if (runChain known f env chain).outcomes.any Outcome.fails then 1 else 0) ∧
    (runChain known f env chain).outcomes.length = chain.length := by
  simp only [runChain]
  exact ⟨(runChainFrom_known known f chain env 0 0 hk).2.2, (runChainFrom_known known f chain env 0 0 hk).2.1⟩

/-- a step name that is not a tool escapes the loop as `AttributeError` (the `getattr` is outside the `try`): the steps
before it were run, those after it are not -/
theorem unknown_step_aborts {σ : Type} (known : String → Bool) (f : σ → String → Nat → Outcome × σ) (env : σ)
    (pre post : List String) (bad : String) (hpre : ∀ st ∈ pre, known st = true) (hbad : known bad = false) :
    (runChain known f env (pre ++ bad :: post)).ret = .error .attributeError ∧
    (runChain known f env (pre ++ bad :: post)).executed = pre.zipIdx := by
  simp only [runChain]
  exact runChainFrom_unknown known f pre bad post env 0 0 hpre hbad

/-- a command line that does not parse: return code 1, nothing executed -/
theorem bad_command_line {σ : Type} (known : String → Bool) (f : σ → String → Nat → Outcome × σ) (env : σ)
    (chain : List String) : (manuRun false known f env chain).ret = .ok 1 ∧ (manuRun false known f env chain).executed = [] := by
  simp [manuRun]

/-- **step_failure_reported** — a failing step makes the chain report failure: every built-in step of the table
(the reusing `collect`, `create`, `clean` included) counts as failed for `Manu.run` exactly when it raised or one of
its tests ended badly. -/
theorem step_failure_reported (t : ToolSpec) (raised allOk : Bool) :
    (stepOutcome t raised allOk).fails = (raised || !allOk) := by
  cases raised <;> cases allOk <;> simp [stepOutcome, Outcome.fails]

/-- … lifted to the chain: with the built-in steps, `Manu.run` returns 1 iff some step of the chain that is in the
table raised or had a bad result, or a step outside the table (`noop`, …) raised. -/
theorem builtin_chain_retcode (known : String → Bool) (beh : Nat → Bool × Bool) (pd : Dict) (chain : List String)
    (hk : ∀ st ∈ chain, known st = true) (st : String) (i : Nat) :
    ((builtinStep beh pd st i).1.fails = match toolSpec st with
      | some _ => ((beh i).1 || !(beh i).2)
      | none => (beh i).1) ∧
    (runChain known (builtinStep beh) pd chain).ret =
      .ok (if (runChain known (builtinStep beh) pd chain).outcomes.any Outcome.fails then 1 else 0) := by
  refine ⟨?_, (chain_fails_iff_any known _ pd chain hk).1⟩
  unfold builtinStep
  cases ht : toolSpec st with
  | none => cases h : (beh i).1 <;> simp [Outcome.fails]
  | some t => simp [step_failure_reported]

/-- regression (before 5f9a82c): `create` whose tests failed returned `None`, so `create, check` reported success;
now the chain returns 1 -/
example :
    (toolSpec "create").map (fun t => (stepOutcomePreFix t false false).fails) = some false ∧
    (runChain (fun _ => true) (builtinStepPreFix (fun i => (false, i != 0))) [] ["create", "check"]).ret = .ok 0 ∧
    (runChain (fun _ => true) (builtinStep (fun i => (false, i != 0))) [] ["create", "check"]).ret = .ok 1 := by decide +kernel

/-- **chain_env_unchanged** — the command line dictionary is the same for every step of the chain, whatever the steps
do (fail, raise): a reusing step's temporary parameters never reach a later step. -/
theorem chain_env_unchanged (known : String → Bool) (beh : Nat → Bool × Bool) (pd : Dict) (chain : List String) :
    ∀ e ∈ envTrace known (builtinStep beh) pd 0 chain, e = pd := by
  apply envTrace_const
  intro st j
  simp only [builtinStep]
  split <;> rfl

/-- regression (before 79572ad): `clean` raises (its environment does not start); the following `unset` started with
`unset_state_images=root unset_mode_images=fa pool_scope=own` in the command line dictionary -/
example :
    (envTrace (fun _ => true) (builtinStepPreFix (fun i => (i == 0, true))) [("nets", "net1")] 0 ["clean", "unset"]).map
        (fun d => (dget d "unset_state_images", dget d "unset_mode_images", dget d "pool_scope"))
      = [(none, none, none), (some "root", some "fa", some "own")] ∧
    (envTrace (fun _ => true) (builtinStep (fun i => (i == 0, true))) [("nets", "net1")] 0 ["clean", "unset"]).map
        (fun d => (dget d "unset_state_images", dget d "unset_mode_images", dget d "pool_scope"))
      = [(none, none, none), (none, none, none)] := by decide +kernel

/-- non-vacuity of the chain theorems: a chain with a failing first and a raising third step, and a repeated step -/
example : let r := runChain (fun s => s != "nosuch") (builtinStep (fun i => (i == 2, i != 0))) [] ["check", "noop", "boot", "check"]
    r.ret = .ok 1 ∧ r.executed = [("check", 0), ("noop", 1), ("boot", 2), ("check", 3)] ∧
      r.outcomes = [.ret 1, .retNone, .raised, .ret 0] := by decide +kernel

/-! ## termination of the star traversal

`mu g s w = 2·|candidates g s w| + [w is idle]` is the measure of worker `w`, `totMu` its sum over the workers of the
graph, `relCount g w` the number of nodes relevant to `w` (its candidates at the start), `effSlices g sched s` the
number of slices of `sched` that are not spent on a done worker.  None of the termination theorems needs `NamesWF`
(only the tight bound `2·|nodes|` and the combination with the once-per-class theorems do).

Scheduling assumption: **none** for the bound on the slices that do anything (`star_effective_slices_bounded`: every
schedule, any order); for "all workers are done at the end" the only assumption is that no worker is starved, in the
weakest counting form: worker `w` gets at least `2·relCount g w` slices *somewhere* in the schedule
(`star_terminates`; order, position and the slices of the others are arbitrary).  Without it the statement is false: a
schedule that never mentions a worker that has a node leaves that worker not done (`example` below). -/

/-- **star_slice_lowers_measure** — in every reachable state (after any schedule `pre`), a slice of a worker that is
not done strictly lowers that worker's measure, leaves the measure of every other worker as it is, and so strictly
lowers the total measure. -/
theorem star_slice_lowers_measure (g : Star) (pre : List Nat) (w : Nat)
    (hnd : workerDone g (runSched g .star pre {}) w = false) :
    mu g (runSched g .star (pre ++ [w]) {}) w < mu g (runSched g .star pre {}) w ∧
    (∀ v, v ≠ w → mu g (runSched g .star (pre ++ [w]) {}) v = mu g (runSched g .star pre {}) v) ∧
    totMu g (runSched g .star (pre ++ [w]) {}) < totMu g (runSched g .star pre {}) := by
  rw [runSched_snoc]
  exact ⟨mu_micro_lt (pcCand_reach g pre) hnd, fun v hv => mu_micro_other g _ hv, totMu_micro_lt (pcCand_reach g pre) hnd⟩

/-- … while a slice of a done worker — or of an index that is no worker of the graph, which always counts as done —
is a no-op: the state (executions included) is literally unchanged. -/
theorem star_done_slice_noop (g : Star) (pre : List Nat) (w : Nat) :
    (g.workers.length ≤ w → workerDone g (runSched g .star pre {}) w = true) ∧
    (workerDone g (runSched g .star pre {}) w = true →
      runSched g .star (pre ++ [w]) {} = runSched g .star pre {}) := by
  refine ⟨fun hw => workerDone_out_of_range (pcCand_reach g pre) hw, fun hd => ?_⟩
  rw [runSched_snoc, micro_done hd]

/-- progress: as long as not all workers are done there is a worker of the graph whose slice lowers the measure -/
theorem star_progress (g : Star) (pre : List Nat) (h : allDone g (runSched g .star pre {}) = false) :
    ∃ w, w < g.workers.length ∧ totMu g (runSched g .star (pre ++ [w]) {}) < totMu g (runSched g .star pre {}) := by
  simp only [allDone, List.all_eq_false, List.mem_range] at h
  obtain ⟨w, hw, hnd⟩ := h
  exact ⟨w, hw, (star_slice_lowers_measure g pre w (by simpa using hnd)).2.2⟩

/-- **every schedule, no assumption**: of the slices of an arbitrary schedule at most `2·Σ_w relCount g w`
`≤ 2·|workers|·|nodes|` are not no-ops on done workers.  (So a schedule that never wastes a slice on a done worker
is at most that long, and by `star_progress` it can always be continued until all workers are done.) -/
theorem star_effective_slices_bounded (g : Star) (sched : List Nat) :
    effSlices g sched {} ≤ 2 * sumTo g.workers.length (relCount g) ∧
    2 * sumTo g.workers.length (relCount g) ≤ 2 * (g.workers.length * g.nodes.length) := by
  have := sum_relCount_le_mul g
  exact ⟨effSlices_bound g sched, by omega⟩

/-- … and with well-formed names (every node is relevant to its own worker only) the bound is `2·|nodes|`,
independent of the number of workers: one slice to start and one to end each node, at most. -/
theorem star_effective_slices_bounded_wf (g : Star) (hwf : NamesWF g) (sched : List Nat) :
    effSlices g sched {} ≤ 2 * g.nodes.length := by
  have := effSlices_bound g sched
  have := sum_relCount_le g hwf
  omega

/-- **star_terminates** — every schedule `ext` in which each worker `w` of the graph occurs at least
`2·relCount g w` times (in any order, interleaved with anything, started in any reachable state, i.e. after any
schedule `pre`) ends with every worker done.  No assumption on the names. -/
theorem star_terminates (g : Star) (pre ext : List Nat)
    (hfair : ∀ w, w < g.workers.length → 2 * relCount g w ≤ ext.count w) :
    allDone g (runSched g .star (pre ++ ext) {}) = true := by
  rw [runSched_append]
  apply allDone_of_counts (pcCand_reach g pre)
  intro w hw
  have h1 := mu_runSched_mono w pre {} (pcCand_init g)
  have h2 := mu_init g w
  have := hfair w hw
  omega

/-- … in particular with the uniform bound: `2·|nodes|` slices for every worker suffice. -/
theorem star_terminates_uniform (g : Star) (pre ext : List Nat)
    (hfair : ∀ w, w < g.workers.length → 2 * g.nodes.length ≤ ext.count w) :
    allDone g (runSched g .star (pre ++ ext) {}) = true :=
  star_terminates g pre ext fun w hw => by
    have := relCount_le g w
    have := hfair w hw
    omega

/-- … in particular round robin: from every reachable state, `2·|nodes|` rounds over the workers — an explicit
schedule of `2·|nodes|·|workers|` slices — end with every worker done (no deadlock, no livelock). -/
theorem star_round_robin_terminates (g : Star) (pre : List Nat) :
    (roundRobin g.workers.length (2 * g.nodes.length)).length = 2 * g.nodes.length * g.workers.length ∧
    allDone g (runSched g .star (pre ++ roundRobin g.workers.length (2 * g.nodes.length)) {}) = true :=
  ⟨roundRobin_length _ _, star_terminates_uniform g pre _ fun _ hw => roundRobin_count hw _⟩

/-- … and the usual notion of a schedule without starvation: the schedule is a sequence of rounds (of any length
and order, with repetitions), every round contains every worker of the graph at least once, and there are at least
`2·|nodes|` rounds. -/
theorem star_terminates_rounds (g : Star) (pre : List Nat) (rounds : List (List Nat))
    (hlen : 2 * g.nodes.length ≤ rounds.length)
    (hall : ∀ r ∈ rounds, ∀ w, w < g.workers.length → w ∈ r) :
    allDone g (runSched g .star (pre ++ rounds.flatten) {}) = true :=
  star_terminates_uniform g pre _ fun w hw => by
    have := count_flatten_ge (w := w) rounds (fun r hr => hall r hr w hw)
    omega

/-- **every schedule is as good as a short one** (no assumption): for every schedule there is a sub-schedule — the
slices not spent on done workers, in the same order — of at most `2·|workers|·|nodes|` slices, none of them wasted,
that ends in literally the same state (same executions in the same order, same registers). -/
theorem star_every_schedule_short (g : Star) (sched : List Nat) :
    ∃ short : List Nat, short.Sublist sched ∧ short.length ≤ 2 * (g.workers.length * g.nodes.length) ∧
      effSlices g short {} = short.length ∧ runSched g .star short {} = runSched g .star sched {} := by
  refine ⟨effSub g sched {}, effSub_sublist g sched {}, ?_, effSlices_effSub g sched {}, runSched_effSub g sched {}⟩
  rw [effSub_length]
  have := star_effective_slices_bounded g sched
  omega

/-- **the exact number**: in every schedule the slices that do something are two per finished execution and one per
execution still running; so a schedule that ends with all workers done has spent exactly `2·|executions|` slices on
workers that were not done (all others were no-ops). -/
theorem star_effective_slices_exact (g : Star) (sched : List Nat) :
    effSlices g sched {} + busyC g (runSched g .star sched {}) = 2 * (runSched g .star sched {}).execs.length ∧
    (allDone g (runSched g .star sched {}) = true →
      effSlices g sched {} = 2 * (runSched g .star sched {}).execs.length) := by
  have h := effSlices_exact (g := g) sched {} (pcCand_init g) (finDropped_init g)
  rw [busyC_init] at h
  simp only [List.length_nil, Nat.mul_zero, Nat.zero_add, Nat.add_zero] at h
  refine ⟨by omega, fun hd => ?_⟩
  have := busyC_allDone hd
  omega

/-- once every worker is done nothing happens any more: whatever slices follow, the state — executions included —
stays the same -/
theorem star_done_stable (g : Star) (pre ext : List Nat) (hd : allDone g (runSched g .star pre {}) = true) :
    runSched g .star (pre ++ ext) {} = runSched g .star pre {} := by
  rw [runSched_append]
  exact runSched_allDone ext _ (pcCand_reach g pre) hd

/-- the assumption of `star_terminates` cannot be dropped: a schedule that starves a worker that has a node does not
end with all workers done, however long it is (here: worker 1 never scheduled; 40 slices of worker 0) -/
example : let g : Star := { workers := ["net1", "net2"],
                            nodes := [{ owner := 0, vms := ["vm1"], name := "t.vm1.net1", key := "t.vm1", params := [] },
                                      { owner := 1, vms := ["vm1"], name := "t.vm1.net2", key := "t.vm1", params := [] }] }
    allDone g (runSched g .star (List.replicate 40 0) {}) = false := by decide +kernel

/-- termination needs no assumption on the names, the once-per-class theorems do: with worker ids of which one is a
substring of the other (`net1`, `net11`: known finding `worker-id-substring-of-another`) the names are not well-formed,
the fair schedule still ends done (by `star_terminates`), but `net1` has also executed the node parsed for `net11`. -/
example : let g : Star := { workers := ["net1", "net11"],
                            nodes := [{ owner := 0, vms := ["vm1"], name := "t.vm1.net1", key := "t.vm1", params := [] },
                                      { owner := 1, vms := ["vm1"], name := "t.vm2.net11", key := "t.vm2", params := [] }] }
    namesOk g = false ∧ relCount g 0 = 2 ∧ relCount g 1 = 1 ∧
      allDone g (runSched g .star [0, 1, 0, 1, 0, 0] {}) = true ∧
      (runSched g .star [0, 1, 0, 1, 0, 0] {}).execs = [(0, 0), (1, 1), (0, 1)] := by decide +kernel

/-- **executions of a fairly scheduled step** — with well-formed names, under the assumption of `star_terminates`:
every worker is done, every class of nodes that exists for a worker was executed by that worker exactly once, every
execution is by the node's own worker, nothing else was executed, and whatever slices follow change nothing. -/
theorem star_fair_exactly_once (g : Star) (hwf : NamesWF g) (sched : List Nat)
    (hfair : ∀ w, w < g.workers.length → 2 * relCount g w ≤ sched.count w) :
    allDone g (runSched g .star sched {}) = true ∧
    (∀ w n, owns g w n → cnt g (runSched g .star sched {}) w (keyOf g n) = 1) ∧
    (∀ e ∈ (runSched g .star sched {}).execs, owns g e.1 e.2) ∧
    (∀ w k, 0 < cnt g (runSched g .star sched {}) w k → ∃ n, owns g w n ∧ keyOf g n = k) ∧
    (∀ more, runSched g .star (sched ++ more) {} = runSched g .star sched {}) := by
  have hd : allDone g (runSched g .star sched {}) = true := star_terminates g [] sched hfair
  exact ⟨hd, fun w n ho => once_per_vm_worker g hwf sched hd w n ho, only_owner_executes g hwf sched,
    fun w k h => nothing_else_executed g hwf sched w k h, fun more => star_done_stable g sched more hd⟩

/-- **state steps, fairly scheduled: executions = selected vm objects × compatible workers, each once.**  For the
graph a state step builds and every schedule that gives each worker `2·|nodes|` slices: all workers are done; for every
worker, selected vm object and node the parser yields for the pair, that node's class ran exactly once on that
worker; and every class that ran on a worker is the class of a node the parser yields for that worker and a selected
vm object. -/
theorem step_fair_exactly_once (workers vmObjs : List String) (parse : Parser) (pd step : Dict) (sched : List Nat)
    (hwf : NamesWF { workers := workers, nodes := buildPerVm workers.length vmObjs parse pd step })
    (hfair : ∀ w, w < workers.length → 2 * (buildPerVm workers.length vmObjs parse pd step).length ≤ sched.count w) :
    allDone { workers := workers, nodes := buildPerVm workers.length vmObjs parse pd step }
      (runSched { workers := workers, nodes := buildPerVm workers.length vmObjs parse pd step } .star sched {}) = true ∧
    (∀ w, w < workers.length → ∀ vm ∈ vmObjs, ∀ p ∈ parse w [vm],
      cnt { workers := workers, nodes := buildPerVm workers.length vmObjs parse pd step }
        (runSched { workers := workers, nodes := buildPerVm workers.length vmObjs parse pd step } .star sched {}) w p.key = 1) ∧
    (∀ w k, 0 < cnt { workers := workers, nodes := buildPerVm workers.length vmObjs parse pd step }
        (runSched { workers := workers, nodes := buildPerVm workers.length vmObjs parse pd step } .star sched {}) w k →
      w < workers.length ∧ ∃ vm ∈ vmObjs, ∃ p ∈ parse w [vm], p.key = k) := by
  have hd := star_terminates_uniform ⟨workers, buildPerVm workers.length vmObjs parse pd step⟩ [] sched hfair
  refine ⟨hd, fun w hw vm hvm p hp => step_once_per_vm_worker workers vmObjs parse pd step sched hwf hd w hw vm hvm p hp, ?_⟩
  intro w k hpos
  obtain ⟨n, ⟨nd, hn, hown⟩, hk⟩ := nothing_else_executed _ hwf sched w k hpos
  obtain ⟨hlt, vm, hvm, _, p, hp, _, hkey⟩ := never_unselected workers.length vmObjs parse pd step nd
    (List.mem_of_getElem? hn)
  subst hown
  refine ⟨hlt, vm, hvm, p, hp, ?_⟩
  rw [← hk, ← hkey]
  simp [keyOf, hn]

/-- non-vacuity of the termination theorems: the graph of the example above (two workers, a vm with twins in two test
sets, a vm with two variants that is incompatible with the second worker; 8 nodes).  Its names are well-formed; worker 0
has 6 relevant nodes, worker 1 has 2; a schedule that is fair in the sense of `star_terminates` (12 and 4 slices, in
blocks — not round robin) ends done with the four executions; only 8 of its 16 slices do something; the measure goes
from 18 to 2 (= number of workers); after `[0, 1]` worker 0 is not done and its next slice (the end of the test with
the twin) lowers its measure from 12 to 9. -/
example :
    let parse : Parser := fun w vms =>
      if vms == ["vm1"] then [{ name := s!"all.check.vm1.net{w + 1}", key := "check.vm1" },
                             { name := s!"nonleaves.check.vm1.net{w + 1}", key := "check.vm1" }]
      else if vms == ["vm3"] && w == 0 then [{ name := "all.check.vm3.Kali.net1", key := "check.vm3.Kali", rank := 1 },
                                             { name := "all.check.vm3.Ubuntu.net1", key := "check.vm3.Ubuntu" }]
      else []
    let g : Star := { workers := ["net1", "net2"], nodes := buildPerVm 2 ["vm1", "vm3", "vm3"] parse [("nets", "net1 net2")] (stateStep "check") }
    let sched := List.replicate 5 0 ++ List.replicate 4 1 ++ List.replicate 7 0
    NamesWF g ∧ relCount g 0 = 6 ∧ relCount g 1 = 2 ∧
      (∀ w, w < g.workers.length → 2 * relCount g w ≤ sched.count w) ∧
      allDone g (runSched g .star sched {}) = true ∧
      (runSched g .star sched {}).execs = [(0, 0), (0, 3), (0, 2), (1, 6)] ∧
      effSlices g sched {} = 8 ∧ totMu g {} = 18 ∧ totMu g (runSched g .star sched {}) = 2 ∧
      workerDone g (runSched g .star [0, 1] {}) 0 = false ∧
      mu g (runSched g .star [0, 1] {}) 0 = 12 ∧ mu g (runSched g .star [0, 1, 0] {}) 0 = 9 :=
  And.imp_left namesWF_of_namesOk demoStar_runs.2

/-! ## The model's chain loop is the Python source of `Manu.run` (translator tie)

`I2N/Extracted/GenManu.lean` is regenerated on every `./check C20` from the CURRENT source of
`avocado_i2n/plugins/manu.py` by `harness/pygen_pxcmd.py`: the `for i, setup_step in enumerate(setup_chain)` loop is
cut out of `Manu.run` (everything in front of it and behind it is pinned: `retcode = 0`, `return retcode`), its body is
matched structurally (`run_params["count"] = i`; `getattr` outside the `try`; one `try … except Exception as error`),
and the two bodies that decide about the return code — the `try` body and the handler — are translated by
`harness/pygen.py` (`genTryBody`, `genExceptBody`).  `genChainStep` / `genChainLoop` / `genManuChain` put them together
(hand written skeleton, printed in the generated file). -/

section MatchesSource
open I2N.Extracted.GenManu
variable {σ : Type}

theorem genTryBody_run (o : Outcome) (s : ChainSt σ) :
    ((genTryBody o).run).run s = (.ok (), { s with rc := if o.fails then 1 else s.rc }) := by
  unfold genTryBody
  cases h : o.fails <;> simp [h] <;> rfl

theorem genExceptBody_run (s : ChainSt σ) :
    ((genExceptBody (σ := σ)).run).run s = (.ok (), { s with rc := 1 }) := rfl

/-- one iteration of the regenerated loop body, computed -/
theorem genChainStep_run (known : String → Bool) (f : σ → String → Nat → Outcome × σ) (i : Nat) (st : String)
    (s : ChainSt σ) :
    ((genChainStep known f i st).run).run s =
      if !known st then (.error .attributeError, s)
      else (.ok (), { rc := if (f s.env st i).1.fails then 1 else s.rc, env := (f s.env st i).2,
                      executed := s.executed ++ [(st, i)], outcomes := s.outcomes ++ [(f s.env st i).1] }) := by
  unfold genChainStep
  cases hk : known st
  · rfl
  · simp only [ExceptT.run_mk, StateT.run, Bool.not_true, Bool.false_eq_true, if_false]
    cases ho : (f s.env st i).1 with
    | raised => exact genExceptBody_run _
    | retNone => exact genTryBody_run _ _
    | ret n => exact genTryBody_run _ _

/-- the result of the regenerated chain as a `ChainResult` -/
def chainResult (r : Except Err Nat × ChainSt σ) : ChainResult σ :=
  { ret := r.1, executed := r.2.executed, outcomes := r.2.outcomes, env := r.2.env }

theorem genChainLoop_run (known : String → Bool) (f : σ → String → Nat → Outcome × σ) (chain : List String) :
    ∀ (i : Nat) (s : ChainSt σ),
      (((genChainLoop known f i chain).run).run s).1.map (fun _ => (((genChainLoop known f i chain).run).run s).2.rc)
          = (runChainFrom known f s.env i s.rc chain).ret ∧
      (((genChainLoop known f i chain).run).run s).2.executed
          = s.executed ++ (runChainFrom known f s.env i s.rc chain).executed ∧
      (((genChainLoop known f i chain).run).run s).2.outcomes
          = s.outcomes ++ (runChainFrom known f s.env i s.rc chain).outcomes ∧
      (((genChainLoop known f i chain).run).run s).2.env = (runChainFrom known f s.env i s.rc chain).env := by
  induction chain with
  | nil => intro i s; exact ⟨rfl, by simp [genChainLoop, runChainFrom]; rfl, by simp [genChainLoop, runChainFrom]; rfl, rfl⟩
  | cons st rest ih =>
    intro i s
    have hstep := genChainStep_run known f i st s
    have hrun : ((genChainLoop known f i (st :: rest)).run).run s =
        match ((genChainStep known f i st).run).run s with
        | (.ok _, s') => ((genChainLoop known f (i + 1) rest).run).run s'
        | (.error e, s') => (.error e, s') := rfl
    rw [hrun, hstep]
    cases hk : known st
    · simp [runChainFrom, hk, Except.map]
    · simp only [Bool.not_true, Bool.false_eq_true, if_false, runChainFrom, hk]
      have := ih (i + 1) ⟨if (f s.env st i).1.fails then 1 else s.rc, (f s.env st i).2,
        s.executed ++ [(st, i)], s.outcomes ++ [(f s.env st i).1]⟩
      simp only [List.append_assoc, List.singleton_append] at this
      exact this

/-- **The hand written `runChain` IS the chain loop of `Manu.run`** -/
theorem runChain_matches_source (known : String → Bool) (f : σ → String → Nat → Outcome × σ) (env : σ)
    (chain : List String) :
    chainResult (genManuChain known f env chain) = runChain known f env chain := by
  obtain ⟨h1, h2, h3, h4⟩ := genChainLoop_run known f chain 0 ⟨0, env, [], []⟩
  unfold chainResult genManuChain runChain
  simp only [List.nil_append] at h2 h3
  simp only [h1, h2, h3, h4]

/-- the regenerated chain computes: three steps, the second raises — all three are called, in order, with their
indices, the return code is 1 (the seeded regression `retcode = retcode or …` skipped the third step); an unknown
step lets AttributeError escape after the steps in front of it ran -/
example : let f : Nat → String → Nat → Outcome × Nat := fun e st _ => (if st == "b" then .raised else .ret 0, e + 1)
    let r := genManuChain (fun _ => true) f 0 ["a", "b", "a"]
    r.1.toOption = some 1 ∧ r.2.executed = [("a", 0), ("b", 1), ("a", 2)] ∧ r.2.env = 3 := by decide +kernel
example : let f : Nat → String → Nat → Outcome × Nat := fun e _ _ => (.retNone, e + 1)
    let r := genManuChain (fun st => st != "x") f 0 ["a", "x", "a"]
    r.1.toOption = none ∧ r.2.executed = [("a", 0)] ∧ r.2.env = 1 := by decide +kernel

end MatchesSource

end I2N.Props.C20
