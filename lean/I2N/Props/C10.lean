/-
Property C10 — retry, stop, replay and verdict rules are followed exactly (rule level).
The theorems are about the executable model `I2N.Rules` that the compiled driver `drv_rules` runs.
-/
import I2N.Model.Rules
import I2N.Lemmas.Rules
import I2N.Extracted.GenRules
import I2N.Lemmas.PyGenList
import I2N.Extracted.GenRunner
import I2N.Lemmas.RunnerGen
import I2N.Model.TravStep
import I2N.Lemmas.Trav
namespace I2N.Props.C10
deriving instance DecidableEq for Except
open I2N.Rules I2N.Extracted.Rules I2N.Lemmas.Rules

/-! ## 1. The retry rule (`should_rerun`) -/


def Reaches (c : Cfg) (w : Option Worker) : Prop :=
  (c.dryRun.getD dryRunDefault == dryRunYes) = false ∧ c.flat = false ∧ c.cloneSource = false ∧
  wrongWorker c w = false

structure Valid (c : Cfg) (m : Int) : Prop where
  rerun : ∀ s ∈ rerunList c, s ∈ allStatuses
  stop : ∀ s ∈ stopList c, s ∈ allStatuses
  tries : maxTriesOf c = some m
  nonneg : 0 ≤ m

def TriesRemain (m : Int) (n : Nat) : Prop := m ≠ maxTriesNoRerun ∧ (n : Int) < m

instance (m : Int) (n : Nat) : Decidable (TriesRemain m n) := by unfold TriesRemain; infer_instance

/-- the validity test of a status list (`{*status} - {*all_statuses}` is empty) says every element is a status -/
theorem all_contains_iff {l A : List String} : l.all (fun s => A.contains s) = true ↔ ∀ s ∈ l, s ∈ A := by
  simp only [List.all_eq_true, List.contains_iff_mem]

/-- The retry rule proper: what `should_rerun` answers once the four guards in front of it are passed. The checks come
in the order of the code, and the three tests on the statuses are one decision. -/
theorem shouldRerun_reached {c : Cfg} {w : Option Worker} (shared : List Result) (hr : Reaches c w) :
    shouldRerun c w shared =
      if ¬ ∀ s ∈ rerunList c, s ∈ allStatuses then .error .badRerunStatus
      else if ¬ ∀ s ∈ stopList c, s ∈ allStatuses then .error .badStopStatus
      else match maxTriesOf c with
        | none => .error .badTries
        | some m =>
          if m < 0 then .error .negativeTries
          else .ok (decide (TriesRemain m (statusesOf c w shared).length ∧
            (∀ s ∈ statusesOf c w shared, s ∈ rerunList c) ∧ ∀ s ∈ statusesOf c w shared, s ∉ stopList c)) := by
  obtain ⟨h1, h2, h3, h4⟩ := hr
  unfold shouldRerun
  simp only [h1, h2, h3, h4, Bool.false_eq_true, if_false]
  generalize statusesOf c w shared = sts
  have hval : ∀ l : List String, ((!l.all fun s => allStatuses.contains s) = true) = ¬ ∀ s ∈ l, s ∈ allStatuses :=
    fun l => by rw [Bool.not_eq_true', ← Bool.not_eq_true, all_contains_iff]
  refine ite_congr (hval _) (fun _ => rfl) fun _ => ite_congr (hval _) (fun _ => rfl) fun _ => ?_
  cases maxTriesOf c with
  | none => rfl
  | some m =>
    refine ite_congr rfl (fun _ => rfl) fun _ => ?_
    -- the three remaining tests, as one Boolean
    have hstop : (stopList c).any (fun s => sts.contains s) = false ↔ ∀ s ∈ sts, s ∉ stopList c := by
      simp only [List.any_eq_false, List.contains_iff_mem]
      exact ⟨fun h s hs hm => h s hm hs, fun h s hm hs => h s hs hm⟩
    have htries : (if m == maxTriesNoRerun then 0 else m - (sts.length : Int)) > 0 ↔ TriesRemain m sts.length := by
      unfold TriesRemain
      by_cases hm : m = maxTriesNoRerun <;> simp [hm] <;> omega
    have key : decide (TriesRemain m sts.length ∧ (∀ s ∈ sts, s ∈ rerunList c) ∧ ∀ s ∈ sts, s ∉ stopList c) =
        (sts.all (fun s => (rerunList c).contains s) && !(stopList c).any (fun s => sts.contains s) &&
          decide ((if m == maxTriesNoRerun then 0 else m - (sts.length : Int)) > 0)) := by
      rw [Bool.eq_iff_iff]
      simp only [decide_eq_true_eq, Bool.and_eq_true, Bool.not_eq_true', all_contains_iff, hstop, htries]
      exact ⟨fun ⟨c, a, b⟩ => ⟨⟨a, b⟩, c⟩, fun ⟨⟨a, b⟩, c⟩ => ⟨c, a, b⟩⟩
    rw [key]
    cases sts.all (fun s => (rerunList c).contains s) <;> cases (stopList c).any (fun s => sts.contains s) <;> rfl

theorem rerun_iff {c : Cfg} {w : Option Worker} {shared : List Result} {m : Int}
    (hr : Reaches c w) (hv : Valid c m) :
    ∃ b, shouldRerun c w shared = .ok b ∧
      (b = true ↔ TriesRemain m (statusesOf c w shared).length ∧
        (∀ s ∈ statusesOf c w shared, s ∈ rerunList c) ∧
        (∀ s ∈ statusesOf c w shared, s ∉ stopList c)) := by
  have hneg : ¬ (m < 0) := by have := hv.nonneg; omega
  rw [shouldRerun_reached shared hr, if_neg (not_not_intro hv.rerun), if_neg (not_not_intro hv.stop), hv.tries]
  exact ⟨_, if_neg hneg, decide_eq_true_iff⟩

theorem invalid_rerun_status {c : Cfg} {w : Option Worker} {shared : List Result}
    (hr : Reaches c w) (h : ¬ ∀ s ∈ rerunList c, s ∈ allStatuses) :
    shouldRerun c w shared = .error .badRerunStatus := by
  rw [shouldRerun_reached shared hr, if_pos h]

theorem invalid_stop_status {c : Cfg} {w : Option Worker} {shared : List Result}
    (hr : Reaches c w) (hrr : ∀ s ∈ rerunList c, s ∈ allStatuses)
    (h : ¬ ∀ s ∈ stopList c, s ∈ allStatuses) :
    shouldRerun c w shared = .error .badStopStatus := by
  rw [shouldRerun_reached shared hr, if_neg (not_not_intro hrr), if_pos h]

theorem invalid_max_tries {c : Cfg} {w : Option Worker} {shared : List Result}
    (hr : Reaches c w) (hrr : ∀ s ∈ rerunList c, s ∈ allStatuses) (hss : ∀ s ∈ stopList c, s ∈ allStatuses)
    (h : maxTriesOf c = none) :
    shouldRerun c w shared = .error .badTries := by
  rw [shouldRerun_reached shared hr, if_neg (not_not_intro hrr), if_neg (not_not_intro hss), h]

theorem negative_max_tries {c : Cfg} {w : Option Worker} {shared : List Result} {m : Int}
    (hr : Reaches c w) (hrr : ∀ s ∈ rerunList c, s ∈ allStatuses) (hss : ∀ s ∈ stopList c, s ∈ allStatuses)
    (h : maxTriesOf c = some m) (hm : m < 0) :
    shouldRerun c w shared = .error .negativeTries := by
  rw [shouldRerun_reached shared hr, if_neg (not_not_intro hrr), if_neg (not_not_intro hss), h]
  exact if_pos hm

/-- invalid retry settings are never ignored: whenever the decision gets as far as the retry rule and
answers at all, the settings are valid -/
theorem invalid_rejected {c : Cfg} {w : Option Worker} {shared : List Result} {b : Bool}
    (hr : Reaches c w) (h : shouldRerun c w shared = .ok b) : ∃ m, Valid c m := by
  by_cases hrr : ∀ s ∈ rerunList c, s ∈ allStatuses
  · by_cases hss : ∀ s ∈ stopList c, s ∈ allStatuses
    · cases hm : maxTriesOf c with
      | none => rw [invalid_max_tries hr hrr hss hm] at h; cases h
      | some m =>
        by_cases hneg : m < 0
        · rw [negative_max_tries hr hrr hss hm hneg] at h; cases h
        · exact ⟨m, hrr, hss, hm, by omega⟩
    · rw [invalid_stop_status hr hrr hss] at h; cases h
  · rw [invalid_rerun_status hr hrr] at h; cases h

theorem wrong_worker_rejected {c : Cfg} {w : Option Worker} {shared : List Result}
    (h1 : (c.dryRun.getD dryRunDefault == dryRunYes) = false) (h2 : c.flat = false) (h3 : c.cloneSource = false)
    (h4 : wrongWorker c w = true) : shouldRerun c w shared = .error .runtimeError := by
  unfold shouldRerun
  simp only [h1, h2, h3, h4, Bool.false_eq_true, if_false, if_true]


/-! ## 3. The verdict (`all_results_ok`) -/


/-- the run is reported successful by `all_results_ok` exactly when every test in the job result has at
least one acceptable result (same name, status mapped to `True`) -/
theorem verdict_iff (tests : List JobRes) (hv : ∀ t ∈ tests, (statusOk t.status).isSome = true) :
    ∃ b, allResultsOk tests = .ok b ∧
      (b = true ↔ ∀ t ∈ tests, ∃ r ∈ tests, r.name = t.name ∧ statusOk r.status = some true) :=
  allOkLoop_spec tests tests hv

example : allResultsOk [⟨"a", "1", "FAIL", 1⟩, ⟨"a", "1r1", "PASS", 1⟩, ⟨"b", "2", "SKIP", 1⟩] = .ok true := by decide +kernel
example : allResultsOk [⟨"a", "1", "FAIL", 1⟩, ⟨"b", "2", "PASS", 1⟩] = .ok false := by decide +kernel



/-- for a test that has been executed before, "tries remain" is simply `runs so far < max_tries` -/
theorem rerun_iff_again {c : Cfg} {w : Option Worker} {shared : List Result} {m : Int}
    (hr : Reaches c w) (hv : Valid c m) (hne : statusesOf c w shared ≠ []) :
    ∃ b, shouldRerun c w shared = .ok b ∧
      (b = true ↔ ((statusesOf c w shared).length : Int) < m ∧
        (∀ s ∈ statusesOf c w shared, s ∈ rerunList c) ∧
        (∀ s ∈ statusesOf c w shared, s ∉ stopList c)) := by
  obtain ⟨b, hb, hiff⟩ := rerun_iff (shared := shared) hr hv
  refine ⟨b, hb, hiff.trans (and_congr_left fun _ => ?_)⟩
  have hpos : 0 < (statusesOf c w shared).length := List.length_pos_iff.mpr hne
  have h1 : maxTriesNoRerun = 1 := rfl
  unfold TriesRemain
  omega

/-- stateless nodes: run exactly for the first execution or when the retry rule says "again" -/
theorem run_iff_stateless {c : Cfg} {w : Worker} {shared : List Result} {m : Int} (fin scan : Bool)
    (hr : Reaches c (some w)) (hv : Valid c m) (hs : c.stateful = false) :
    ∃ b, defaultRunDecision c w shared fin scan false = .ok (b, false) ∧
      (b = true ↔ shared = [] ∨
        (((statusesOf c (some w) shared).length : Int) < m ∧
          (∀ s ∈ statusesOf c (some w) shared, s ∈ rerunList c) ∧
          (∀ s ∈ statusesOf c (some w) shared, s ∉ stopList c))) := by
  obtain ⟨h1, h2, h3, h4⟩ := hr
  have h4' : (!isSubstr w.id c.name) = false := h4
  unfold defaultRunDecision
  simp only [h1, h2, h3, h4', hs, Bool.false_eq_true, if_false, Bool.not_false, if_true]
  cases shared with
  | nil => exact ⟨true, by simp, by simp⟩
  | cons r rs =>
    have hne : statusesOf c (some w) (r :: rs) ≠ [] := by simp [statusesOf, hs]
    obtain ⟨b, hb, hiff⟩ := rerun_iff_again (shared := r :: rs) ⟨h1, h2, h3, h4⟩ hv hne
    refine ⟨b, by simp [hb, Except.map], hiff.trans ?_⟩
    simp

/-- stateful nodes: run when the state scan says the state is missing, otherwise (unless reruns were
switched off because nothing was executed in this scope) by the retry rule -/
theorem run_stateful_scan {c : Cfg} {w : Worker} {shared : List Result} (dis : Bool)
    (hr : Reaches c (some w)) (hs : c.stateful = true) :
    ∃ d, defaultRunDecision c w shared false true dis = .ok (true, d) := by
  obtain ⟨h1, h2, h3, h4⟩ := hr
  have h4' : (!isSubstr w.id c.name) = false := h4
  unfold defaultRunDecision
  simp only [h1, h2, h3, h4', hs, Bool.false_eq_true, if_false, Bool.not_false, Bool.not_true, if_true]
  exact ⟨_, rfl⟩

/-- a stateful node that has no result in the scope and whose state is available (or which is finished)
is not run, and its retry rule is switched off for good -/
theorem stateful_no_results_disabled {c : Cfg} {w : Worker} {shared : List Result} (fin scan dis : Bool)
    (hr : Reaches c (some w)) (hs : c.stateful = true)
    (hnone : filteredResults c c.startedWorker shared = []) (hscan : (if !fin then scan else false) = false) :
    defaultRunDecision c w shared fin scan dis = .ok (false, true) := by
  obtain ⟨h1, h2, h3, h4⟩ := hr
  have h4' : (!isSubstr w.id c.name) = false := h4
  unfold defaultRunDecision
  simp only [h1, h2, h3, h4', hs, hnone, hscan, Bool.false_eq_true, if_false, Bool.not_false, Bool.not_true,
    List.isEmpty_nil, Bool.and_self, Bool.or_true, if_true, Except.map]

/-! ## 4. Replay -/

theorem rerunList_replay_default {c : Cfg} (h : truthy c.replay = true) (hu : c.rerunStatus = none) :
    rerunList c = ["fail", "error", "warn"] := by
  unfold rerunList; simp only [h, if_true, hu]; decide +kernel

theorem maxTries_replay_default {c : Cfg} (h : truthy c.replay = true) (hu : c.maxTries = none) :
    maxTriesOf c = some 2 := by
  unfold maxTriesOf; simp only [hu, h, if_true]; rfl

/-- replay: a (stateless) test one of whose previous results is acceptable — its status is not in the
rerun set — is not executed again -/
theorem replay_skip {c : Cfg} {w : Worker} {shared : List Result} {m : Int} (fin scan : Bool)
    (hr : Reaches c (some w)) (hv : Valid c m) (hs : c.stateful = false)
    (hacc : ∃ r ∈ shared, lower r.status ∉ rerunList c) :
    defaultRunDecision c w shared fin scan false = .ok (false, false) := by
  obtain ⟨b, hb, hiff⟩ := run_iff_stateless (shared := shared) fin scan hr hv hs
  obtain ⟨r, hrm, hn⟩ := hacc
  cases b with
  | false => exact hb
  | true =>
    exfalso
    rcases hiff.mp rfl with he | ⟨_, h2, _⟩
    · rw [he] at hrm; cases hrm
    · apply hn; apply h2
      simp only [statusesOf, hs, Bool.not_false, if_true, List.mem_map]
      exact ⟨r, hrm, rfl⟩

/-- replay: a (stateless) test without an acceptable previous result is executed again while tries remain -/
theorem replay_run {c : Cfg} {w : Worker} {shared : List Result} {m : Int} (fin scan : Bool)
    (hr : Reaches c (some w)) (hv : Valid c m) (hs : c.stateful = false)
    (hall : ∀ r ∈ shared, lower r.status ∈ rerunList c) (hstop : ∀ r ∈ shared, lower r.status ∉ stopList c)
    (hleft : (shared.length : Int) < m) :
    defaultRunDecision c w shared fin scan false = .ok (true, false) := by
  obtain ⟨b, hb, hiff⟩ := run_iff_stateless (shared := shared) fin scan hr hv hs
  have : b = true := by
    apply hiff.mpr
    right
    simp only [statusesOf, hs, Bool.not_false, if_true, List.length_map, List.mem_map]
    refine ⟨hleft, ?_, ?_⟩
    · rintro s ⟨r, hrm, rfl⟩; exact hall r hrm
    · rintro s ⟨r, hrm, rfl⟩; exact hstop r hrm
  rw [this] at hb; exact hb

/-- replay of a test that produces a state: executed again whenever the state is missing, whatever the
previous results were -/
theorem replay_state_missing {c : Cfg} {w : Worker} {shared : List Result} (dis : Bool)
    (hr : Reaches c (some w)) (hs : c.stateful = true) :
    ∃ d, defaultRunDecision c w shared false true dis = .ok (true, d) := run_stateful_scan dis hr hs



/-! ## 2. Identifiers and results of repeated executions (`run_test_node`) -/

/-- Along ANY sequence of events of a class of bridged copies — executions started and finished in any
interleaving by the copies' workers, results reported promptly, late or never, previous results replayed,
creation pre-steps in between — the (name, uid) pairs of all executions started are pairwise distinct.
`ClassOK`: two copies with the same name have the same prefix (copies of different workers differ in
their names). -/
theorem uids_distinct (s0 : St) (evs : List Event) (h0 : s0.issued = []) (hc : ClassOK s0.copies) :
    ((run s0 evs).1.issued.map (fun e => (e.name, e.uid))).Nodup := by
  have hinv : CountInv s0 := ⟨by simp [h0], by simp [h0], by simp [h0]⟩
  apply ids_nodup_of_countInv (run_countInv s0 evs hinv)
  unfold ClassOK; rw [statics_run]; exact hc

/-- "every execution leaves exactly one more result than it found": an execution started in state `s`
carries the current number of shared results as its retry counter and leaves one more result -/
theorem start_counts (s : St) (i : Nat) (c : Copy) (hc : s.copies[i]? = some c)
    (hfree : s.pending.any (fun e => e.copy == i) = false) :
    ∃ e, (start s i).2 = .started e ∧ e.k = sharedLen s.copies ∧ e.uid = uidOf c.pfx e.k ∧ e.name = c.name ∧
      sharedLen (start s i).1.copies = sharedLen s.copies + 1 := by
  simp only [start, hc, hfree, Bool.false_eq_true, if_false]
  exact ⟨_, rfl, rfl, rfl, rfl, sharedLen_updCopy_succ _ _ _ c hc (fun c => by simp)⟩

/-- one resumption: if no record of the job carries the identifier of the pending execution `e`, then the
record `finish` looks up and files in the node's results is the one this execution reported — promptly or
during the polling loop (the freshness hypothesis is discharged over whole runs by `own_result_read`) -/
theorem own_result_read_step (s : St) (j : Nat) (e : Exec) (c : Copy) (st : String) (t d : Nat)
    (hp : s.pending[j]? = some e) (hc : s.copies[e.copy]? = some c)
    (hfresh : ∀ x ∈ s.job, ¬ (x.name = e.name ∧ x.uid = e.uid))
    (hvis : d < statusTimeout) (hunk : unknownOf e.name ∈ c.results) :
    ∃ status, (finish s j (.reported st t d)).2 =
      .finished e (.reported st t d) (some { name := e.name, uid := e.uid, status := st, time := t }) status := by
  have hcont : ∀ r : Result, (c.results ++ [r]).contains (unknownOf e.name) = true := by
    intro r; simp only [List.contains_iff_mem, List.mem_append]; exact Or.inl hunk
  simp only [finish, hp, hc]
  by_cases hd : d = 0
  · subst hd
    simp only [settle, Outcome.delay, beq_self_eq_true, if_true, arrive, lookup_append_fresh _ _ _ _ _ hfresh,
      record, hcont, Except.map]
    exact ⟨_, rfl⟩
  · have hd' : (d == 0) = false := by simpa using hd
    have hpos : 0 < d := Nat.pos_of_ne_zero hd
    simp only [settle, Outcome.delay, hd', Bool.false_eq_true, if_false, arrive, lookup_fresh_none _ _ _ hfresh,
      hpos, hvis, decide_true, if_true, lookup_append_fresh _ _ _ _ _ hfresh, record, hcont]
    exact ⟨_, rfl⟩

theorem pending_fresh (s0 : St) (evs : List Event) (hi : s0.issued = []) (hp : s0.pending = []) (hj : s0.job = [])
    (hc : ClassOK s0.copies) (hsep : PreSep s0.copies) :
    ∀ e ∈ (run s0 evs).1.pending, ∀ x ∈ (run s0 evs).1.job, ¬ (x.name = e.name ∧ x.uid = e.uid) := by
  have hinv := run_readInv s0 evs hc hsep
    ⟨⟨by simp [hi], by simp [hi], by simp [hi]⟩, by simp [hp], by simp [hp], by simp [hj], by simp [hp]⟩
  exact fun e he x hx h => hinv.pendFresh e he ⟨x, hx, h.1, h.2⟩

/-- **Each execution reads its own result**, over whole runs: in every state reachable by ANY sequence of
events (interleaved executions of the copies, prompt/late/never reported results, replays, creation
attempts) from a state without executions and job records, a pending execution has no job record under its
(name, uid) yet — so the lookup of `run_test_node`, the FIRST record with this (name, uid), finds nothing
before this execution reports and exactly the record this execution reports afterwards, never a stale one.
`ClassOK`: copies with equal names have equal prefixes; `PreSep`: pre-nodes are named differently from the
nodes of the class.  (Analogue of `I2N.Props.C03.own_result_read` on the rule-level machine.) -/
theorem own_result_read (s0 : St) (evs : List Event) (hi : s0.issued = []) (hp : s0.pending = []) (hj : s0.job = [])
    (hc : ClassOK s0.copies) (hsep : PreSep s0.copies) :
    ∀ e ∈ (run s0 evs).1.pending,
      lookupJob (run s0 evs).1.job e.name e.uid = none ∧
      ∀ st t, lookupJob ((run s0 evs).1.job ++ [{ name := e.name, uid := e.uid, status := st, time := t }])
          e.name e.uid = some { name := e.name, uid := e.uid, status := st, time := t } := fun e he =>
  have hfresh := pending_fresh s0 evs hi hp hj hc hsep e he
  ⟨lookup_fresh_none _ _ _ hfresh, fun _ _ => lookup_append_fresh _ _ _ _ _ hfresh⟩

/-- … and the resumption of a pending execution in any reachable state files, on its copy, exactly the
record it reported (promptly or within the polling window).
PARTIAL only in that the placeholder of the pending execution is assumed to be still in its copy's results
(`hc`, `hunk`; otherwise Python's `list.remove` would raise) — the correspondence checks that (results
ledger), it is not mechanised. -/
theorem own_result_filed_partial (s0 : St) (evs : List Event) (hi : s0.issued = []) (hp : s0.pending = [])
    (hj : s0.job = []) (hcl : ClassOK s0.copies) (hsep : PreSep s0.copies)
    (j : Nat) (e : Exec) (c : Copy) (st : String) (t d : Nat)
    (hpe : (run s0 evs).1.pending[j]? = some e) (hc : (run s0 evs).1.copies[e.copy]? = some c)
    (hunk : unknownOf e.name ∈ c.results) (hvis : d < statusTimeout) :
    ∃ status, (finish (run s0 evs).1 j (.reported st t d)).2 =
      .finished e (.reported st t d) (some { name := e.name, uid := e.uid, status := st, time := t }) status :=
  own_result_read_step _ j e c st t d hpe hc
    (pending_fresh s0 evs hi hp hj hcl hsep e (List.mem_of_getElem? hpe)) hvis hunk

/-- Creation attempts (`traverse_terminal_node`, /repo ≥ 7ba7970) — along ANY sequence of events, in
particular any number of creation attempts of one object root copy with any outcomes of the pre-step
(acceptable, failing, late, never reported), interleaved with executions, replays and creation attempts of
the other copies — the (name, uid) pairs of all pre-steps run are pairwise distinct.  `PreNamesInj`: the
pre-nodes of different copies (different workers) have different names.  Invariant `PreInv`: every attempt
leaves the copy with at least one more own result than its pre-step was started with (the main execution's
placeholder on success, the recorded failure otherwise). -/
theorem pre_uids_distinct (s0 : St) (evs : List Event) (h0 : s0.preIssued = []) (hn : PreNamesInj s0.copies) :
    ((run s0 evs).1.preIssued.map (fun e => (e.name, e.uid))).Nodup := by
  have hinv : PreInv s0 := ⟨by simp [h0], by simp [h0]⟩
  apply pre_ids_nodup_of_preInv (run_preInv s0 evs hinv)
  unfold PreNamesInj; rw [preStatics_run]; exact hn

/-- one creation attempt, whatever its outcome: either it is not enabled / changes nothing of the ghost
list, or it is recorded with the copy's current own result count as retry counter and the copy ends up
with exactly one more own result -/
theorem create_counts (s : St) (i : Nat) (o : Outcome) :
    (createStep s i o).1.preIssued = s.preIssued ∨
    ∃ c, s.copies[i]? = some c ∧
      (createStep s i o).1.preIssued =
        { copy := i, k := c.results.length, name := c.preName, uid := uidOf c.prePfx c.results.length } :: s.preIssued ∧
      lenAt (createStep s i o).1.copies i = some (c.results.length + 1) := createStep_spec s i o

/-! ## 5. The verdict part of `run_suite` -/

/-- The suite is reported successful exactly when every test of the job result has an acceptable result —
PARTIAL: only when no test task of the run ended with a failing status (`hclean`) and every executed test
has a record in the job result at all (the statement quantifies over the records).  Both restrictions are
genuine: see the two witnesses below (findings `verdict:retried-test-reported-failed`,
`verdict:unreported-test-ignored`). -/
theorem suite_verdict_partial (tests : List JobRes) (taskResults : List String)
    (hv : ∀ t ∈ tests, (statusOk t.status).isSome = true)
    (hclean : ∀ w ∈ ["INTERRUPTED", "FAIL", "ERROR"], (taskResults.map upper).contains w = false) :
    ∃ sm, suiteSummary tests taskResults = .ok sm ∧
      (reportedSuccessful sm = true ↔
        ∀ t ∈ tests, ∃ r ∈ tests, r.name = t.name ∧ statusOk r.status = some true) := by
  obtain ⟨b, hb, hiff⟩ := verdict_iff tests hv
  have hI := hclean "INTERRUPTED" (by simp)
  have hF := hclean "FAIL" (by simp)
  have hE := hclean "ERROR" (by simp)
  unfold suiteSummary
  rw [hb]
  cases b with
  | true =>
    refine ⟨_, rfl, ?_⟩
    simp only [if_true, List.nil_append, reportedSuccessful, hI, hF, hE, Bool.not_false, Bool.and_self, true_iff]
    exact hiff.mp rfl
  | false =>
    refine ⟨_, rfl, ?_⟩
    have : ([suiteFailWord] ++ taskResults.map upper).contains "FAIL" = true := by
      simp only [List.contains_iff_mem, List.mem_append]; left; decide
    simp only [Bool.false_eq_true, if_false, reportedSuccessful, this, Bool.not_true, Bool.and_false,
      Bool.false_and, false_iff]
    intro h; have := hiff.mpr h; cases this

/-- WITNESS (finding): a test that failed and then passed on its retry has an acceptable result,
`all_results_ok` is true, but the summary carries the retry's `FAIL` and the job is reported failed -/
example : allResultsOk [⟨"t", "1", "FAIL", 1⟩, ⟨"t", "1r1", "PASS", 1⟩] = .ok true ∧
    suiteSummary [⟨"t", "1", "FAIL", 1⟩, ⟨"t", "1r1", "PASS", 1⟩] ["fail", "pass"] = .ok ["FAIL", "PASS"] ∧
    reportedSuccessful ["FAIL", "PASS"] = false := by decide +kernel

/-- WITNESS (finding): an executed test whose result never arrived has no record; the verdict does not
see it and the run is reported successful -/
example : (execute { copies := [{ name := "t.net1", pfx := "1" }] } 0 .never).1.job = [] ∧
    suiteSummary [] [] = .ok [] ∧ reportedSuccessful [] = true := by decide +kernel

/-! ## Non-vacuity and boundary witnesses -/

def cfgEx : Cfg :=
  { name := "normal.tutorial1.vm1.nets.localhost.net1", maxTries := some "3", rerunStatus := some "fail error",
    stopStatus := some "pass", poolScope := "own swarm cluster shared", netsSpawner := some "lxc" }
def wEx : Worker := ⟨"localhost", "net1"⟩
def res (st : String) : Result := ⟨"normal.tutorial1.vm1.nets.localhost.net1", st, some 1⟩

/-- What the examples below evaluate on `cfgEx` and `wEx`, from ONE kernel evaluation.  The dear part of each is the same
(for `worker.id in name` the kernel decodes the UTF-8 of the 41 characters of `cfgEx.name`), and a `decide` per example
would do it again. -/
theorem cfgEx_run :
    ((cfgEx.dryRun.getD dryRunDefault == dryRunYes) = false ∧ cfgEx.flat = false ∧ cfgEx.cloneSource = false ∧
      wrongWorker cfgEx (some wEx) = false) ∧
    (shouldRerun cfgEx (some wEx) [res "FAIL"] = .ok true ∧
      shouldRerun cfgEx (some wEx) [res "FAIL", res "ERROR"] = .ok true ∧
      shouldRerun cfgEx (some wEx) [res "FAIL", res "ERROR", res "FAIL"] = .ok false ∧
      shouldRerun cfgEx (some wEx) [res "FAIL", res "WARN"] = .ok false) ∧
    shouldRerun cfgEx (some ⟨"localhost", "net2"⟩) [] = .error .runtimeError := by decide +kernel

theorem cfgEx_variants :
    (shouldRerun { cfgEx with rerunStatus := none } (some wEx) [res "FAIL", res "PASS"] = .ok false ∧
      shouldRerun { cfgEx with stopStatus := some "invalid" } (some wEx) [res "FAIL"] = .error .badStopStatus ∧
      shouldRerun { cfgEx with rerunStatus := some "fail,error" } (some wEx) [] = .error .badRerunStatus) ∧
    (shouldRerun { cfgEx with maxTries := some "x" } (some wEx) [] = .error .badTries ∧
      shouldRerun { cfgEx with maxTries := some "3.5" } (some wEx) [] = .error .badTries ∧
      shouldRerun { cfgEx with maxTries := some "-1" } (some wEx) [] = .error .negativeTries) ∧
    (defaultRunDecision { cfgEx with maxTries := some "x" } wEx [] true false false = .ok (true, false) ∧
      defaultRunDecision { cfgEx with maxTries := some "x" } wEx [res "FAIL"] true false false = .error .badTries) := by
  decide +kernel

example : Reaches cfgEx (some wEx) := cfgEx_run.1
example : Valid cfgEx 3 := ⟨by decide +kernel, by decide +kernel, by decide +kernel, by decide +kernel⟩
example : shouldRerun cfgEx (some wEx) [res "FAIL"] = .ok true := cfgEx_run.2.1.1
example : shouldRerun cfgEx (some wEx) [res "FAIL", res "ERROR"] = .ok true := cfgEx_run.2.1.2.1
example : shouldRerun cfgEx (some wEx) [res "FAIL", res "ERROR", res "FAIL"] = .ok false := cfgEx_run.2.1.2.2.1   -- no tries left
example : shouldRerun cfgEx (some wEx) [res "FAIL", res "WARN"] = .ok false := cfgEx_run.2.1.2.2.2               -- outside the rerun set
example : shouldRerun { cfgEx with rerunStatus := none } (some wEx) [res "FAIL", res "PASS"] = .ok false := cfgEx_variants.1.1 -- stop set
example : shouldRerun { cfgEx with stopStatus := some "invalid" } (some wEx) [res "FAIL"] = .error .badStopStatus := cfgEx_variants.1.2.1
example : shouldRerun { cfgEx with rerunStatus := some "fail,error" } (some wEx) [] = .error .badRerunStatus := cfgEx_variants.1.2.2
example : shouldRerun { cfgEx with maxTries := some "x" } (some wEx) [] = .error .badTries := cfgEx_variants.2.1.1
example : shouldRerun { cfgEx with maxTries := some "3.5" } (some wEx) [] = .error .badTries := cfgEx_variants.2.1.2.1
example : shouldRerun { cfgEx with maxTries := some "-1" } (some wEx) [] = .error .negativeTries := cfgEx_variants.2.1.2.2
example : shouldRerun cfgEx (some ⟨"localhost", "net2"⟩) [] = .error .runtimeError := cfgEx_run.2.2
/-- boundary: before the first execution the settings are not looked at (they are rejected at the decision
after it, which the traversal always takes) -/
example : defaultRunDecision { cfgEx with maxTries := some "x" } wEx [] true false false = .ok (true, false) := cfgEx_variants.2.2.1
example : defaultRunDecision { cfgEx with maxTries := some "x" } wEx [res "FAIL"] true false false = .error .badTries := cfgEx_variants.2.2.2

def replayEx : Cfg := { name := "normal.tutorial1.vm1.nets.localhost.net1", replay := some "job-1" }

theorem replayEx_run :
    ((replayEx.dryRun.getD dryRunDefault == dryRunYes) = false ∧ replayEx.flat = false ∧ replayEx.cloneSource = false ∧
      wrongWorker replayEx (some wEx) = false) ∧
    (defaultRunDecision replayEx wEx [res "PASS"] true false false = .ok (false, false) ∧
      defaultRunDecision replayEx wEx [res "FAIL"] true false false = .ok (true, false)) ∧
    (defaultRunDecision replayEx wEx [res "FAIL", res "FAIL"] true false false = .ok (false, false) ∧
      defaultRunDecision replayEx wEx [res "INTERRUPTED"] true false false = .ok (false, false)) := by decide +kernel

example : Reaches replayEx (some wEx) := replayEx_run.1
example : Valid replayEx 2 := ⟨by decide +kernel, by decide +kernel, by decide +kernel, by decide +kernel⟩
example : defaultRunDecision replayEx wEx [res "PASS"] true false false = .ok (false, false) := replayEx_run.2.1.1
example : defaultRunDecision replayEx wEx [res "FAIL"] true false false = .ok (true, false) := replayEx_run.2.1.2
/-- observations on the replay defaults (documented in design.d/C10.md, not violations): the budget counts
the tries of the previous job, and INTERRUPTED is not in the default rerun set -/
example : defaultRunDecision replayEx wEx [res "FAIL", res "FAIL"] true false false = .ok (false, false) := replayEx_run.2.2.1
example : defaultRunDecision replayEx wEx [res "INTERRUPTED"] true false false = .ok (false, false) := replayEx_run.2.2.2

def classEx : St :=
  { copies := [{ name := "t.nets.localhost.net1", pfx := "1", preName := "noop.nets.localhost.net1" },
               { name := "t.nets.localhost.net2", pfx := "1", preName := "noop.nets.localhost.net2" }] }
example : ClassOK classEx.copies := by unfold ClassOK; decide +kernel
example : ((run classEx [.start 0, .start 1, .finish 0 (.reported "FAIL" 1 0), .start 0, .finish 0 .never,
    .finish 0 (.reported "PASS" 1 3), .start 1]).1.issued.map (fun e => (e.name, e.uid))) =
    [("t.nets.localhost.net2", "1r3"), ("t.nets.localhost.net1", "1r2"), ("t.nets.localhost.net2", "1r1"),
     ("t.nets.localhost.net1", "1")] := by decide +kernel

example : PreSep classEx.copies := by unfold PreSep; decide +kernel
example : PreNamesInj classEx.copies := by
  intro i j p q hp hq h
  match i, j with
  | 0, 0 => rfl
  | 1, 1 => rfl
  | 0, 1 => simp [preStatics, classEx] at hp hq; rw [← hp, ← hq] at h; simp at h
  | 1, 0 => simp [preStatics, classEx] at hp hq; rw [← hp, ← hq] at h; simp at h
  | 0, j + 2 => simp [preStatics, classEx] at hq
  | 1, j + 2 => simp [preStatics, classEx] at hq
  | i + 2, _ => simp [preStatics, classEx] at hp

/-- non-vacuity of `own_result_read`: a reachable state with two executions in flight and records of finished
executions and of a failed creation attempt in the job result -/
example : let s := (run classEx [.start 0, .finish 0 (.reported "FAIL" 1 0), .create 1 (.reported "ERROR" 1 0),
      .start 0, .start 1]).1
    (s.pending.map (fun e => e.uid), s.job.map (fun x => x.uid)) = (["1r2", "1r3"], ["1", "0"]) := by decide +kernel

/-- three creation attempts of copy 0 (failed, never reported, passed), one of copy 1 in between: distinct
pre-step identifiers `0`, `0r1`, `0r2`, each attempt reads its own result, and the main execution starts
after the successful one -/
example : (run classEx [.create 0 (.reported "FAIL" 1 0), .create 1 (.reported "ERROR" 1 0), .create 0 .never,
      .create 0 (.reported "PASS" 1 0)]).2.map
      (fun o => match o with
        | .created p _ f st m => (p.uid, (f.map (·.status)).getD "-", st, (m.map (·.uid)).getD "-")
        | _ => ("", "", "", "")) =
    [("0", "FAIL", "fail", "-"), ("0", "ERROR", "error", "-"), ("0r1", "-", "error", "-"),
     ("0r2", "PASS", "pass", "1r3")] := by decide +kernel

/-- REGRESSION WITNESS (behaviour before /repo commit 7ba7970, `preStepOld`): a pre-step that fails left the
root node without a result; repeated, it carried the same identifier and read the stale FAIL although it
reported PASS -/
example :
    let r1 := preStepOld classEx 0 (.reported "FAIL" 1 0)
    let r2 := preStepOld r1.1 0 (.reported "PASS" 1 0)
    [r1.2, r2.2].map (fun o => match o with
        | .created p _ (some f) st _ => (p.uid, f.status, st) | _ => ("", "", "")) =
    [("0", "FAIL", "fail"), ("0", "FAIL", "fail")] := by decide +kernel

/-! ## The regenerated retry rule (`harness/pygen.py`)

`I2N/Extracted/GenRules.lean` is regenerated on every run from the source of `TestNode.should_rerun` and
`TestNode.shared_filtered_results` (Python AST → Lean `do` block, statement by statement: the literal-list loop is
unrolled, `{*a} - {*b}` / `{*a} & {*b}` are `List.filter`, `len(…) > 0` is non-emptiness, the accumulation loop of
`shared_filtered_results` is a `List.foldl`, `raise` is `throw`, log calls are dropped).  `I2N.Extracted.Rules` pins
the literals; these two theorems pin the *control flow*, the order of the checks and which error wins.

Encoding (the trivially checkable part of the tie, see `RERUN_SPEC` in harness/pygen.py): a result dictionary is the
structure `Result` (`r["status"]` ↦ `r.status`, `r["name"]` ↦ `r.name`), a worker is `Option Worker` (`worker` ↦
`w.isSome`, `worker.id` ↦ the id where Python evaluates it), parameters are the fields of `Cfg`. -/

section Regenerated
open I2N.Extracted.GenRules I2N.PyGen

/-- **`filteredResults` is the Python source of `shared_filtered_results`** for every configuration, every
`started_worker` (or none) and every list of shared results.  No hypotheses. -/
theorem filteredResults_matches_source (c : Cfg) (started : Option Worker) (shared : List Result) :
    genFilteredResults c started shared = filteredResults c started shared := by
  unfold genFilteredResults filteredResults
  have hf : ∀ f : String, shared.foldl (fun results result =>
      if isSubstr f result.name = true then results ++ [result] else results) [] =
      shared.filter (fun r => isSubstr f r.name) := by
    intro f
    have := foldl_append_if (fun r : Result => isSubstr f r.name) shared []
    simpa using this
  rcases started with _ | w
  · simp [scopeFilter, hf]
  · by_cases h1 : isSubstr "swarm" c.poolScope = true <;> by_cases h2 : c.netsSpawner = some "lxc" <;>
      by_cases h3 : isSubstr "cluster" c.poolScope = true <;> by_cases h4 : c.netsSpawner = some "remote" <;>
      simp [scopeFilter, scopeSwarm, scopeCluster, spawnerLxc, spawnerRemote, swarmOf, idOf, h1, h2, h3, h4, hf] <;>
      exact hf _

theorem wrongWorker_eq (c : Cfg) (w : Option Worker) :
    wrongWorker c w = (w.isSome && !isSubstr (idOf w) c.name) := by cases w <;> rfl

/-- `params.get_numeric("max_tries", 2 if replay else 1)` followed by the rest of the function is the model's `maxTriesOf`:
the `ValueError` of `int()` ends it, an integer goes on -/
theorem getNumeric_maxTries (c : Cfg) {α : Type} (f : Int → Except Err α) :
    (getNumeric c.maxTries (if truthy c.replay then (2 : Int) else 1) >>= f) =
      match maxTriesOf c with
      | none => .error .badTries
      | some m => f m := by
  unfold getNumeric maxTriesOf
  cases c.maxTries with
  | none => rfl
  | some s => dsimp only; cases parseInt s <;> rfl

/-- **The hand written `shouldRerun` is the Python source of `should_rerun`**: same Boolean or the same error (wrong
worker, invalid rerun / stop status, non-integer or negative `max_tries` — in the order the Python checks them) for
every configuration, worker and list of shared results.  No hypotheses. -/
theorem shouldRerun_matches_source (c : Cfg) (w : Option Worker) (shared : List Result) :
    genShouldRerun c w shared = shouldRerun c w shared := by
  unfold genShouldRerun shouldRerun
  rw [wrongWorker_eq, show dryRunDefault = "no" from rfl, show dryRunYes = "yes" from rfl]
  -- the early exits one by one: `simp` would substitute the join points of the `do` block into every branch
  refine ite_congr rfl (fun _ => rfl) fun _ => ite_congr rfl (fun _ => rfl) fun _ =>
    ite_congr rfl (fun _ => rfl) fun _ => ite_congr rfl (fun _ => rfl) fun _ => ?_
  -- `zeta` off: the `bind` stands in the term as it is, and the join points are not yet copied into the branches
  simp -zeta only [getNumeric_maxTries]
  cases maxTriesOf c <;> cases hrep : truthy c.replay <;> cases hst : c.stateful <;>
    simp only [hrep, hst, statusesOf, filteredResults_matches_source, if_false, Bool.false_eq_true, rerunList, stopList,
      maxTriesNoRerun, replayRerunDelimiter, replayRerunDefault, allStatuses, PyGen.throw_bind, if_true, ite_self,
      diff_isEmpty, inter_isEmpty, Bool.not_not, Bool.not_true, Bool.not_false, decide_eq_true_eq, ite_pure_bool] <;>
    rfl

/-- the generated definitions compute (they are not stuck on anything): a second try is granted after one failure,
refused after a pass when only failures are to be repeated, an unknown status is rejected before `max_tries` is read,
and a foreign worker is rejected first -/
example : genShouldRerun { name := "n.net1", maxTries := some "2" } (some ⟨"sw", "net1"⟩) [⟨"n.net1", "FAIL", some 1⟩]
    = .ok true := by decide +kernel
example : genShouldRerun { name := "n.net1", maxTries := some "3", rerunStatus := some "fail" } none
    [⟨"n.net1", "PASS", some 1⟩] = .ok false := by decide +kernel
example : genShouldRerun { name := "n.net1", maxTries := some "x", stopStatus := some "passed" } none [] =
    .error .badStopStatus := by decide +kernel
example : genShouldRerun { name := "n.net1", rerunStatus := some "bogus" } (some ⟨"sw", "net2"⟩) [] =
    .error .runtimeError := by decide +kernel
example : genFilteredResults { name := "n", netsSpawner := some "lxc" } (some ⟨"sw", "net1"⟩)
    [⟨"a.sw.net1", "PASS", none⟩, ⟨"a.sw.net2", "FAIL", none⟩] = [⟨"a.sw.net1", "PASS", none⟩] := by decide +kernel

/-! ### `default_run_decision`

Translated in the state monad `StateT Bool (Except Err)`: the state is whether the instance attribute `should_rerun` has
been replaced by `lambda _: False` (that assignment is the one pinned statement, it stands for `set true`);
`self.should_rerun(worker)` is the action `rerunM` (the generated `genShouldRerun` unless disabled).  `a or <action>` is
printed as statements (`pyTmp := a; if !pyTmp then pyTmp := ← action`), so the action runs only when Python runs it. -/

/-- **The hand written `defaultRunDecision` is the Python source of `default_run_decision`**: same decision, same
"`should_rerun` disabled" flag afterwards, or the same error — for every configuration, worker, result list, outcome of
`is_finished` / `scan_states` and initial flag.  No hypotheses. -/
theorem defaultRunDecision_matches_source (c : Cfg) (w : Worker) (shared : List Result)
    (finished scanRun disabled : Bool) :
    (genDefaultRunDecision c w shared finished scanRun).run disabled =
      defaultRunDecision c w shared finished scanRun disabled := by
  unfold genDefaultRunDecision defaultRunDecision rerunM
  rw [← shouldRerun_matches_source, ← filteredResults_matches_source,
    show dryRunDefault = "no" from rfl, show dryRunYes = "yes" from rfl]
  by_cases h1 : (c.dryRun.getD "no" == "yes") = true
  · rw [if_pos h1, if_pos h1]; rfl
  rw [if_neg h1, if_neg h1]
  by_cases h2 : c.flat = true
  · rw [if_pos h2, if_pos h2]; rfl
  rw [if_neg h2, if_neg h2]
  by_cases h3 : c.cloneSource = true
  · rw [if_pos h3, if_pos h3]; rfl
  rw [if_neg h3, if_neg h3]
  by_cases h4 : (!isSubstr w.id c.name) = true
  · rw [if_pos h4, if_pos h4]; rfl
  rw [if_neg h4, if_neg h4]
  -- what is left branches on Booleans and on the outcome of the retry rule only: every case computes
  generalize genShouldRerun c (some w) shared = r
  cases c.stateful
  · cases shared <;> cases disabled <;> cases r <;> rfl
  · generalize (genFilteredResults c c.startedWorker shared).isEmpty = fe
    cases finished <;> cases scanRun <;> cases fe <;> cases disabled <;> cases r <;> rfl

/-- the generated definition computes: a stateless node without results runs; a stateful node whose state is missing
runs; with no result and an available state the retry rule is switched off; a foreign worker is rejected -/
example : (genDefaultRunDecision { name := "n.net1" } ⟨"sw", "net1"⟩ [] false false).run false = .ok (true, false) := by
  decide +kernel
example : (genDefaultRunDecision { name := "n.net1", stateful := true } ⟨"sw", "net1"⟩ [] false true).run false =
    .ok (true, false) := by decide +kernel
example : (genDefaultRunDecision { name := "n.net1", stateful := true, maxTries := some "3" } ⟨"sw", "net1"⟩ [] false
    false).run false = .ok (false, true) := by decide +kernel
example : (genDefaultRunDecision { name := "n.net1" } ⟨"sw", "net2"⟩ [] false false).run false =
    .error .runtimeError := by decide +kernel

end Regenerated

/-! ## Regenerated runner (translator tie of `TestRunner.run_test_node` and `TestRunner.all_results_ok`)

`harness/pygen_pxrunner.py` cuts the coroutine `run_test_node` at its two awaits into straight-line segments and
regenerates `Extracted/GenRunner.lean` from /repo's current source on every run; the awaits are the suspension points
of the machine (`start` / `finish`).  The state of a segment is `RSt` = (`node.results`, `job.result.tests`,
`node.prefix`). -/
section RegeneratedRunner
open I2N.Extracted.GenRunner I2N.Lemmas.RunnerGen

/- what `simp` unfolds in the proofs below: the state monad of the generated segments -/
attribute [local simp] readSt modSt removeM warnInPlace StateT.run bind StateT.bind Except.bind Except.map pure StateT.pure
  Except.pure

/-- **The verdict computation is the Python source of `all_results_ok`**: same Boolean or the same KeyError, for every
list of job results.  No hypotheses. -/
theorem allResultsOk_matches_source (tests : List JobRes) : genAllResultsOk tests = allResultsOk tests :=
  genAllOkLoop_eq tests tests

/-- **The segment in front of `await self.run_test_task(node)`**, for every state: the retry number is the number of
shared results, the uid is `uidOf prefix k`, the UNKNOWN placeholder is appended to `node.results` IN THIS SEGMENT (before
the suspension), the prefix is the retry prefix while the task runs. -/
theorem runBefore_matches_source (nm : String) (k : Nat) (st : RSt) :
    (genRunBefore nm k).run st =
      .ok ((st.pfx, (k : Int), uidOf st.pfx k, nm, unknownOf nm),
           { results := st.results ++ [unknownOf nm], job := st.job, pfx := uidOf st.pfx k }) := by
  unfold genRunBefore
  by_cases hk : k = 0
  · subst hk
    simp [uidOf, unknownOf, unknownStatus]
  · have : 0 < k := Nat.pos_of_ne_zero hk
    simp [uidOf, unknownOf, unknownStatus, retryInfix, this]

/-- **One poll that found the record `x`** (the `try` body behind `next(...)` up to its `break`) is the model's `record`:
duration rule (a PASS slower than 1.25 x the slowest earlier PASS of this copy becomes WARN, also in the job record),
the result appended, the first placeholder removed (`removeMissing` = Python's ValueError when there is none), the
status in lower case.  `x.name = name` is what the lookup guarantees (`lookupJob_name`). -/
theorem pollFound_matches_source (name uid : String) (x : JobRes) (st : RSt) (hx : x.name = name) :
    (genPollFound name uid (unknownOf name) x).run st =
      (record st.results st.job name uid x).map
        (fun r => (r.status, { results := r.results, job := r.job, pfx := st.pfx })) := by
  unfold genPollFound record durationStatus
  rw [show durationFactorDen = 4 from rfl, show durationFactorNum = 5 from rfl, ← pyMaxDefault_eq]
  rcases st with ⟨results, job, pfx⟩
  by_cases he : results = []
  · subst he
    simp [hx, unknownOf, unknownStatus]
  · have hl : 0 < results.length := List.length_pos_iff.mpr he
    have he' : results.isEmpty = false := by simpa using he
    by_cases hw : x.status = "PASS" ∧ 5 * pyMaxDefault (List.map (fun r => r.time.getD 0)
        (List.filter (fun r => r.status == "PASS") results)) x.time < 4 * x.time
    · have hp : x.status = "PASS" := hw.1
      have hw2 := hw.2
      by_cases hc : ({ name := name, status := "UNKNOWN" } : Result) ∈ results <;>
        simp [hx, hc, hw2, hl, he', hp, unknownOf, unknownStatus, passStatus, warnStatus]
    · by_cases hc : ({ name := name, status := "UNKNOWN" } : Result) ∈ results <;>
        simp [hx, hc, hw, hl, he', unknownOf, unknownStatus, passStatus]

/-- **One iteration of the lookup loop**: the lookup is the model's `lookupJob` (FIRST record with that name AND uid);
found = `record` and the loop is left with that status, not found = nothing changes and the coroutine sleeps.  In
particular **a miss does not touch `node.results`: the UNKNOWN placeholder stays** (see `placeholder_stays_when_unreported`). -/
theorem poll_matches_source (name uid : String) (st : RSt) :
    (genPoll name uid (unknownOf name)).run st =
      match lookupJob st.job name uid with
      | some x => (record st.results st.job name uid x).map
          (fun r => (some r.status, { results := r.results, job := r.job, pfx := st.pfx }))
      | none => .ok (none, st) := by
  have hh := genLookup_head st.job name uid
  unfold genPoll
  cases hl : genLookup st.job name uid with
  | nil =>
    rw [hl] at hh
    rw [← hh]
    simp [hl]
  | cons x rest =>
    rw [hl] at hh
    have hx := lookupJob_name hh.symm
    rw [← hh]
    have := pollFound_matches_source name uid x st hx.1
    simp only [StateT.run] at this
    simp [hl, this]
    cases record st.results st.job name uid x <;> rfl

/-- the handler of a poll leaves `test_status = "error"` (the loop's `else` only logs): the value `settle` reports when
the record never shows up -/
theorem pollMiss_matches_source : genPollMiss = "error" := rfl

/-- `for i in range(status_timeout)`: the default is the extracted constant the model polls with -/
theorem statusTimeout_matches_source : genStatusTimeout = statusTimeout := rfl

/-- **The segment behind the lookup loop**: the prefix is restored, the returned Boolean is the model's `statusBool`
(`test_status not in ["error", "fail"]`). -/
theorem runAfter_matches_source (p ts : String) (st : RSt) :
    (genRunAfter p ts).run st = .ok (statusBool ts, { results := st.results, job := st.job, pfx := p }) := by
  unfold genRunAfter statusBool
  by_cases h : ts = "error" ∨ ts = "fail"
  · rcases h with rfl | rfl <;> simp [failingStatuses]
  · have h1 : ts ≠ "error" := fun e => h (Or.inl e)
    have h2 : ts ≠ "fail" := fun e => h (Or.inr e)
    simp [failingStatuses, h1, h2]

/-- `beginExec` (the effect of `start`) is the generated first segment run on the copy's state: same retry counter,
same uid, same results of the copy, job results untouched. -/
theorem beginExec_matches_source (s : St) (i : Nat) (c : Copy) (hc : s.copies[i]? = some c) :
    ∃ fr st', (genRunBefore c.name (sharedLen s.copies)).run { results := c.results, job := s.job, pfx := c.pfx } =
        .ok (fr, st') ∧
      (beginExec s i c).2 = { copy := i, k := fr.2.1.toNat, name := fr.2.2.2.1, uid := fr.2.2.1 } ∧
      (beginExec s i c).1.copies = updCopy s.copies i (fun c' => { c' with results := st'.results }) ∧
      (beginExec s i c).1.job = st'.job ∧ fr.2.2.2.2 = unknownOf c.name ∧ fr.1 = c.pfx := by
  refine ⟨_, _, runBefore_matches_source _ _ _, ?_, ?_, rfl, rfl, rfl⟩
  · simp [beginExec]
  · exact updCopy_congr hc rfl

/-- the generated segments compute: first execution (no retry suffix), third execution (`r2`), a slow PASS becomes WARN
in the copy's results and in the job record, a record under another uid is not found, an unmapped status is a KeyError
only when no acceptable record of that name precedes it -/
example : (genRunBefore "t.net1" 0).run ⟨[], [], "3"⟩ =
    .ok (("3", 0, "3", "t.net1", unknownOf "t.net1"), ⟨[unknownOf "t.net1"], [], "3"⟩) := by decide +kernel
example : (genRunBefore "t.net1" 2).run ⟨[⟨"t.net1", "FAIL", some 1⟩], [], "3"⟩ =
    .ok (("3", 2, "3r2", "t.net1", unknownOf "t.net1"),
         ⟨[⟨"t.net1", "FAIL", some 1⟩, unknownOf "t.net1"], [], "3r2"⟩) := by decide +kernel
example : (genPoll "t" "1r1" (unknownOf "t")).run ⟨[⟨"t", "PASS", some 10⟩, unknownOf "t"], [⟨"t", "1r1", "PASS", 13⟩], "1r1"⟩ =
    .ok (some "warn", ⟨[⟨"t", "PASS", some 10⟩, ⟨"t", "WARN", some 13⟩], [⟨"t", "1r1", "WARN", 13⟩], "1r1"⟩) := by decide +kernel
example : (genPoll "t" "1r1" (unknownOf "t")).run ⟨[unknownOf "t"], [⟨"t", "1", "PASS", 13⟩], "1r1"⟩ =
    .ok (none, ⟨[unknownOf "t"], [⟨"t", "1", "PASS", 13⟩], "1r1"⟩) := by decide +kernel
example : genAllResultsOk [⟨"a", "1", "FAIL", 1⟩, ⟨"a", "1r1", "PASS", 1⟩] = .ok true := by decide +kernel
example : genAllResultsOk [⟨"a", "1", "PASS", 1⟩, ⟨"b", "2", "FAIL", 1⟩, ⟨"a", "1r1", "bogus", 1⟩] = .ok false := by decide +kernel
example : genAllResultsOk [⟨"a", "1", "bogus", 1⟩, ⟨"a", "1r1", "PASS", 1⟩] = .error .keyError := by decide +kernel

/-- **The unreported result on the SOURCE** (finding F-C10-2, reproduced on the real code by
`tools/repro_unreported_placeholder.py`): when no record with this (name, uid) is in `job.result.tests` and none arrives
during the sleeps, the lookup loop — whatever the number of remaining polls — ends with `test_status = "error"` and
`node.results` is exactly what it was: the UNKNOWN placeholder appended in front of the task await is still there (the
`remove` sits only in the branch that found the record). -/
theorem placeholder_stays_when_unreported (env : Nat → List JobRes) (name uid : String)
    (henv : ∀ j, lookupJob (env j) name uid = none) (n i : Nat) (st : RSt)
    (hjob : lookupJob st.job name uid = none) :
    ∃ job', (genPolls env name uid (unknownOf name) i n).run st =
        .ok ("error", { results := st.results, job := job', pfx := st.pfx }) ∧
      lookupJob job' name uid = none := by
  induction n generalizing i st with
  | zero => exact ⟨st.job, rfl, hjob⟩
  | succ n ih =>
    have hp := poll_matches_source name uid st
    rw [hjob] at hp
    have hj2 : lookupJob (st.job ++ env (i + 1)) name uid = none := by
      unfold lookupJob at *
      rw [List.find?_append, hjob, henv]; rfl
    obtain ⟨job', h1, h2⟩ := ih (i + 1) { results := st.results, job := st.job ++ env (i + 1), pfx := st.pfx } hj2
    refine ⟨job', ?_, h2⟩
    simp only [StateT.run] at hp h1 ⊢
    rw [genPolls]
    simp [hp, h1]

/-- the hand model mirrors it (the model mirrors the code): `settle` of a result that never arrives leaves the copy's
results — placeholder included — and reports `"error"`; so do `finish` and, in the traversal model, `resumeTest` (its
`none` branch goes to `continueAfter s false` without touching the results) -/
theorem settle_never_keeps_placeholder (results : List Result) (job : List JobRes) (name uid : String)
    (hjob : lookupJob job name uid = none) :
    settle results job name uid .never = .ok { results := results, job := job, status := "error", found := none } := by
  simp [settle, Outcome.delay, arrive, hjob]

example : ∃ job', (genPolls (fun _ => []) "t" "1" (unknownOf "t") 0 genStatusTimeout).run ⟨[unknownOf "t"], [], "1"⟩ =
    .ok ("error", ⟨[unknownOf "t"], job', "1"⟩) ∧ lookupJob job' "t" "1" = none :=
  placeholder_stays_when_unreported (fun _ => []) "t" "1" (fun _ => rfl) _ 0 ⟨[unknownOf "t"], [], "1"⟩ rfl

/-! ### The traversal model's `startTest` against the generated first segment

`Trav.Result` carries a ghost tag and a uid; `toRules` forgets them (an UNKNOWN placeholder has no `time_elapsed`). -/

/-- adapter between the two result types (explicit: the traversal model is structured differently) -/
def toRules (r : I2N.Trav.Result) : Result :=
  { name := r.name, status := r.status, time := if r.status == "UNKNOWN" then none else some r.dur }

/-- **`Trav.startTest` (test proper: phase plain or main) is the generated first segment of `run_test_node`** run on
the node copy's state: the uid stored in the worker's program counter is the uid the source computes from the number of
shared results, the results of the copy afterwards are — through `toRules` — the results the source leaves (placeholder
appended before the suspension), and the step ends in the suspension.  Hypotheses: `n` / `w` are indices of the state. -/
theorem startTest_matches_source (g : I2N.Trav.Graph) (s : I2N.Trav.State) (n w : Nat) (ph : I2N.Trav.Phase)
    (dir : I2N.Trav.Dir) (hph : ph ≠ .pre) (hn : n < s.nodes.length) (hw : w < s.workers.length) :
    ∃ fr st', (genRunBefore (g.node n).name (I2N.Trav.sharedResults g s n).length).run
          { results := (s.nd n).results.map toRules, job := [], pfx := (g.node n).pfx } = .ok (fr, st') ∧
      ((I2N.Trav.startTest g s n w ph dir).1.wd w).pc = .test n ph dir fr.2.2.1 s.nextTag 0 ∧
      ((I2N.Trav.startTest g s n w ph dir).1.nd n).results.map toRules = st'.results ∧
      (∃ evs, (I2N.Trav.startTest g s n w ph dir).2 = (evs, .suspend)) := by
  have hp : (ph == I2N.Trav.Phase.pre) = false := by cases ph <;> first | rfl | exact absurd rfl hph
  refine ⟨_, _, runBefore_matches_source _ _ _, ?_, ?_, ?_⟩
  · have hw' : s.workers[w]? = some s.workers[w] := List.getElem?_eq_getElem hw
    simp [I2N.Trav.startTest, hp, I2N.Trav.State.setWd, I2N.Trav.State.setNd, I2N.Trav.State.wd,
      hw', I2N.Trav.uidOf, uidOf, retryInfix]
  · have hn' : s.nodes[n]? = some s.nodes[n] := List.getElem?_eq_getElem hn
    simp [I2N.Trav.startTest, hp, I2N.Trav.State.setWd, I2N.Trav.State.setNd, I2N.Trav.State.nd,
      hn', toRules, unknownOf, unknownStatus]
  · simp only [I2N.Trav.startTest, hp, Bool.false_eq_true, if_false]
    exact ⟨_, rfl⟩

example : toRules { name := "t", status := "UNKNOWN", uid := "", tag := 3 } = unknownOf "t" := by decide +kernel

end RegeneratedRunner

end I2N.Props.C10
