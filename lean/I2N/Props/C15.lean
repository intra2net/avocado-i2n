import I2N.Lemmas.ToolsFlags
import I2N.Lemmas.ToolsReach
import I2N.Extracted.GenUpdate
/-!
# C15 — The update tool reruns exactly the requested path and drops only its dependants

Model: `I2N/Model/Tools.lean` (`flagChildren`, `flagIntersection`, `updateFlags`: the flagging passes of
`intertest_setup.update` for one vm and one worker, in program order; the one `Driver/Tools.lean` runs).

The parser's contract is a hypothesis, not part of the model: the graph parsed for `all..<to_state>` consists of the
state's node and its setup closure (and the shared root), likewise for `all..<from_state>`.  With it, `hit g runNames`
is "ancestor-or-self of the `to_state` node" and `hit g skipNames` is "ancestor-or-self of the `from_state` node"; on a
vm's tree of setup states the run-flagged set `anc(to) \ anc(from) ∪ {from}` is the path from `from_state` to
`to_state`, both included (the spec oracle of the harness checks this reading on every parsed graph).
-/
namespace I2N.Props.C15
open I2N.Tools

/-! ## one pass -/

/-- the set `update_flags_exact` speaks about is the set of strict descendants -/
theorem flaggedBy_iff_descendant (g : UGraph) (r m : Nat) :
    m ∈ flaggedBy g r true false ↔ ∃ c ∈ (g.node r).children, Reach g c m := by
  simp only [flaggedBy, if_true, Bool.false_eq_true, if_false, mem_reachWithin]
  constructor
  · rintro ⟨c, hc, j, hj, hs⟩; exact ⟨c, hc, (reach_iff_within g c m).mpr ⟨j, hj, hs⟩⟩
  · rintro ⟨c, hc, hreach⟩
    obtain ⟨j, hj, hs⟩ := (reach_iff_within g c m).mp hreach
    exact ⟨c, hc, j, hj, hs⟩

/-- **clean_flags_exact** — `flag_children` as `update` uses it for the clean pass (`skip_parents=True`): the root `r`
(the state's node) is unique, and the policy goes to exactly the *strict descendants* of `r` — the nodes reachable from
a child of `r` along any number of cleanup edges (`Reach`) — while `r` itself, everything above it and every unrelated
node keep what they had; the run flags are untouched.  (That `|nodes|` layers of the worklist reach every descendant
is `Steps.bounded`: a longer walk repeats a node and can be cut short.) -/
theorem clean_flags_exact (g : UGraph) (fl fl' : Flags) (state : List String) (vm : String) (sel : Option (String × String))
    (p : Pol) (h : flagChildren g fl state vm sel .clean p true false = .ok fl') :
    ∃ r, selectRoots g state vm sel = [r] ∧
      (∀ m, (∃ c ∈ (g.node r).children, Reach g c m) → fl'.clean m = p) ∧
      (∀ m, ¬(∃ c ∈ (g.node r).children, Reach g c m) → fl'.clean m = fl.clean m) ∧
      (∀ m, fl'.run m = fl.run m) := by
  obtain ⟨r, hr, h1, h2⟩ := flagChildren_ok h
  have key := flaggedBy_iff_descendant g r
  refine ⟨r, hr, fun m hm => ?_, fun m hm => ?_, fun m => h2 .run m (by decide)⟩
  · have := h1 m; rw [if_pos ((key m).mpr hm)] at this; exact this
  · have := h1 m; rw [if_neg (fun x => hm ((key m).mp x))] at this; exact this

/-- the run pass for `from_state` (`skip_children=True`): only the state's own node gets the policy -/
theorem from_flag_exact (g : UGraph) (fl fl' : Flags) (state : List String) (vm : String) (sel : Option (String × String))
    (p : Pol) (h : flagChildren g fl state vm sel .run p false true = .ok fl') :
    ∃ r, selectRoots g state vm sel = [r] ∧ (∀ m, fl'.run m = if m = r then p else fl.run m) ∧
      (∀ m, fl'.clean m = fl.clean m) := by
  obtain ⟨r, hr, h1, h2⟩ := flagChildren_ok h
  refine ⟨r, hr, fun m => ?_, fun m => h2 .clean m (by decide)⟩
  have := h1 m
  simpa [Flags.get, flaggedBy] using this

/-- **rejects_unknown_state**: a state that no node of the graph produces for this vm and worker (or that several do)
makes the pass fail with the `ValueError` `update` raises — nothing has been run or removed at that point -/
theorem rejects_unknown_state (g : UGraph) (fl : Flags) (state : List String) (vm : String) (sel : Option (String × String))
    (ty : FlagType) (p : Pol) (sp sc : Bool) (h : (selectRoots g state vm sel).length ≠ 1) :
    mapAssertion (flagChildren g fl state vm sel ty p sp sc) = .error .valueError := by
  rw [flagChildren_error h]; rfl

/-- a state name that is not a contiguous part of any node's name for this vm selects nothing -/
theorem unknown_state_selects_nothing (g : UGraph) (state : List String) (vm : String) (sel : Option (String × String))
    (hs : state ≠ []) (h : ∀ i < g.nodes.length, isInfix state (g.node i).variants = false) :
    selectRoots g state vm sel = [] := by
  simp only [selectRoots, List.filter_eq_nil_iff, List.mem_range]
  intro i hi
  have : state.isEmpty = false := by cases state <;> simp_all
  simp [this, h i hi]

/-- **`flag_intersection`**: exactly the nodes that map to one node of the other graph get the policy -/
theorem flag_intersection_exact (g : UGraph) (fl fl' : Flags) (otherNames : List String) (ty : FlagType) (p : Pol)
    (so ss : Bool) (h : flagIntersection g fl otherNames ty p so ss = .ok fl') :
    (∀ m, m < g.nodes.length → fl'.get ty m = if hit g otherNames so ss m = true then p else fl.get ty m) ∧
    (∀ ty' m, ty ≠ ty' → fl'.get ty' m = fl.get ty' m) :=
  ⟨(flagIntersection_ok h).1, (flagIntersection_ok h).2.2⟩

/-! ## all passes of `update` for one vm and one worker -/

/-- the run policy `update` ends with on node `m`, given the `from_state` node (if `from_state ≠ install`) -/
def finalRun (u : UpdateIn) (g : UGraph) (fromNode : Option Nat) (m : Nat) : Pol :=
  if some m = fromNode then .notFinishedOrRerun
  else if u.fromState != "install" && hit g u.skipNames false false m then .never
  else if hit g u.runNames false true m then .notFinishedOrRerun
  else if hit g (g.nodes.map (·.name)) false false m then .never
  else .dflt

/-- **run_flags_exact / clean_flags_exact / others_untouched** for the whole flagging sequence (one variant per vm):
if `update` gets through its passes then
* the `to_state` node `rt` exists and is unique for this vm and worker; the clean policy `cloneFree` is on exactly the
  nodes below it (`flaggedBy … skip_parents` = its strict descendants, `flaggedBy_iff_descendant`), `never` on every other node of the graph — in particular on `rt` itself,
  on everything before it and on every node that is not derived from it;
* the run policy `notFinishedOrRerun` is on exactly `anc(to) \ anc(from) ∪ {from}` (in terms of `hit`: the nodes the
  `all..<to_state>` graph contains, minus those the `all..<from_state>` graph contains, plus the unique `from_state`
  node), never on the shared root, `never` on every other node: nothing before the starting state is run.
Other vms and other workers have their own graph objects and their own iteration: no flag of theirs is touched
(the function returns a fresh table for this graph only). -/
theorem update_flags_exact (u : UpdateIn) (g : UGraph) (cf : String) (fl : Flags)
    (hc : u.clean = some g) (hcf : u.compForms = [cf]) (h : updateFlags u = .ok (some fl)) :
    ∃ rt, selectRoots g (if u.toState == "install" then [] else u.toVars) u.vm (some (cf, u.worker)) = [rt] ∧
      (∀ m, m < g.nodes.length → fl.clean m =
        if m ∈ flaggedBy g rt true false then .cloneFree
        else if hit g (g.nodes.map (·.name)) false false m then .never else .dflt) ∧
      ∃ fromNode : Option Nat,
        (if u.fromState != "install" then ∃ rf, fromNode = some rf ∧
            selectRoots g u.fromVars u.vm (some (cf, u.worker)) = [rf] else fromNode = none) ∧
        (∀ m, m < g.nodes.length → fl.run m = finalRun u g fromNode m) := by
  unfold updateFlags at h
  rw [hc, hcf] at h
  simp only at h
  obtain ⟨f1, h1, h⟩ := bind_ok h
  obtain ⟨f2, h2, h⟩ := bind_ok h
  obtain ⟨f3, h3, h⟩ := bind_ok h
  obtain ⟨f4, h4, h⟩ := bind_ok h
  simp only [List.foldlM_cons, List.foldlM_nil, bind_pure] at h3
  obtain ⟨rt, hrt, hc3, hr3⟩ := flagChildren_ok (mapAssertion_ok h3)
  have e1 := flagIntersection_ok h1
  have e2 := flagIntersection_ok h2
  have e4 := flagIntersection_ok h4
  -- the table after the first four passes (each pass touches one flag type)
  have c4 : ∀ m, m < g.nodes.length → f4.clean m =
      if m ∈ flaggedBy g rt true false then .cloneFree
      else if hit g (g.nodes.map (·.name)) false false m then .never else .dflt := by
    intro m hm
    have c3 := hc3 m
    have c2 := e2.1 m hm
    have c1 : f1.get .clean m = .dflt := e1.2.2 .clean m (by decide)
    simp only [Flags.get] at c3 c2 c1
    rw [show f4.clean m = f3.clean m from e4.2.2 .clean m (by decide), c3, c2, c1]
  have r4 : ∀ m, m < g.nodes.length → f4.run m =
      if hit g u.runNames false true m = true then .notFinishedOrRerun
      else if hit g (g.nodes.map (·.name)) false false m = true then .never else .dflt := by
    intro m hm
    have a4 := e4.1 m hm
    have a3 := hr3 .run m (by decide)
    have a2 := e2.2.2 .run m (by decide)
    have a1 := e1.1 m hm
    simp only [Flags.get] at a4 a3 a2 a1
    rw [a4, a3, a2, a1]
  refine ⟨rt, hrt, ?_⟩
  split at h
  · -- `from_state ≠ install`: two more passes, both on the run flags
    rename_i hfrom
    obtain ⟨fa, ha, h⟩ := bind_ok h
    obtain ⟨fb, hb, h⟩ := bind_ok h
    simp only [pure, Except.pure, Except.ok.injEq, Option.some.injEq] at h
    subst h
    simp only [List.foldlM_cons, List.foldlM_nil, bind_pure] at hb
    obtain ⟨rf, hrf, hb1, hb2⟩ := flagChildren_ok (mapAssertion_ok hb)
    have ea := flagIntersection_ok ha
    refine ⟨fun m hm => ?_, some rf, by rw [if_pos hfrom]; exact ⟨rf, rfl, hrf⟩, fun m hm => ?_⟩
    · exact ((hb2 .clean m (by decide)).trans (ea.2.2 .clean m (by decide))).trans (c4 m hm)
    · have x5 := hb1 m
      have xa := ea.1 m hm
      simp only [Flags.get, flaggedBy, if_true, Bool.false_eq_true, if_false, List.mem_singleton] at x5 xa
      rw [x5, xa, r4 m hm]
      simp only [finalRun, hfrom, Bool.true_and, Option.some.injEq]
  · rename_i hfrom
    simp only [pure, Except.pure, bind, Except.bind, Except.ok.injEq, Option.some.injEq] at h
    subst h
    refine ⟨c4, none, by rw [if_neg hfrom], fun m hm => ?_⟩
    rw [r4 m hm]
    simp [finalRun, hfrom]

/-- consequence for what is done: a node is (re)run iff it is the `from_state` node or it is in the `to_state` closure
but not in the `from_state` closure (and not the shared root) -/
theorem runs_exactly (u : UpdateIn) (g : UGraph) (fromNode : Option Nat) (m : Nat) :
    (finalRun u g fromNode m == .notFinishedOrRerun) =
      (some m == fromNode ||
        (!(u.fromState != "install" && hit g u.skipNames false false m) && hit g u.runNames false true m)) := by
  unfold finalRun
  generalize (u.fromState != "install" && hit g u.skipNames false false m) = a
  generalize hit g u.runNames false true m = b
  generalize hit g (g.nodes.map (·.name)) false false m = c
  by_cases h0 : some m = fromNode
  · simp [h0]; rfl
  · have h0' : (some m == fromNode) = false := by simpa using h0
    cases a <;> cases b <;> cases c <;> simp [h0, h0'] <;> rfl

/-! ## non-vacuity: a vm's tree  install → customize → {connect → leaf, on_customize},  update customize..connect -/

def exGraph : UGraph := { nodes := [
  { name := "all.original.install.vm1.cf.net1", setless := "original.install.vm1.cf.net1", variants := ["all", "original", "install", "vm1", "cf", "net1"],
    vms := ["vm1"], worker := "net1", compForms := ["cf"], objectRoot := ["image1_vm1", "vm1", "cf"], sets := [("vm1", "install")], children := [1] },
  { name := "all.internal.customize.vm1.cf.net1", setless := "internal.customize.vm1.cf.net1", variants := ["all", "internal", "customize", "vm1", "cf", "net1"],
    vms := ["vm1"], worker := "net1", compForms := ["cf"], sets := [("vm1", "customize")], children := [2, 4] },
  { name := "all.internal.connect.vm1.cf.net1", setless := "internal.connect.vm1.cf.net1", variants := ["all", "internal", "connect", "vm1", "cf", "net1"],
    vms := ["vm1"], worker := "net1", compForms := ["cf"], sets := [("vm1", "connect")], children := [3] },
  { name := "leaves.tutorial_get.vm1.cf.net1", setless := "tutorial_get.vm1.cf.net1", variants := ["leaves", "tutorial_get", "vm1", "cf", "net1"],
    vms := ["vm1"], worker := "net1", compForms := ["cf"], sets := [("vm1", "getsetup")], children := [] },
  { name := "all.internal.on_customize.vm1.cf.net1", setless := "internal.on_customize.vm1.cf.net1", variants := ["all", "internal", "on_customize", "vm1", "cf", "net1"],
    vms := ["vm1"], worker := "net1", compForms := ["cf"], sets := [("vm1", "on_customize")], children := [] }] }

def exUpdate (frm tgt : String) (runIdx skipIdx : List Nat) : UpdateIn :=
  { vm := "vm1", worker := "net1", compForms := ["cf"], fromState := frm, toState := tgt, fromVars := [frm], toVars := [tgt],
    clean := some exGraph,
    runNames := "all.internal.stateless.noop" :: runIdx.map (fun i => (exGraph.node i).name),
    skipNames := "all.internal.stateless.noop" :: skipIdx.map (fun i => (exGraph.node i).name) }

def summary (r : Except Err (Option Flags)) : Option (List Bool × List Bool) :=
  match r with
  | .ok (some fl) => some ((List.range 5).map (willRun fl), (List.range 5).map (willClean exGraph fl))
  | _ => none

/-- The four runs of the examples below, from ONE kernel evaluation: what is dear in a run is the decoding of the node
names for the suffix tests, the same names in every run, and within one declaration the kernel does it once. -/
theorem exGraph_runs :
    summary (updateFlags (exUpdate "customize" "connect" [0, 1, 2] [0, 1])) =
      some ([false, true, true, false, false], [false, false, false, true, false]) ∧
    summary (updateFlags (exUpdate "install" "customize" [0, 1] [])) =
      some ([true, true, false, false, false], [false, false, true, true, true]) ∧
    summary (updateFlags (exUpdate "install" "install" [0] [])) =
      some ([true, false, false, false, false], [false, true, true, true, true]) ∧
    (match updateFlags (exUpdate "install" "nosuchstate" [] []) with | .error e => some e | _ => none)
      = some Err.valueError := by decide +kernel

/-- customize..connect: customize and connect are rerun (not install, not the leaf, not on_customize); only the state
derived from connect is removed -/
example : summary (updateFlags (exUpdate "customize" "connect" [0, 1, 2] [0, 1])) =
    some ([false, true, true, false, false], [false, false, false, true, false]) := exGraph_runs.1

/-- install..customize (the default): install and customize are rerun; connect, its leaf and on_customize are removed -/
example : summary (updateFlags (exUpdate "install" "customize" [0, 1] [])) =
    some ([true, true, false, false, false], [false, false, true, true, true]) := exGraph_runs.2.1

/-- install..install: the object root alone; everything derived from it is removed -/
example : summary (updateFlags (exUpdate "install" "install" [0] [])) =
    some ([true, false, false, false, false], [false, true, true, true, true]) := exGraph_runs.2.2.1

/-- an unknown target state is rejected with `ValueError` -/
example : (match updateFlags (exUpdate "install" "nosuchstate" [] []) with | .error e => some e | _ => none)
    = some Err.valueError := exGraph_runs.2.2.2

/-! ## The flagging passes of `intertest_setup.update` ARE the Python source (translator tie)

`I2N/Extracted/GenUpdate.lean` is regenerated on every `./check C15` from the CURRENT source of
`avocado_i2n/intertest_setup.py` by `harness/pygen_pxupdate.py`, which cuts `update` into its loops (vms with their index,
workers, the all-pairs bridging loop), the `try` around the parse of the remove-set graph (an `EmptyCartesianProduct`
must end in `continue`) and two straight statement sequences that `harness/pygen.py` translates: the composition of the
remove-set restriction (`genRemoveSet`) and the flagging passes (`genFlagPasses`).  The hand model `updateFlags` is ONE
(vm, worker) iteration; the loops around it, the reading of `from_state` / `to_state` / `remove_set` of the vm and the
parser oracle are the explicitly defined adapter `updateAll` / `bridgeAll` of `I2N/Lemmas/ToolsUpdate.lean`. -/

section MatchesSource
open I2N.Extracted.GenUpdate

/-- **remove set**: the regenerated front part of the worker loop body computes the adapter's restriction — `remove_set`
of the vm (not of the global parameters), default `leaves`, `all..` in front unless an available restriction occurs in it.
No hypotheses. -/
theorem removeSet_matches_source (env : UEnv) (vm : String) : genRemoveSet env vm = removeSetStr env vm := by
  unfold genRemoveSet removeSetStr
  have hany : ∀ p : String → Bool, env.restrictions.any p = (env.restrictions.find? p).isSome := fun p => by
    rw [Bool.eq_iff_iff]; simp
  cases h : env.restrictions.find? (fun r => I2N.Trav.strIn r ((env.vmParam vm "remove_set").getD "leaves")) <;>
    simp [hany, h, Id.run, pure, bind]

/-- the hand model's input for a remove-set graph `g` the parser answered -/
def updateInWith (env : UEnv) (vm w : String) (g : UGraph) : UpdateIn :=
  { updateIn env 0 vm w with clean := some g }

/-- **the flagging passes**: for every environment, vm, worker and remove-set graph the regenerated statement sequence
ends with the policy table the hand model `updateFlags` computes, or raises the same error.  No hypotheses. -/
theorem flagPasses_matches_source (env : UEnv) (vm w : String) (g : UGraph) :
    (genFlagPasses env g vm w ((env.vmParam vm "from_state").getD "install")
        ((env.vmParam vm "to_state").getD "customize") (env.compForms vm)).run {} =
      (updateFlags (updateInWith env vm w g)).map (fun o => ((), o.getD {})) := by
  unfold genFlagPasses updateFlags updateInWith updateIn
  generalize (env.vmParam vm "from_state").getD "install" = frm
  generalize (env.vmParam vm "to_state").getD "customize" = tgt
  have hfs : dotSplit (if (tgt == "install") = true then "" else tgt) =
      if (tgt == "install") = true then [] else dotSplit tgt := by
    split <;> simp [dotSplit]
  -- both sides as one chain of `Except` binds; the first three passes are literally the same
  simp only [StateT.run, fiM, fcAllM, stepM_bind, hfs, map_bind_except]
  refine bind_congr fun f1 => bind_congr fun f2 => bind_congr fun f3 => ?_
  cases ht : tgt == "install" <;> cases hf : frm == "install" <;>
    simp only [bne, hf, Bool.false_eq_true, if_true, if_false, Bool.not_true, Bool.not_false, stepM_bind,
      map_bind_except] <;>
    rfl

/-- with a remove-set graph the passes end with a policy table (never with "worker skipped") -/
theorem updateFlags_not_none (u : UpdateIn) (g : UGraph) (hc : u.clean = some g) : updateFlags u ≠ .ok none := by
  intro h
  unfold updateFlags at h
  rw [hc] at h
  simp only at h
  obtain ⟨f1, _, h⟩ := bind_ok h
  obtain ⟨f2, _, h⟩ := bind_ok h
  obtain ⟨f3, _, h⟩ := bind_ok h
  obtain ⟨f4, _, h⟩ := bind_ok h
  split at h
  · obtain ⟨f5, _, h⟩ := bind_ok h
    obtain ⟨f6, _, h⟩ := bind_ok h
    simp [pure, Except.pure] at h
  · simp [pure, Except.pure, bind, Except.bind] at h

/-- **one iteration of the worker loop** (structural skeleton + the two translated parts) is the adapter's step on top of
the hand model: an empty Cartesian product skips this worker and nothing else -/
theorem workerBody_matches_source (env : UEnv) (i : Nat) (vm w : String) :
    genWorkerBody env i vm w = stepM (fun acc => updateOne env i vm acc w) := by
  funext acc
  unfold genWorkerBody updateOne stepM
  rw [removeSet_matches_source]
  cases h : env.parseClean (removeSetStr env vm) i vm w with
  | none =>
    have : updateFlags (updateIn env i vm w) = .ok none := by
      unfold updateFlags; simp [updateIn, h]
    rw [this]; rfl
  | some g =>
    have hu : updateIn env i vm w = updateInWith env vm w g := by
      simp [updateIn, updateInWith, h]
    rw [hu]
    have hp := flagPasses_matches_source env vm w g
    simp only [StateT.run] at hp ⊢
    rw [hp]
    cases hr : updateFlags (updateInWith env vm w g) with
    | error e => rfl
    | ok o =>
      cases o with
      | none => exact absurd hr (updateFlags_not_none _ g rfl)
      | some f => rfl

/-- **the two loops of `update`**: for every environment, every list of selected vms and every list of workers the
regenerated function flags the same (vm, worker) graphs with the same policy tables, in the same order, as the adapter
`updateAll` over the hand model — or raises the same error.  No hypotheses; any number of vms and workers. -/
theorem update_matches_source (env : UEnv) (vms workers : List String) :
    (genUpdate env vms workers).run [] = (updateAll env vms workers).map (fun a => ((), a)) := by
  unfold genUpdate updateAll
  exact forM_forM_stepM _ (fun acc (iv : Nat × String) w => updateOne env iv.1 iv.2 acc w)
    (fun iv w => workerBody_matches_source env iv.1 iv.2 w) (enumFrom 0 vms) workers []

/-- the body of the bridging loop -/
theorem bridgePair_matches_source (ns : List BNode) (i j : Nat) :
    genBridgePair ns i j = stepM (fun b => bridgePair ns b i j) := by
  funext b
  unfold genBridgePair bridgePair stepM
  by_cases h1 : (i == j) = true
  · simp [h1, bind, StateT.bind, pure, StateT.pure, Except.pure, Except.map, Except.bind]
  · by_cases h2 : (BNode.formOf ns i == BNode.formOf ns j) = true
    · by_cases h3 : (BNode.idOf ns i == BNode.idOf ns j) = true
      · simp [h1, h2, h3, bind, StateT.bind, pure, StateT.pure, Except.pure, Except.map, Except.bind, throw, throwThe,
          MonadExceptOf.throw, StateT.lift]
      · simp [h1, h2, h3, bind, StateT.bind, pure, StateT.pure, Except.pure, Except.map, Except.bind, modify,
          modifyGet, MonadStateOf.modifyGet, StateT.modifyGet]
    · simp [h1, h2, bind, StateT.bind, pure, StateT.pure, Except.pure, Except.map, Except.bind]

/-- **the bridging loop is all-pairs**: the regenerated nested loop bridges every ordered pair of distinct nodes with the
same `bridged_form` (raising `ValueError` for two such nodes with one id), exactly like `bridgeAll` — any number of
nodes.  (A star — bridging everything with one node only — is a different function: `shared_after_all_pairs`, C16, is
about `allPairs`.) -/
theorem bridgeAll_matches_source (ns : List BNode) (b : I2N.Index.Bridging) :
    (genBridgeAll ns).run b = (bridgeAll ns b).map (fun b' => ((), b')) := by
  unfold genBridgeAll bridgeAll
  exact forM_forM_stepM _ (fun b i j => bridgePair ns b i j) (bridgePair_matches_source ns) _ _ b

/-- the regenerated definitions compute: `remove_set_vm1 = normal` mentions an available restriction and is used as it
is, the default `leaves` gets `all..` in front -/
def exEnv : UEnv :=
  { restrictions := ["normal", "leaves", "all"], vmParam := fun vm k => if vm == "vm1" && k == "remove_set" then some "tutorial" else none,
    compForms := fun _ => ["cf"], parseClean := fun r _ _ w => if w == "net5" || r != "all..tutorial" then none else some exGraph,
    parseNames := fun r _ _ => if r == "all..customize" then ["all.internal.stateless.noop", (exGraph.node 0).name, (exGraph.node 1).name] else [],
    installNames := fun _ _ => [] }

example : (genRemoveSet exEnv "vm1").run = "all..tutorial" ∧ (genRemoveSet exEnv "vm2").run = "leaves" := by decide +kernel

/-- an incompatible worker is skipped without an error and without ending the loop (seeded C15b was a `break` here): the
state is handed on unchanged to the next worker -/
example : ((genWorkerBody exEnv 0 "vm1" "net5").run [("vm0", "net1", {})]).toOption.map (fun r => r.2.map (fun x => (x.1, x.2.1)))
    = some [("vm0", "net1")] := by decide +kernel

/-- three nodes of one class: all six ordered pairs are bridged (a star around the first node would leave 1–2 unlinked:
seeded C15) -/
example : ((genBridgeAll [⟨"a", "1"⟩, ⟨"a", "2"⟩, ⟨"a", "3"⟩]).run { regOf := [], bridged := [] }).toOption.map
    (fun r => (r.2.isBridged 1 2, r.2.isBridged 2 1, r.2.isBridged 0 2)) = some (true, true, true) := by decide +kernel

/-! ### `TestGraph.flag_intersection` (graph.py) against `flagIntersection`

The loop `for test_node in self.nodes:` is matched structurally, its body is translated (`genFlagIntersectionStep`:
the match list is the atom `otherNames.filter (endsWithStr · setless)`, `len(…) == 0` / `> 1`, the two skip tests and
the `flag_type == "run"` choice are translated, the two attribute stores are pinned to `Flags.set`). -/

/-- **one iteration of `TestGraph.flag_intersection`** (regenerated from graph.py) is the step of the hand model: no match
⇒ untouched, several ⇒ `ValueError`, one ⇒ the policy unless a skipped root; in this order.  No hypotheses. -/
theorem flagIntersectionStep_matches_source (g : UGraph) (otherNames : List String) (ty : FlagType) (p : Pol)
    (so ss : Bool) (i : Nat) :
    genFlagIntersectionStep g otherNames ty p so ss i = stepM (fun f => fiStep g otherNames ty p so ss f i) := by
  funext f
  unfold genFlagIntersectionStep fiStep stepM
  simp only []
  generalize otherNames.filter (fun nm => endsWithStr nm (g.node i).setless) = l
  cases l with
  | nil => simp [bind, StateT.bind, pure, StateT.pure, Except.pure, Except.map, Except.bind]
  | cons a r =>
    cases r with
    | nil =>
      generalize ((g.node i).sharedRoot && ss) = skipShared
      generalize (!(g.node i).objectRoot.isEmpty && so) = skipObject
      cases ty <;> cases skipShared <;> cases skipObject <;>
        simp [bind, StateT.bind, pure, StateT.pure, Except.pure, Except.map, Except.bind, flagTypeStr, modify, modifyGet,
          MonadStateOf.modifyGet, StateT.modifyGet]
    | cons b r' =>
      have h0 : ¬ ((r'.length : Int) + 1 + 1 = 0) := by omega
      have h1 : (1 : Int) < (r'.length : Int) + 1 + 1 := by omega
      simp [bind, StateT.bind, pure, StateT.pure, Except.pure, Except.map, Except.bind, throw, throwThe,
        MonadExceptOf.throw, StateT.lift, h0, h1]

/-- **`TestGraph.flag_intersection` IS `flagIntersection`**: the regenerated loop over the graph's nodes ends with the
policy table of the hand model or raises the same error — any graph, any other graph, both flag types. -/
theorem flagIntersection_matches_source (g : UGraph) (fl : Flags) (otherNames : List String) (ty : FlagType) (p : Pol)
    (so ss : Bool) :
    (genFlagIntersection g otherNames ty p so ss).run fl =
      (flagIntersection g fl otherNames ty p so ss).map (fun f => ((), f)) := by
  rw [flagIntersection_eq_foldlM]
  unfold genFlagIntersection
  simp only [flagIntersectionStep_matches_source]
  exact forM_stepM (fun f i => fiStep g otherNames ty p so ss f i) (List.range g.nodes.length) fl

end MatchesSource

end I2N.Props.C15
