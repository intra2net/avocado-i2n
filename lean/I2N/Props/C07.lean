import I2N.Lemmas.GraphResolve
/-!
# C07 — Graph dependencies are exactly those declared in the configuration

Theorems about the independent resolver `I2N.Resolve.resolve` (the function the compiled driver `drv_graph`
evaluates and the real `TestGraph` is compared with, node set and edge set, on every run).  All statements are
for arbitrary suites, selections, restrictions and workers; fuel is the resolver's recursion depth and does not
restrict the statements (they hold at every fuel).
-/
namespace I2N.Props.C07
open I2N.Resolve

/-- **None spurious.**  Every parent of a resolved node is there because of a declaration: it is an instance of a
test of the suite whose name the `get` restriction of one of the node's object slots selects, that test uses the
slot's vm (or is a one-vm setup test composed with it), and it was composed on the child's own variants. -/
theorem parents_sound (S : Suite) (allow : String → List String) (f : Nat) (t : Test) (asg : Asg)
    (i : Inst) (hi : i ∈ insts S allow (f + 1) t asg) (e : String × String × Key) (he : e ∈ i.parents) :
    ∃ s ∈ instSlots t asg, s.vm = e.1 ∧ s.kind = e.2.1 ∧
      ∃ t' a' p, t' ∈ S.tests ∧ s.get ≠ [] ∧ contig s.get t'.name = true ∧ (t'.vms = [] ∨ s.vm ∈ t'.vms) ∧
        a' ∈ asgs allow asg t' (vmsFor t' s) ∧ p ∈ insts S allow f t' a' ∧ p.key = e.2.2 ∧
        p.key.test = t'.name ∧ p.key.asg = a' := by
  obtain ⟨s, hs, h1, h2, p, hp, hpk⟩ := insts_parents_sound S allow f t asg i hi e he
  obtain ⟨t', a', hc, hpi⟩ := mem_prods S allow f asg s p hp
  obtain ⟨ht', hg, hcon, hv, ha⟩ := (mem_cands S allow asg s t' a').mp hc
  have hk := insts_key S allow f t' a' p hpi
  exact ⟨s, hs, h1, h2, t', a', p, ht', hg, hcon, hv, ha, hpi, hpk, hk.1, hk.2.1⟩

/-- **None missing, none duplicated.**  Read in order, the parents of a resolved node are exactly one per declared
object slot for which the configuration has a producer — no such slot is skipped, none gets two parents, and
there are no others. -/
theorem parents_exact (S : Suite) (allow : String → List String) (f : Nat) (t : Test) (asg : Asg)
    (i : Inst) (hi : i ∈ insts S allow (f + 1) t asg) :
    i.parents.map tag =
      ((instSlots t asg).filter (fun s => !(prods S allow f asg s).isEmpty)).map (fun s => (s.vm, s.kind)) :=
  insts_parent_tags S allow f t asg i hi

/-- in particular: a declared slot with a producer has a parent … -/
theorem parents_complete (S : Suite) (allow : String → List String) (f : Nat) (t : Test) (asg : Asg)
    (i : Inst) (hi : i ∈ insts S allow (f + 1) t asg) (s : Slot) (hs : s ∈ instSlots t asg)
    (hp : prods S allow f asg s ≠ []) : ∃ e ∈ i.parents, e.1 = s.vm ∧ e.2.1 = s.kind := by
  have hm : (s.vm, s.kind) ∈ i.parents.map tag :=
    parents_exact S allow f t asg i hi ▸
      List.mem_map.mpr ⟨s, List.mem_filter.mpr ⟨hs, by simpa using hp⟩, rfl⟩
  obtain ⟨e, he, het⟩ := List.mem_map.mp hm
  exact ⟨e, he, congrArg Prod.fst het, congrArg Prod.snd het⟩

/-- … and no object slot has two: if a test declares each (vm, kind) once, the parents are pairwise for different
objects. -/
theorem parents_nodup (S : Suite) (allow : String → List String) (f : Nat) (t : Test) (asg : Asg)
    (i : Inst) (hi : i ∈ insts S allow (f + 1) t asg)
    (hslots : ((instSlots t asg).map (fun s => (s.vm, s.kind))).Nodup) : (i.parents.map tag).Nodup :=
  insts_parent_tags_nodup S allow f t asg i hi hslots

/-- **Same variant.**  A producer is composed with the child's own variant of every vm the two share — in
particular of the vm of the object the dependency is about — and only with variants the worker and the producer
test allow. -/
theorem producer_same_variant (S : Suite) (allow : String → List String) (casg : Asg) (s : Slot) (t' : Test)
    (a' : Asg) (h : (t', a') ∈ cands S allow casg s) (e : String × String) (he : e ∈ a') :
    e.2 ∈ allowedFor allow t' e.1 ∧
      ∀ c, casg.find? (fun x => x.1 == e.1) = some c → e.2 = c.2 := by
  obtain ⟨_, _, _, _, ha⟩ := (mem_cands S allow casg s t' a').mp h
  obtain ⟨h1, h2, h3⟩ := ((mem_asgs ..).mp ha).2 e he
  exact ⟨(mem_allowedFor ..).mpr ⟨h1, h2⟩, h3⟩

/-- **Shared setup once.**  The producers of a requirement are a function of the requirement (the `get`
restriction, the object's vm, and the variants): two dependants with the same requirement get the very same
producer nodes, and every node occurs once in a worker's graph. -/
theorem shared_setup_once (S : Suite) (allow : String → List String) (f : Nat) (asg asg' : Asg) (s s' : Slot)
    (hget : s.get = s'.get) (hvm : s.vm = s'.vm) (hasg : asg = asg') :
    prods S allow f asg s = prods S allow f asg' s' := by
  subst hasg
  simp only [prods, cands, hget, hvm]

theorem nodes_once (S : Suite) (allow : String → List String) (sel : List RLine) :
    (workerNodes S allow sel).Nodup := nodup_dedup _

/-- the node a test starts as before its dependencies are attached -/
def baseInst (t : Test) (asg : Asg) (slots : List Slot) : Inst :=
  { key := ⟨t.name, asg, []⟩, root := t.creation, slots := slots, parents := [] }

/-- **Clone per producer.**  A test with one object slot whose dependency resolves to several producer nodes
`p₁ … p_k` (k ≥ 2) becomes exactly `k` nodes, the i-th of which has `pᵢ` as its one parent, requires exactly the
state `pᵢ` provides, is labelled with it, and provides a branch specific state. -/
theorem clone_per_producer (S : Suite) (allow : String → List String) (f : Nat) (t : Test) (asg : Asg)
    (s : Slot) (hslots : instSlots t asg = [s]) (p q : Inst) (ps : List Inst)
    (hp : prods S allow f asg s = p :: q :: ps) :
    insts S allow (f + 1) t asg = (p :: q :: ps).map (cloneFor (baseInst t asg [s]) s) := by
  rw [insts_eq_fold, hslots]
  simp only [foldSlots, List.foldl_cons, List.foldl_nil, hp, addSlot_many, List.flatMap_cons, List.flatMap_nil,
    List.append_nil]
  rfl

/-- what a clone looks like -/
theorem clone_shape (i : Inst) (s : Slot) (p : Inst) :
    (cloneFor i s p).parents = i.parents ++ [(s.vm, s.kind, p.key)] ∧
    (cloneFor i s p).key.labels = i.key.labels ++ [p.setOf s.vm s.kind] ∧
    (cloneFor i s p).key.test = i.key.test ∧ (cloneFor i s p).key.asg = i.key.asg ∧
    ∀ x ∈ i.slots, x.vm = s.vm → x.kind = s.kind →
      ∃ y ∈ (cloneFor i s p).slots, y.vm = x.vm ∧ y.kind = x.kind ∧ y.getState = p.setOf s.vm s.kind ∧
        y.setState = (if x.setState == "" then "" else x.setState ++ "." ++ p.setOf s.vm s.kind) := by
  refine ⟨rfl, rfl, rfl, rfl, ?_⟩
  intro x hx hv hk
  refine ⟨_, List.mem_map.mpr ⟨x, hx, rfl⟩, ?_⟩
  simp [hv, hk]

/-- the number of nodes a test becomes is the product over its slots of the number of producers (1 where there
is at most one): dependants are cloned consistently, once per branch. -/
theorem clone_count (S : Suite) (allow : String → List String) (f : Nat) (t : Test) (asg : Asg) :
    (insts S allow (f + 1) t asg).length =
      (instSlots t asg).foldl (fun n s => n * max 1 (prods S allow f asg s).length) 1 := by
  rw [insts_eq_fold, foldSlots_length]; rfl

/-- **The edge set, exactly.**  The dependencies recorded in a worker's graph are precisely the `parents` of its
nodes: an edge is in the graph iff it is of that worker and its child is a node of the graph having the edge's
parent as a parent for the edge's object. -/
theorem edges_exact (S : Suite) (user : List (String × VLine)) (sel : List RLine) (w : Worker) (e : GEdge) :
    e ∈ (resolveWorker S user sel w).edges ↔
      e.worker = w.name ∧ ∃ i ∈ workerNodes S (allowed S user w) sel, i.key = e.child ∧
        (e.vm, e.kind, e.parent) ∈ i.parents :=
  mem_worker_edges S user sel w e

/-- **Transitively down to object creation.**  Whatever a selected test reveals is closed under "parent of": every
parent named by a node of the graph is itself a node of the graph (so every setup chain is complete down to the
nodes without dependencies, the object creation nodes). -/
theorem ancestors_closed (S : Suite) (user : List (String × VLine)) (sel : List RLine) (w : Worker)
    (e : GEdge) (he : e ∈ (resolveWorker S user sel w).edges) :
    ∃ n ∈ (resolveWorker S user sel w).nodes, n.inst.key = e.parent ∧ n.worker = e.worker :=
  (worker_edge_ends S user sel w e he).2

/-! ### non-vacuity: a suite with a two-producer group and a dependant of the whole group -/

open I2N.Resolve.Demo

def allowAll : String → List String := fun vm => if vm == "vm1" then ["A"] else []

/-- `d` depends on the whole group `m`: two producers, two clones, each with its own producer and state -/
example : (insts demo allowAll 4 tD [("vm1", "A")]).map (fun i => (i.key.labels, i.parents.map (·.2.2.test),
    i.slots.map (fun s => (s.getState, s.setState)))) =
    [(["g.a"], [["internal", "m", "a"]], [("g.a", "dst.g.a")]), (["g.b"], [["internal", "m", "b"]], [("g.b", "dst.g.b")])] := by
  decide +kernel
/-- the leaf is cloned once per clone of `d` and hangs under the clone of its branch -/
example : (insts demo allowAll 5 tLeaf [("vm1", "A")]).map (fun i => (i.key.labels, i.parents.map (·.2.2.labels))) =
    [(["dst.g.a"], [["g.a"]]), (["dst.g.b"], [["g.b"]])] := by
  decide +kernel
/-- the whole graph of the selection `leaves`: 1 creation node, 2 producers, 2 clones of d, 2 clones of the leaf -/
example : (workerNodes demo allowAll [{ neg := false, alts := [[["leaves"]]] }]).length = 7 := by decide +kernel

end I2N.Props.C07
