import I2N.Lemmas.TunnelEnds
import I2N.Lemmas.TunnelExamples
import I2N.Lemmas.PyGen
import I2N.Extracted.GenTunnel
/-!
# C19 — Tunnel end point parameters mirror each other

Model: `I2N/Model/Tunnel.lean` (`peerVariant` = `_get_peer_variant`, `tunnelParams` = `VMTunnel.__init__`,
`Tunnel.leftParams`/`rightParams` = the `object_params` projections, `Tunnel.connects` = `connects_nodes`).
`t.L s` / `t.R s` is what the left / right end point finds under the parameter name `s`.

All theorems quantify over arbitrary tunnel and node names, node parameters, interfaces, addresses and
configuration dictionaries; `WF` asks that tunnel name and the two node names are pairwise distinct and that the
nodes' own parameters do not overwrite generated ones (`Clean`).
-/
namespace I2N.Props.C19
open I2N.Tunnel

variable {name : String} {node1 node2 : Node} {local1 remote1 peer1 : SDict} {auth : Option SDict} {t : Tunnel}

theorem net_params (h : tunnelParams name node1 node2 local1 remote1 peer1 auth = .ok t)
    (wf : WF name node1 node2) :
    (t.L "vpnconn_lan_net" = t.leftNet.map (·.netIp) ∧ t.L "vpnconn_lan_netmask" = t.leftNet.map (·.netmask) ∧
      t.R "vpnconn_lan_net" = t.rightNet.map (·.netIp) ∧ t.R "vpnconn_lan_netmask" = t.rightNet.map (·.netmask)) ∧
    (t.L "vpnconn_remote_net" = t.rightNet.map (·.netIp) ∧
      t.L "vpnconn_remote_netmask" = t.rightNet.map (·.netmask)) ∧
    (t.R "vpnconn_remote_net" = if local1.get? "type" = some "custom" then none else t.leftNet.map (·.netIp)) ∧
    (t.R "vpnconn_remote_netmask" = if local1.get? "type" = some "custom" then none else t.leftNet.map (·.netmask)) := by
  obtain ⟨b⟩ := tunnelParams_ok h
  have h12 := wf.h12
  have h21 := Ne.symm wf.h12
  obtain ⟨lt, hlt, _, e1, _⟩ := localPart_spec b.h1
  obtain ⟨_, _, _, extra, e2, hx⟩ := remotePart_spec b.h2
  have hN := net_ends b wf
  simp only [netStems, List.forall_mem_cons] at hN
  simp only [hN, e1, e2, lastVal_append, extra_none hx _ _ (by simp : "vpnconn_lan_net" ≠ _),
    extra_none hx _ _ (by simp : "vpnconn_lan_netmask" ≠ _), extra_none hx _ _ (by simp : "vpnconn_remote_net" ≠ _),
    extra_none hx _ _ (by simp : "vpnconn_remote_netmask" ≠ _)]
  by_cases hc : lt = "custom" <;> simp [lanOf, remoteOf, lastVal_netOf, lastVal, k2, h12, h21, hlt, hc]

/-- **The lan parameters of each side are that side's network** (`left_net` / `right_net` of the tunnel object),
and absent exactly when the side is a point (`internetip`, `externalip`, `modeconfig`). -/
theorem lan_is_own_net (h : tunnelParams name node1 node2 local1 remote1 peer1 auth = .ok t)
    (wf : WF name node1 node2) :
    t.L "vpnconn_lan_net" = t.leftNet.map (·.netIp) ∧ t.L "vpnconn_lan_netmask" = t.leftNet.map (·.netmask) ∧
    t.R "vpnconn_lan_net" = t.rightNet.map (·.netIp) ∧ t.R "vpnconn_lan_netmask" = t.rightNet.map (·.netmask) :=
  (net_params h wf).1

/-- **The left side's remote network is the right side's network**, for the whole type product. -/
theorem left_remote_is_right_net (h : tunnelParams name node1 node2 local1 remote1 peer1 auth = .ok t)
    (wf : WF name node1 node2) :
    t.L "vpnconn_remote_net" = t.rightNet.map (·.netIp) ∧
    t.L "vpnconn_remote_netmask" = t.rightNet.map (·.netmask) :=
  (net_params h wf).2.1

/-- The right side's remote network is the left side's network **unless the left local type is `custom`**
(finding `custom-local-right-remote-net-missing`, see `custom_local_right_remote_absent`). -/
theorem right_remote_is_left_net_partial (h : tunnelParams name node1 node2 local1 remote1 peer1 auth = .ok t)
    (wf : WF name node1 node2) (hl : local1.get? "type" ≠ some "custom") :
    t.R "vpnconn_remote_net" = t.leftNet.map (·.netIp) ∧
    t.R "vpnconn_remote_netmask" = t.leftNet.map (·.netmask) := by
  have := (net_params h wf).2.2
  rwa [if_neg hl, if_neg hl] at this

/-- `lan_remote_mirror`, the half that holds for the whole product: whatever the right side has as its local
network is what the left side has as its remote network (both defined or both absent). -/
theorem lan_remote_mirror_right_to_left (h : tunnelParams name node1 node2 local1 remote1 peer1 auth = .ok t)
    (wf : WF name node1 node2) :
    t.R "vpnconn_lan_net" = t.L "vpnconn_remote_net" ∧ t.R "vpnconn_lan_netmask" = t.L "vpnconn_remote_netmask" := by
  obtain ⟨_, _, h3, h4⟩ := lan_is_own_net h wf
  obtain ⟨h5, h6⟩ := left_remote_is_right_net h wf
  exact ⟨h3.trans h5.symm, h4.trans h6.symm⟩

/-- `lan_remote_mirror`: each side's local network is the other side's remote network.  PARTIAL: the
left-to-right half needs `local type ≠ custom`; for `custom` the real constructor never assigns
`vpnconn_remote_net_<tunnel>_<right node>` (next theorem). -/
theorem lan_remote_mirror_partial (h : tunnelParams name node1 node2 local1 remote1 peer1 auth = .ok t)
    (wf : WF name node1 node2) (hl : local1.get? "type" ≠ some "custom") :
    t.L "vpnconn_lan_net" = t.R "vpnconn_remote_net" ∧ t.L "vpnconn_lan_netmask" = t.R "vpnconn_remote_netmask" ∧
    t.R "vpnconn_lan_net" = t.L "vpnconn_remote_net" ∧ t.R "vpnconn_lan_netmask" = t.L "vpnconn_remote_netmask" := by
  obtain ⟨h1, h2, _, _⟩ := lan_is_own_net h wf
  obtain ⟨h5, h6⟩ := right_remote_is_left_net_partial h wf hl
  obtain ⟨h7, h8⟩ := lan_remote_mirror_right_to_left h wf
  exact ⟨h1.trans h5.symm, h2.trans h6.symm, h7, h8⟩

/-- The finding, as a theorem about the model of the code as it is: for **every** tunnel with left local type
`custom` the left end has its `lnet/lmask` as lan network while the right end has no remote network at all. -/
theorem custom_local_right_remote_absent (h : tunnelParams name node1 node2 local1 remote1 peer1 auth = .ok t)
    (wf : WF name node1 node2) (hl : local1.get? "type" = some "custom") :
    t.L "vpnconn_lan_net" = local1.get? "lnet" ∧ (t.L "vpnconn_lan_net").isSome ∧
    t.R "vpnconn_remote_net" = none ∧ t.R "vpnconn_remote_netmask" = none := by
  obtain ⟨⟨hlan, _⟩, _, hr⟩ := net_params h wf
  rw [if_pos hl, if_pos hl] at hr
  obtain ⟨b⟩ := tunnelParams_ok h
  obtain ⟨lt, hlt, _, _, hc⟩ := localPart_spec b.h1
  rw [hl] at hlt
  cases hlt
  obtain ⟨lnet, lmask, hn, _, hnc⟩ := hc rfl
  rw [hlan, hnc, hn]
  exact ⟨rfl, rfl, hr⟩

/-- **Peer addresses point at each other**: the right end's peer address is the address of the left end point
interface, the left end's peer address (fixed-address peer) is the address of the right end point interface, a road
warrior peer (`dynip`) has no fixed address and is waited for passively; both end point interfaces are looked up
through the *same* nic role. -/
theorem peers_point_at_each_other (h : tunnelParams name node1 node2 local1 remote1 peer1 auth = .ok t)
    (wf : WF name node1 node2) :
    t.R "vpnconn_peer_ip" = some t.leftIface.ip ∧ t.R "vpnconn_activation" = some "ALWAYS" ∧
    (peer1.get? "type" = some "ip" →
      t.L "vpnconn_peer_ip" = some t.rightIface.ip ∧ t.L "vpnconn_activation" = some "ALWAYS") ∧
    (peer1.get? "type" = some "dynip" →
      t.L "vpnconn_peer_ip" = none ∧ t.L "vpnconn_activation" = some "PASSIVE") ∧
    (peer1.get? "type" = some "ip" ∨ peer1.get? "type" = some "dynip") ∧
    node1.iface (peer1.getD "nic" "internet_nic") = .ok t.leftIface ∧
    node2.iface (peer1.getD "nic" "internet_nic") = .ok t.rightIface := by
  obtain ⟨b⟩ := tunnelParams_ok h
  have h12 := wf.h12
  have h21 := Ne.symm wf.h12
  obtain ⟨pt, pt2, hpt, _, hi2, hi1, hc⟩ := peerPart_ok b.h3
  -- the right peer dictionary carries the nic role of the left one
  have hrole : b.peer2.getD "nic" "internet_nic" = peer1.getD "nic" "internet_nic" := by
    obtain ⟨_, _, _, _, _, hpt', _, _, _, _, _, hn⟩ := peerVariant_spec b.hv
    rw [hpt] at hpt'; cases hpt'
    unfold SDict.getD
    rw [hn (by rcases hc with ⟨rfl, _⟩ | ⟨rfl, _⟩ <;> simp)]
  rw [hrole] at hi1
  have hP := peer_ends b wf
  simp only [peerStems, List.forall_mem_cons] at hP
  simp only [hP]
  rcases hc with ⟨rfl, e⟩ | ⟨rfl, e⟩ <;> rw [e] <;>
    simp [lastVal, k2, h12, h21, hpt, hi1, hi2]

/-- **Pre-shared-key identities are swapped**: with `psk` authentication both ends get the same secret, the left
end's own identity is the right end's foreign identity and vice versa (values and identity types). -/
theorem psk_ids_swapped (h : tunnelParams name node1 node2 local1 remote1 peer1 auth = .ok t)
    (wf : WF name node1 node2) (a : SDict) (ha : auth = some a) (hpsk : a.get? "type" = some "psk") :
    t.L "vpnconn_key_type" = some "PSK" ∧ t.R "vpnconn_key_type" = some "PSK" ∧
    t.L "vpnconn_psk" = a.get? "psk" ∧ t.R "vpnconn_psk" = a.get? "psk" ∧ (a.get? "psk").isSome ∧
    t.L "vpnconn_psk_own_id" = a.get? "left_id" ∧ t.R "vpnconn_psk_foreign_id" = a.get? "left_id" ∧
    t.L "vpnconn_psk_foreign_id" = a.get? "right_id" ∧ t.R "vpnconn_psk_own_id" = a.get? "right_id" ∧
    (a.get? "left_id").isSome ∧ (a.get? "right_id").isSome ∧
    t.L "vpnconn_psk_own_id_type" = t.R "vpnconn_psk_foreign_id_type" ∧
    t.L "vpnconn_psk_foreign_id_type" = t.R "vpnconn_psk_own_id_type" ∧
    t.L "vpnconn_psk_own_id_type" = (a.get? "left_id").map (fun i => if i = "" then "IP" else "CUSTOM") ∧
    t.L "vpnconn_psk_foreign_id_type" = (a.get? "right_id").map (fun i => if i = "" then "IP" else "CUSTOM") := by
  obtain ⟨b⟩ := tunnelParams_ok h
  have h12 := wf.h12
  have h21 := Ne.symm wf.h12
  rcases authPart_ok b.h4 with ⟨hn, _⟩ | ⟨d, ty, hd, hty, hc⟩
  · rw [ha] at hn; cases hn
  · rw [ha] at hd; cases hd
    rw [hpsk] at hty; cases hty
    rcases hc with ⟨hc, _⟩ | ⟨_, psk, l, r, hp, hl, hr, e⟩
    · exact absurd hc (by simp)
    · have hA := auth_ends b wf
      simp only [authStems, List.forall_mem_cons] at hA
      simp only [hA, e, hp, hl, hr]
      simp [lastVal, k1, k2, h12, h21]

/-- **The right-hand configuration is the documented counterpart of the left-hand one**, as generated: the left
end carries the requested types, the right end carries the counterpart table of the docstring (site ↔ `custom`,
point ↔ `externalip`/`internetip`, peer always `IP`), the sides are `left`/`right`, both carry the tunnel name;
and a tunnel is only ever built for the 3 × 3 × 2 supported types. -/
theorem right_is_counterpart_generated (h : tunnelParams name node1 node2 local1 remote1 peer1 auth = .ok t)
    (wf : WF name node1 node2) :
    ∃ lt rt pt, local1.get? "type" = some lt ∧ remote1.get? "type" = some rt ∧ peer1.get? "type" = some pt ∧
      lt ∈ ["nic", "internetip", "custom"] ∧ rt ∈ ["custom", "externalip", "modeconfig"] ∧ pt ∈ ["ip", "dynip"] ∧
      t.L "vpnconn_lan_type" = some (upper lt) ∧ t.L "vpnconn_remote_type" = some (upper rt) ∧
      t.L "vpnconn_peer_type" = some (upper pt) ∧
      t.R "vpnconn_lan_type" = some (upper (counterLocal lt rt)) ∧
      t.R "vpnconn_remote_type" = some (upper (counterRemote lt)) ∧ t.R "vpnconn_peer_type" = some "IP" ∧
      t.L "vpn_side" = some "left" ∧ t.R "vpn_side" = some "right" ∧
      t.L "vpnconn" = some name ∧ t.R "vpnconn" = some name := by
  obtain ⟨b⟩ := tunnelParams_ok h
  have h12 := wf.h12
  have h21 := Ne.symm wf.h12
  obtain ⟨lt, rt, pt, hlt, hrt, hpt, hl2, hr2, hp2, _⟩ := peerVariant_spec b.hv
  obtain ⟨tl1, tl2, tr1, tr2, e1, e2, e3, e4, ea⟩ := mainPart_ok b.h0
  rw [hlt] at e1; rw [hl2] at e2; rw [hrt] at e3; rw [hr2] at e4
  cases e1; cases e2; cases e3; cases e4
  obtain ⟨lt', hlt', hlc, _⟩ := localPart_spec b.h1
  obtain ⟨rt', hrt', hrc, _⟩ := remotePart_spec b.h2
  obtain ⟨pt', pt2, hpt', hpt2, _, _, hpc⟩ := peerPart_ok b.h3
  rw [hlt] at hlt'; rw [hrt] at hrt'; rw [hpt] at hpt'; rw [hp2] at hpt2
  cases hlt'; cases hrt'; cases hpt'; cases hpt2
  refine ⟨lt, rt, pt, hlt, hrt, hpt, hlc, hrc, ?_, ?_⟩
  · rcases hpc with ⟨rfl, _⟩ | ⟨rfl, _⟩ <;> simp
  · have hM := main_ends b wf
    have hP := peer_ends b wf
    simp only [mainStems, peerStems, List.forall_mem_cons] at hM hP
    simp only [hM, hP, ea]
    -- the main part's parameters are read off its list; what is left are the two peer parameters
    simp [lastVal, k2, h12, h21]
    rcases hpc with ⟨rfl, e⟩ | ⟨rfl, e⟩ <;> rw [e] <;> simp [lastVal, k2, h12, h21, upper]

/-- **`_get_peer_variant` is an involution up to the documented defaults.**  Applying it to the derived right triple
gives back the left triple, except that the "exotic" left values are replaced by their defaults (docstring: "Return
default parameter where the left variant has used a more exotic value"): remote `modeconfig` comes back as `custom`, a
`custom` local network without a `custom` remote comes back as `nic`, a `dynip` peer comes back as `ip`; the nic roles
come back unchanged. -/
theorem right_is_counterpart {ll lr lp rl rr rp l2 r2 p2 : SDict}
    (hv : peerVariant ll lr lp = .ok (rl, rr, rp)) (hv2 : peerVariant rl rr rp = .ok (l2, r2, p2))
    {lt rt pt : String} (hlt : ll.get? "type" = some lt) (hrt : lr.get? "type" = some rt)
    (hpt : lp.get? "type" = some pt)
    (hl : lt ∈ ["nic", "internetip", "custom"]) (hr : rt ∈ ["custom", "externalip", "modeconfig"])
    (hp : pt ∈ ["ip", "dynip"]) :
    l2.get? "type" = some (if lt = "custom" ∧ rt ≠ "custom" then "nic" else lt) ∧
    r2.get? "type" = some (if rt = "modeconfig" then "custom" else rt) ∧
    p2.get? "type" = some "ip" ∧
    (lt = "nic" → l2.get? "nic" = ll.get? "nic") ∧
    (rt = "custom" → lt ≠ "custom" → r2.get? "nic" = lr.get? "nic") ∧
    p2.get? "nic" = lp.get? "nic" := by
  -- types (by the table) and nic roles of the right triple `w n`, and of the triple derived from it `y m`
  obtain ⟨_, _, _, v1, v2, v3, w1, w2, w3, n1, n2, n3⟩ := peerVariant_spec hv
  rw [hlt] at v1; rw [hrt] at v2; rw [hpt] at v3; cases v1; cases v2; cases v3
  obtain ⟨_, _, _, x1, x2, x3, y1, y2, y3, m1, m2, m3⟩ := peerVariant_spec hv2
  rw [w1] at x1; rw [w2] at x2; rw [w3] at x3; cases x1; cases x2; cases x3
  simp only [List.mem_cons, List.not_mem_nil, or_false] at hl hr hp
  refine and_assoc.mp ⟨?_, y3, ?_, ?_, ?_⟩
  · -- the counterpart table applied twice, on the 3 × 3 supported types
    rw [y1, y2]
    rcases hl with rfl | rfl | rfl <;> rcases hr with rfl | rfl | rfl <;> simp [counterLocal, counterRemote]
  · rintro rfl
    refine (m2 (by simp [counterRemote]) ?_).trans (n1 rfl)
    rcases hr with rfl | rfl | rfl <;> simp [counterLocal]
  · rintro rfl hlc
    exact (m1 (by simp [counterLocal, hlc])).trans (n2 rfl hlc)
  · exact (m3 (Or.inr rfl)).trans (n3 hp.symm)

/-- **Unsupported types are rejected** — for *every* string outside the documented sets, in any of the four
positions, whatever else is configured: no tunnel is ever produced. -/
theorem rejects_unsupported
    (hbad : (∃ lt, local1.get? "type" = some lt ∧ lt ∉ ["nic", "internetip", "custom"]) ∨
            (∃ rt, remote1.get? "type" = some rt ∧ rt ∉ ["custom", "externalip", "modeconfig"]) ∨
            (∃ pt, peer1.get? "type" = some pt ∧ pt ∉ ["ip", "dynip"]) ∨
            (∃ a ty, auth = some a ∧ a.get? "type" = some ty ∧ ty ∉ ["pubkey", "psk"])) :
    ∀ t, tunnelParams name node1 node2 local1 remote1 peer1 auth ≠ .ok t := by
  intro t h
  obtain ⟨b⟩ := tunnelParams_ok h
  rcases hbad with ⟨lt, hlt, hb⟩ | ⟨rt, hrt, hb⟩ | ⟨pt, hpt, hb⟩ | ⟨a, ty, rfl, hty, hb⟩
  · cases b.h1.symm.trans (localPart_unsupported hlt hb)
  · cases b.h2.symm.trans (remotePart_unsupported hrt hb)
  · cases b.h3.symm.trans (peerPart_unsupported hpt hb)
  · cases b.h4.symm.trans (authPart_unsupported hty hb)

/-- … and the rejection is a `ValueError` as soon as the statements executed before the type test do not fail
for another reason (a key missing from one of the dictionaries is a `KeyError`, a missing nic role a
`ParamNotFound`): the tests are reached in the order local, remote, peer, auth. -/
theorem rejects_unsupported_valueError {l2 r2 p2 : SDict}
    (hv : peerVariant local1 remote1 peer1 = .ok (l2, r2, p2)) :
    (∀ lt, local1.get? "type" = some lt → lt ∉ ["nic", "internetip", "custom"] →
      tunnelParams name node1 node2 local1 remote1 peer1 auth = .error .valueError) ∧
    (∀ x rt, localPart name node1 node2 local1 = .ok x →
      remote1.get? "type" = some rt → rt ∉ ["custom", "externalip", "modeconfig"] →
      tunnelParams name node1 node2 local1 remote1 peer1 auth = .error .valueError) ∧
    (∀ x y pt, localPart name node1 node2 local1 = .ok x → remotePart name node1 node2 local1 remote1 = .ok y →
      peer1.get? "type" = some pt → pt ∉ ["ip", "dynip"] →
      tunnelParams name node1 node2 local1 remote1 peer1 auth = .error .valueError) ∧
    (∀ x y z a ty, localPart name node1 node2 local1 = .ok x → remotePart name node1 node2 local1 remote1 = .ok y →
      peerPart name node1 node2 peer1 p2 = .ok z → auth = some a → a.get? "type" = some ty →
      ty ∉ ["pubkey", "psk"] →
      tunnelParams name node1 node2 local1 remote1 peer1 auth = .error .valueError) := by
  obtain ⟨lt, rt, pt, h1, h2, h3, w1, w2, _⟩ := peerVariant_spec hv
  obtain ⟨a0, h0⟩ := mainPart_total (name := name) (n1 := node1.name) (n2 := node2.name) h1 w1 h2 w2
  refine ⟨?_, ?_, ?_, ?_⟩
  · intro lt' hlt hb
    simp [tunnelParams, tunnelAssignments, hv, h0, localPart_unsupported hlt hb, bind, Except.bind]
  · intro x rt' hx hrt hb
    simp [tunnelParams, tunnelAssignments, hv, h0, hx, remotePart_unsupported hrt hb, bind, Except.bind]
  · intro x y pt' hx hy hpt hb
    simp [tunnelParams, tunnelAssignments, hv, h0, hx, hy, peerPart_unsupported hpt hb, bind, Except.bind]
  · intro x y z a ty hx hy hz ha hty hb
    subst ha
    simp [tunnelParams, tunnelAssignments, hv, h0, hx, hy, hz, authPart_unsupported hty hb, bind, Except.bind]

/-! ## `connects_nodes` -/

/-- Whenever both argument orders give an answer, the answers agree (for every tunnel, every pair of nodes). -/
theorem connects_agree_when_both_answer (t : Tunnel) (a b : Node) (x y : Bool)
    (h1 : t.connects a b = .ok x) (h2 : t.connects b a = .ok y) : x = y := by
  unfold Tunnel.connects at h1 h2
  revert h1 h2
  -- a raising left test ends one of the two orders; on two answering left tests the rest is a finite table
  cases t.onLeft a with
  | error e => intro h1; cases h1
  | ok p =>
    cases t.onLeft b with
    | error e => intro _ h2; cases h2
    | ok q =>
      rcases t.onRight a with e | (_ | _) <;> rcases t.onRight b with e | (_ | _) <;> cases p <;> cases q <;>
        intro h1 h2 <;> cases h1 <;> cases h2 <;> rfl
/-- `connects_comm`, PARTIAL: the answer does not depend on the order of the two nodes provided none of the four
side tests raises (decidable hypothesis).  Without it the statement is false for the code as it is: a side test on a
`CUSTOM` side raises `IndexError` for a node owning an interface inside the custom network with another netmask, and
`A and B` evaluates it in one order only (`connects_order_witness`). -/
theorem connects_comm_partial (t : Tunnel) (a b : Node)
    (h : (isOk (t.onLeft a) && isOk (t.onRight b) && isOk (t.onRight a) && isOk (t.onLeft b)) = true) :
    t.connects a b = t.connects b a := by
  have ok : ∀ {x : Except Err Bool}, isOk x = true → ∃ v, x = .ok v := by
    intro x hx
    cases x with
    | error e => cases hx
    | ok v => exact ⟨v, rfl⟩
  simp only [Bool.and_eq_true] at h
  obtain ⟨⟨⟨h1, h2⟩, h3⟩, h4⟩ := h
  obtain ⟨p, hp⟩ := ok h1
  obtain ⟨q, hq⟩ := ok h2
  obtain ⟨r, hr⟩ := ok h3
  obtain ⟨s, hs⟩ := ok h4
  -- on four answers `connectsOf` is `(p && q) || (r && s)`
  rw [Tunnel.connects, Tunnel.connects, hp, hq, hr, hs]
  cases p <;> cases q <;> cases r <;> cases s <;> rfl

/-- the failing shape: left test of the first node and right test of the second succeed, the left test of the
second node raises — one order answers `True`, the other raises -/
theorem connects_order_witness (r1 : Except Err Bool) :
    connectsOf (.ok true) (.ok true) r1 (.error .indexError) = .ok true ∧
    connectsOf (.error .indexError) r1 (.ok true) (.ok true) = .error .indexError := by
  constructor <;> rfl

/-- **`connects_comm` for every tunnel whose left local type is not `custom`**: then neither side is `CUSTOM`, no
side test can raise, and the answer is independent of the order of the two nodes — all node pairs, all networks. -/
theorem connects_comm_noncustom (h : tunnelParams name node1 node2 local1 remote1 peer1 auth = .ok t)
    (wf : WF name node1 node2) (hl : local1.get? "type" ≠ some "custom") (a b : Node) :
    t.connects a b = t.connects b a := by
  obtain ⟨lt, rt, pt, hlt, hrt, _, hlv, hrv, _, hL, _, _, hR, _⟩ := right_is_counterpart_generated h wf
  have hlc : lt ≠ "custom" := fun hc => hl (by rw [hlt, hc])
  have hLx : upper lt ≠ "CUSTOM" := by
    simp only [List.mem_cons, List.not_mem_nil, or_false] at hlv
    rcases hlv with rfl | rfl | rfl <;> simp [upper] at hlc ⊢
  have hRx : upper (counterLocal lt rt) ≠ "CUSTOM" := by
    simp only [List.mem_cons, List.not_mem_nil, or_false] at hrv
    rcases hrv with rfl | rfl | rfl <;> simp [counterLocal, hlc, upper]
  apply connects_comm_partial
  have l := fun n => onSide_ok_of_not_custom t.left t.leftNet t.leftParams n _ hL hLx
  have r := fun n => onSide_ok_of_not_custom t.right t.rightNet t.rightParams n _ hR hRx
  simp only [Tunnel.onLeft, Tunnel.onRight, l, r, Bool.and_self]

/-! ## Non-vacuity: concrete instances (evaluated by the kernel) on which the hypotheses hold and the conclusions
are non-trivial; and the witnesses of the two statements that are false for the code as it is. -/

section
/-- `∃ t, x = .ok t ∧ p t` is decided by evaluating `x` once -/
local instance {ε α : Type} (x : Except ε α) (p : α → Prop) [DecidablePred p] : Decidable (∃ t, x = .ok t ∧ p t) :=
  match x with
  | .ok t => decidable_of_iff (p t) ⟨fun h => ⟨t, rfl, h⟩, fun ⟨_, e, h⟩ => by cases e; exact h⟩
  | .error _ => isFalse (fun ⟨_, h, _⟩ => by cases h)

/-- What the examples below show of the three example tunnels, from ONE kernel evaluation.  Evaluation is dear (the
kernel decodes every parameter name it compares); `⟨_, rfl, by decide, …⟩` evaluates the constructor in the elaborator
for the `rfl`, again for every `decide`, and then in the kernel; in one declaration the kernel builds each tunnel once
and decodes each name once. -/
theorem exampleTunnels_run :
    (∃ t, tunnelParams "vpn1" Ex.vm1 Ex.vm2 defaultLocal defaultRemote defaultPeer none = .ok t ∧
      (defaultLocal.get? "type" ≠ some "custom" ∧
        t.L "vpnconn_lan_net" = some "172.17.0.0" ∧ t.R "vpnconn_remote_net" = some "172.17.0.0" ∧
        t.R "vpnconn_lan_net" = some "172.18.0.0" ∧ t.L "vpnconn_remote_net" = some "172.18.0.0" ∧
        t.L "vpnconn_peer_ip" = some "10.2.0.1" ∧ t.R "vpnconn_peer_ip" = some "10.1.0.1" ∧
        t.L "vpnconn_lan_type" = some "NIC" ∧ t.R "vpnconn_remote_type" = some "CUSTOM") ∧
      (isOk (t.onLeft Ex.vm1) && isOk (t.onRight Ex.vm2) && isOk (t.onRight Ex.vm1) && isOk (t.onLeft Ex.vm2)) = true ∧
      isOk (t.connects Ex.vm1 Ex.vm2) = true ∧ isOk (t.connects Ex.vm2 Ex.vm1) = true) ∧
    (∃ t, tunnelParams "vpn1" Ex.vm1 Ex.vm2 Ex.customLocal defaultRemote defaultPeer none = .ok t ∧
      Ex.customLocal.get? "type" = some "custom" ∧
      t.L "vpnconn_lan_net" = some "10.0.0.0" ∧ t.R "vpnconn_remote_type" = some "CUSTOM" ∧
      t.R "vpnconn_remote_net" = none ∧ t.L "vpnconn_lan_net" ≠ t.R "vpnconn_remote_net") ∧
    (∃ t, tunnelParams "vpn1" Ex.vm1 Ex.vm2 [("type", "internetip")] [("type", "externalip")]
        [("type", "dynip"), ("nic", "internet_nic")] (some Ex.pskAuth) = .ok t ∧
      Ex.pskAuth.get? "type" = some "psk" ∧
      t.L "vpnconn_psk_own_id" = some "arnold@vm1" ∧ t.R "vpnconn_psk_foreign_id" = some "arnold@vm1" ∧
      t.R "vpnconn_psk_own_id" = some "" ∧ t.L "vpnconn_psk_foreign_id_type" = some "IP" ∧
      t.R "vpnconn_psk_foreign_id_type" = some "CUSTOM" ∧
      t.L "vpnconn_peer_ip" = none ∧ t.L "vpnconn_activation" = some "PASSIVE" ∧
      t.L "vpnconn_lan_net" = none ∧ t.R "vpnconn_lan_net" = none ∧ t.leftNet = none) := by decide +kernel
end

/-- site-to-site default tunnel: hypotheses of `lan_is_own_net`, `left_remote_is_right_net`,
`right_remote_is_left_net_partial`, `lan_remote_mirror_partial`, `lan_remote_mirror_right_to_left`,
`peers_point_at_each_other`, `right_is_counterpart_generated`, `connects_comm_noncustom` hold, and all four networks
are defined and different -/
example : ∃ t, tunnelParams "vpn1" Ex.vm1 Ex.vm2 defaultLocal defaultRemote defaultPeer none = .ok t ∧
    WF "vpn1" Ex.vm1 Ex.vm2 ∧ defaultLocal.get? "type" ≠ some "custom" ∧
    t.L "vpnconn_lan_net" = some "172.17.0.0" ∧ t.R "vpnconn_remote_net" = some "172.17.0.0" ∧
    t.R "vpnconn_lan_net" = some "172.18.0.0" ∧ t.L "vpnconn_remote_net" = some "172.18.0.0" ∧
    t.L "vpnconn_peer_ip" = some "10.2.0.1" ∧ t.R "vpnconn_peer_ip" = some "10.1.0.1" ∧
    t.L "vpnconn_lan_type" = some "NIC" ∧ t.R "vpnconn_remote_type" = some "CUSTOM" :=
  let ⟨t, h, f, _⟩ := exampleTunnels_run.1
  ⟨t, h, Ex.wf, f⟩

/-- WITNESS that `lan_remote_mirror` is false without the hypothesis of `lan_remote_mirror_partial`
(hypotheses of `custom_local_right_remote_absent`): left local `custom` — the left end has lan net 10.0.0.0, the
right end has remote type CUSTOM and no remote net -/
example : ∃ t, tunnelParams "vpn1" Ex.vm1 Ex.vm2 Ex.customLocal defaultRemote defaultPeer none = .ok t ∧
    WF "vpn1" Ex.vm1 Ex.vm2 ∧ Ex.customLocal.get? "type" = some "custom" ∧
    t.L "vpnconn_lan_net" = some "10.0.0.0" ∧ t.R "vpnconn_remote_type" = some "CUSTOM" ∧
    t.R "vpnconn_remote_net" = none ∧ t.L "vpnconn_lan_net" ≠ t.R "vpnconn_remote_net" :=
  let ⟨t, h, f⟩ := exampleTunnels_run.2.1
  ⟨t, h, Ex.wf, f⟩

/-- point-to-point road warrior with psk: hypotheses of `psk_ids_swapped` and the `dynip` branch of
`peers_point_at_each_other`; points have no networks -/
example : ∃ t, tunnelParams "vpn1" Ex.vm1 Ex.vm2 [("type", "internetip")] [("type", "externalip")]
      [("type", "dynip"), ("nic", "internet_nic")] (some Ex.pskAuth) = .ok t ∧
    Ex.pskAuth.get? "type" = some "psk" ∧
    t.L "vpnconn_psk_own_id" = some "arnold@vm1" ∧ t.R "vpnconn_psk_foreign_id" = some "arnold@vm1" ∧
    t.R "vpnconn_psk_own_id" = some "" ∧ t.L "vpnconn_psk_foreign_id_type" = some "IP" ∧
    t.R "vpnconn_psk_foreign_id_type" = some "CUSTOM" ∧
    t.L "vpnconn_peer_ip" = none ∧ t.L "vpnconn_activation" = some "PASSIVE" ∧
    t.L "vpnconn_lan_net" = none ∧ t.R "vpnconn_lan_net" = none ∧ t.leftNet = none :=
  exampleTunnels_run.2.2

/-- `right_is_counterpart`: both applications succeed on the default (site-to-site) triple and on the
point-to-site triple, and give the left triple back -/
example : ∃ rl rr rp, peerVariant defaultLocal defaultRemote defaultPeer = .ok (rl, rr, rp) ∧
    peerVariant rl rr rp = .ok (defaultLocal, defaultRemote, defaultPeer) := ⟨_, _, _, rfl, rfl⟩
example : ∃ rl rr rp, peerVariant [("type", "internetip")] defaultRemote defaultPeer = .ok (rl, rr, rp) ∧
    rl.get? "type" = some "nic" ∧ rr.get? "type" = some "externalip" ∧
    peerVariant rl rr rp = .ok ([("type", "internetip")], defaultRemote, defaultPeer) :=
  ⟨_, _, _, rfl, by decide, by decide, rfl⟩
/-- … while for an "exotic" left triple (`modeconfig`) the derived right triple is not even an admissible input of
`_get_peer_variant` (its `nic` local has no `nic` key): the hypothesis `hv2` of `right_is_counterpart` is needed -/
example : ∃ rl rr rp, peerVariant defaultLocal [("type", "modeconfig"), ("modeconfig_ip", "172.30.0.1")] defaultPeer
      = .ok (rl, rr, rp) ∧ peerVariant rl rr rp = .error .keyError := ⟨_, _, _, rfl, rfl⟩

/-- `rejects_unsupported` / `rejects_unsupported_valueError`: an unknown local type with everything else in place -/
example : tunnelParams "vpn1" Ex.vm1 Ex.vm2 [("type", "lan"), ("nic", "lan_nic")] defaultRemote defaultPeer none
    = .error .valueError := rfl
example : ∃ pv, peerVariant [("type", "lan"), ("nic", "lan_nic")] defaultRemote defaultPeer = .ok pv := ⟨_, rfl⟩
/-- the documented authentication type `"none"` is one of the rejected strings (only `auth=None` selects NONE) -/
example : tunnelParams "vpn1" Ex.vm1 Ex.vm2 defaultLocal defaultRemote defaultPeer (some [("type", "none")])
    = .error .valueError := rfl
/-- a missing key is a `KeyError`, not a `ValueError`: `{"type": "nic"}` without `nic` (although the docstring asks
for "at least one key 'type'") -/
example : tunnelParams "vpn1" Ex.vm1 Ex.vm2 [("type", "nic")] defaultRemote defaultPeer none = .error .keyError := rfl

/-- `connects_comm_partial` / `connects_agree_when_both_answer`: the end nodes of the default tunnel are connected
in both orders, and the four side tests do not raise -/
example : ∃ t, tunnelParams "vpn1" Ex.vm1 Ex.vm2 defaultLocal defaultRemote defaultPeer none = .ok t ∧
    (isOk (t.onLeft Ex.vm1) && isOk (t.onRight Ex.vm2) && isOk (t.onRight Ex.vm1) && isOk (t.onLeft Ex.vm2)) = true ∧
    isOk (t.connects Ex.vm1 Ex.vm2) = true ∧ isOk (t.connects Ex.vm2 Ex.vm1) = true :=
  let ⟨t, h, _, f⟩ := exampleTunnels_run.1
  ⟨t, h, f⟩

/-! ## The regenerated model (`harness/pygen.py`)

`I2N/Extracted/GenTunnel.lean` is regenerated from the source of `VMTunnel._get_peer_variant` on every run (Python AST →
Lean `do` block, statement by statement).  The theorem below is the proof obligation that ties the hand written
`peerVariant` to it: any change of the Python's decision logic changes `genPeerVariant` and this proof stops compiling. -/

open I2N.Extracted.GenTunnel in
/-- **The hand written model of `_get_peer_variant` is the Python source.**  For *all* dictionaries (any keys, any
strings, missing `"type"` / `"nic"` keys included) the definition generated from /repo's source and the hand written
`peerVariant` return the same triple of dictionaries or raise the same error.  No hypotheses. -/
theorem peerVariant_matches_source (ll lr lp : SDict) : genPeerVariant ll lr lp = peerVariant ll lr lp := by
  unfold genPeerVariant peerVariant
  /- Each of the three `if` statements of the Python ends, on every branch, in a jump to the rest of the function with
  the dictionary it has built (a join point `k` of the `do` block).  Whatever `k` is, the statement is the matching
  `variant…` followed by `k`; so the three are taken one after the other with the rest left abstract, and no case of
  one statement is multiplied by the cases of the next. -/
  cases ll.getItem "type" with
  | error e => rfl
  | ok llt =>
    -- all closed `have`s of the block come out: dictionary values, and (eighth) the join point of the first statement
    extract_lets _ _ _ _ _ _ _ k _ _
    refine Eq.trans (b := variantRemote ll llt >>= k ()) ?_ (bind_congr fun rr => ?_)
    · simp only [variantRemote, apply_ite (· >>= k ()), bind_assoc, pure_bind, beq_iff_eq]
      rfl
    unfold k
    cases lr.getItem "type" with
    | error e => rfl
    | ok lrt =>
      extract_lets k
      refine Eq.trans (b := variantLocal lr llt lrt >>= k ()) ?_ (bind_congr fun rl => ?_)
      · simp only [variantLocal, PyGen.bind_ok, apply_ite (· >>= k ()), bind_assoc, pure_bind, beq_iff_eq]
        rfl
      unfold k
      cases lp.getItem "type" with
      | error e => rfl
      | ok lpt =>
        extract_lets k
        refine Eq.trans (b := variantPeer lp lpt >>= k ()) ?_ rfl
        simp only [variantPeer, PyGen.bind_ok, apply_ite (· >>= k ()), bind_assoc, pure_bind, beq_iff_eq]
        rfl

open I2N.Extracted.GenTunnel in
/-- the generated definition computes (it is not stuck on anything): the default triple, and a missing key -/
example : genPeerVariant defaultLocal defaultRemote defaultPeer = .ok (defaultLocal, defaultRemote, defaultPeer) := rfl
open I2N.Extracted.GenTunnel in
example : genPeerVariant [("type", "x")] [("type", "custom")] defaultPeer = .error .keyError := rfl

end I2N.Props.C19
