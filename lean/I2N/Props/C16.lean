import I2N.Lemmas.Index
import I2N.Lemmas.Register
import I2N.Lemmas.GenIndex
/-!
# C16 — Name lookups and visit counters are exact

Property theorems only (helper lemmas live in `I2N/Lemmas/Index.lean`, `Register.lean`).
The model (`I2N/Model/Index.lean`) is the one the compiled driver `drv_index` runs.

Quantifiers: every list `ns` of (name, test id) pairs that is parser shaped (`WF`: names pairwise
distinct, non-empty, no variant repeated inside a name, the first — set — variant of a name at no
later position of any name), in **any insertion order**, every query; every register history;
every number of equivalent nodes arriving in any order.
-/
namespace I2N.Props.C16
open I2N.Index

/-- Lookup by a dotted partial name returns exactly the ids of the tests whose full name contains
the query's variants contiguously. -/
theorem get_exact (ns : List (List String × Nat)) (hwf : WFb ns) (q0 : String) (qs : List String) (id : Nat) :
    id ∈ get (insertAll ns) (q0 :: qs) ↔ ∃ name, (name, id) ∈ ns ∧ (q0 :: qs) <:+: name :=
  mem_get_iff (inv_insertAll ns hwf) q0 qs id

/-- … each once: with pairwise distinct test ids the result has no duplicates. -/
theorem get_each_once (ns : List (List String × Nat)) (hwf : WF ns) (hids : (ns.map (·.2)).Nodup)
    (q : List String) : (get (insertAll ns) q).Nodup :=
  get_nodup (inv_insertAll ns hwf.toWFb) hwf hids q

/-- … regardless of insertion order: any two insertion orders of the same name set give the same
lookups (as sets; with `get_each_once` as multisets). -/
theorem get_order_independent (ns ns' : List (List String × Nat)) (hwf : WFb ns) (hwf' : WFb ns')
    (hperm : ∀ n, n ∈ ns ↔ n ∈ ns') (q0 : String) (qs : List String) (id : Nat) :
    id ∈ get (insertAll ns) (q0 :: qs) ↔ id ∈ get (insertAll ns') (q0 :: qs) := by
  simp only [get_exact ns hwf, get_exact ns' hwf', hperm]

/-- Membership queries agree with lookups. -/
theorem contains_iff_get (ns : List (List String × Nat)) (hwf : WFb ns) (q0 : String) (qs : List String) :
    contains (insertAll ns) (q0 :: qs) = true ↔ get (insertAll ns) (q0 :: qs) ≠ [] := by
  rw [contains_iff]
  constructor
  · rintro ⟨p, hp, p', hf⟩
    obtain ⟨id, hid⟩ := (inv_insertAll ns hwf).exists_mem_below
      (follow_mem_paths ((mem_labelled _ _ _).1 hp).1 hf)
    exact List.ne_nil_of_mem ((mem_get _ _ _ _).2 ⟨p, hp, p', hf, hid⟩)
  · intro h
    obtain ⟨id, hid⟩ := List.exists_mem_of_ne_nil _ h
    obtain ⟨p, hp, p', hf, _⟩ := (mem_get _ _ _ _).1 hid
    exact ⟨p, hp, p', hf⟩

/-- Visit counters report exactly the visits registered, per test and worker, per test, per worker,
or in total (`none` = argument omitted). -/
theorem counters_exact (ops : List (String × String)) (node worker : Option String) :
    getCounters (registerAll ops) node worker = (ops.filter (keyMatches node worker)).length :=
  (getCounters_foldl [] ops node worker).trans (Nat.zero_add _)

/-- The workers reported for a test (or for all) are exactly those that registered a visit, each once. -/
theorem workers_exact (ops : List (String × String)) (node : Option String) (w : String) :
    w ∈ getWorkers (registerAll ops) node ↔ ∃ op ∈ ops, keyMatches node none op = true ∧ op.2 = w := by
  simp only [mem_getWorkers, registerAll, mem_keys_foldl, List.map_nil, List.not_mem_nil, false_or]

theorem workers_each_once (ops : List (String × String)) (node : Option String) :
    (getWorkers (registerAll ops) node).Nodup := nodup_dedup _

/-- Equivalent tests of different workers share their visit bookkeeping: when the nodes of one
equivalence class are parsed one after the other (any number, any order) and each new node bridges
with all earlier ones (the discipline of `parse_branches_for_node_and_object` and of cloning), then
afterwards any two of them reference the same register objects and are linked symmetrically. -/
theorem shared_after_bridging (ms : List Nat) (hnd : ms.Nodup) (x y : Nat) (hx : x ∈ ms) (hy : y ∈ ms) :
    let st := ms.foldl arrive ({ regOf := [], bridged := [] }, [])
    st.1.reg x = st.1.reg y ∧ st.1.isBridged x y = st.1.isBridged y x ∧ (x ≠ y → st.1.isBridged x y = true) := by
  intro st
  obtain ⟨h, hseen⟩ : ClassInv st ∧ st.2 = ms := classInv_arrivals ms hnd
  rw [← hseen] at hx hy
  exact ⟨h.shared x hx y hy, h.sym x y, h.linked x hx y hy⟩

/-- … and likewise for the other bridging discipline of the code, the all-pairs loop of the update tool
(`for node1 in nodes: for node2 in nodes: node1.bridge_with_node(node2)`): afterwards every two distinct
nodes of the class are linked to each other DIRECTLY (the `bridged` relation is a clique, not only
connected — `shared_started_workers`, `shared_results` read direct neighbours only) and reference the
same register objects (those of the last node).  Any number of nodes, any order. -/
theorem shared_after_all_pairs (ms : List Nat) (hnd : ms.Nodup) (x y : Nat) (hx : x ∈ ms) (hy : y ∈ ms) (hxy : x ≠ y) :
    let b := allPairs ms { regOf := [], bridged := [] }
    b.isBridged x y = true ∧ b.isBridged y x = true ∧ b.reg x = b.reg y := by
  intro b
  have h := pairsInv_allPairs ms hnd
  have hl := h.linked x hx y (List.mem_append_left _ hy) hxy
  exact ⟨hl.1, hl.2, h.reg_eq hx hy⟩

/-- A visit registered through one member of a bridged class is read through every member: the two
nodes address the same register object, hence the same counters. -/
theorem visit_seen_by_all (regs : Nat → Register) (b : Bridging) (x y : Nat) (h : b.reg x = b.reg y)
    (node worker : Option String) :
    getCounters (regs (b.reg x)) node worker = getCounters (regs (b.reg y)) node worker := by rw [h]

/-! ## Non-vacuity and boundary witnesses -/

/-- Really parsed multi-vm names repeat inner variants (the net block once per vm): they are outside `WF`
but inside `WFb`, so membership exactness, order independence and `contains` still apply to them; only
"each once" can fail — a query occurring twice in one name returns that test twice (witness below; the
same happens in the real class). -/
def multiVmNames : List (List String × Nat) :=
  [(["normal", "t3", "vms", "vm1", "nets", "localhost", "net1", "vm2", "nets", "localhost", "net1"], 0),
   (["all", "customize", "vms", "vm1", "nets", "localhost", "net1"], 1)]

/-- the two queries below, from ONE kernel evaluation (the tree is built by `insertAll` once) -/
theorem multiVmNames_run : get (insertAll multiVmNames) ["nets", "localhost", "net1"] = [0, 0, 1] ∧
    get (insertAll multiVmNames) ["t3", "vms", "vm1"] = [0] := by decide +kernel

example : get (insertAll multiVmNames) ["nets", "localhost", "net1"] = [0, 0, 1] := multiVmNames_run.1
example : get (insertAll multiVmNames) ["t3", "vms", "vm1"] = [0] := multiVmNames_run.2

/-- the five literal names of the selftests (`test_prefix_tree_*`) satisfy `WF` -/
def selftestNames : List (List String × Nat) :=
  [(["aaa", "bbb", "ccc"], 0), (["aaa", "bbb", "fff"], 1), (["aaa", "eee", "ccc"], 2),
   (["ddd", "bbb", "ccc"], 3), (["ddd", "bbb", "ccc", "ggg"], 4)]

theorem selftestNames_run : wfCheck selftestNames = true ∧ get (insertAll selftestNames) ["bbb", "ccc"] = [0, 3, 4] ∧
    contains (insertAll selftestNames) ["bbb", "ccc"] = true ∧
    contains (insertAll selftestNames) ["bbb", "ggg"] = false := by decide +kernel

example : WF selftestNames := wfCheck_sound _ selftestNames_run.1
example : get (insertAll selftestNames) ["bbb", "ccc"] = [0, 3, 4] := selftestNames_run.2.1
example : contains (insertAll selftestNames) ["bbb", "ccc"] = true := selftestNames_run.2.2.1
example : contains (insertAll selftestNames) ["bbb", "ggg"] = false := selftestNames_run.2.2.2

/-- outside `WF` (the first variant `b` of the second name re-occurs inside the first name) the
structure is not a general suffix trie: `b.c` is filed under `a.b`, and `get "a.b.c"` returns it
although no inserted name contains `a.b.c`.  The same happens in the real class (DESIGN.md C16). -/
example : get (insertAll [(["a", "b"], 0), (["b", "c"], 1)]) ["a", "b", "c"] = [1] := by decide +kernel

example : getCounters (registerAll [("n", "net1"), ("n", "net2"), ("n", "net1"), ("m", "net1")]) (some "n") (some "net1") = 2 := by
  decide +kernel
example : (allPairs [0, 1, 2] { regOf := [], bridged := [] }).isBridged 1 2 = true := by decide +kernel
example : (([0, 1, 2].foldl arrive ({ regOf := [], bridged := [] }, [])).1.reg 0
    = ([0, 1, 2].foldl arrive ({ regOf := [], bridged := [] }, [])).1.reg 2) := by decide +kernel

/-! ## Translator tie: the hand model of the edge registers equals the code's current source

`I2N/Extracted/GenIndex.lean` is regenerated on every run from the source of `EdgeRegister.register`,
`get_counters`, `get_workers` (harness/pygen_pxindex.py).  The source keeps a dict of dicts
(`I2N.PyDict.PyReg`: node key ↦ worker key ↦ counter, insertion ordered), the hand model a flat association list
keyed by the pair; the ADAPTER is `I2N.Index.flat` (concatenation of the inner dictionaries in dictionary order,
counters as naturals).  Hypothesis of all three: `RegWF r` — what a Python dict guarantees by construction (no node
key twice, no worker key twice inside a node) and that no counter is negative; it is decidable, holds for the empty
registry and is preserved by the source's `register` (part of `register_matches_source`), so it holds for every
registry the code can build.  It excludes only lists that are not dictionaries. -/

open I2N.PyDict I2N.Extracted.GenIndex

/-- `EdgeRegister.register` (generated from the source) never raises on a well-formed registry, keeps it well
formed, and its effect seen through the adapter is the model's `register` — the same entries with the same counters
(a permutation: the source files a new worker of a known node inside that node's dictionary, the model appends the
pair at the end; neither `getCounters` nor `getWorkers` observes the order, see `getCounters_perm`). -/
theorem register_matches_source (r : PyReg) (h : RegWF r) (n w : String) :
    ∃ r', (genRegister n w).run r = .ok ((), r') ∧ RegWF r' ∧ (flat r').Perm (register (flat r) n w) :=
  ⟨regStep r n w, genRegister_run r n w, regWF_regStep r h n w, flat_regStep_perm r h n w⟩

/-- `EdgeRegister.get_counters` (generated from the source) returns the model's `getCounters` of the adapter's image,
for all four argument shapes (`none` = argument omitted / `None`). -/
theorem getCounters_matches_source (r : PyReg) (h : RegWF r) (node worker : Option String) :
    genGetCounters r node worker = (getCounters (flat r) node worker : Int) := by
  rw [getCounters_flat r h node worker, nodeSel_eq r h.1 node, List.map_map]
  unfold genGetCounters
  simp only [Id.run, pure, foldl_foldl_add_eq, Int.zero_add, workerSel_eq]
  rfl

/-- `EdgeRegister.get_workers` (generated from the source) returns, as a set, the model's `getWorkers` of the adapter's
image (the Python value is a `set`: only membership is compared; the model's list is duplicate free by
`workers_each_once`). -/
theorem getWorkers_matches_source (r : PyReg) (h : RegWF r) (node : Option String) (w : String) :
    w ∈ genGetWorkers r node ↔ w ∈ getWorkers (flat r) node := by
  rw [getWorkers_flat r h.1 node, mem_dedup, mem_workers_flat, nodeSel_eq r h.1 node]
  unfold genGetWorkers
  simp only [Id.run, pure, mem_foldl_append, List.not_mem_nil, false_or, List.mem_map]
  exact ⟨fun ⟨nk, hnk, hw⟩ => ⟨_, ⟨nk, hnk, rfl⟩, hw⟩, fun ⟨_, ⟨nk, hnk, rfl⟩, hw⟩ => ⟨nk, hnk, hw⟩⟩
/-- the source's `register` run over a list of visits, from a registry `r` -/
def genRegisterAll : List (String × String) → RegM Unit
  | [] => pure ()
  | op :: rest => do genRegister op.1 op.2; genRegisterAll rest

/-- END TO END, on the source itself: after any sequence of `register` calls on a fresh `EdgeRegister` (any number, any
nodes and workers) no call raised, `get_counters` returns exactly the number of matching visits and `get_workers`
exactly the workers that visited — `counters_exact` / `workers_exact` transported along the three equalities above. -/
theorem source_counters_exact (ops : List (String × String)) :
    ∃ r, (genRegisterAll ops).run [] = .ok ((), r) ∧ RegWF r ∧
      (∀ node worker, genGetCounters r node worker = ((ops.filter (keyMatches node worker)).length : Int)) ∧
      (∀ node w, w ∈ genGetWorkers r node ↔ ∃ op ∈ ops, keyMatches node none op = true ∧ op.2 = w) := by
  suffices hgen : ∀ (ops : List (String × String)) (r0 : PyReg) (m0 : Register), RegWF r0 → SameObs r0 m0 →
      ∃ r, (genRegisterAll ops).run r0 = .ok ((), r) ∧ RegWF r ∧
        SameObs r (ops.foldl (fun m op => register m op.1 op.2) m0) by
    obtain ⟨r, hrun, hwf, hobs⟩ := hgen ops [] [] (by decide +kernel) ⟨fun _ _ => rfl, fun _ _ => Iff.rfl⟩
    refine ⟨r, hrun, hwf, ?_, ?_⟩
    · intro node worker
      rw [getCounters_matches_source r hwf, hobs.1]
      exact congrArg Int.ofNat (counters_exact ops node worker)
    · intro node w
      rw [getWorkers_matches_source r hwf, hobs.2]
      exact workers_exact ops node w
  intro ops
  induction ops with
  | nil => intro r0 m0 h0 hp; exact ⟨r0, rfl, h0, hp⟩
  | cons op rest ih =>
    intro r0 m0 h0 hp
    obtain ⟨r1, hrun1, hwf1, hperm1⟩ := register_matches_source r0 h0 op.1 op.2
    obtain ⟨r, hrun, hwf, hobs⟩ := ih r1 (register m0 op.1 op.2) hwf1 (sameObs_register r0 r1 m0 op.1 op.2 hp hperm1)
    refine ⟨r, ?_, hwf, by simpa using hobs⟩
    simp only [genRegisterAll, StateT.run_bind, hrun1]
    exact hrun

/-! ### non-vacuity and boundary of the tie -/

/-- a registry as the code builds it: two nodes, the first visited by two workers -/
def sampleReg : PyReg := [("n", [("net1", 2), ("net2", 1)]), ("m", [("net1", 1)])]

example : RegWF sampleReg := by decide +kernel
example : RegWF ([] : PyReg) := by decide +kernel
example : flat sampleReg = [(("n", "net1"), 2), (("n", "net2"), 1), (("m", "net1"), 1)] := by decide +kernel
example : genGetCounters sampleReg (some "n") none = 3 := by decide +kernel
example : genGetCounters sampleReg none (some "net1") = 3 := by decide +kernel
example : genGetWorkers sampleReg none = ["net1", "net2", "net1"] := by decide +kernel
/-- a new worker of a known node: the source files it inside the node's dictionary, the model at the end — the
permutation of `register_matches_source` is proper -/
example : (genRegister "n" "net3").run sampleReg
    = .ok ((), [("n", [("net1", 2), ("net2", 1), ("net3", 1)]), ("m", [("net1", 1)])]) := by rfl
example : register (flat sampleReg) "n" "net3"
    = [(("n", "net1"), 2), (("n", "net2"), 1), (("m", "net1"), 1), (("n", "net3"), 1)] := by decide +kernel
/-- `RegWF` cannot be dropped: on a list that is not a dictionary (a node key twice) the source's lookups see the
first entry only, the model sums both -/
example : genGetCounters [("n", [("w", 1)]), ("n", [("w", 5)])] (some "n") none = 1
    ∧ getCounters (flat [("n", [("w", 1)]), ("n", [("w", 5)])]) (some "n") none = 6 := by decide +kernel
/-- the primitives of the pinned stores do raise where Python raises (`register` itself never does) -/
example : (addCount "n" "w" 1).run [] = .error .keyError := by rfl

end I2N.Props.C16
