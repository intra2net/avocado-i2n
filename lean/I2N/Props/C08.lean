import I2N.Lemmas.Trav
import I2N.Lemmas.TravLoc
import I2N.Lemmas.TravProgress
import I2N.Lemmas.TravLocExact
import I2N.Model.TravMon
import I2N.Lemmas.GenLoc
import I2N.Lemmas.TravEval
/-!
# C08 — Tests run only on their own worker and are told where their setup lives
-/
namespace I2N.Props.C08
open I2N.Trav

/-- A worker never runs, re-runs or cleans a composite test that was not parsed for it: when its id
is not part of the test's name the decisions raise (`RuntimeError`) instead of answering. -/
theorem foreign_worker_rejected (g : Graph) (s : State) (n w : Nat)
    (hroot : (g.node n).sharedRoot = false) (hdry : (g.node n).dryRun = false) (hflat : (g.node n).flat = false)
    (hclone : (g.node n).cloneSource = false) (hid : g.idIn w n = false) :
    runDecision g s n w = .error "RuntimeError" ∧ cleanDecision g s n w = .error "RuntimeError" ∧
    ((s.nd n).rerunDisabled = false → shouldRerun g s n w = .error "RuntimeError") := by
  refine ⟨?_, ?_, ?_⟩
  · unfold runDecision; simp [hroot, hdry, hflat, hclone, hid]
  · unfold cleanDecision; simp [hdry, hflat, hclone, hid]
  · intro hr; unfold shouldRerun; simp [hr, hdry, hflat, hclone, hid]

/-- Whatever a worker picks next — parent or child — is one of its own copies (its id is in the name)
or a flat node. -/
theorem picks_are_own_or_flat (g : Graph) (s : State) (n w c : Nat) (s' : State) :
    (pickChild g s n w = some (c, s') → relevant g w c = true ∧ c ∈ (g.node n).cleanup.map (·.1)) ∧
    (pickParent g s n w = some (c, s') → relevant g w c = true ∧ c ∈ (g.node n).setup.map (·.1)) :=
  ⟨pickChild_rel g s n w c s', pickParent_rel g s n w c s'⟩

/-- The workers named as setup sources are exactly those with a passing result of the producing
class: `v` is listed for parent `p` iff some shared result of `p` has status PASS and `v` is the first
worker (in swarm order) whose id occurs in that result's name. -/
theorem named_sources_are_passers (g : Graph) (s : State) (p v : Nat) :
    v ∈ sharedResultWorkerIds g s p ↔
      ∃ r ∈ sharedResults g s p, r.status = "PASS" ∧
        (List.range g.workers.length).find? (fun w => strIn (g.worker w).id r.name) = some v :=
  mem_sharedResultWorkerIds g s p v

/-! ## the locations a test is told (`pull_locations`) -/

/-- Completeness of `pull_locations`.  After `pullLocations g s n` of a parsed copy `n`, for every setup edge
`(p, vms)` of `n`, every object `vm` of the edge and every location of the parent — the shared pool and the pool of
every worker with a passing result of `p`'s class — the entry `get_location_<vm>` of `n` exists and contains the
location (`strIn loc str`: Python's `loc in str`, the very test the code uses to avoid duplicates).
`hn` says the copy has a dynamic record (true in every state the traversal reaches). -/
theorem locations_complete (g : Graph) (s : State) (n : Nat) (hflat : (g.node n).flat = false)
    (hn : n < s.nodes.length) (p : Nat) (vms : List String) (he : (p, vms) ∈ (g.node n).setup)
    (vm : String) (hvm : vm ∈ vms)
    (loc : String) (hloc : loc ∈ sharedLoc :: (sharedResultWorkerIds g s p).map (workerLoc g)) :
    ∃ str, locOf ((pullLocations g s n).nd n).getLoc vm = some str ∧ strIn loc str = true :=
  pullLocations_complete g s n hflat hn p vms he vm hvm loc hloc

/-- Soundness of `pull_locations` (token form; no hypothesis on the worker ids needed).  Starting from no entries,
the entry of `vm` is `joinLocs L` — the locations of `L` joined by single blanks in this order — for a non-empty
list `L` each member of which is a location of a setup edge through `vm`: nothing else is ever listed.

Partial: what is NOT true without a separation hypothesis on the worker ids is the converse in the token sense —
a location may be missing from `L` because it is a substring of a location already listed (the duplicate test of
the code is a substring test): see `location_swallowed_by_substring` below.  `locations_complete` gives the converse
in the substring sense only. -/
theorem locations_sound_partial (g : Graph) (s : State) (n : Nat) (hflat : (g.node n).flat = false)
    (hn : n < s.nodes.length) (hempty : (s.nd n).getLoc = []) (vm str : String)
    (h : locOf ((pullLocations g s n).nd n).getLoc vm = some str) :
    ∃ L : List String, L ≠ [] ∧ str = joinLocs L ∧
      ∀ l ∈ L, ∃ p vms, (p, vms) ∈ (g.node n).setup ∧ vm ∈ vms ∧
        l ∈ sharedLoc :: (sharedResultWorkerIds g s p).map (workerLoc g) :=
  pullLocations_sound g s n hflat hn hempty vm str h

/-- two workers, one id a suffix of the other (what `nets=net1` over two clusters produces, finding F4); the parent
`p = 0` has a passing result of either worker, the child `n = 1` depends on it through `vm1` -/
def gSub : Graph :=
  { workers := [{ id := "cluster1.net1", swarm := "cluster1" }, { id := "net1", swarm := "localhost" }],
    nodes := [{ cls := 0, owner := some 0, name := "p.cluster1.net1", pfx := "1", cleanup := [(1, ["vm1"])] },
              { cls := 1, owner := some 1, name := "n.net1", pfx := "2", setup := [(0, ["vm1"])] }],
    root := 0 }

def sSub : State :=
  { nodes := [{ results := [{ name := "p.cluster1.net1", status := "PASS", uid := "1" },
                            { name := "p.net1", status := "PASS", uid := "1r1" }] }, {}],
    regs := [{}, {}], workers := [{}, {}], store := [] }

/-- what `pull_locations` does on `gSub`, `sSub`, for the two witness theorems `location_swallowed_by_substring` and
`locs_separated_needed`, from one evaluation -/
theorem gSub_run :
    (sharedResultWorkerIds gSub sSub 0 = [0, 1] ∧
      locOf ((pullLocations gSub sSub 1).nd 1).getLoc "vm1" = some ":/pool/shared cluster1.net1:/pool/swarm" ∧
      joinLocs [sharedLoc, workerLoc gSub 0] = ":/pool/shared cluster1.net1:/pool/swarm" ∧
      strIn (workerLoc gSub 1) ":/pool/shared cluster1.net1:/pool/swarm" = true) ∧
    (¬ LocsSeparated gSub ∧ (gSub.node 1).flat = false ∧ (sSub.nd 1).getLoc = [] ∧
      passersThrough gSub sSub 1 "vm1" = [0, 1] ∧
      locOf ((pullLocations gSub sSub 1).nd 1).getLoc "vm1" ≠
        some (joinLocs (sharedLoc :: (passersThrough gSub sSub 1 "vm1").map (workerLoc gSub)))) := by
  decide +kernel

/-- non-vacuity of `locations_complete` / `locations_sound_partial`, and the witness of what the substring test
loses: both workers passed the parent, but the entry lists only the shared pool and `cluster1.net1`'s pool —
`net1:/pool/swarm` is "already there" as a substring of `cluster1.net1:/pool/swarm`. -/
theorem location_swallowed_by_substring :
    sharedResultWorkerIds gSub sSub 0 = [0, 1] ∧
    locOf ((pullLocations gSub sSub 1).nd 1).getLoc "vm1" = some ":/pool/shared cluster1.net1:/pool/swarm" ∧
    joinLocs [sharedLoc, workerLoc gSub 0] = ":/pool/shared cluster1.net1:/pool/swarm" ∧
    strIn (workerLoc gSub 1) ":/pool/shared cluster1.net1:/pool/swarm" = true :=
  gSub_run.1

example : ∃ str, locOf ((pullLocations gSub sSub 1).nd 1).getLoc "vm1" = some str ∧ strIn (workerLoc gSub 1) str = true :=
  locations_complete gSub sSub 1 rfl (by decide) 0 ["vm1"] (by decide +kernel) "vm1" (by decide) _ (by decide +kernel)

example := locations_sound_partial gSub sSub 1 rfl (by decide) rfl "vm1" _ location_swallowed_by_substring.2.1

/-! ## ownership as a reachable-state invariant

`ReachableF` (Lemmas/TravProgress.lean): initial state, then any sequence of `resume` steps of real workers with any
outcomes and positive fuel (`ReachableF.reachable`: such a state is `Reachable` in the sense of C04).
`EdgeSym g`: every edge is recorded at both ends (`edgeSymB g = true` is the decidable form). -/

/-- Every node on a worker's path after the root is relevant to the worker: flat, or a copy whose name contains the
worker's id. -/
theorem path_owned (g : Graph) (hsym : EdgeSym g) (ncls : Nat) (store : List (String × List (String × String)))
    (s : State) (h : ReachableF g ncls store s) (w : Nat) (hw : w < s.workers.length) :
    ∀ x ∈ (s.wd w).path.tail, relevant g w x = true := by
  rcases (h.pinv hsym).path w hw with h' | h'
  · rw [h'.1]; intro x hx; simp at hx
  · exact h'.tail

/-- `runs_on_owner`, state form.  In every reachable state: a copy marked as started by `w` is relevant to `w`; the
copy `n` a worker is executing (its pc is `.test n …`: inside the test or its result wait) has the worker's id in
its name and is the last node of the worker's path; and under `OwnerNames` it was parsed for this worker. -/
theorem runs_on_owner (g : Graph) (hsym : EdgeSym g) (ncls : Nat) (store : List (String × List (String × String)))
    (s : State) (h : ReachableF g ncls store s) (n w : Nat) :
    ((s.nd n).started = some w → relevant g w n = true) ∧
    ((s.wd w).pc.node? = some n → g.idIn w n = true ∧ (s.wd w).path.getLast? = some n) :=
  ⟨(h.pinv hsym).markRel n w, fun hp => ⟨((h.pinv hsym).testOwn w n hp).1, ((h.pinv hsym).testOwn w n hp).2.1⟩⟩

/-- the names identify the owner: a parsed copy carries the id of worker `w` in its name iff it was parsed for `w`
(what fails for ambiguous ids like `net1` / `cluster1.net1`, finding F4) -/
def OwnerNames (g : Graph) : Prop :=
  ∀ w n, (g.node n).flat = false → (g.idIn w n = true ↔ (g.node n).owner = some w)

/-- `runs_on_owner`, event form.  Whenever a step of worker `w` from a reachable state emits a start event, the event
carries `w`'s id and the class of a node `n` with `g.idIn w n` (the run decision raises otherwise:
`foreign_worker_rejected`); under `OwnerNames` a parsed such `n` has `owner n = some w`. -/
theorem runs_on_owner_events (g : Graph) (hsym : EdgeSym g) (ncls : Nat) (store : List (String × List (String × String)))
    (s : State) (h : ReachableF g ncls store s) (w : Nat) (out : Outcome) (fuel : Nat)
    (wid cls uid : String) (locs : List (String × String)) (unk : Nat)
    (he : Event.start wid cls uid locs unk ∈ (resume g s w out fuel).2) :
    wid = (g.worker w).id ∧ ∃ n ph, cls = clsName g n ph ∧ g.idIn w n = true ∧
      (OwnerNames g → (g.node n).flat = false → (g.node n).owner = some w) := by
  obtain ⟨h1, n, ph, h2, h3⟩ := resume_starts g hsym s w out fuel (h.pinv hsym) _ he
  exact ⟨h1, n, ph, h2, h3, fun ho hf => (ho w n hf).mp h3⟩

/-- non-vacuity: the two-node graph above is edge-symmetric, its first worker's first step from the initial state is
a reachable state, and that step emits no start event for a foreign copy -/
example : EdgeSym gSub := edgeSymB_sound (by decide)
example : ReachableF gSub 2 [] (resume gSub (initState gSub 2 []) 0 ⟨none, 0⟩ 5).1 :=
  .step _ 0 ⟨none, 0⟩ 5 (.init []) (by decide) (by decide)
example := path_owned gSub (edgeSymB_sound (by decide)) 2 [] _
  (.step _ 0 ⟨none, 0⟩ 5 (.init []) (by decide) (by decide)) 0

/-! ## the exact form of the location theorem (`Lemmas/TravLocExact.lean`)

`LocsSeparated g` (decidable): every location string — `sharedLoc` and `workerLoc g v` for every worker `v` — is
blank-free, and none of them is a substring of another one's (in particular distinct workers have distinct strings).
`passersThrough g s n vm`: the workers with a passing result of a setup parent of `n` through the object `vm`, each once,
in order of first occurrence (edges in dict order, per edge in the order of `shared_result_worker_ids`).
`pushNew L a`: `L` if `a ∈ L`, else `L ++ [a]`.  `seqOf g s n vm`: the locations `pull_locations` offers to the entry of
`vm`, in the order of the three loops (per edge through `vm`: the shared pool, then the passers' pools).
`TokAt U cur vm L`: the entry of `vm` in `cur` is `joinLocs L` for the duplicate-free token list `L ⊆ U` (no entry for
`L = []`). -/

/-- **(a) The string lemma.**  A blank-free needle is contained in `a ++ " " ++ b` iff it is contained in `a` or in
`b` (Python: `x in a + " " + b` for `" " not in x`). -/
theorem blank_free_needle_splits (x a b : String) (hx : ' ' ∉ x.toList) :
    strIn x (a ++ " " ++ b) = true ↔ strIn x a = true ∨ strIn x b = true :=
  strIn_join_iff x a b hx

/-- Consequence for joined entries: on separated location strings the duplicate test of `pull_locations`
(`loc in entry`) is exactly the membership test in the list of joined tokens. -/
theorem duplicate_test_is_membership (g : Graph) (hsep : LocsSeparated g) (loc : String) (hloc : loc ∈ allLocs g)
    (L : List String) (hL : ∀ l ∈ L, l ∈ allLocs g) : strIn loc (joinLocs L) = true ↔ loc ∈ L :=
  strIn_joinLocs_iff hsep.sep loc hloc L hL

/-- **(b) `locations_exact`.**  Under `LocsSeparated g` and starting from an empty `get_location` record, after
`pullLocations g s n` of a parsed copy `n` the entry of every object `vm` is EXACTLY: nothing, when no setup edge of `n`
carries `vm`; otherwise the blank-join of the duplicate-free list
`[shared pool] ++ [pool of every worker with a PASS result on a parent class through vm, in order of first occurrence]`.
As a set: the listed sources are the shared pool and exactly the workers that passed a producer (none missing, none
spurious, none twice). -/
theorem locations_exact (g : Graph) (hsep : LocsSeparated g) (s : State) (n : Nat) (hflat : (g.node n).flat = false)
    (hn : n < s.nodes.length) (hempty : (s.nd n).getLoc = []) (vm : String) :
    locOf ((pullLocations g s n).nd n).getLoc vm =
      (if edgesThrough g n vm = [] then none
       else some (joinLocs (sharedLoc :: (passersThrough g s n vm).map (workerLoc g)))) ∧
    (sharedLoc :: (passersThrough g s n vm).map (workerLoc g)).Nodup ∧ (passersThrough g s n vm).Nodup ∧
    (∀ v, v ∈ passersThrough g s n vm ↔
      ∃ p vms, (p, vms) ∈ (g.node n).setup ∧ vm ∈ vms ∧ v ∈ sharedResultWorkerIds g s p) := by
  refine ⟨?_, ?_, nodup_passersThrough g s n vm, mem_passersThrough g s n vm⟩
  · rw [pullLocations_exact hsep s n hflat hn hempty vm]
    unfold enc expectedLocs
    by_cases he : edgesThrough g n vm = []
    · simp [he]
    · simp [he]
  · have := expectedLocs_nodup hsep s n vm
    unfold expectedLocs at this
    by_cases he : edgesThrough g n vm = []
    · -- no edge: no passer either
      have hp : passersThrough g s n vm = [] := by
        unfold passersThrough; rw [he]; rfl
      rw [hp]; simp
    · simpa [he] using this

/-- **(b′) What accumulates.**  From ANY `get_location` record whose entry of `vm` is the join of a duplicate-free
token list `T0` of location strings, `pull_locations` leaves the join of `T0` followed by the locations of `seqOf` not
yet present, in order of first occurrence: old tokens keep their place (`T0` is a prefix), the members are the old ones
and the offered ones, and a second call in the same state changes nothing (`locAdd` is idempotent on separated
strings). -/
theorem locations_accumulate (g : Graph) (hsep : LocsSeparated g) (s : State) (n : Nat) (hflat : (g.node n).flat = false)
    (hn : n < s.nodes.length) (vm : String) (T0 : List String) (h0 : TokAt (allLocs g) (s.nd n).getLoc vm T0) :
    TokAt (allLocs g) ((pullLocations g s n).nd n).getLoc vm ((seqOf g s n vm).foldl pushNew T0) ∧
    T0 <+: (seqOf g s n vm).foldl pushNew T0 ∧
    (∀ t, t ∈ (seqOf g s n vm).foldl pushNew T0 ↔ t ∈ T0 ∨ t ∈ seqOf g s n vm) ∧
    (seqOf g s n vm).foldl pushNew ((seqOf g s n vm).foldl pushNew T0) = (seqOf g s n vm).foldl pushNew T0 :=
  ⟨pullLocations_tok hsep.sep g s n hflat hn (locsOf_sub_allLocs g s) vm T0 h0, prefix_foldl_pushNew _ _,
    fun t => mem_foldl_pushNew _ _ t,
    foldl_pushNew_of_subset _ _ (fun x hx => (mem_foldl_pushNew _ _ x).mpr (Or.inr hx))⟩

/-- **The entry determines its tokens.**  On blank-free non-empty tokens the blank-join is injective: the list of
sources a test reads out of `get_location_<vm>` (by splitting at blanks) is the list the theorems above speak of, not
merely a list with the same join; in particular the token list `T` of `locations_invariant` and
`start_locations_exact` is unique. -/
theorem entry_determines_tokens (L L' : List String) (hL : ∀ l ∈ L, ' ' ∉ l.toList ∧ l ≠ "")
    (hL' : ∀ l ∈ L', ' ' ∉ l.toList ∧ l ≠ "") (h : joinLocs L = joinLocs L') : L = L' :=
  joinLocs_inj L L' hL hL' h

example : joinLocs [sharedLoc, workerLoc gSub 1] = ":/pool/shared net1:/pool/swarm" := by decide +kernel
example := entry_determines_tokens [sharedLoc, workerLoc gSub 1] [sharedLoc, workerLoc gSub 1] (by decide +kernel)
  (by decide +kernel) rfl

/-- `LocsSeparated` cannot be dropped: on the witness instance of `location_swallowed_by_substring` (worker ids
`cluster1.net1` and `net1`) the hypothesis fails and so does the conclusion of `locations_exact` — both workers passed
the producer, the entry lists one of them. -/
theorem locs_separated_needed :
    ¬ LocsSeparated gSub ∧ (gSub.node 1).flat = false ∧ (sSub.nd 1).getLoc = [] ∧
    passersThrough gSub sSub 1 "vm1" = [0, 1] ∧
    locOf ((pullLocations gSub sSub 1).nd 1).getLoc "vm1" ≠
      some (joinLocs (sharedLoc :: (passersThrough gSub sSub 1 "vm1").map (workerLoc gSub))) :=
  gSub_run.2

/-- two workers `net1`, `net2`; a stateless test `a` (copies 0, 1), a dependant `b` (copies 2, 3), the shared root 4 -/
def gTwo : Graph :=
  { workers := [{ id := "net1", swarm := "localhost" }, { id := "net2", swarm := "localhost" }],
    nodes := [
      { cls := 0, owner := some 0, name := "all.a.vms.vm1.nets.localhost.net1", pfx := "1a1", objs := ["vm1"],
        setup := [(4, ["vm1"])], cleanup := [(2, ["vm1"])] },
      { cls := 0, owner := some 1, name := "all.a.vms.vm1.nets.localhost.net2", pfx := "1a1", objs := ["vm1"],
        setup := [(4, ["vm1"])], cleanup := [(3, ["vm1"])] },
      { cls := 1, owner := some 0, name := "all.b.vms.vm1.nets.localhost.net1", pfx := "2a1", objs := ["vm1"],
        setup := [(0, ["vm1"])] },
      { cls := 1, owner := some 1, name := "all.b.vms.vm1.nets.localhost.net2", pfx := "2a1", objs := ["vm1"],
        setup := [(1, ["vm1"])] },
      { cls := 2, owner := none, name := "all.internal.stateless.noop", pfx := "1", flat := true, sharedRoot := true,
        cleanup := [(0, ["vm1"]), (1, ["vm1"])] }],
    root := 4 }

/-- `net1` passed `a`, `net2` has not run it -/
def sTwo : State :=
  { nodes := [{ results := [{ name := "all.a.vms.vm1.nets.localhost.net1", status := "PASS", uid := "1a1" }] }, {}, {}, {}, {}],
    regs := [{}, {}, {}], workers := [{}, {}], store := [] }

/-- non-vacuity of `locations_exact`: two workers `net1`/`net2`, one passed — `net2`'s copy of `b` is told the shared
pool and `net1`'s pool, exactly -/
theorem gTwo_separated : LocsSeparated gTwo := by decide +kernel

example : LocsSeparated gTwo := gTwo_separated
example : passersThrough gTwo sTwo 3 "vm1" = [0] ∧
    locOf ((pullLocations gTwo sTwo 3).nd 3).getLoc "vm1" = some ":/pool/shared net1:/pool/swarm" ∧
    locOf ((pullLocations gTwo sTwo 3).nd 3).getLoc "vm2" = none := by decide +kernel
example := locations_exact gTwo gTwo_separated sTwo 3 rfl (by decide) rfl "vm1"
example := locations_accumulate gTwo gTwo_separated sTwo 3 rfl (by decide) "vm1" [] (tokAt_nil _ _)

/-! ### run level

`ReachableFrom g ncls store H`: the states reachable (steps of real workers with fuel, any interleaving and outcomes)
from the initial state in which exactly the nodes `H` are not parsed yet; `H = []` is a pre-parsed graph.  Every
`ReachableF` state is `ReachableFrom` some `H` (`ReachableF.from`) and conversely (`ReachableFrom.reachableF`). -/

/-- **(c1) The location invariant.**  In every reachable state, for every copy `n` and object `vm`, the entry
`get_location_<vm>` of `n` is the blank-join of a duplicate-free list `T` of location strings (no entry iff `T = []`),
and every listed string is justified NOW: it is the shared pool, or the pool of a worker `v` that has a PASS result on
a setup parent of `n` through `vm` — nothing spurious is ever listed, nothing twice. -/
theorem locations_invariant (g : Graph) (hsep : LocsSeparated g) (ncls : Nat) (store : List (String × List (String × String)))
    (s : State) (h : ReachableF g ncls store s) (n : Nat) (vm : String) :
    ∃ T : List String, T.Nodup ∧ locOf (s.nd n).getLoc vm = (if T = [] then none else some (joinLocs T)) ∧
      ∀ t ∈ T, t = sharedLoc ∨ ∃ p vms v, (p, vms) ∈ (g.node n).setup ∧ vm ∈ vms ∧
        v ∈ sharedResultWorkerIds g s p ∧ t = workerLoc g v := by
  obtain ⟨H, hr⟩ := h.from
  obtain ⟨T, h1, h2⟩ := (hr.linv hsep).toks n vm
  exact ⟨T, h1.nodup, h1.entry, fun t ht => (h2 t ht).cases⟩

/-- **(c2) The locations a started test is told.**  For every reachable state and every `start` event of a step, the
event's `locs` are the `get_location` record of the started copy `n` in a state `sd` of that step — for the phases
`plain` and `pre` the DECISION state (right after `pull_locations`, which `traverse_node` calls before the run
decision; no parse step lies between, so `vis g sd` is the graph the call saw), for `main` the state in which the
second half of an object root starts.  For every object `vm` the entry is the blank-join of a duplicate-free token
list `T` with:
* soundness (all phases): every token is the shared pool or the pool of a worker with a PASS result, in `sd`, on a setup
  parent of `n` through `vm`;
* completeness (`plain`, `pre`): every location of every setup edge through `vm` of the graph as parsed at that moment is
  a token; and `T` is what an earlier visit left (`T0`, a prefix) followed by the locations of `seqOf` not yet present, in
  order of first occurrence. -/
theorem start_locations_exact (g : Graph) (hsep : LocsSeparated g) (ncls : Nat) (store : List (String × List (String × String)))
    (s : State) (h : ReachableF g ncls store s) (w : Nat) (out : Outcome) (fuel : Nat)
    (wid cls uid : String) (locs : List (String × String)) (unk : Nat)
    (he : Event.start wid cls uid locs unk ∈ (resume g s w out fuel).2) :
    ∃ n ph sd, cls = clsName g n ph ∧ locs = (sd.nd n).getLoc ∧
      ∀ vm, ∃ T : List String, T.Nodup ∧ locOf locs vm = (if T = [] then none else some (joinLocs T)) ∧
        (∀ t ∈ T, t = sharedLoc ∨ ∃ p vms v, (p, vms) ∈ (g.node n).setup ∧ vm ∈ vms ∧
          v ∈ sharedResultWorkerIds g sd p ∧ t = workerLoc g v) ∧
        (ph ≠ .main →
          (∀ p vms, (p, vms) ∈ ((vis g sd).node n).setup → vm ∈ vms →
            ∀ t ∈ sharedLoc :: (sharedResultWorkerIds g sd p).map (workerLoc g), t ∈ T) ∧
          ∃ T0, T0 <+: T ∧ T = (seqOf (vis g sd) sd n vm).foldl pushNew T0) := by
  obtain ⟨H, hr⟩ := h.from
  obtain ⟨n, ph, sd, h1, h2, h3, h4⟩ := (resume_L hsep s w out fuel (hr.linv hsep)).2 _ he wid cls uid locs unk rfl
  refine ⟨n, ph, sd, h1, h2, fun vm => ?_⟩
  by_cases hph : ph = .main
  · obtain ⟨T, t1, t2⟩ := h3.toks n vm
    exact ⟨T, t1.nodup, by rw [h2]; exact t1.entry, fun t ht => (t2 t ht).cases, fun hm => absurd hph hm⟩
  · obtain ⟨T0, t1, t2⟩ := h4 hph vm
    refine ⟨_, t1.nodup, by rw [h2]; exact t1.entry, fun t ht => ?_, fun _ => ⟨fun p vms hp hvm t ht => ?_, T0, prefix_foldl_pushNew _ _, rfl⟩⟩
    · rcases (mem_foldl_pushNew _ _ t).mp ht with h' | h'
      · exact (t2 t h').cases
      · exact (Listed.ofVis (subVis_vis g sd) ((mem_seqOf _ sd n vm t).mp h')).cases
    · refine (mem_foldl_pushNew _ _ t).mpr (Or.inr ((mem_seqOf _ sd n vm t).mpr ⟨p, vms, hp, hvm, ?_⟩))
      rw [locsOf_static (sameStatic_vis g sd)]
      exact ht

/-- **(c3) Pre-parsed graphs: listed sources = shared pool ∪ exactly the passers.**  On a graph that is parsed before
the traversal (`H = []`), for every `start` event of phase `plain` or `pre` of a step from a reachable state and every
object `vm` carried by a setup edge of the started copy `n`: the entry exists, is the blank-join of a duplicate-free
token list `T`, and a string is a token iff it is the shared pool or the pool of a worker with a PASS result, in the
decision state `sd`, on a setup parent of `n` through `vm`.  In particular (`LocsSeparated`: distinct workers have
distinct strings) worker `v`'s pool is listed iff `v` passed a producer. -/
theorem start_locations_exact_preparsed (g : Graph) (hsep : LocsSeparated g) (ncls : Nat)
    (store : List (String × List (String × String))) (s : State) (h : ReachableFrom g ncls store [] s)
    (w : Nat) (out : Outcome) (fuel : Nat) (wid cls uid : String) (locs : List (String × String)) (unk : Nat)
    (he : Event.start wid cls uid locs unk ∈ (resume g s w out fuel).2) :
    ∃ n ph sd, cls = clsName g n ph ∧ locs = (sd.nd n).getLoc ∧
      (ph ≠ .main → ∀ vm, (∃ p vms, (p, vms) ∈ (g.node n).setup ∧ vm ∈ vms) →
        ∃ T : List String, T.Nodup ∧ locOf locs vm = some (joinLocs T) ∧
          (∀ t, t ∈ T ↔ t = sharedLoc ∨ ∃ p vms v, (p, vms) ∈ (g.node n).setup ∧ vm ∈ vms ∧
            v ∈ sharedResultWorkerIds g sd p ∧ t = workerLoc g v) ∧
          (∀ v, v < g.workers.length → (workerLoc g v ∈ T ↔
            ∃ p vms, (p, vms) ∈ (g.node n).setup ∧ vm ∈ vms ∧ v ∈ sharedResultWorkerIds g sd p))) := by
  obtain ⟨n, ph, sd, h1, h2, h3, h4⟩ := (resume_L hsep s w out fuel (h.linv hsep)).2 _ he wid cls uid locs unk rfl
  refine ⟨n, ph, sd, h1, h2, fun hph vm hedge => ?_⟩
  have hvis : vis g sd = g := vis_of_hidden_nil g sd h3.hid
  obtain ⟨T0, t1, t2⟩ := h4 hph vm
  rw [hvis] at t1
  have hmem : ∀ t, t ∈ (seqOf g sd n vm).foldl pushNew T0 ↔ Listed g sd n vm t := by
    intro t
    rw [mem_foldl_pushNew, mem_seqOf]
    exact ⟨fun h => h.elim (t2 t) id, Or.inr⟩
  have hiff : ∀ t, t ∈ (seqOf g sd n vm).foldl pushNew T0 ↔ t = sharedLoc ∨ ∃ p vms v, (p, vms) ∈ (g.node n).setup ∧
      vm ∈ vms ∧ v ∈ sharedResultWorkerIds g sd p ∧ t = workerLoc g v := by
    intro t
    rw [hmem]
    constructor
    · exact Listed.cases
    · rintro (rfl | ⟨p, vms, v, hp, hvm, hv, rfl⟩)
      · obtain ⟨p, vms, hp, hvm⟩ := hedge
        exact ⟨p, vms, hp, hvm, List.mem_cons_self⟩
      · exact ⟨p, vms, hp, hvm, List.mem_cons_of_mem _ (List.mem_map.mpr ⟨v, hv, rfl⟩)⟩
  have hne : (seqOf g sd n vm).foldl pushNew T0 ≠ [] := by
    intro h0
    have := (hiff sharedLoc).mpr (Or.inl rfl)
    rw [h0] at this
    cases this
  refine ⟨_, t1.nodup, ?_, hiff, fun v hv => ?_⟩
  · rw [h2, t1.entry]; unfold enc; simp [hne]
  · rw [hiff]
    constructor
    · rintro (h' | ⟨p, vms, v', hp, hvm, hv', he'⟩)
      · exact absurd h'.symm (hsep.shared_ne v hv)
      · have := hsep.inj v v' hv (mem_sharedResultWorkerIds_lt g sd p v' hv') he'
        subst this
        exact ⟨p, vms, hp, hvm, hv'⟩
    · rintro ⟨p, vms, hp, hvm, hv'⟩
      exact Or.inr ⟨p, vms, v, hp, hvm, hv', rfl⟩

/-- non-vacuity at run level (`gTwo`, pre-parsed): `net1` runs `a` (first step, never reported → second step with PASS),
goes on to its copy of `b` and starts it; the start event carries exactly the shared pool and `net1`'s own pool -/
def sTwo1 : State := (resume gTwo (initState gTwo 3 [] []) 0 ⟨none, 0⟩ 100).1

/- `sTwo1` is rewritten by its defining equation and not left to unification: asked whether `sTwo1` and `(resume …).1` are
the same term, elaborator and kernel both evaluate the run. -/
theorem sTwo1_reachable : ReachableFrom gTwo 3 [] [] sTwo1 := by
  rw [sTwo1]
  exact .step _ 0 ⟨none, 0⟩ 100 .init (by decide) (by decide)

/-- evaluated through `resumeP` (`Lemmas/TravEval.lean`), where the decoding of the node names is shared between the loop
iterations -/
theorem sTwo1_start : Event.start "net1" "1" "2a1" [("vm1", ":/pool/shared net1:/pool/swarm")] 1 ∈
    (resume gTwo sTwo1 0 ⟨some "PASS", 1⟩ 100).2 := by
  rw [sTwo1, resume_eq_resumeP (initState_hidden gTwo 3 []),
    resume_eq_resumeP ((hidden_resumeP ..).trans (initState_hidden gTwo 3 []))]
  decide +kernel

example : ReachableFrom gTwo 3 [] [] sTwo1 := sTwo1_reachable

set_option maxRecDepth 100000 in
example : Event.start "net1" "1" "2a1" [("vm1", ":/pool/shared net1:/pool/swarm")] 1 ∈
    (resume gTwo sTwo1 0 ⟨some "PASS", 1⟩ 100).2 := sTwo1_start

set_option maxRecDepth 100000 in
example := start_locations_exact_preparsed gTwo gTwo_separated 3 [] sTwo1 sTwo1_reachable 0 ⟨some "PASS", 1⟩ 100
  "net1" "1" "2a1" [("vm1", ":/pool/shared net1:/pool/swarm")] 1 sTwo1_start

set_option maxRecDepth 100000 in
example := start_locations_exact gTwo gTwo_separated 3 [] sTwo1 sTwo1_reachable.reachableF 0 ⟨some "PASS", 1⟩ 100
  "net1" "1" "2a1" [("vm1", ":/pool/shared net1:/pool/swarm")] 1 sTwo1_start

example := locations_invariant gTwo gTwo_separated 3 [] sTwo1 sTwo1_reachable.reachableF 2 "vm1"

/-! ## which pool a state request addresses (closing part of the model gap "worker ids that are substrings of one another")

`scan_states`, `sync_states` and the test itself work with the parameters of the node COPY (`node.params["nets"]`): the pool
examined, changed or filled is that of the worker the copy was parsed for - `g.netOf n w` in the model - whoever acts on
the copy.  The acting worker's id only decides WHETHER it acts (`worker.id in params["name"]`, a substring test).  An earlier
version of the model used the acting worker's pool; the two agree exactly when a worker acts on its own copies
(`netOf_of_owner`, i.e. always under `OwnerNames`), and differ under finding F4 (`foreign_copy_request_goes_to_foreign_pool`:
the first block of `corpus/C08/worker-id-substring.json`, which the model now reproduces). -/

/-- on its own copy the acting worker's pool is addressed -/
theorem netOf_of_owner (g : Graph) (n w : Nat) (h : (g.node n).owner = some w) : g.netOf n w = w := by
  unfold Graph.netOf; rw [h]; rfl

/-- a parsed copy a worker cares for (`relevant`) is addressed through that worker's own pool, provided the worker's id
occurs in the copy's name only if the copy is its own - for this pair; `OwnerNames g` of `Lemmas/TravReady.lean`, the
hypothesis of the ownership theorems, says so for all pairs -/
theorem netOf_of_relevant (g : Graph) (n w : Nat) (hO : g.idIn w n = true → (g.node n).owner = some w)
    (hf : (g.node n).flat = false) (hrel : relevant g w n = true) : g.netOf n w = w := by
  unfold relevant at hrel
  rw [hf, Bool.false_or] at hrel
  exact netOf_of_owner g n w (hO hrel)

/-- every request `scan_states` / `sync_states` send to the state control names the pool of the copy's own worker -/
theorem state_requests_address_copy_pool (g : Graph) (s : State) (n w : Nat) (rv : Option (List String)) :
    ∀ e ∈ (scanStates g s n w).2 ++ (syncStates g s n w rv).2,
      ∃ act reqs sc ok, e = Event.door (g.worker (g.netOf n w)).id act reqs sc ok := by
  have one : ∀ {e wid act reqs sc ok}, e ∈ [Event.door wid act reqs sc ok] → ∃ act reqs sc ok, e = .door wid act reqs sc ok :=
    fun he => ⟨_, _, _, _, List.mem_singleton.mp he⟩
  intro e he
  rcases List.mem_append.mp he with he | he
  · revert he
    fun_cases scanStates g s n w with
    | case1 => exact fun he => nomatch he
    | case2 => exact one
  · revert he
    fun_cases syncStates g s n w rv with
    | case1 => exact fun he => nomatch he
    | case2 | case3 => exact one

/-- the corpus case `corpus/C08/worker-id-substring.json` (workers `net11`, `net1`; a setup test `setup01` that sets
`vm1/s01`, two leaves; `pool_scope=own`), as the harness describes it to the driver -/
def gF4 : Graph :=
  let nd := fun (cls : Nat) (owner : Nat) (name pfx : String) (rank : Nat) (sets gets : List (String × String))
      (setup cleanup : List (Nat × List String)) =>
    ({ cls := cls, owner := some owner, name := name, pfx := pfx, rank := rank, sets := sets, gets := gets,
       maxTries := some 1, timeout := 100, shape := .own, scope := ["own"], objs := ["vms_vm1", "vm1"],
       setup := setup, cleanup := cleanup } : Node)
  { workers := [{ id := "net11", swarm := "localhost" }, { id := "net1", swarm := "localhost" }],
    nodes := [
      nd 0 0 "all.setup01.vms.vm1.varvm1.nets.localhost.net11" "1a1" 3 [("vm1", "s01")] [] [(6, ["vm1"])]
        [(1, ["vm1"]), (2, ["vm1"])],
      nd 1 0 "normal.nongui.leaf0.vms.vm1.varvm1.nets.localhost.net11" "1" 0 [] [("vm1", "s01")] [(0, ["vm1"])] [],
      nd 2 0 "normal.nongui.leaf1.vms.vm1.varvm1.nets.localhost.net11" "2" 5 [] [("vm1", "s01")] [(0, ["vm1"])] [],
      nd 0 1 "all.setup01.vms.vm1.varvm1.nets.localhost.net1" "1a1" 4 [("vm1", "s01")] [] [(6, ["vm1"])]
        [(4, ["vm1"]), (5, ["vm1"])],
      nd 1 1 "normal.nongui.leaf0.vms.vm1.varvm1.nets.localhost.net1" "1" 1 [] [("vm1", "s01")] [(3, ["vm1"])] [],
      nd 2 1 "normal.nongui.leaf1.vms.vm1.varvm1.nets.localhost.net1" "2" 6 [] [("vm1", "s01")] [(3, ["vm1"])] [],
      { cls := 3, owner := none, name := "all.internal.stateless.noop", pfx := "1", flat := true, sharedRoot := true,
        rank := 2, timeout := 3600, scope := [], cleanup := [(0, ["vm1"]), (3, ["vm1"])] }],
    root := 6 }

set_option maxRecDepth 100000 in
/-- **F4 at the level of the state control** (`decide`; this is block 0 of the real run of the corpus case, event for
event): `net1`'s id occurs in the name of `net11`'s copy of `setup01` (node 0), which it therefore cares for and - the copy
comes first among the root's children - picks; the `check` request it sends names `net11`'s pool (the copy's parameters),
and the test it then starts is `net11`'s copy, executed by `net1`.  `netOf` is not the acting worker here: the hypothesis of
`netOf_of_relevant` (and with it `OwnerNames`) fails for exactly this pair. -/
theorem foreign_copy_request_goes_to_foreign_pool :
    (resume gF4 (initState gF4 4 []) 1 ⟨none, 0⟩ 100).2 =
      [Event.door "net11" "check" [("vm1", "s01")] ["own"] false,
       Event.start "net1" "0" "1a1" [("vm1", ":/pool/shared")] 1] ∧
    relevant gF4 1 0 = true ∧ (gF4.node 0).owner = some 0 ∧ gF4.netOf 0 1 = 0 ∧
    ((resume gF4 (initState gF4 4 []) 1 ⟨none, 0⟩ 100).1.nd 0).started = some 1 ∧
    gF4.idIn 1 0 = true := by
  rw [resume_eq_resumeP (initState_hidden gF4 4 [])]
  decide +kernel

/-- non-vacuity of `netOf_of_relevant`: in `gTwo` (ids `net1`, `net2`) `net2` cares for its copy of `b` (node 3), which
is its own, and addresses its own pool -/
example : gTwo.netOf 3 1 = 1 := netOf_of_relevant gTwo 3 1 (fun _ => rfl) rfl (by decide +kernel)

end I2N.Props.C08

/-! ## Translator tie: `shared_result_worker_ids` is the Python source (`harness/pygen_pxready.py`)

`Extracted/GenLoc.lean` is regenerated on every run from the CURRENT source of the property
`TestNode.shared_result_worker_ids` (the workers whose pools `pull_locations` names): the loop over the shared results, the
`continue` for every status but `PASS`, the first worker id that is a SUBSTRING of the result's name, `add` + `break`. -/
namespace I2N.Props.C08
open I2N.Trav
open I2N.Extracted.GenLoc

/-- **The hand written `sharedResultWorkerIds` is the Python source of `shared_result_worker_ids`**, as sets: the Python
returns a `set` of worker ids (the generated list stands for its elements; a set has no order and no repetitions), the
model a duplicate-free list of worker indices; the ids of the model's workers are exactly the elements of the Python's set.
For every graph (any number of workers, also with ids that are substrings of one another or equal), state and node.
No hypotheses.  Atoms: `self.shared_results` = `sharedResults`, the ids of `TestSwarm.run_swarms` in swarm / worker order =
`g.workers.map (·.id)`. -/
theorem sharedResultWorkerIds_matches_source (g : Graph) (s : State) (n : Nat) (x : String) :
    x ∈ genSharedResultWorkerIds (sharedResults g s n) (g.workers.map (·.id)) ↔
      x ∈ (sharedResultWorkerIds g s n).map (fun w => (g.worker w).id) :=
  I2N.GenLoc.mem_genSharedResultWorkerIds g s n x

/-- the locations `pullLocations` adds for a parent `p` are the shared pool and one `<id>:/pool/swarm` per element of the
Python's set (`workerLoc g v = id v ++ ":/pool/swarm"`): the list the model folds over names exactly the ids generated
from the source -/
theorem pull_locations_names_source_ids (g : Graph) (s : State) (p : Nat) (loc : String) :
    loc ∈ (sharedResultWorkerIds g s p).map (workerLoc g) ↔
      ∃ x ∈ genSharedResultWorkerIds (sharedResults g s p) (g.workers.map (·.id)), loc = x ++ ":/pool/swarm" := by
  constructor
  · intro h
    obtain ⟨w, hw, rfl⟩ := List.mem_map.1 h
    exact ⟨(g.worker w).id, (sharedResultWorkerIds_matches_source g s p _).2 (List.mem_map.2 ⟨w, hw, rfl⟩), rfl⟩
  · rintro ⟨x, hx, rfl⟩
    obtain ⟨w, hw, rfl⟩ := List.mem_map.1 ((sharedResultWorkerIds_matches_source g s p _).1 hx)
    exact List.mem_map.2 ⟨w, hw, rfl⟩

/-- the generated definition computes: only PASS results count, the FIRST id contained in the name wins (`net1` before
`net11`: the substring identity F4), a result naming no worker adds nothing -/
example :
    genSharedResultWorkerIds
      [{ name := "a.net11", status := "PASS", uid := "1" }, { name := "a.net2", status := "FAIL", uid := "2" },
       { name := "b.net2", status := "PASS", uid := "3" }, { name := "c", status := "PASS", uid := "4" }]
      ["net1", "net11", "net2"] = ["net1", "net2"] := by decide +kernel

end I2N.Props.C08
