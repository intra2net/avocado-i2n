import I2N.Lemmas.PolicyFrame
import I2N.Lemmas.PolicyGenChain
import I2N.Lemmas.PolicyGenIter
import I2N.Lemmas.PolicyIterStable
/-!
# C12 — State operations follow the documented policy table and a store model

"For every kind of stateful object, for root and ordinary states, and for every combination of state
presence and get/set/unset/check mode letters, the state operations perform exactly the documented action:
reuse, ignore, force or abort.  An abort or an invalid policy raises without altering any state, objects and
types not addressed by the parameters are never touched, and any sequence of check/get/set/unset/push/pop
calls leaves exactly the states that a plain set-of-names model predicts."

The theorems are about `I2N.Policy` (`Model/Policy.lean`), the very definitions `drv_policy` runs.
All of them quantify over arbitrary parameter dictionaries, stores, backends and mode strings (no bound).
`docAction` / `perform` (`Spec/Policy.lean`) are the README table and the meaning of its four actions.
-/
set_option linter.unusedSimpArgs false

namespace I2N.Props.C12
open I2N.Policy I2N.Extracted.Policy

/-! ## 1. the policy chains are the documented table -/

/-- get/set/unset: whatever the letters, the presence of the state, the kind of state (root keyword or
ordinary), the backend and the store are, the `if/elif` chain of the code performs exactly the action the
README table assigns to the letter in charge (`invalid` for every letter the table does not list). -/
theorem table_act (d : Do) (b : String) (sourced : Bool) (cp : Params) (state : String) (c1 c2 : Char)
    (exist : Bool) (st : St) :
    act d b sourced cp state c1 c2 exist st
      = perform d (docAction d exist c1 c2) b sourced cp state exist st :=
  act_table d b sourced cp state c1 c2 exist st

theorem table_get (b cp state c1 c2 exist st) :
    getAct b cp state c1 c2 exist st = perform .get (docAction .get exist c1 c2) b false cp state exist st :=
  act_table .get b false cp state c1 c2 exist st

theorem table_set (b sourced cp state c1 c2 exist st) :
    setAct b sourced cp state c1 c2 exist st
      = perform .set (docAction .set exist c1 c2) b sourced cp state exist st :=
  act_table .set b sourced cp state c1 c2 exist st

theorem table_unset (b cp state c1 c2 exist st) :
    unsetAct b cp state c1 c2 exist st
      = perform .unset (docAction .unset exist c1 c2) b false cp state exist st :=
  act_table .unset b false cp state c1 c2 exist st

/-- the whole step for one object: when the object is not skipped, a state is asked for, and the look-ups of
backend and mode letters succeed, the step is the documented action for the presence *reported by the nested
check*, performed on the state the nested check left -/
theorem table_step (B : Backends) (d : Do) (sp : Params) (st : St) (state : String)
    (hg : guardSkip sp = .ok false) (ht : sp.truthy d.stateKey = some state)
    (hne : ∀ e, (doOne B d sp st).1 = .error e →
      (doOne B d sp st).2 ≠ (checkStates B (doParams d sp) st).2) :
    ∃ exist b sourced c1 c2, (checkStates B (doParams d sp) st).1 = .ok exist ∧
      backendOf B (doParams d sp) = .ok (b, sourced) ∧
      letters ((doParams d sp).getD d.modeKey "") = some (c1, c2) ∧
      doOne B d sp st = perform d (docAction d exist c1 c2) b sourced (doParams d sp) state exist
        (checkStates B (doParams d sp) st).2 := by
  rcases doOne_shape B d sp st with ⟨_, h | h⟩ | ⟨state', _, ht', h2⟩
  · exact absurd hg h
  · rw [ht] at h; exact absurd h (by simp)
  · rw [ht] at ht'; cases ht'
    rcases h2 with ⟨e, h3, h4⟩ | ⟨exist, b, sourced, c1, c2, h3, h4, h5, h6⟩
    · exact absurd h4 (hne e h3)
    · exact ⟨exist, b, sourced, c1, c2, h3, h4, h5, by rw [h6, act_table]⟩

/-- check: the answer of one state check is "the root exists afterwards and the state is a root keyword or
among the names of the object" -/
theorem table_check_answer (b : String) (sp : Params) (state : String) (c1 c2 : Char) (st st' : St) (v : Bool)
    (h : checkCore b sp state c1 c2 st = (.ok v, st')) :
    v = ((st'.store.obj (keyOf sp)).root &&
      (roots.contains state || (st'.store.obj (keyOf sp)).names.contains state)) := by
  revert h
  fun_cases checkCore b sp state c1 c2 st <;> intro h <;> cases h
  -- `return False`: the root is missing and is not forced
  case case2 hr =>
    have hv := rootPhase_val b sp c1 c2 st
    have ho := rootPhase_obj b sp c1 c2 st (keyOf sp)
    rw [hr] at hv ho
    grind
  case case3 hk hr => simp_all [rootPhase_root _ _ _ _ _ _ _ hr]
  case case4 hr _ _ hs => cases hs; simp_all [rootPhase_root _ _ _ _ _ _ _ hr]

/-- check: the root prerequisite, letter by letter (`check_mode` is not in the README; this is the behaviour
the code comments describe): a missing root is created by `.f`, answers "no" by `.r`, and is an invalid
policy for every other letter; an existing root is recreated by `f.` and reused by every other letter -/
theorem table_check_root (b : String) (sp : Params) (c1 c2 : Char) (st : St) :
    ((st.store.obj (keyOf sp)).root = false → c2 = 'f' →
      (rootPhase b sp c1 c2 st).1 = .ok (some ()) ∧
        ((rootPhase b sp c1 c2 st).2.store.obj (keyOf sp)).root = true) ∧
    ((st.store.obj (keyOf sp)).root = false → c2 = 'r' →
      (rootPhase b sp c1 c2 st).1 = .ok none ∧ (rootPhase b sp c1 c2 st).2.store = st.store) ∧
    ((st.store.obj (keyOf sp)).root = false → c2 ≠ 'f' → c2 ≠ 'r' →
      (rootPhase b sp c1 c2 st).1 = .error .invalidPolicy ∧ (rootPhase b sp c1 c2 st).2.store = st.store) ∧
    ((st.store.obj (keyOf sp)).root = true →
      (rootPhase b sp c1 c2 st).1 = .ok (some ()) ∧ Eqv st (rootPhase b sp c1 c2 st).2) := by
  have hv := rootPhase_val b sp c1 c2 st
  refine ⟨fun hr h2 => ?_, fun hr h2 => ?_, fun hr h2 h3 => ?_, fun hr => ?_⟩
  · rw [hv, rootPhase_obj]; simp [hr, h2]
  · rw [hv]; subst h2; simp [rootPhase, hr]
  · rw [hv]; simp [rootPhase, hr, h2, h3]
  · exact ⟨by simp [hv, hr], rootPhase_eqv b sp c1 c2 st (Or.inl hr)⟩

/-! ### what the documented actions do to the set of names -/

/-- abort, invalid and ignore do nothing at all; reuse does not change the store -/
theorem perform_passive (d : Do) (a : Action) (b sourced cp state present st)
    (h : a = .abort ∨ a = .invalid ∨ a = .ignore ∨ a = .reuse) :
    (perform d a b sourced cp state present st).2.store = st.store := by
  rcases h with h | h | h | h <;> subst h <;> simp only [perform]
  cases d <;> simp only []
  split <;> rfl

/-- force of `set` on an ordinary state: afterwards the state is among the names of the object
(`set_state` is the parameter the backend reads) -/
theorem force_set_creates (b sourced cp state present st st')
    (hs : cp.getD "set_state" "" = state) (hk : roots.contains state = false)
    (h : perform .set .force b sourced cp state present st = (.ok (), st')) :
    state ∈ (st'.store.obj (keyOf cp)).names := by
  have hs' : (cp.set "unset_state" state).getD "set_state" "" = state := by
    rw [Params.getD_set_ne _ _ _ (by decide)]; exact hs
  cases present
  · simp only [perform, create, hk, Bool.false_eq_true, if_false, bCheckRoot_val] at h
    by_cases hroot : (st.store.obj (keyOf cp)).root = true
    · rw [if_pos hroot] at h
      simp only [Prod.mk.injEq, true_and] at h
      subst h
      rw [bSet_obj]; simp [hs]
    · rw [if_neg hroot] at h; simp at h
  · simp only [perform, create, hk, Bool.false_eq_true, if_false, if_true] at h
    simp only [Prod.mk.injEq, true_and] at h
    subst h
    rw [bSet_obj, keyOf_unsetState]; simp [hs']

/-- force of `set` on a root keyword: afterwards the root exists -/
theorem force_set_creates_root (b sourced cp state present st st')
    (hk : roots.contains state = true)
    (h : perform .set .force b sourced cp state present st = (.ok (), st')) :
    (st'.store.obj (keyOf cp)).root = true := by
  cases present
  · simp only [perform, create, hk, Bool.false_eq_true, if_false, if_true] at h
    simp only [Prod.mk.injEq, true_and] at h
    subst h
    rw [bSetRoot_obj]; simp
  · simp only [perform, create, hk, if_true] at h
    simp only [Prod.mk.injEq, true_and] at h
    subst h
    rw [bSetRoot_obj, keyOf_unsetState]; simp
/-- force of `unset`: afterwards the state is gone (`unset_state` is the parameter the backend reads) -/
theorem force_unset_removes (b sourced cp state present st)
    (hs : cp.getD "unset_state" "" = state) :
    let st' := (perform .unset .force b sourced cp state present st).2
    if roots.contains state then (st'.store.obj (keyOf cp)).root = false
    else state ∉ (st'.store.obj (keyOf cp)).names := by
  simp only [perform, remove]
  cases hk : roots.contains state
  · simp only [Bool.false_eq_true, if_false]
    rw [bUnset_obj]; simp [hs]
  · simp only [if_true]; rw [bUnsetRoot_obj]; simp

/-- force never changes whether any *other* name is present -/
theorem force_other_names (d : Do) (b sourced cp state present st) (n : String)
    (hs : cp.getD (if d = .set then "set_state" else "unset_state") "" = state) (hn : n ≠ state) :
    n ∈ ((perform d .force b sourced cp state present st).2.store.obj (keyOf cp)).names ↔
      n ∈ (st.store.obj (keyOf cp)).names := by
  have hu : (cp.set "unset_state" state).getD "unset_state" "" = state := Params.getD_set_self _ _ _ _
  cases d
  · simp [perform]
  · have hs' : cp.getD "set_state" "" = state := by simpa using hs
    have hs'' : (cp.set "unset_state" state).getD "set_state" "" = state := by
      rw [Params.getD_set_ne _ _ _ (by decide)]; exact hs'
    simp only [perform, create, remove]
    cases hk : roots.contains state <;> cases present <;> cases sourced <;>
      simp only [Bool.false_eq_true, if_false, if_true, Bool.not_false, Bool.not_true, Bool.and_true,
        Bool.and_false, Bool.true_and, bCheckRoot_val]
    all_goals first
      | (by_cases hroot : (st.store.obj (keyOf cp)).root = true
         · simp [hroot, bSet_obj, hs', hn]
         · simp [hroot])
      | simp [bSet_obj, bUnset_obj, bSetRoot_obj, bUnsetRoot_obj, keyOf_unsetState, hs'', hu, hn, Ne.symm hn]
  · have hs' : cp.getD "unset_state" "" = state := by simpa using hs
    simp only [perform, remove]
    cases hk : roots.contains state
    · simp [bUnset_obj, hs', hn]
    · simp [bUnsetRoot_obj]
/-! ## 2. an abort or an invalid policy raises without altering any state -/

/-- *Partial.*  Any exception out of one get/set/unset step (abort, invalid policy, and also the look-up
errors) leaves every object exactly as it was — provided the nested check does not create a root, i.e. for
every object it iterates over the root already exists or the second letter of `check_mode` is not `f`.

The full statement (without `NoForce`) is **false** for the code as it is: the default `check_mode` is `rf`,
so the nested check creates a missing root *before* the policy chain aborts (`abort_frame_witness`). -/
theorem abort_frame_partial (B : Backends) (d : Do) (sp : Params) (st : St) (e : Err)
    (hn : NoForce (doParams d sp) st) (h : (doOne B d sp st).1 = .error e) :
    ∀ k, (doOne B d sp st).2.store.obj k = st.store.obj k :=
  doOne_error_eqv B d sp st e hn h

/-- *Partial* (same hypothesis), for a whole call: the store after a raising call is the store the objects
*before* the raising one left — the object the exception is raised on contributes nothing, and the objects
after it are not looked at. -/
theorem abort_frame_call_partial (B : Backends) (d : Do) (p : Params) (st st' : St) (e : Err)
    (h : doStates B d p st = (.error e, st')) (hv : iterObjects p ≠ .error e ∨ st' ≠ st) :
    ∃ pre sp post st1, iterObjects p = .ok (pre ++ sp :: post) ∧
      loopM (doOne B d) pre st = (.ok (), st1) ∧ (doOne B d sp st1).1 = .error e ∧
      (NoForce (doParams d sp) st1 → ∀ k, st'.store.obj k = st1.store.obj k) := by
  unfold doStates at h
  rcases hi : iterObjects p with e1 | l
  · rw [hi] at h hv
    simp only [Prod.mk.injEq, Except.error.injEq] at h
    obtain ⟨he, hs⟩ := h
    subst he
    rcases hv with hv | hv
    · exact absurd rfl hv
    · exact absurd hs.symm hv
  · rw [hi] at h
    obtain ⟨pre, sp, post, st1, hl, hp, hf⟩ := loopM_error_split _ l st st' e h
    refine ⟨pre, sp, post, st1, by rw [hl], hp, by rw [hf], fun hn k => ?_⟩
    have := doOne_error_eqv B d sp st1 e hn (by rw [hf])
    rw [hf] at this
    exact this k

/-! ## 3. objects and types not addressed by the parameters are never touched -/

/-- an object outside `addressed op p` — a list computed from the parameters alone: the objects of the
iteration that are not skipped (`skip_types`, read-only image, no state asked for), as the nested check and
the backend see them — keeps its root and its names, whatever the call does and however it ends -/
theorem frame_other (B : Backends) (op : Op) (p : Params) (st : St) (k : Key) (h : k ∉ addressed op p) :
    (runOp B op p st).2.store.obj k = st.store.obj k :=
  runOp_same B op p st k h

/-- the same for any sequence of calls (exceptions are caught by the caller and the sequence goes on) -/
theorem frame_other_seq (B : Backends) (ops : List (Op × Params)) (st : St) (k : Key)
    (h : ∀ o ∈ ops, k ∉ addressed o.1 o.2) : (runSeq B ops st).store.obj k = st.store.obj k :=
  runSeq_same B k ops st h

/-- *Partial.*  check/get/set/unset do nothing at all — no backend call, no change — on an object whose type
is in `skip_types` or that is a read-only image.  For push/pop the statement is **false** for the code as it
is (`push_touches_readonly`): they hand the object to `set_states`/`get_states`/`unset_states` with
`states_chain` cut down to the last type, so the guards compare `"images"` with `"nets/vms/images"`. -/
theorem skip_guard_partial (B : Backends) (sp : Params) (st : St) (hg : guardSkip sp = .ok true) :
    checkOne B sp st = (.ok true, st) ∧ ∀ d, doOne B d sp st = (.ok (), st) := by
  refine ⟨by simp [checkOne, hg], fun d => by simp [doOne, hg]⟩

/-! ## 4. check and get never alter ordinary states and never lose a root -/

theorem check_get_monotone (B : Backends) (p : Params) (st : St) (k : Key) :
    (((checkStates B p st).2.store.obj k).names = (st.store.obj k).names ∧
      ((st.store.obj k).root = true → ((checkStates B p st).2.store.obj k).root = true)) ∧
    (((doStates B .get p st).2.store.obj k).names = (st.store.obj k).names ∧
      ((st.store.obj k).root = true → ((doStates B .get p st).2.store.obj k).root = true)) :=
  ⟨checkStates_mono B p st k, doStates_get_mono B p st k⟩

/-! ## 5. the literals extracted from /repo are the ones the table is about -/

/-- the `if/elif` chains of get/set/unset_states, as extracted from the AST on this run, test exactly the
letters of the README table in the order the model mirrors -/
theorem extracted_chains_match : chains =
    [("get", false, "a"), ("get", false, "i"), ("get", false, "*"), ("get", true, "a"), ("get", true, "r"),
     ("get", true, "i"), ("get", true, "*"),
     ("set", true, "a"), ("set", true, "r"), ("set", true, "f"), ("set", true, "*"), ("set", false, "a"),
     ("set", false, "f"), ("set", false, "*"),
     ("unset", false, "a"), ("unset", false, "i"), ("unset", false, "*"), ("unset", true, "r"),
     ("unset", true, "f"), ("unset", true, "*")] := by decide +kernel

/-- every default mode string of the code has two letters and both are cells of the documented table
(a changed default that leaves the table breaks this) -/
theorem defaults_documented (d : Do) (present : Bool) :
    (letters d.dMode).map (fun c => decide (docAction d present c.1 c.2 ≠ .invalid)) = some true := by
  cases d <;> cases present <;> decide +kernel

/-- the defaults this model was proved against -/
theorem defaults_pinned :
    (dCheckMode, dGetMode, dSetMode, dUnsetMode, dPushMode, dPopGetMode, dPopUnsetMode)
      = ("rf", "ra", "ff", "fi", "af", "ra", "fa") ∧
    roots = ["root", "0root", "boot", "0boot"] ∧ rootScope = "own" ∧
    readonlyType = "nets/vms/images" ∧ destroyType = "nets/vms" := by decide +kernel

/-! ## non-vacuity and witnesses (closed evaluations of the model the driver runs) -/

def errOf {α : Type} (r : Except Err α) : Option Err :=
  match r with
  | .error e => some e
  | .ok _ => none

def B0 : Backends := [("mem", false), ("memsrc", true)]

/-- one net, one vm with two images, `get_state_images = launch` -/
def p0 (getMode : String) (extra : Params := []) : Params :=
  [("nets", "net1"), ("vms", "vm1"), ("images_vm1", "image1 image2"), ("states_chain", "nets vms images"),
   ("states_nets", "mem"), ("states_vms", "mem"), ("states_images", "mem"),
   ("get_state_images", "launch"), ("get_mode", getMode)] ++ extra

def kImg (i : String) : Key := ⟨"images", "net1", "vm1", i⟩
def kVm : Key := ⟨"vms", "net1", "vm1", ""⟩

/-- both images have the state and their roots -/
def s0 : St := { store := [(kImg "image1", ⟨true, ["launch"]⟩), (kImg "image2", ⟨true, ["launch", "x"]⟩),
                           (kVm, ⟨false, ["y"]⟩)] }

open I2N.PolicyIterM I2N.Extracted.GenIter I2N.PolicyGenIter in
/-- What is evaluated on the standard dictionary `p0 "ra"` — `get_states` on the store `s0` and on the empty store
(`abort_frame_witness`), the addressed objects, the generated iteration — from ONE kernel evaluation.  Most of every such
fact is the same work (the object iteration over the dictionary, every look-up a comparison of decoded strings); a
`decide` per fact would do it again. -/
theorem p0_run :
    ((errOf (runOp B0 .get (p0 "ra") s0).1 = none ∧
        ((runOp B0 .get (p0 "ra") s0).2.calls.filter (·.kind == .get)).map (·.key) = [kImg "image1", kImg "image2"] ∧
        (runOp B0 .get (p0 "ra") s0).2.store = s0.store) ∧
      addressed .get (p0 "ra") = [kImg "image1", kImg "image1", kImg "image2", kImg "image2"] ∧
      kVm ∉ addressed .get (p0 "ra")) ∧
    (errOf (runOp B0 .get (p0 "ra") {}).1 = some .abort ∧
      (({} : St).store.obj (kImg "image1")).root = false ∧
      ((runOp B0 .get (p0 "ra") {}).2.store.obj (kImg "image1")).root = true ∧
      (runOp B0 .get (p0 "ra") {}).2.calls.map (·.kind) = [.checkRoot, .setRoot, .show]) ∧
    ((topStable (p0 "ra") = true ∧ ((p0 "ra").objects "states_chain").length ≤ 2 + 1) ∧
      (((genIterLevel (iterFuel 2) (p0 "ra") true ⟨[], []⟩).2.out.map (fun sp => sp.getD "object_name" "")) =
          ["net1/vm1/image1", "net1/vm1/image2", "net1/vm1", "net1"] ∧
        (genIterLevel (iterFuel 2) (p0 "ra") true ⟨[], []⟩).2.comps = []) ∧
      (∀ kv ∈ p0 "ra", chainKey kv.1 = false) ∧ ∀ t ∈ (p0 "ra").objects "states_chain", okType t = true) := by
  decide +kernel

/-- NV of the table: `get_mode=ra`, state present on both images: the action is `reuse`, `get` is called
once per image, nothing changes -/
example : docAction .get true 'r' 'a' = .reuse := by decide
example : errOf (runOp B0 .get (p0 "ra") s0).1 = none ∧
    ((runOp B0 .get (p0 "ra") s0).2.calls.filter (·.kind == .get)).map (·.key) = [kImg "image1", kImg "image2"] ∧
    (runOp B0 .get (p0 "ra") s0).2.store = s0.store := p0_run.1.1

/-- NV of `frame_other` / `addressed`: only the two images are addressed (each by the nested check and by
the backend call); the vm and the net are not -/
example : addressed .get (p0 "ra") = [kImg "image1", kImg "image1", kImg "image2", kImg "image2"] := p0_run.1.2.1
example : kVm ∉ addressed .get (p0 "ra") := p0_run.1.2.2
/-- with `skip_types` naming the image type nothing is addressed -/
example : addressed .get (p0 "ra" [("skip_types", "nets/vms/images")]) = [] := by decide +kernel

/-- NV of `abort_frame_partial`: `check_mode=rr`, roots and state absent: the call aborts, `NoForce` holds
(second letter `r`), the store is untouched -/
example : errOf (runOp B0 .get (p0 "ra" [("check_mode", "rr")]) {}).1 = some .abort ∧
    (runOp B0 .get (p0 "ra" [("check_mode", "rr")]) {}).2.store = [] := by decide +kernel

/-- **Witness that `abort_frame` does not hold at full strength** (finding F7, key
`abort-creates-root-via-default-check-mode`): defaults only, root and state absent, `get_mode=ra`:
`get_states` raises TestAbortError *after* `set_root` created the root of image1. -/
theorem abort_frame_witness :
    errOf (runOp B0 .get (p0 "ra") {}).1 = some .abort ∧
    (({} : St).store.obj (kImg "image1")).root = false ∧
    ((runOp B0 .get (p0 "ra") {}).2.store.obj (kImg "image1")).root = true ∧
    (runOp B0 .get (p0 "ra") {}).2.calls.map (·.kind) = [.checkRoot, .setRoot, .show] := p0_run.2.1

/-- **Witness that push/pop ignore the read-only guard** (finding F9, key `push-pop-touch-readonly-image`):
all images are read-only; `set_states` skips them, `push_states` sets the state on them. -/
theorem push_touches_readonly :
    let p : Params := (p0 "ra" [("image_readonly", "yes"), ("set_state_images", "s"), ("push_state_images", "s"),
      ("push_mode", "ff")])
    (runOp B0 .set p s0).2.store = s0.store ∧
    "s" ∈ ((runOp B0 .push p s0).2.store.obj (kImg "image1")).names := by
  decide +kernel

/-! ## 6. translator tie: the model IS the current source of `states/setup.py`

`I2N.Extracted.GenPolicy` is regenerated on every run by `harness/pygen_pxpolicy.py` (front end) + `harness/pygen.py`
(Python AST -> Lean `do` block, fails closed) from the CURRENT text of `check_states`, `get_states`, `set_states`,
`unset_states`, `push_states`: ONE ITERATION of their loop over `_parametric_object_iteration(run_params)`, statement by
statement — the two `continue` guards, the "no state asked for" test, the default mode written back, the nested
`_state_check_chain` call, the three look-ups in source order, the two mode letters, the whole `if/elif` chain, the
ROOTS test, the `SourcedStateBackend` special case, the backend calls — in the monad `I2N.PolicyM.M` (a statement
sequence that may raise and keeps the state it reached: `state_params`, `root_params`, store and ordered log of backend
calls).  The theorems say that this equals the hand model's function for ALL dictionaries, stores, backends: same result
or error AND same store AND same ordered backend calls (`outOf` only forgets the two dictionaries, which are local to
the iteration).  An edit of the Python changes the generated Lean and these theorems stop compiling. -/

section Regenerated
open I2N.PolicyM I2N.Extracted.GenPolicy

/-- what the hand model assumes about the state key of get/set/unset (and push): rewriting the parameters for the nested
call does not change it.  The code re-reads `state_params["get_state"]` AFTER `_state_check_chain` wrote every component
`type = name` of the object into the same dictionary; the hand model keeps the value it read before.  The two differ only
when a component of `states_chain` is itself called `get_state` / `set_state` / `unset_state` (`noClash_of_types`). -/
def NoClash (d : Do) (sp : Params) : Prop := (doParams d sp).getD d.stateKey "" = sp.getD d.stateKey ""

instance (d : Do) (sp : Params) : Decidable (NoClash d sp) := by unfold NoClash; infer_instance

/-- a sufficient condition on the parameters alone: no component of the object's type is named like the state key -/
theorem noClash_of_types (d : Do) (sp : Params) (h : d.stateKey ∉ splitSlash (typeOf sp)) : NoClash d sp :=
  I2N.PolicyGen.doParams_stateKey d sp h

/-- **one iteration of `get_states` is `doOne .get`** (guards, default `get_mode`, nested check, look-ups, the chain
`.a .i . a. r. i. .`, `get_root` / `get`), for all dictionaries, stores and backends.  Hypothesis `NoClash`: see there
(it excludes object types one of whose components is literally called `get_state`). -/
theorem getOne_matches_source (B : Backends) (sp rp : Params) (st : St) (h : NoClash .get sp) :
    outOf ((genGetOne B).run ⟨sp, rp, st⟩) = doOne B .get sp st :=
  I2N.PolicyGen.getOne_eq B sp rp st h

/-- **one iteration of `set_states` is `doOne .set`** (chain `a. r. f. . .a .f .`, the `unset_state` key written before
the overwrite, the `SourcedStateBackend` special case, the root prerequisite of a forced set, `set_root` / `set`). -/
theorem setOne_matches_source (B : Backends) (sp rp : Params) (st : St) (h : NoClash .set sp) :
    outOf ((genSetOne B).run ⟨sp, rp, st⟩) = doOne B .set sp st :=
  I2N.PolicyGen.setOne_eq B sp rp st h

/-- **one iteration of `unset_states` is `doOne .unset`** (chain `.a .i . r. f. .`, `unset_root` / `unset`). -/
theorem unsetOne_matches_source (B : Backends) (sp rp : Params) (st : St) (h : NoClash .unset sp) :
    outOf ((genUnsetOne B).run ⟨sp, rp, st⟩) = doOne B .unset sp st :=
  I2N.PolicyGen.unsetOne_eq B sp rp st h

/-- **one iteration of `check_states` is `checkOne`** — no hypotheses: the guards, the defaults `check_opts` /
`check_mode=rf` written back, the look-ups, the root prerequisite letter by letter (forced creation with
`pool_scope=own`, `return False`, invalid policy, forced re-creation through `vm.destroy` or `unset_root`, `get_root`),
the ROOTS test and the `show` look-up; `true` = go on with the next object. -/
theorem checkOne_matches_source (B : Backends) (sp rp : Params) (st : St) :
    outOf ((genCheckOne B).run ⟨sp, rp, st⟩) = checkOne B sp st :=
  I2N.PolicyGen.checkOne_eq B sp rp st

/-- **one iteration of `push_states` is `pushOne`**: the ROOTS guard, the restriction to the object, the keys
`set_state` / `set_mode` (default `af`) written before `set_states` is called.  Hypothesis: the restriction does not
overwrite `push_state` (the code re-reads it afterwards, the hand model does not). -/
theorem pushOne_matches_source (B : Backends) (sp rp : Params) (st : St)
    (h : (restrict sp).getD "push_state" "" = sp.getD "push_state" "") :
    outOf ((genPushOne B).run ⟨sp, rp, st⟩) = pushOne B sp st :=
  I2N.PolicyGen.pushOne_eq B sp rp st h

/-- **one iteration of `pop_states` is `popOne`**: the ROOTS guard, the restriction to the object, the keys `get_state` /
`get_mode` (default `ra`) written before `get_states` is called, then — only when that call returned — `unset_state` /
`unset_mode` (default `fa`, read from the SAME `pop_mode` key) written into the same dictionary before `unset_states` is
called; an exception of the first call ends the iteration with the store and the backend calls it left.  Hypothesis:
the restriction does not overwrite `pop_state` (the code re-reads it twice afterwards, the hand model does not). -/
theorem popOne_matches_source (B : Backends) (sp rp : Params) (st : St)
    (h : (restrict sp).getD "pop_state" "" = sp.getD "pop_state" "") :
    outOf ((genPopOne B).run ⟨sp, rp, st⟩) = popOne B sp st :=
  I2N.PolicyGen.popOne_eq B sp rp st h

/-- NV: the image of the standard example satisfies `NoClash` (decided on the concrete dictionary), and the generated
iteration computes on it: `get_mode=ra`, empty store, default `check_mode`: abort after the root was created. -/
def spImg : Params :=
  [("nets", "net1"), ("vms", "vm1"), ("images", "image1"), ("states", "mem"), ("get_state", "launch"),
   ("get_mode", "ra"), ("push_state", "launch"), ("object_name", "net1/vm1/image1"), ("object_type", "nets/vms/images"),
   ("states_chain", "nets vms images")]
theorem spImg_run :
    ((NoClash .get spImg ∧ NoClash .set spImg ∧ NoClash .unset spImg) ∧
      (restrict spImg).getD "push_state" "" = spImg.getD "push_state" "") ∧
    (errOf ((genGetOne B0).run ⟨spImg, [], {}⟩).1 = some .abort ∧
      ((genGetOne B0).run ⟨spImg, [], {}⟩).2.st.calls.map (·.kind) = [.checkRoot, .setRoot, .show]) := by
  decide +kernel

example : NoClash .get spImg ∧ NoClash .set spImg ∧ NoClash .unset spImg := spImg_run.1.1
example : (restrict spImg).getD "push_state" "" = spImg.getD "push_state" "" := spImg_run.1.2
example : errOf ((genGetOne B0).run ⟨spImg, [], {}⟩).1 = some .abort ∧
    ((genGetOne B0).run ⟨spImg, [], {}⟩).2.st.calls.map (·.kind) = [.checkRoot, .setRoot, .show] := spImg_run.2

/-- NV of `popOne_matches_source`: the same image with `pop_state=launch` (defaults `ra` / `fa`), the state and the root
present: the hypothesis holds, and the generated iteration gets the state and then removes it (nested check, `get`,
nested check, `unset`) -/
def spPop : Params := ("pop_state", "launch") :: spImg
example : (restrict spPop).getD "pop_state" "" = spPop.getD "pop_state" "" := by decide +kernel
example : errOf ((genPopOne B0).run ⟨spPop, [], s0⟩).1 = none ∧
    ((genPopOne B0).run ⟨spPop, [], s0⟩).2.st.calls.map (·.kind) =
      [.checkRoot, .getRoot, .show, .get, .checkRoot, .getRoot, .show, .unset] ∧
    "launch" ∉ (((genPopOne B0).run ⟨spPop, [], s0⟩).2.st.store.obj (kImg "image1")).names := by decide +kernel

/-! ### the `NoClash` hypothesis cannot be dropped: the hand model differs from the code on the clash inputs

An object type literally called `get_state` (`states_chain = get_state`, one object `a`, the state to get — `root` —
given through the type-scoped key `get_state_get_state`).  The dictionary the iteration yields has `get_state = root`;
`_state_check_chain` copies it to `check_state` and then writes `get_state = a` (type = object name).  The CODE (and
`genGetOne`, its translation) tests `state_params["get_state"] in ROOTS` on the rewritten value: not a root keyword,
so it calls `get`.  The hand model `doOne` kept the value read first (`root`): it calls `get_root`.  Reproduced on the
real code by `harness/props/c12_clash_repro.py` (backend calls `check_root, get_root, get(a)` = the generated side). -/

def pClash : Params :=
  [("states_chain", "get_state"), ("get_state", "a"), ("get_state_get_state", "root"), ("states", "mem"),
   ("vms", "vm1"), ("get_mode", "ra"), ("check_mode", "rr")]

/-- what `_parametric_object_iteration(pClash)` yields (one object) -/
def spClash : Params :=
  [("states_chain", "get_state"), ("get_state", "root"), ("get_state_get_state", "root"), ("states", "mem"),
   ("vms", "vm1"), ("get_mode", "ra"), ("check_mode", "rr"), ("object_name", "a"), ("object_type", "get_state")]

/-- the root of the object exists -/
def sClash : St := { store := [(⟨"get_state", "", "vm1", ""⟩, ⟨true, []⟩)] }

/-- two outcomes with different backend calls are different -/
theorem outOf_ne_of_calls {α β : Type} {r : Except Err α × PS} {o : Except Err α × St} {f : Call → β} {a b : List β}
    (hr : r.2.st.calls.map f = a) (ho : o.2.calls.map f = b) (hab : a ≠ b) : outOf r ≠ o := by
  rintro rfl
  exact hab (hr.symm.trans ho)

/-- **Witness that `NoClash` is needed in `getOne_matches_source`** (a deviation of the hand model, outside the documented
parameter space; not a defect of /repo): on the clash input the generated iteration — which is what the real code does —
ends with the backend call `get` of the state `a`, the hand model with `get_root`. -/
theorem getOne_clash_witness :
    (iterObjects pClash).toOption = some [spClash] ∧ ¬ NoClash .get spClash ∧
    ((genGetOne B0).run ⟨spClash, [], sClash⟩).2.st.calls.map (fun c => (c.kind, c.arg)) =
      [(.checkRoot, ""), (.getRoot, "-"), (.get, "a")] ∧
    (doOne B0 .get spClash sClash).2.calls.map (fun c => (c.kind, c.arg)) =
      [(.checkRoot, ""), (.getRoot, "-"), (.getRoot, "-")] ∧
    outOf ((genGetOne B0).run ⟨spClash, [], sClash⟩) ≠ doOne B0 .get spClash sClash := by
  -- the four evaluated facts at once; the inequality follows from the two call lists
  suffices run : _ ∧ _ ∧ _ ∧ _ from
    ⟨run.1, run.2.1, run.2.2.1, run.2.2.2, outOf_ne_of_calls run.2.2.1 run.2.2.2 (by decide)⟩
  decide +kernel

/-! ### `_state_check_chain` itself (the atom `chainM` of the generated get/set/unset iterations) -/

/-- the definition regenerated from `_state_check_chain` for one value of its parameter `do` (the front end substitutes
the constant for `do` and folds the f-strings `f"{do}_state"`, `f"{do}_location"`; the test `do == "set"` is translated) -/
def genChain (d : Do) (B : Backends) (ty name : String) : M Bool :=
  match d with
  | .get => genChainGet B ty name
  | .set => genChainSet B ty name
  | .unset => genChainUnset B ty name

/-- **`_state_check_chain(do, env, type, name, state_params)` is the atom `chainM`** the generated iterations of
`get_states` / `set_states` / `unset_states` call, for every `do`, type, name, dictionary, store and backends table: same
answer, same dictionary afterwards (`check_state`, `show_location` only for a non-empty `<do>_location`, `check_opts` /
`soft_boot` = yes exactly for `set`, every component `type = name`, `states_chain` = the last type, in this order), same
store and backend calls of the nested `check_states`.  Equality of the whole state (no `outOf`): the callers go on
reading the rewritten dictionary. -/
theorem stateCheckChain_matches_source (B : Backends) (d : Do) (ty name : String) (s : PS) :
    (genChain d B ty name).run s = chainM B d ty name s := by
  cases d
  · exact I2N.PolicyGen.chainGet_eq B ty name s
  · exact I2N.PolicyGen.chainSet_eq B ty name s
  · exact I2N.PolicyGen.chainUnset_eq B ty name s

/-- … and, called with the type and name of the dictionary itself (what `get_states`, `set_states`, `unset_states` pass),
it is the hand model's `chainParams` followed by the hand model's `checkStates` -/
theorem stateCheckChain_is_chainParams (B : Backends) (d : Do) (sp rp : Params) (st : St) :
    (genChain d B (sp.getD "object_type" "") (sp.getD "object_name" "")).run ⟨sp, rp, st⟩ =
      ((checkStates B (chainParams d sp) st).1,
        ⟨chainParams d sp, rp, (checkStates B (chainParams d sp) st).2⟩) := by
  rw [stateCheckChain_matches_source]
  simp only [chainM, I2N.PolicyGen.chainParamsWith_self]

/-- NV: on the image of the standard example the regenerated chain answers "state missing" after creating the root
(default `check_mode=rf`) and leaves `check_state=launch`, `states_chain=images`, `soft_boot=no` in the dictionary -/
example : ((genChain .get B0 "nets/vms/images" "net1/vm1/image1").run ⟨spImg, [], {}⟩).1.toOption = some false ∧
    ((genChain .get B0 "nets/vms/images" "net1/vm1/image1").run ⟨spImg, [], {}⟩).2.st.calls.map (·.kind) =
      [.checkRoot, .setRoot, .show] ∧
    (((genChain .get B0 "nets/vms/images" "net1/vm1/image1").run ⟨spImg, [], {}⟩).2.sp.get? "check_state",
     ((genChain .get B0 "nets/vms/images" "net1/vm1/image1").run ⟨spImg, [], {}⟩).2.sp.get? "states_chain",
     ((genChain .get B0 "nets/vms/images" "net1/vm1/image1").run ⟨spImg, [], {}⟩).2.sp.get? "soft_boot") =
      (some "launch", some "images", some "no") := by decide +kernel

end Regenerated

/-! ## 6. `_parametric_object_iteration` regenerated from the source (`harness/pygen_pxiter.py`)

The loops of check/get/set/unset/push/pop_states run over the recursive generator `_parametric_object_iteration`; the hand
model's `iterObjects` / `iterAux` stood for it by the differential runs only.  `I2N/Extracted/GenIter.lean` holds ONE level
of the generator translated from the current source (`genIterLevel self params composites_is_none`, monad `G` of
`Lemmas/PolicyIterM.lean`: state = the list `composites` SHARED by all levels + the dictionaries yielded so far; `self` =
the recursive call). -/
section RegeneratedIter
open I2N.PolicyIterM I2N.Extracted.GenIter I2N.PolicyGenIter

/-- **One level, open recursion.**  For every function `self` put in place of the recursive call: if `self`, called at
depth `k + 1` on the shared list, yields what the hand model's `iterAux` yields there and gives the list back as it got
it, then the level generated from the source, entered at depth `k` (`len(composites) = k`; `b` = "called without the
list", then the list is created), yields what `iterAux` yields at depth `k` - components first, then the composite, every
object with `object_name` / `object_type` joined from the shared list - and gives the list back as it got it (the `pop`).
Hypotheses: the dictionary's `states_chain` is `full`, `k` is a valid index (always true for the callers: see
`iterObjects_matches_source`), and `chainStable`: the dictionaries handed down re-read the same `states_chain`. -/
theorem iterLevel_matches_source (self : Params → G Unit) (full : List String) (last : String)
    (hlast : full.getLast? = some last) (k : Nat) (hself : Spec self full last (k + 1))
    (b : Bool) (p : Params) (cs : List (String × String)) (out : List Params) (c0 : List (Option (String × String)))
    (hp : p.objects "states_chain" = full) (hk : cs.length = k) (hlt : k < full.length)
    (hst : chainStable full last (full.drop k) cs p = true)
    (hc : (if b then [] else c0) = cs.map some) :
    genIterLevel self p b ⟨c0, out⟩ = (.ok (), ⟨cs.map some, out ++ iterAux last (full.drop k) cs p⟩) :=
  genIterLevel_step self full last hlast k hself b p cs out c0 hp hk hlt hst hc

/-- **`_parametric_object_iteration(params)` is `iterObjects params`.**  `iterFuel n` is the generated level closed under
itself `n` times (Python's recursion with `n` frames below the top-level call; a deeper call would be a RecursionError).
For EVERY dictionary `p` whose chain is stable (`topStable p`, decidable: every dictionary the iteration descends into
re-reads the same `states_chain`; the code reads the key at every level, the hand model once), every `n + 1` at least the
length of the chain and every generator state: the top-level call yields exactly the list of `iterObjects p`, in its
order, and leaves its (own, fresh) list empty; with an empty / missing `states_chain` it raises ValueError before it
yields anything - which is `iterObjects p = .error .valueError`. -/
theorem iterObjects_matches_source (n : Nat) (p : Params) (hn : (p.objects "states_chain").length ≤ n + 1)
    (hst : topStable p = true) (s : GS) :
    genIterLevel (iterFuel n) p true s = iterObjectsG p s :=
  top_of_spec (iterFuel n) p (fun last hl => iterFuel_spec _ last hl n 1 (by omega)) hst s

/-- NV: the standard dictionary (one net, one vm, two images) has a stable chain; 2 frames suffice; the generated
recursion yields the two images, then the vm, then the net -/
example : topStable (p0 "ra") = true ∧ ((p0 "ra").objects "states_chain").length ≤ 2 + 1 := p0_run.2.2.1
example : ((genIterLevel (iterFuel 2) (p0 "ra") true ⟨[], []⟩).2.out.map (fun sp => sp.getD "object_name" "")) =
    ["net1/vm1/image1", "net1/vm1/image2", "net1/vm1", "net1"] ∧
    (genIterLevel (iterFuel 2) (p0 "ra") true ⟨[], []⟩).2.comps = [] := p0_run.2.2.2.1
/-- NV of `iterLevel_matches_source`: `iterFuel n` is a `self` that satisfies its hypothesis -/
example : Spec (iterFuel 2) ["nets", "vms", "images"] "images" 1 := iterFuel_spec _ _ rfl 2 1 (by decide)

/-- **… and the hypothesis is what the callers provide**: `Params.object_params(name)` can overwrite `states_chain` only
from a key `states_chain_<name>…`; a dictionary NONE of whose keys begins with `states_chain_` (`NoSuffix`; the shipped
configuration defines the plain key only, and `_state_check_chain` / `push_states` / `pop_states` write the plain key only)
and whose chain names no type `states_chain` / `states_chain_…` (`okType`) has a stable chain at every depth
(`topStable_of_noSuffix`, by induction over the chain with the fold of `object_params` as invariant).  So for every such
dictionary, of any size, the generator regenerated from the source yields exactly `iterObjects p`. -/
theorem iterObjects_matches_source_noSuffix (n : Nat) (p : Params)
    (hn : (p.objects "states_chain").length ≤ n + 1) (h : NoSuffix p)
    (ht : ∀ t ∈ p.objects "states_chain", okType t = true) (s : GS) :
    genIterLevel (iterFuel n) p true s = iterObjectsG p s :=
  iterObjects_matches_source n p hn (topStable_of_noSuffix p h ht) s

/-- NV: the standard dictionary has no `states_chain_…` key and ordinary type names -/
example : NoSuffix (p0 "ra") ∧ ∀ t ∈ (p0 "ra").objects "states_chain", okType t = true := p0_run.2.2.2.2

def iterErrOf (r : Except IterErr Unit × GS) : Option IterErr :=
  match r.1 with
  | .error e => some e
  | .ok _ => none

/-- the dictionary of `iterObjects_unstable_witness`: the net re-defines the chain for what is below it -/
def pUnstable : Params :=
  [("nets", "net1"), ("vms", "vm1"), ("states_chain", "nets vms"), ("states_chain_net1", "nets")]

/-- **The hypothesis `topStable` cannot be dropped** (a deviation of the hand model outside the documented space -
`states_chain_<object>` keys - not a defect of /repo): with `states_chain = nets vms`, `states_chain_net1 = nets` the code
re-reads the chain `nets` inside `net1` and `object_composition[len(composites)]` raises IndexError after nothing was
yielded; the hand model yields `net1/vm1` and `net1`. -/
theorem iterObjects_unstable_witness :
    topStable pUnstable = false ∧
    iterErrOf (genIterLevel (iterFuel 5) pUnstable true ⟨[], []⟩) = some .indexError ∧
    (genIterLevel (iterFuel 5) pUnstable true ⟨[], []⟩).2.out = [] ∧
    ((iterObjectsG pUnstable ⟨[], []⟩).2.out.map (fun sp => sp.getD "object_name" "")) = ["net1/vm1", "net1"] := by
  decide +kernel

end RegeneratedIter

end I2N.Props.C12
