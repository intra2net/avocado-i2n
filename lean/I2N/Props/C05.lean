import I2N.Lemmas.TravReady
import I2N.Lemmas.TravClean
import I2N.Lemmas.TravStates
import I2N.Model.TravMon
import I2N.Extracted.GenClean
import I2N.Lemmas.GenLazy
import I2N.Lemmas.GenShared
import I2N.Lemmas.TravEval
/-!
# C05 — States are removed only after every dependant finished, and only if asked
-/
namespace I2N.Props.C05
open I2N.Trav

/-- the request a reversal sends to the state control (if any): its action and its state list -/
def syncRequest (g : Graph) (s : State) (n w : Nat) (rv : Option (List String)) : Option (String × List (String × String)) :=
  match (syncStates g s n w rv).2 with
  | [Event.door _ a reqs _ _] => some (a, reqs)
  | _ => none

/-- Only states marked for removal (`unset_mode` starting with `f`) are ever removed, and with the
default pool filter (`reuse`, also `block`) no state is copied while backing out: whatever
`sync_states` requests is either an `unset` of marked states of this node, or a `get` under
`pool_filter=copy`. -/
theorem sync_request_sound (g : Graph) (s : State) (n w : Nat) (rv : Option (List String)) (a : String)
    (reqs : List (String × String)) (h : syncRequest g s n w rv = some (a, reqs)) :
    (a = "unset" ∧ reqs ≠ [] ∧ ∀ vs ∈ reqs, vs ∈ (g.node n).sets ∧ (unsetModeOf (g.node n) vs.1).toList.head? = some 'f') ∨
    (a = "get" ∧ reqs ≠ [] ∧ ¬ ((g.node n).poolFilter = "reuse" ∨ (g.node n).poolFilter = "block")) := by
  obtain ⟨h1, h2, h3, h4, h5, h6⟩ := syncAcc_accOk (g.node n) rv
  unfold syncRequest at h
  revert h
  fun_cases syncStates g s n w rv with
  | case1 => intro h; cases h
  | case2 nd acc _ _ ha =>
    intro h
    cases h
    have ha' : acc.2.1 = "unset" := by simpa using ha
    exact Or.inl ⟨rfl, h3 ha', fun vs hvs => ⟨h6 vs hvs, h1 vs hvs⟩⟩
  | case3 nd acc hc _ ha =>
    intro h
    cases h
    have hget : acc.2.1 = "get" := (h5 (by simpa using hc)).resolve_left (by simpa using ha)
    exact Or.inr ⟨rfl, h4 hget, h2 (h4 hget)⟩

/-- States not marked for removal are never removed by a run: if no object of the node is marked `f.`
the reversal sends no `unset` at all. -/
theorem reuse_states_never_unset (g : Graph) (s : State) (n w : Nat) (rv : Option (List String))
    (hno : ∀ vs ∈ (g.node n).sets, (unsetModeOf (g.node n) vs.1).toList.head? ≠ some 'f') (reqs : List (String × String)) :
    syncRequest g s n w rv ≠ some ("unset", reqs) := by
  intro h
  rcases sync_request_sound g s n w rv _ _ h with ⟨_, hne, hall⟩ | ⟨ha, _⟩
  · obtain ⟨x, hx⟩ := List.exists_mem_of_ne_nil _ hne
    exact hno x (hall x hx).1 (hall x hx).2
  · simp at ha

/-- With the default pool filter nothing is copied while backing out. -/
theorem default_filter_no_copy (g : Graph) (s : State) (n w : Nat) (rv : Option (List String))
    (hf : (g.node n).poolFilter = "reuse" ∨ (g.node n).poolFilter = "block") (reqs : List (String × String)) :
    syncRequest g s n w rv ≠ some ("get", reqs) := by
  intro h
  rcases sync_request_sound g s n w rv _ _ h with ⟨ha, _⟩ | ⟨_, _, hnf⟩
  · simp at ha
  · exact hnf hf

/-- "The last worker closes the door": a reversible node (some object marked `f.`) is cleaned only
when, for every involved worker of the cleaning worker's swarm (every involved worker for
`localhost`), that worker's copy of the node is cleanup-ready — all its dependants were dropped, i.e.
finished or skipped for that worker — and carries no pending (`UNKNOWN`) result, and all involved
workers have finished the node. -/
theorem clean_requires_all_ready (g : Graph) (s : State) (n w : Nat) (hrev : isReversible (g.node n) = true)
    (h : cleanDecision g s n w = .ok true) :
    isFinished g s n w (-1) = true ∧
    ∀ v ∈ involved g s n, ((g.worker w).swarm == "localhost" || strIn (g.worker w).swarm (g.worker v).id) = true →
      ∃ m, (if g.idIn v n then some n else (g.copies n).tail.find? (fun m => g.idIn v m)) = some m ∧
        isCleanupReady g s m v = true ∧ (s.nd m).results.all (fun r => lower r.status != "unknown") = true := by
  revert h
  fun_cases cleanDecision g s n w with
  | case1 | case2 | case3 | case4 | case6 | case7 => intro h; cases h
  | case5 _ _ _ _ _ hnr => rw [hrev] at hnr; cases hnr
  | case8 _ _ _ _ _ _ inv pickedOf _ okAll hall =>
    intro h
    refine ⟨Except.ok.inj h, fun v hv hsw => ?_⟩
    have hall' : okAll = true := by simpa using hall
    have hv' := List.all_eq_true.mp hall' v (List.mem_filter.2 ⟨hv, hsw⟩)
    split at hv'
    · cases hv'
    · rename_i m hm
      rw [Bool.and_eq_true] at hv'
      refine ⟨m, hm, hv'.1, List.all_eq_true.mpr (fun r hr => ?_)⟩
      have := List.any_eq_false.mp (Bool.not_eq_true' _ |>.mp hv'.2) r hr
      simpa using this

/-- flat, cloned and dry nodes are never reversed -/
theorem never_clean_flat_or_clone_source (g : Graph) (s : State) (n w : Nat)
    (h : (g.node n).flat = true ∨ (g.node n).cloneSource = true ∨ (g.node n).dryRun = true) :
    cleanDecision g s n w = .ok false := by
  rcases h with h | h | h <;> simp [cleanDecision, h]

/-! ## lifted to the step: over ALL reachable states

Vocabulary as in `Props/C01.lean` (`ReachH`, `Trv`, `visH`, `OwnerNames`, `FlatClass`; `Lemmas/TravReady.lean`). -/

/-- A child is dropped only after the worker traversed it: in every reachable state, if worker `v` is registered in
`droppedCleanup` of the class of `n` for the class of a parsed child `c`, then `v`'s own copy of `c`'s class carries `v`'s
`finished` mark. -/
theorem children_dropped_means_decided (g : Graph) (hwf : graphWF g = true) (hroot : (g.node g.root).flat = true)
    (hO : OwnerNames g) (hF : FlatClass g) {ncls : Nat} {store : Store} {H0 : List Nat} {s : State}
    (hr : ReachH g ncls store H0 s) (n c v : Nat) (hc : c < g.nodes.length) (hfc : (g.node c).flat = false)
    (h : v ∈ regWorkers (s.cr (g.node n).cls).droppedCleanup (some (g.node c).cls)) :
    ∃ c', c' < g.nodes.length ∧ (g.node c').cls = (g.node c).cls ∧ (g.node c').owner = some v ∧
      (s.nd c').finished = some v :=
  ((hr.trv (GraphWF.of_bool hwf) hroot hO.uniq).dropC _ _ v h).owned hO hF hc hfc

/-- … and at that time the run decision for it was negative and the node was cleanup-ready: `drop_child` is called only
on the way down, after `should_run = false` and `is_cleanup_ready` (single-iteration form: if the rest of the loop body
changes some `droppedCleanup` register, both were the case). -/
theorem child_dropped_only_when_decided (g : Graph) (s : State) (w next prev : Nat) (dir : Dir) (s' : State) (evs : List Event)
    (f : Flow) (h : afterTraverse g s w next prev dir = (s', evs, f))
    (hdrop : ∃ c, (s'.cr c).droppedCleanup ≠ (s.cr c).droppedCleanup) :
    dir = .down ∧ ∃ s1 e1, runDecision g s next w = .ok (false, s1, e1) ∧ isCleanupReady g s1 next w = true := by
  obtain ⟨c, hc⟩ := hdrop
  -- what leaves the register `droppedCleanup` of `c` alone
  have keep : ∀ (s : State) (cc : Nat) (f : ClassRegs → ClassRegs), (∀ r, (f r).droppedCleanup = r.droppedCleanup) →
      ((s.setCr cc f).cr c).droppedCleanup = (s.cr c).droppedCleanup := by
    intro s cc f hf
    rcases cr_setCr_cases s cc f c with h' | ⟨_, h'⟩
    · rw [h']
    · rw [h', hf]
  have hrun : ∀ run s1 e1, runDecision g s next w = .ok (run, s1, e1) → s1.cr c = s.cr c := by
    intro run s1 e1 hd
    rcases runDecision_state g s next w run s1 e1 hd with h' | h'
    · rw [h']
    · rw [h']; rfl
  have ha := afterTraverse_after g s w next prev dir
  rw [h] at ha
  cases ha with
  | undecided => exact absurd rfl hc
  | up run s1 _ _ hd =>
    refine absurd ?_ hc
    rw [← hrun _ _ _ hd]
    show ((if !run then dropParent g s1 prev next w else s1).cr c).droppedCleanup = _
    split
    · exact keep s1 _ _ (fun _ => rfl)
    · rfl
  | again s1 _ _ hd => exact absurd (by rw [← hrun _ _ _ hd]; rfl) hc
  | postponed s1 _ hdir hd hready | cleaned s1 _ _ _ hdir hd hready | uncleaned s1 _ _ hdir hd hready =>
    exact ⟨hdir, s1, _, hd, hready⟩
  | descend s1 _ c2 s2 _ hd _ hp =>
    refine absurd ?_ hc
    rw [← hrun _ _ _ hd, (pickChild_rel g _ next w c2 s2 hp).2.2]
    exact keep _ _ _ (fun _ => rfl)
  | childless s1 _ _ hd => exact absurd (by rw [hrun _ _ _ hd]) hc

/-- Cleanup-readiness therefore means "all dependants traversed": in a state satisfying the invariant (every reachable
state and every intermediate state of a step), a node that is cleanup-ready for `v` on a graph `gv` with the nodes of
`g` (the graph as parsed so far) has all its relevant parsed children traversed by `v`. -/
theorem cleanup_ready_children_traversed (g : Graph) (hwf : graphWF g = true) (hO : OwnerNames g) (hF : FlatClass g)
    {H0 : List Nat} {s : State} (t : Trv g H0 s) (gv : Graph) (hsn : SameNodes gv g)
    (hsub : ∀ n c, c ∈ (gv.node n).cleanup → c ∈ (g.node n).cleanup) (m v : Nat)
    (h : isCleanupReady gv s m v = true) :
    ∀ c ∈ (gv.node m).cleanup, relevant g v c.1 = true → (g.node c.1).flat = false →
      ∃ c', c' < g.nodes.length ∧ (g.node c').cls = (g.node c.1).cls ∧ (g.node c').owner = some v ∧
        (s.nd c').finished = some v := by
  intro c hc hrel hfc
  have h1 := (cleanup_ready_iff gv s m v).mp h c hc (by rw [relevant_sameNodes hsn]; exact hrel)
  rw [hsn.cls, hsn.cls] at h1
  exact (t.dropC _ _ v h1).owned hO hF ((GraphWF.of_bool hwf).cleanup_lt m c (hsub m c hc)) hfc

/-- Where an `unset` request of a step comes from: the acting worker `w` sent it to its own pool, from `sync_states` inside
`reverse_node` of a node `n` carrying `w`'s `started` mark, after the clean decision — taken in a state `sd` of this step, on
the graph visible at that time (`visH g hid`, `hid` between what is hidden in `sd` and what was hidden initially) — was
positive; it lists only states of `n` marked for removal. -/
theorem unset_event_source (g : Graph) (hwf : graphWF g = true) (hroot : (g.node g.root).flat = true) (hO : OwnerNames g)
    {ncls : Nat} {store : Store} {H0 : List Nat} {s : State} (hr : ReachH g ncls store H0 s) (w : Nat) (out : Outcome)
    (fuel : Nat) (wid : String) (reqs : List (String × String)) (sc : List String) (ok : Bool)
    (he : Event.door wid "unset" reqs sc ok ∈ (resume g s w out fuel).2) :
    wid = (g.worker w).id ∧ sc = ["own"] ∧ ok = true ∧
    ∃ hid sd n, (∀ h ∈ sd.hidden, h ∈ hid) ∧ (∀ h ∈ hid, h ∈ H0) ∧ Upd g H0 w s sd ∧ Trv g H0 sd ∧ n < g.nodes.length ∧
      (sd.nd n).started = some w ∧ cleanDecision (visH g hid) sd n w = .ok true ∧
      reqs ≠ [] ∧ ∀ vs ∈ reqs, vs ∈ (g.node n).sets ∧ (unsetModeOf (g.node n) vs.1).toList.head? = some 'f' := by
  have t := hr.trv (GraphWF.of_bool hwf) hroot hO.uniq
  obtain ⟨hid, sd, n, h1, h2, h3, hn, hst, hcd, hev⟩ :=
    ((resume_ok g H0 (GraphWF.of_bool hwf) hroot s w out fuel t).2 _ he).1 wid reqs sc ok rfl
  have hsn := sameNodes_visH g hid
  obtain ⟨hw, _, ha, hreq⟩ := syncStates_unset_event (visH g hid) sd n w none wid reqs sc ok hev
  -- the request is addressed to the pool of the copy's own worker, which under `OwnerNames` is the acting worker
  have hnet : (visH g hid).netOf n w = w := by
    obtain ⟨d1, _, _, d4⟩ := Clean.cleanDecision_true (visH g hid) sd n w hcd
    refine netOf_owner (g := visH g hid) ?_
    rw [hsn.owner]
    exact (hO w n hn (by rw [← hsn.flat]; exact d1)).mp (by rw [← idIn_sameNodes hsn]; exact d4)
  rw [hnet] at hw
  obtain ⟨hsc, hok⟩ := Clean.syncStates_unset_own (visH g hid) sd n w none wid reqs sc ok hev
  obtain ⟨a1, _, a3, _, _, a6⟩ := syncAcc_accOk ((visH g hid).node n) none
  refine ⟨by rw [hw, hsn.worker], hsc, hok, hid, sd, n, h1, h2, h3, t.upd hO.uniq h3, hn, hst, hcd, by rw [hreq]; exact a3 ha,
    fun vs hvs => ?_⟩
  rw [hreq] at hvs
  exact ⟨by rw [← hsn.sets]; exact a6 vs hvs, by rw [← unsetModeOf_sameNodes hsn]; exact a1 vs hvs⟩

/-- "The last worker closes the door", at the level of the step: whenever a `resume` step of worker `w` emits an `unset`
request, it was sent by `w` for a node `n` from `sync_states` inside `reverse_node`, after the clean decision — taken in a
state `sd` of this step (`sd` satisfies the invariant `Trv`, the other workers' records are those of `s`, `n` carries
`w`'s `started` mark), on the graph visible at that time (`visH g hid`, `hid` between what is hidden in `sd` and what was
hidden initially) — was positive.  The request lists only states of `n` marked for removal.  And if `n` is reversible,
then in `sd` all involved workers had finished the node and every involved worker `v` of `w`'s swarm (all for `localhost`)
had its copy `m` of `n` cleanup-ready, without pending result, and had traversed every relevant parsed dependant of `m`. -/
theorem unset_only_when_all_dropped (g : Graph) (hwf : graphWF g = true) (hroot : (g.node g.root).flat = true)
    (hO : OwnerNames g) (hF : FlatClass g) {ncls : Nat} {store : Store} {H0 : List Nat} {s : State}
    (hr : ReachH g ncls store H0 s) (w : Nat) (out : Outcome) (fuel : Nat)
    (wid : String) (reqs : List (String × String)) (sc : List String) (ok : Bool)
    (he : Event.door wid "unset" reqs sc ok ∈ (resume g s w out fuel).2) :
    wid = (g.worker w).id ∧ ∃ hid sd n, (∀ h ∈ sd.hidden, h ∈ hid) ∧ (∀ h ∈ hid, h ∈ H0) ∧ Trv g H0 sd ∧
      (∀ v, v ≠ w → sd.wd v = s.wd v) ∧ n < g.nodes.length ∧ (sd.nd n).started = some w ∧
      cleanDecision (visH g hid) sd n w = .ok true ∧
      (reqs ≠ [] ∧ ∀ vs ∈ reqs, vs ∈ (g.node n).sets ∧ (unsetModeOf (g.node n) vs.1).toList.head? = some 'f') ∧
      (isReversible (g.node n) = true →
        isFinished g sd n w (-1) = true ∧
        ∀ v ∈ involved g sd n,
          ((g.worker w).swarm == "localhost" || strIn (g.worker w).swarm (g.worker v).id) = true →
          ∃ m, (if g.idIn v n then some n else (g.copies n).tail.find? (fun m => g.idIn v m)) = some m ∧
            isCleanupReady (visH g hid) sd m v = true ∧ (sd.nd m).results.all (fun r => lower r.status != "unknown") = true ∧
            ∀ c ∈ ((visH g hid).node m).cleanup, relevant g v c.1 = true → (g.node c.1).flat = false →
              ∃ c', c' < g.nodes.length ∧ (g.node c').cls = (g.node c.1).cls ∧ (g.node c').owner = some v ∧
                (sd.nd c').finished = some v) := by
  obtain ⟨e1, _, _, hid, sd, n, h1, h2, h3, td, hn, hst, hcd, hreq⟩ :=
    unset_event_source g hwf hroot hO hr w out fuel wid reqs sc ok he
  have hsn := sameNodes_visH g hid
  refine ⟨e1, hid, sd, n, h1, h2, td, h3.others, hn, hst, hcd, hreq, fun hrev => ?_⟩
  obtain ⟨hfin, hall⟩ := clean_requires_all_ready (visH g hid) sd n w (by rw [isReversible_sameNodes hsn]; exact hrev) hcd
  refine ⟨by rw [← isFinished_sameNodes hsn]; exact hfin, fun v hv hsw => ?_⟩
  obtain ⟨m, hm, hcr, hres⟩ := hall v (by rw [involved_sameNodes hsn]; exact hv) (by rw [hsn.worker, hsn.worker]; exact hsw)
  refine ⟨m, ?_, hcr, hres, ?_⟩
  · rw [← hm]
    simp only [idIn_sameNodes hsn, copies_sameNodes hsn]
  · exact cleanup_ready_children_traversed g hwf hO hF td (visH g hid) hsn (fun n c => visH_cleanup_sub g hid n c) m v hcr

/-- … on a pre-parsed graph (nothing hidden initially) the decision is taken on the full graph: all dependants count. -/
theorem unset_only_when_all_dropped_eager (g : Graph) (hwf : graphWF g = true) (hroot : (g.node g.root).flat = true)
    (hO : OwnerNames g) (hF : FlatClass g) {ncls : Nat} {store : Store} {s : State}
    (hr : ReachH g ncls store [] s) (w : Nat) (out : Outcome) (fuel : Nat)
    (wid : String) (reqs : List (String × String)) (sc : List String) (ok : Bool)
    (he : Event.door wid "unset" reqs sc ok ∈ (resume g s w out fuel).2) :
    wid = (g.worker w).id ∧ ∃ sd n, Trv g [] sd ∧ (∀ v, v ≠ w → sd.wd v = s.wd v) ∧ n < g.nodes.length ∧
      (sd.nd n).started = some w ∧ cleanDecision g sd n w = .ok true ∧
      (isReversible (g.node n) = true →
        isFinished g sd n w (-1) = true ∧
        ∀ v ∈ involved g sd n,
          ((g.worker w).swarm == "localhost" || strIn (g.worker w).swarm (g.worker v).id) = true →
          ∃ m, (if g.idIn v n then some n else (g.copies n).tail.find? (fun m => g.idIn v m)) = some m ∧
            isCleanupReady g sd m v = true ∧ (sd.nd m).results.all (fun r => lower r.status != "unknown") = true ∧
            ∀ c ∈ (g.node m).cleanup, relevant g v c.1 = true → (g.node c.1).flat = false →
              ∃ c', c' < g.nodes.length ∧ (g.node c').cls = (g.node c.1).cls ∧ (g.node c').owner = some v ∧
                (sd.nd c').finished = some v) := by
  obtain ⟨h0, hid, sd, n, _, h2, td, h3, hn, hst, hcd, _, hrev⟩ :=
    unset_only_when_all_dropped g hwf hroot hO hF hr w out fuel wid reqs sc ok he
  obtain rfl : hid = [] := List.subset_nil.mp h2
  exact ⟨h0, sd, n, td, h3, hn, hst, hcd, hrev⟩

/-- the only source of `unset` requests is this: a step that emits none of them removes no state through the door
(`reuse_states_never_unset` lifted: a node without `f.`-marked set state never appears in an `unset` request) -/
theorem unset_only_if_marked_step (g : Graph) (hwf : graphWF g = true) (hroot : (g.node g.root).flat = true)
    (hO : OwnerNames g) (hF : FlatClass g) {ncls : Nat} {store : Store} {H0 : List Nat} {s : State}
    (hr : ReachH g ncls store H0 s) (w : Nat) (out : Outcome) (fuel : Nat)
    (wid : String) (reqs : List (String × String)) (sc : List String) (ok : Bool)
    (he : Event.door wid "unset" reqs sc ok ∈ (resume g s w out fuel).2) :
    ∃ n, n < g.nodes.length ∧ ∃ vs ∈ (g.node n).sets, vs ∈ reqs ∧ (unsetModeOf (g.node n) vs.1).toList.head? = some 'f' := by
  obtain ⟨_, hid, sd, n, _, _, _, _, hn, _, _, ⟨hne, hall⟩, _⟩ :=
    unset_only_when_all_dropped g hwf hroot hO hF hr w out fuel wid reqs sc ok he
  obtain ⟨vs, hvs⟩ := List.exists_mem_of_ne_nil _ hne
  exact ⟨n, hn, vs, (hall vs hvs).1, hvs, (hall vs hvs).2⟩

/-! ### non-vacuity (the instance `exGraph` of `Lemmas/TravReady.lean`) -/

example : graphWF exGraph = true ∧ (exGraph.node exGraph.root).flat = true ∧ ownerNamesB exGraph = true :=
  ⟨Clean.exGraph_wellFormed.1.1, rfl, Clean.exGraph_wellFormed.1.2.1⟩
example : FlatClass exGraph := Clean.exGraph_wellFormed.1.2.2.1
example : ReachH exGraph 3 [] [] exS2 := reachH_runSched exGraph 3 [] [] 100 _ _ ReachH.init

set_option maxRecDepth 100000 in
/-- `b` (node 2, reversible: `unset_mode=fi`) passed: net1 backs out of it, removes its state and — being the only
involved worker — drops it as a child of `a`; its copy of `b` carries its mark -/
example : isReversible (exGraph.node 2) = true ∧
    Event.door "net1" "unset" [("vm1", "b")] ["own"] true ∈ (resume exGraph exS2 0 exPass 100).2 ∧
    0 ∈ regWorkers ((resume exGraph exS2 0 exPass 100).1.cr (exGraph.node 0).cls).droppedCleanup (some (exGraph.node 2).cls) ∧
    ((resume exGraph exS2 0 exPass 100).1.nd 2).finished = some 0 :=
  exGraph_run.2

/-! lazy expansion (`H0 = [0, 1, 2, 3]`, see `Props/C01.lean`): the same removal on the lazily expanded suite -/

example : ReachH exLazy 4 [] [0, 1, 2, 3] exL2 := reachH_runSched exLazy 4 [] _ 100 _ _ ReachH.init

set_option maxRecDepth 100000 in
example : exL2.hidden = [1, 3] ∧
    Event.door "net1" "unset" [("vm1", "b")] ["own"] true ∈ (resume exLazy exL2 0 exPass 100).2 :=
  ⟨exLazy_run.1.1, exLazy_run.2⟩

/-! ## the run-level statement: an `unset` request appears only after the dependants are done

Vocabulary of `Lemmas/TravClean.lean`: `WellFormed g ncls` (decidable: edge end points in range, a worker's id names exactly
its own copies, the copies of a class are all flat or all parsed, edges recorded at both ends, one copy of a class per
worker, a flat root without parents, registers for every class, set states only for own objects), `InScope g w v` (the
test of `default_clean_decision`: the cleaning worker is a `localhost` one or its swarm id occurs in `v`'s id), `ReachC`
(the reachable states of a pre-parsed graph: steps of real workers with positive fuel), `ReachH … H0` (any initial hidden
set: lazy expansion). -/
open I2N.Trav.Clean

/-- Where an `unset` request of a step comes from, for ANY initial hidden set (lazy expansion included): it was sent by the
acting worker `w` to its OWN pool only (scope `["own"]`), from `sync_states` in `reverse_node` of a node `p`, after the clean
decision taken in a state `sd` of this step on the graph visible then (`visH g hid`) was positive.  `p` is `w`'s own parsed
copy (not flat), not a clone source, not a dry run; the request lists only set states of `p` whose removal policy starts
with `f`; all involved workers have finished `p`; and every involved worker `v` within `w`'s scope has its copy `m` of `p`
without pending (`UNKNOWN`) result, has dropped every visible dependant `c` of `m` it cares for, and has traversed it
(`finished` mark of `v` on `c`). -/
theorem unset_request_provenance (g : Graph) {ncls : Nat} (hW : WellFormed g ncls) {store : Store} {H0 : List Nat} {s : State}
    (hr : ReachH g ncls store H0 s) (w : Nat) (out : Outcome) (fuel : Nat)
    (wid : String) (reqs : List (String × String)) (sc : List String) (ok : Bool)
    (he : Event.door wid "unset" reqs sc ok ∈ (resume g s w out fuel).2) :
    wid = (g.worker w).id ∧ sc = ["own"] ∧ ok = true ∧
    ∃ hid sd p, (∀ h ∈ sd.hidden, h ∈ hid) ∧ (∀ h ∈ hid, h ∈ H0) ∧ Upd g H0 w s sd ∧ p < g.nodes.length ∧
      cleanDecision (visH g hid) sd p w = .ok true ∧
      ((g.node p).flat = false ∧ (g.node p).cloneSource = false ∧ (g.node p).dryRun = false ∧ g.idIn w p = true) ∧
      (reqs ≠ [] ∧ ∀ vs ∈ reqs, vs ∈ (g.node p).sets ∧ (unsetModeOf (g.node p) vs.1).toList.head? = some 'f') ∧
      isFinished g sd p w (-1) = true ∧
      ∀ v ∈ involved g sd p, InScope g w v = true →
        ∃ m, (if g.idIn v p then some p else (g.copies p).tail.find? (fun m => g.idIn v m)) = some m ∧
          (sd.nd m).results.all (fun r => lower r.status != "unknown") = true ∧
          ∀ c ∈ ((visH g hid).node m).cleanup, relevant g v c.1 = true →
            v ∈ regWorkers (sd.cr (g.node m).cls).droppedCleanup (some (g.node c.1).cls) ∧
            ((g.node c.1).flat = false → (sd.nd c.1).finished = some v) := by
  obtain ⟨hwf, hOb, hF, hS, hC, hT, hK, hSO⟩ := hW
  have hO := ownerNamesB_sound hOb
  have hU := relUniq_of hO hF hC
  obtain ⟨e1, hsc, hok, hid, sd, n, h1, h2, h3, td, hn, _, hcd, hne, hall⟩ :=
    unset_event_source g hwf hT.1 hO hr w out fuel wid reqs sc ok he
  have hsn := sameNodes_visH g hid
  have hrev : isReversible (g.node n) = true := by
    obtain ⟨vs, hvs⟩ := List.exists_mem_of_ne_nil _ hne
    unfold isReversible
    rw [List.any_eq_true]
    exact ⟨vs.1, hSO n hn vs (hall vs hvs).1, by rw [(hall vs hvs).2]; rfl⟩
  obtain ⟨c1, c2, c3, c4⟩ := cleanDecision_true (visH g hid) sd n w hcd
  obtain ⟨hfin, hinv⟩ := clean_requires_all_ready (visH g hid) sd n w (by rw [isReversible_sameNodes hsn]; exact hrev) hcd
  refine ⟨e1, hsc, hok, hid, sd, n, h1, h2, h3, hn, hcd,
    ⟨by rw [← hsn.flat]; exact c1, by rw [← sameNodes_cloneSource hsn]; exact c2, by rw [← sameNodes_dryRun hsn]; exact c3,
      by rw [← idIn_sameNodes hsn]; exact c4⟩,
    ⟨hne, hall⟩, by rw [← isFinished_sameNodes hsn]; exact hfin, fun v hv hsw => ?_⟩
  obtain ⟨m, hm, hcr, hres⟩ := hinv v (by rw [involved_sameNodes hsn]; exact hv)
    (by unfold InScope at hsw; rw [hsn.worker, hsn.worker]; exact hsw)
  refine ⟨m, ?_, hres, fun c hc hrel => ?_⟩
  · rw [← hm]
    simp only [idIn_sameNodes hsn, copies_sameNodes hsn]
  · have hd := (cleanup_ready_iff (visH g hid) sd m v).mp hcr c hc (by rw [relevant_sameNodes hsn]; exact hrel)
    rw [hsn.cls, hsn.cls] at hd
    refine ⟨hd, fun hfc => ?_⟩
    obtain ⟨p', b1, b2, b3, b4⟩ := td.dropC _ _ v hd
    have hcl : c.1 < g.nodes.length := (GraphWF.of_bool hwf).cleanup_lt m c (visH_cleanup_sub g hid m c hc)
    have hpc : p' = c.1 := hU v p' c.1 b1 hcl b2 b3 hrel
    rw [hpc] at b4
    exact b4 hfc

/-- **States are removed only after every dependant finished** (pre-parsed graphs; any workers, interleaving, outcomes).
If a step of worker `w` emits an `unset` request, then
(1) it is for set states of a node `p` — `w`'s own parsed copy, neither flat nor a clone source nor a dry run — whose
removal policy starts with `f` (marked for removal), and all involved workers have finished `p`;
(2) for every worker `v` that is involved in `p` (has picked a copy of it: hypothesis (b)) and lies within the scope the
clean decision of `w` waits for (hypothesis (a)): `v`'s copy `m` of `p` carries no pending (`UNKNOWN`) result, and every
dependant `c` of `m` that `v` cares for has been dropped by `v`, carries `v`'s `finished` mark, and NO EXECUTION OF IT IS IN
FLIGHT: no other worker `u` awaits a test on `c` (`w` itself is inside this very step, not inside a test);
(3) the request goes to `w`'s own pool only.
The two hypotheses on `v` are necessary: see `cross_swarm_dependant_in_flight` (a) and
`lazy_unpicked_dependant_starts_after_unset` (b).  A dependant may keep an `UNKNOWN` placeholder for ever (result never
reported: `run_test_node` defaults to ERROR and leaves the placeholder), which is why (2) speaks of executions in flight
and not of placeholders on the dependants. -/
theorem unset_after_dependants (g : Graph) {ncls : Nat} (hW : WellFormed g ncls) {store : Store} {s : State}
    (hr : ReachC g ncls store s) (w : Nat) (out : Outcome) (fuel : Nat)
    (wid : String) (reqs : List (String × String)) (sc : List String) (ok : Bool)
    (he : Event.door wid "unset" reqs sc ok ∈ (resume g s w out fuel).2) :
    wid = (g.worker w).id ∧ sc = ["own"] ∧ ok = true ∧
    ∃ sd p, p < g.nodes.length ∧ (∀ v, v ≠ w → sd.wd v = s.wd v) ∧ cleanDecision g sd p w = .ok true ∧
      ((g.node p).flat = false ∧ (g.node p).cloneSource = false ∧ (g.node p).dryRun = false ∧ g.idIn w p = true) ∧
      (reqs ≠ [] ∧ ∀ vs ∈ reqs, vs ∈ (g.node p).sets ∧ (unsetModeOf (g.node p) vs.1).toList.head? = some 'f') ∧
      isFinished g sd p w (-1) = true ∧
      ∀ v ∈ involved g sd p, InScope g w v = true →
        ∃ m, (if g.idIn v p then some p else (g.copies p).tail.find? (fun m => g.idIn v m)) = some m ∧
          (sd.nd m).results.all (fun r => lower r.status != "unknown") = true ∧
          ∀ c ∈ (g.node m).cleanup, relevant g v c.1 = true →
            v ∈ regWorkers (sd.cr (g.node m).cls).droppedCleanup (some (g.node c.1).cls) ∧
            ((g.node c.1).flat = false → (sd.nd c.1).finished = some v ∧
              ∀ u, u ≠ w → ∀ ph dir uid tag wait, (s.wd u).pc ≠ .test c.1 ph dir uid tag wait) := by
  obtain ⟨e1, e2, e3, hid, sd, p, _, h2, h3, hp, hcd, f1, f2, f3, f4⟩ :=
    unset_request_provenance g hW hr.reachH w out fuel wid reqs sc ok he
  obtain rfl : hid = [] := List.subset_nil.mp h2
  have ci := hr.cinv hW.hyp hW.2.2.2.2.2.2.1
  have hO := ownerNamesB_sound hW.2.1
  have t := hr.reachH.trv (GraphWF.of_bool hW.1) hW.2.2.2.2.2.1.1 hO.uniq
  refine ⟨e1, e2, e3, sd, p, hp, h3.others, hcd, f1, f2, f3, fun v hv hsw => ?_⟩
  obtain ⟨m, hm, hres, hch⟩ := f4 v hv hsw
  refine ⟨m, hm, hres, fun c hc hrel => ?_⟩
  obtain ⟨hd, hfin⟩ := hch c hc hrel
  refine ⟨hd, fun hfc => ⟨hfin hfc, fun u hu ph dir uid tag wait hpc => ?_⟩⟩
  -- only the owner executes a copy: `u = v`
  obtain ⟨hcl, hidu, _, _⟩ := t.pc u c.1 ph dir uid tag wait hpc
  have huv : u = v := hO.uniq c.1 hcl hfc u v hidu (relevant_nonflat hrel hfc)
  subst huv
  -- `u` has not dropped the node it is executing; `w` registers drops in its own name only
  have hnd := ci.not_dropped_in_flight u c.1 ph dir uid tag wait hpc
  rcases h3.dropC _ _ u hd with h | ⟨h, _⟩
  · exact hnd ⟨_, h⟩
  · exact hu h

/-- … hence, when all workers wait for each other (one swarm, or `localhost` workers), for EVERY involved worker -/
theorem unset_after_dependants_one_scope (g : Graph) {ncls : Nat} (hW : WellFormed g ncls) (hS : OneScope g) {store : Store}
    {s : State} (hr : ReachC g ncls store s) (w : Nat) (hw : w < g.workers.length) (out : Outcome) (fuel : Nat)
    (wid : String) (reqs : List (String × String)) (sc : List String) (ok : Bool)
    (he : Event.door wid "unset" reqs sc ok ∈ (resume g s w out fuel).2) :
    ∃ sd p, p < g.nodes.length ∧ (∀ v, v ≠ w → sd.wd v = s.wd v) ∧
      ∀ v ∈ involved g sd p,
        ∃ m, (if g.idIn v p then some p else (g.copies p).tail.find? (fun m => g.idIn v m)) = some m ∧
          (sd.nd m).results.all (fun r => lower r.status != "unknown") = true ∧
          ∀ c ∈ (g.node m).cleanup, relevant g v c.1 = true →
            v ∈ regWorkers (sd.cr (g.node m).cls).droppedCleanup (some (g.node c.1).cls) ∧
            ((g.node c.1).flat = false → (sd.nd c.1).finished = some v ∧
              ∀ u, u ≠ w → ∀ ph dir uid tag wait, (s.wd u).pc ≠ .test c.1 ph dir uid tag wait) := by
  obtain ⟨_, _, _, sd, p, hp, ho, _, _, _, _, h⟩ := unset_after_dependants g hW hr w out fuel wid reqs sc ok he
  refine ⟨sd, p, hp, ho, fun v hv => h v hv (hS w hw v ?_)⟩
  unfold involved at hv
  exact List.mem_range.mp (List.mem_filter.mp hv).1

/-- **No dependant is being executed when a state is removed** (pre-parsed graphs, one scope, the default reuse shape).
A worker that executes a dependant of its copy of `p` has traversed that copy, so its `finished` mark is on it, so — by
`is_finished(worker, -1)`, the last test of the clean decision — it is involved, and `unset_after_dependants` applies to
it.  Hence: whenever a step of `w` emits an `unset` request for states of `p`, NO other worker awaits a test on a node one
of whose parents is that worker's copy of `p` (`w` itself is inside this step, not inside a test).  This is what is
guaranteed about workers that have not picked `p` (hypothesis (b)) on a pre-parsed graph: they are not executing a
dependant; on a lazily expanded graph they may start one AFTERWARDS (`lazy_unpicked_dependant_starts_after_unset`). -/
theorem unset_no_dependant_in_flight (g : Graph) {ncls : Nat} (hW : WellFormed g ncls) (hS : OneScope g) (hG : GlobalShape g)
    {store : Store} {s : State} (hr : ReachC g ncls store s) (w : Nat) (hw : w < g.workers.length) (out : Outcome)
    (fuel : Nat) (wid : String) (reqs : List (String × String)) (sc : List String) (ok : Bool)
    (he : Event.door wid "unset" reqs sc ok ∈ (resume g s w out fuel).2) :
    ∃ p, p < g.nodes.length ∧
      (reqs ≠ [] ∧ ∀ vs ∈ reqs, vs ∈ (g.node p).sets ∧ (unsetModeOf (g.node p) vs.1).toList.head? = some 'f') ∧
      ∀ u, u ≠ w → ∀ c ph dir uid tag wait, (s.wd u).pc = .test c ph dir uid tag wait →
        ∀ m ∈ (g.node c).setup.map (·.1), (g.node m).cls = (g.node p).cls → relevant g u m = true → False := by
  obtain ⟨_, _, _, hid, sd, p, _, h2, h3, hp, _, f1, f2, f3, f4⟩ :=
    unset_request_provenance g hW hr.reachH w out fuel wid reqs sc ok he
  obtain rfl : hid = [] := List.subset_nil.mp h2
  have H := hW.hyp
  have ci := hr.cinv H hW.2.2.2.2.2.2.1
  have hO := ownerNamesB_sound hW.2.1
  have hF := hW.2.2.1
  have t := hr.reachH.trv (GraphWF.of_bool hW.1) hW.2.2.2.2.2.1.1 hO.uniq
  refine ⟨p, hp, f2, fun u hu c ph dir uid tag wait hpc m hm hmc hmrel => ?_⟩
  -- `c` was setup-ready for `u` when the test was started: `u` has dropped its copy `m` of `p` as a parent of `c`
  obtain ⟨hcl, hidu, hcf, hid', _, hb, hready⟩ := t.pc u c ph dir uid tag wait hpc
  obtain rfl : hid' = [] := List.subset_nil.mp hb
  obtain ⟨q, hq, hqm⟩ := List.mem_map.mp hm
  have hml : m < g.nodes.length := by rw [← hqm]; exact H.wf.setup_lt c q hq
  have hds := (setup_ready_iff' g s c u).mp hready q hq (by rw [hqm]; exact hmrel)
  rw [hqm] at hds
  -- … so `u`'s `finished` mark is on `m`, in `s` and still in `sd`
  obtain ⟨p', b1, b2, b3, b4⟩ := t.dropS _ _ u hds
  have hp'm : p' = m := H.uniq u p' m b1 hml b2 b3 hmrel
  rw [hp'm] at b4
  have hmf : (g.node m).flat = false := by rw [hF m hml p hp hmc]; exact f1.1
  have hfin_s : (s.nd m).finished = some u := b4 hmf
  have hfin_sd : (sd.nd m).finished = some u := by
    rcases h3.fin m with h | ⟨_, hr', _⟩
    · rw [h]; exact hfin_s
    · exact absurd (hO.uniq m hml hmf u w (relevant_nonflat hmrel hmf) (relevant_nonflat hr' hmf)) hu
  -- … hence `u` is involved, and the run-level statement applies to it
  have hinv := involved_of_finished g sd p w m u hp f1.1 (hG p hp) f3 hml hmc hfin_sd
  have hul : u < g.workers.length := by
    unfold involved at hinv
    exact List.mem_range.mp (List.mem_filter.mp hinv).1
  obtain ⟨m', hm', _, hch⟩ := f4 u hinv (hS w hw u hul)
  obtain ⟨k1, k2, k3⟩ := pickedOf_spec g p u m' hp f1.1 hm'
  have hmm : m' = m := H.uniq u m' m k1 hml (k2.trans hmc.symm) (relevant_of_idIn k3) hmrel
  subst hmm
  have hcm : c ∈ (g.node m').cleanup.map (·.1) := (H.sym m' hml c hcl).mp hm
  obtain ⟨q', hq', hq'c⟩ := List.mem_map.mp hcm
  have hrc : relevant g u q'.1 = true := by rw [hq'c]; exact relevant_of_idIn hidu
  obtain ⟨hd, _⟩ := hch q' hq' hrc
  rw [hq'c] at hd
  exact not_in_flight_of_dropped ci t hO h3 hcf (relevant_of_idIn hidu) hd u hu ph dir uid tag wait hpc

/-- The statement that covers lazy expansion (any initial hidden set) is PARTIAL: everything of `unset_after_dependants`
but the absence of executions in flight, and the dependants are those visible when the decision is taken.  Missing: on a
lazily expanded graph a node a worker has dropped can get a NEW dependant when the worker expands another flat test for
itself; the worker then walks up to the dropped node again and — if its rerun rule has flipped meanwhile — may execute it
again, so "dropped" does not imply "never on the path again" there (the proof of the pre-parsed case rests on exactly that:
`Lemmas/TravClean.lean`, `CInv`).  And a dependant that is only expanded for a worker that has not picked `p` yet is not
waited for at all: `lazy_unpicked_dependant_starts_after_unset`. -/
theorem unset_after_dependants_lazy_partial (g : Graph) {ncls : Nat} (hW : WellFormed g ncls) {store : Store} {H0 : List Nat}
    {s : State} (hr : ReachH g ncls store H0 s) (w : Nat) (out : Outcome) (fuel : Nat)
    (wid : String) (reqs : List (String × String)) (sc : List String) (ok : Bool)
    (he : Event.door wid "unset" reqs sc ok ∈ (resume g s w out fuel).2) :
    wid = (g.worker w).id ∧ sc = ["own"] ∧ ok = true ∧
    ∃ hid sd p, (∀ h ∈ sd.hidden, h ∈ hid) ∧ (∀ h ∈ hid, h ∈ H0) ∧ p < g.nodes.length ∧ (∀ v, v ≠ w → sd.wd v = s.wd v) ∧
      cleanDecision (visH g hid) sd p w = .ok true ∧
      ((g.node p).flat = false ∧ (g.node p).cloneSource = false ∧ (g.node p).dryRun = false ∧ g.idIn w p = true) ∧
      (reqs ≠ [] ∧ ∀ vs ∈ reqs, vs ∈ (g.node p).sets ∧ (unsetModeOf (g.node p) vs.1).toList.head? = some 'f') ∧
      isFinished g sd p w (-1) = true ∧
      ∀ v ∈ involved g sd p, InScope g w v = true →
        ∃ m, (if g.idIn v p then some p else (g.copies p).tail.find? (fun m => g.idIn v m)) = some m ∧
          (sd.nd m).results.all (fun r => lower r.status != "unknown") = true ∧
          ∀ c ∈ ((visH g hid).node m).cleanup, relevant g v c.1 = true →
            v ∈ regWorkers (sd.cr (g.node m).cls).droppedCleanup (some (g.node c.1).cls) ∧
            ((g.node c.1).flat = false → (sd.nd c.1).finished = some v) := by
  obtain ⟨e1, e2, e3, hid, sd, p, h1, h2, h3, hp, hcd, f1, f2, f3, f4⟩ :=
    unset_request_provenance g hW hr w out fuel wid reqs sc ok he
  exact ⟨e1, e2, e3, hid, sd, p, h1, h2, hp, h3.others, hcd, f1, f2, f3, f4⟩

/-! ### non-vacuity and the witnesses of the two hypotheses -/

example : WellFormed exGraph 3 ∧ OneScope exGraph ∧ GlobalShape exGraph := Clean.exGraph_wellFormed
example : ReachC exGraph 3 [] exS2 :=
  reachC_runSched exGraph 3 [] 100 (by decide) _ (by decide) _ ReachC.init

/-- (a) cross-swarm, hypothesis `InScope g w v` (known finding `cleanup:unset-while-dependant-runs:cross-swarm`): `c2.net2` is
involved in `p` (it reused it and was told to fetch the state from `c1.net1`'s pool) and is executing the dependant `d`
(node 5, a cleanup child of its copy 1 of `p`) when `c1.net1`, which only waits for involved workers of its own swarm,
removes the state from its pool.  What IS guaranteed for workers outside the scope: nothing about their dependants; only
that the request touches the cleaning worker's own pool (`sc = ["own"]`), so copies in other pools stay. -/
theorem cross_swarm_dependant_in_flight :
    (WellFormed exCross 4 ∧ ¬ OneScope exCross ∧ InScope exCross 0 1 = false ∧ (5, ["vm1"]) ∈ (exCross.node 1).cleanup) ∧
    (1 ∈ involved exCross exX3 0 ∧ pcNode (exX3.wd 1).pc = some 5) ∧
    Event.door "c1.net1" "unset" [("vm1", "p")] ["own"] true ∈ (resume exCross exX3 0 exPass 100).2 := by
  have h := foldl_resume_eqP exCross 100 [(0, exNoOut), (0, exPass), (1, exNoOut)] _ (initState_hidden exCross 4 [])
  rw [show exX3 = runSchedP exCross 100 _ _ from h.1, resume_eq_resumeP h.2]
  decide +kernel

/-- why (2) speaks of executions in flight and not of placeholders on the dependants: the result of `c` (node 2) was never
reported — `run_test_node` gives up after ten waits, defaults to ERROR and leaves the `UNKNOWN` placeholder in the node's
results for ever; `c` is finished for the worker all the same, and the state of `p` is removed with the placeholder there -/
theorem dependant_may_keep_unknown_placeholder :
    ((exX13.nd 2).results.map (·.status) = ["UNKNOWN"] ∧ (exX13.nd 2).finished = some 0 ∧ pcNode (exX13.wd 0).pc = some 4) ∧
    Event.door "c1.net1" "unset" [("vm1", "p")] ["own"] true ∈ (resume exCross exX13 0 exPass 100).2 := by
  have h := foldl_resume_eqP exCross 100 ([(0, exNoOut), (0, exPass)] ++ List.replicate 11 (0, exNoOut)) _
    (initState_hidden exCross 4 [])
  rw [show exX13 = runSchedP exCross 100 _ _ from h.1, resume_eq_resumeP h.2]
  decide +kernel

example : ReachC exCross 4 [] exX3 :=
  reachC_runSched exCross 4 [] 100 (by decide) _ (by decide) _ ReachC.init

/-- (b) not picked yet, hypothesis `v ∈ involved g sd p` (known finding
`states:lazy-expansion-state-removed-before-the-dependant-worker-picked-its-producer`): on the lazily expanded graph net2
has expanded the flat test `e` for itself — its copies of `e` (node 3) and of the producer `p` (node 1) exist, `e` is a
dependant of `p` and not traversed — but runs the other setup `q` first and has not PICKED `p` yet, so it is not involved;
net1 finds itself the only involved worker and removes the state; afterwards net2 starts `e`, told to fetch the state from
net1's pool.  What IS guaranteed for a worker that is not involved: it has not picked any copy of `p` (definition of
`involved`), and the request touches net1's own pool only. -/
theorem lazy_unpicked_dependant_starts_after_unset :
    (WellFormed exLazyB 6 ∧ OneScope exLazyB ∧ (3, ["vm1"]) ∈ (exLazyB.node 1).cleanup) ∧
    (exB2.hidden = [2, 4] ∧ involved exLazyB exB2 0 = [0] ∧ (exB2.nd 3).finished = none) ∧
    Event.door "net1" "unset" [("vm1", "p")] ["own"] true ∈ (resume exLazyB exB2 0 exPass 100).2 ∧
    Event.start "net2" "1" "2a1" [("vm1", ":/pool/shared net2:/pool/swarm net1:/pool/swarm")] 1 ∈
      (resume exLazyB exB3 1 exPass 100).2 := by
  decide +kernel

example : ReachH exLazyB 6 [] [0, 1, 2, 3, 4, 5] exB2 := reachH_runSched exLazyB 6 [] _ 100 _ _ ReachH.init

/-! ## The regenerated clean decision (`harness/pygen.py`)

`I2N/Extracted/GenClean.lean` is regenerated on every run from the source of `TestNode.default_clean_decision`: the four
tests in front (dry run, flat, clone source, foreign worker → `RuntimeError`), the `is_reversible` loop over the node's
objects (`for … : flag = …; flag |= …; if flag: break  else: flag = False`, printed as `List.any`) and the selection
"not reversible → clean; reversible → the loop over the involved workers".  That last loop is pinned verbatim (its text
is in `harness/pygen.py`, a changed body is refused) and enters as `door`, what it returns or raises; `cleanDoor` is
how `cleanDecision` mirrors it (tied by the differential runs). -/

section Regenerated
open I2N.Extracted.GenClean

theorem singleton_beq_f (c : Char) : (String.singleton c == "f") = (c == 'f') := by
  by_cases h : c = 'f'
  · subst h; decide
  · have : String.singleton c ≠ "f" := by
      intro h2
      apply h
      have := congrArg String.toList h2
      simpa using this
    rw [beq_eq_false_iff_ne.mpr this, beq_eq_false_iff_ne.mpr h]

/-- the first character of the unset mode the model holds for object `vm` of `nd`, as Python's `mode[0]` -/
def modeHead (nd : Node) (vm : String) : String :=
  match (unsetModeOf nd vm).toList.head? with
  | some c => String.singleton c
  | none => ""

theorem modeHead_f (nd : Node) (vm : String) :
    (modeHead nd vm == "f") = ((unsetModeOf nd vm).toList.head? == some 'f') := by
  unfold modeHead
  cases h : (unsetModeOf nd vm).toList.head? with
  | none => decide
  | some c => simp only [singleton_beq_f]; rfl

/-- the loop over the involved workers of `default_clean_decision` ("close the door"), as `cleanDecision` mirrors it -/
def cleanDoor (g : Graph) (s : State) (n w : Nat) : Except String Bool :=
  let inv := (involved g s n).filter (fun v =>
    (g.worker w).swarm == "localhost" || strIn (g.worker w).swarm (g.worker v).id)
  let pickedOf := fun (v : Nat) =>
    if g.idIn v n then some n else (g.copies n).tail.find? (fun m => g.idIn v m)
  if inv.any (fun v => (pickedOf v).isNone) then .error "ValueError" else
  let okAll := inv.all (fun v =>
    match pickedOf v with
    | none => false
    | some m => isCleanupReady g s m v && !((s.nd m).results.any (fun r => lower r.status == "unknown")))
  if !okAll then .ok false else .ok (isFinished g s n w (-1))

theorem any_congr_mem {α} (p q : α → Bool) (l : List α) (h : ∀ x ∈ l, p x = q x) : l.any p = l.any q := by
  induction l with
  | nil => rfl
  | cons a l ih =>
    simp only [List.any_cons]
    rw [h a (by simp), ih (fun x hx => h x (by simp [hx]))]

/-- the encoding under which the model's one unset mode per object stands for the two parameter reads of the code:
an object counts as reversible in the code (`unset_mode_images` or `unset_mode_vms`, each defaulting to `unset_mode`,
starts with `f`) iff the mode exported for it starts with `f` -/
def ModesEncoded (nd : Node) (imagesMode vmsMode : String → String) : Prop :=
  ∀ o ∈ nd.objs, ((imagesMode o == "f") || (vmsMode o == "f")) = ((unsetModeOf nd o).toList.head? == some 'f')

theorem genCleanDecision_eq (dryRun flat cloneSource idIn : Bool) (objs : List String) (imagesMode vmsMode : String → String)
    (door : Except String Bool) :
    genCleanDecision dryRun flat cloneSource idIn objs imagesMode vmsMode door =
      if dryRun then .ok false else if flat then .ok false else if cloneSource then .ok false else
      if !idIn then .error "RuntimeError" else
      if !objs.any (fun o => (imagesMode o == "f") || (vmsMode o == "f")) then .ok true else door := by
  unfold genCleanDecision
  cases dryRun <;> cases flat <;> cases cloneSource <;> cases idIn <;> rfl

/-- **The hand written `cleanDecision` is the Python source of `default_clean_decision`** (the tests in front of the
pinned loop, their order, the `RuntimeError`, the meaning of `is_reversible` as "some object", and which branch leads
to the loop), for every graph, state, copy and worker — modulo the explicit encoding `ModesEncoded` of the two
per-object parameter reads by the one exported mode. -/
theorem cleanDecision_matches_source (g : Graph) (s : State) (n w : Nat) (imagesMode vmsMode : String → String)
    (henc : ModesEncoded (g.node n) imagesMode vmsMode) :
    cleanDecision g s n w =
      genCleanDecision (g.node n).dryRun (g.node n).flat (g.node n).cloneSource (g.idIn w n) (g.node n).objs
        imagesMode vmsMode (cleanDoor g s n w) := by
  have hrev : isReversible (g.node n) =
      (g.node n).objs.any (fun o => (imagesMode o == "f") || (vmsMode o == "f")) :=
    any_congr_mem _ _ _ (fun o ho => (henc o ho).symm)
  rw [genCleanDecision_eq, ← hrev]
  rfl

/-- non-vacuity of `ModesEncoded`: reading both parameters as the exported mode satisfies it, for every node -/
theorem modesEncoded_modeHead (nd : Node) : ModesEncoded nd (modeHead nd) (modeHead nd) := by
  intro o _
  rw [modeHead_f, Bool.or_self]

/-- the generated definition computes: not reversible → clean at once; reversible → whatever the loop says; a foreign
worker raises before the objects are looked at; a dry run never cleans -/
example : genCleanDecision false false false true ["vm1", "vm2"] (fun _ => "r") (fun _ => "r") (.ok false) = .ok true ∧
    genCleanDecision false false false true ["vm1", "vm2"] (fun o => if o == "vm2" then "f" else "r") (fun _ => "r")
      (.ok false) = .ok false ∧
    genCleanDecision false false false true ["vm1"] (fun _ => "r") (fun _ => "f") (.error "ValueError") =
      .error "ValueError" ∧
    genCleanDecision false false false false [] (fun _ => "f") (fun _ => "f") (.ok true) = .error "RuntimeError" ∧
    genCleanDecision true false false false ["vm1"] (fun _ => "f") (fun _ => "f") (.ok true) = .ok false :=
  ⟨rfl, rfl, rfl, rfl, rfl⟩

end Regenerated

end I2N.Props.C05

/-! ## Translator tie: `shared_involved_workers` is the Python source (`harness/pygen_pxloc.py`)

`Extracted/GenInvolved.lean` is regenerated on every run from the CURRENT source of the property
`TestNode.shared_involved_workers` (avocado_i2n/cartgraph/node.py) — the set `default_clean_decision` runs over and
`is_started` / `is_finished` compare with for the threshold `-1`.  Translated (nothing pinned): the union of the workers of
the two `picked_by` registers, the nested comprehension over `TestSwarm.run_swarms` and the workers of each swarm with the
filter `w.id in worker_ids`, `set(…)`.  Atoms (trusted): `<register>.get_workers()` = `regWorkers <register> none`; a
worker's id stands for the worker (register keys are worker indices in the model); `TestSwarm.run_swarms` = the swarms in
dictionary order, each standing for the list of its workers. -/
namespace I2N.Props.C05
open I2N.Trav
open I2N.Extracted.GenInvolved

/-- **The hand written `involved` is the Python source of `shared_involved_workers`**, for every graph, state and node
and EVERY division of the workers into swarms.  Hypothesis `hs`: the swarms, one after the other, list the workers
`0 … |workers|-1` in the exported order (this is how `harness/travlib.py` numbers them: swarm by swarm; it excludes
divisions that forget or repeat a worker).  The equality is one of LISTS (hence of the sets they stand for). -/
theorem involved_matches_source (g : Graph) (s : State) (n : Nat) (swarms : List (List Nat))
    (hs : swarms.flatten = List.range g.workers.length) :
    involved g s n =
      genSharedInvolvedWorkers (regWorkers (s.cr (g.node n).cls).pickedBySetup none)
        (regWorkers (s.cr (g.node n).cls).pickedByCleanup none) swarms := by
  rw [I2N.GenLazy.genSharedInvolvedWorkers_eq, hs]
  rfl

/-- non-vacuity of `hs`: three workers in two swarms -/
example : ([[0, 1], [2]] : List (List Nat)).flatten = List.range 3 := by decide

/-- the generated definition computes: the workers of either register, each once, in swarm order -/
example : genSharedInvolvedWorkers [2] [0, 2] [[0, 1], [2, 3]] = [0, 2] ∧
    genSharedInvolvedWorkers [] [] [[0, 1], [2, 3]] = [] ∧
    genSharedInvolvedWorkers [1] [] [[0], [], [1]] = [1] := by decide

/-- **The hand written `sharedResults` is the Python source of `shared_results`**: the node's own results followed by
those of its bridged copies in order, for every graph, state and node.  `self.bridged_nodes` = the other copies of the
class (`(g.copies n).tail`; none for a flat node).  No hypotheses. -/
theorem sharedResults_matches_source (g : Graph) (s : State) (n : Nat) :
    sharedResults g s n = genSharedResults (s.nd n).results (g.copies n).tail (fun m => (s.nd m).results) := by
  rw [I2N.GenShared.genSharedResults_eq, sharedResults]
  conv => lhs; rw [I2N.GenShared.copies_cons g n]
  rw [List.flatMap_cons]

/-- the generated definition computes: own results first, then copy by copy -/
example :
    genSharedResults [{ name := "a", status := "PASS", uid := "1" }] [4, 7]
      (fun m => if m == 7 then [{ name := "b", status := "FAIL", uid := "2" }] else []) =
      [{ name := "a", status := "PASS", uid := "1" }, { name := "b", status := "FAIL", uid := "2" }] := by decide

end I2N.Props.C05
