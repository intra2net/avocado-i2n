import I2N.Lemmas.Trav
import I2N.Lemmas.TravResults
import I2N.Lemmas.TravBudget
import I2N.Lemmas.TravPatient
import I2N.Lemmas.TravEval
import I2N.Model.TravMon
/-!
# C03 — No test is executed more often than its retry budget per reuse scope
-/
namespace I2N.Props.C03
open I2N.Trav

/-- What the count monitor decides: for every execution `j` (the test proper, not the creation
pre-step) the executions of the same class within the scope of `j`'s worker number at most
`max(max_tries, 1)` — unless one of them was preceded by an execution of the class that overran its
timeout budget (the documented recovery path raises the concurrency limit then). -/
theorem countOk_iff (g : Graph) (t : List MEv) :
    countOk g t = true ↔
      ∀ j ∈ (intervals t).filter (·.main),
        let same := ((intervals t).filter (·.main)).filter (fun i => i.cls == j.cls && inScope g j.cls j.w i.w)
        same.length ≤ triesOf g j.cls j.w ∨ same.any (fun i => overran g (intervals t) i) = true := by
  unfold countOk countViolations
  rw [filterMap_ite_isEmpty]
  constructor
  · intro h j hj
    have := h j hj
    simp only [Bool.and_eq_false_imp, decide_eq_true_eq, Bool.not_eq_false'] at this
    intro same
    by_cases hc : same.length > triesOf g j.cls j.w
    · right; exact this hc
    · left; omega
  · intro h j hj
    simp only [Bool.and_eq_false_imp, decide_eq_true_eq, Bool.not_eq_false']
    intro hc
    rcases h j hj with h1 | h1
    · omega
    · exact h1

/-- What the attempt monitor decides: as `countOk_iff`, but over ALL execution intervals — a creation of an object that
ended with a failed pre-step is an execution too. -/
theorem attemptOk_iff (g : Graph) (t : List MEv) :
    attemptOk g t = true ↔
      ∀ j ∈ intervals t,
        let same := (intervals t).filter (fun i => i.cls == j.cls && inScope g j.cls j.w i.w)
        same.length ≤ triesOf g j.cls j.w ∨ same.any (fun i => overran g (intervals t) i) = true := by
  unfold attemptOk attemptViolations
  rw [filterMap_ite_isEmpty]
  constructor
  · intro h j hj
    have := h j hj
    simp only [Bool.and_eq_false_imp, decide_eq_true_eq, Bool.not_eq_false'] at this
    intro same
    by_cases hc : same.length > triesOf g j.cls j.w
    · right; exact this hc
    · left; omega
  · intro h j hj
    simp only [Bool.and_eq_false_imp, decide_eq_true_eq, Bool.not_eq_false']
    intro hc
    rcases h j hj with h1 | h1
    · omega
    · exact h1

/-- Clone sources, flat (not yet expanded) tests, dry runs and the shared root are never executed:
the run decision is `False`, nothing is requested from the state control and no state changes. -/
theorem never_run_flat_or_clone_source (g : Graph) (s : State) (n w : Nat)
    (h : (g.node n).flat = true ∨ (g.node n).cloneSource = true ∨ (g.node n).dryRun = true ∨ (g.node n).sharedRoot = true) :
    runDecision g s n w = .ok (false, s, []) := by
  unfold runDecision
  rcases h with h | h | h | h
  · by_cases a : (g.node n).sharedRoot = true <;> by_cases b : (g.node n).dryRun = true <;> simp [a, b, h]
  · by_cases a : (g.node n).sharedRoot = true <;> by_cases b : (g.node n).dryRun = true <;>
      by_cases c : (g.node n).flat = true <;> simp [a, b, c, h]
  · by_cases a : (g.node n).sharedRoot = true <;> simp [a, h]
  · simp [h]

/-- … and neither are they re-run. -/
theorem never_rerun_flat_or_clone_source (g : Graph) (s : State) (n w : Nat)
    (h : (g.node n).flat = true ∨ (g.node n).cloneSource = true ∨ (g.node n).dryRun = true) :
    shouldRerun g s n w = .ok false := by
  unfold shouldRerun
  rcases h with h | h | h
  · by_cases a : (s.nd n).rerunDisabled = true <;> by_cases b : (g.node n).dryRun = true <;> simp [a, b, h]
  · by_cases a : (s.nd n).rerunDisabled = true <;> by_cases b : (g.node n).dryRun = true <;>
      by_cases c : (g.node n).flat = true <;> simp [a, b, c, h]
  · by_cases a : (s.nd n).rerunDisabled = true <;> simp [a, h]

/-- A setup test whose resulting states are all found in the own pool of the worker the copy was parsed for
(`g.netOf n w`: the state request carries the parameters of the COPY, so it is that worker's pool that is examined —
the examining worker's own pool whenever the copy is its own, i.e. always under `OwnerNames`) or the shared
pool (as far as those scopes are enabled) when it is first examined — nobody of the scope finished
it, no result in scope yet — is not executed: the decision is `False`, the only request to the state
control is the `check`, the store is untouched, and reruns are switched off for this copy. -/
theorem present_not_run (g : Graph) (s : State) (n w : Nat)
    (hroot : (g.node n).sharedRoot = false) (hdry : (g.node n).dryRun = false) (hflat : (g.node n).flat = false)
    (hclone : (g.node n).cloneSource = false) (hid : g.idIn w n = true) (hsets : (g.node n).sets.isEmpty = false)
    (hfirst : isFinished g s n w 1 = false)
    (hnone : (sharedFilteredResults g s n (s.nd n).started).isEmpty = true)
    (hn : n < s.nodes.length)
    (hpresent : (g.node n).sets.all (fun vs =>
        ((g.node n).scope.contains "own" && (storeGet s.store (g.worker (g.netOf n w)).id).contains vs) ||
        ((g.node n).scope.contains "shared" && (storeGet s.store "shared").contains vs)) = true) :
    ∃ s', runDecision g s n w = .ok (false, s', [Event.door (g.worker (g.netOf n w)).id "check" (g.node n).sets (g.node n).scope true]) ∧
      s'.store = s.store ∧ (s'.nd n).rerunDisabled = true ∧ ∀ m, (s'.nd m).results = (s.nd m).results := by
  have hscan : scanStates g s n w = (false, [Event.door (g.worker (g.netOf n w)).id "check" (g.node n).sets (g.node n).scope true]) := by
    unfold scanStates
    simp only [hsets, Bool.false_eq_true, if_false]
    simp only [hpresent, Bool.not_true]
  refine ⟨disableRerun s n, ?_, rfl, ?_, ?_⟩
  · have hre : shouldRerun g (disableRerun s n) n w = .ok false := by
      unfold shouldRerun disableRerun
      rw [nd_setNd_eq _ _ _ hn]; simp
    unfold runDecision runDecisionStateful runDecisionStatefulCore
    simp only [hroot, hdry, hflat, hclone, hid, hsets, hfirst, hscan, hnone, hre, Except.map, Bool.false_eq_true, if_false,
      Bool.not_true, Bool.not_false, Bool.and_self, if_true, Bool.and_false]
  · unfold disableRerun; rw [nd_setNd_eq _ _ _ hn]
  · intro m
    exact nd_disableRerun_proj (·.results) (fun _ => rfl) s n m

/-!
## Bookkeeping along every run

Inductive invariants over `ReachableR g ncls store s`: the states reachable from `initState g ncls store` by
any sequence of `resume` steps of real workers (`w < g.workers.length`), with any outcomes (including "never
reported") and any positive fuel.  (With fuel 0 the model stops a step before the program counter is reset —
an artefact of the driver's iteration bound — so fuel 0 is excluded.)  Hypotheses on the graph are decidable:
`graphWF g` (root and edge end points are node indices), `namesInjB g` (distinct copies have distinct names),
`preFreshB g` (no test proper is named like a creation pre-step).
-/

section results

/-- **results_monotone.**  Along any step of worker `w` the result list of every node copy `m` keeps all its
elements in their order — whatever is new is appended behind — except for the UNKNOWN placeholder whose `tag`
is the one in `w`'s own program counter, awaited at `m` (`removable`): only `resumeTest` of the worker owning
the tag takes a placeholder away.  Consequences: every non-UNKNOWN result stays; every placeholder with another
tag stays; and if `w` is not awaiting a test proper at `m`, the list of `m` is an initial segment of the new one. -/
theorem results_monotone {g : Graph} (hwf : graphWF g = true) {ncls : Nat} {store : List (String × List (String × String))}
    {s : State} (hr : ReachableR g ncls store s) (w : Nat) (out : Outcome) (fuel : Nat)
    (hw : w < g.workers.length) (hf : 0 < fuel) (m : Nat) :
    ((s.nd m).results.filter (fun r => !removable s w m r)).Sublist ((resume g s w out fuel).1.nd m).results ∧
    (∀ r ∈ (s.nd m).results, r.status ≠ "UNKNOWN" → r ∈ ((resume g s w out fuel).1.nd m).results) ∧
    (∀ r ∈ (s.nd m).results, (∀ n ph dir uid tag wait, (s.wd w).pc = .test n ph dir uid tag wait → tag ≠ r.tag) →
      r ∈ ((resume g s w out fuel).1.nd m).results) ∧
    ((∀ n ph dir uid tag wait, (s.wd w).pc = .test n ph dir uid tag wait → ph = .pre ∨ n ≠ m) →
      (s.nd m).results <+: ((resume g s w out fuel).1.nd m).results) := by
  have b := hr.basic hwf
  have hws : w < s.workers.length := by rw [b.workersLen]; exact hw
  have h1 := resume_results_sublist g (GraphWF.of_bool hwf) s w out fuel hf hws (b.paths w) m
  refine ⟨h1, ?_, ?_, resume_results_prefix g (GraphWF.of_bool hwf) s w out fuel hf hws (b.paths w) m⟩
  · intro r hr' hst
    refine h1.subset (List.mem_filter.mpr ⟨hr', ?_⟩)
    unfold removable isPh
    split <;> simp [hst]
  · intro r hr' htag
    refine h1.subset (List.mem_filter.mpr ⟨hr', ?_⟩)
    unfold removable isPh
    split
    · rfl
    · rename_i n ph dir uid tag wait _ hpc
      have := htag n ph dir uid tag wait hpc
      simp [Ne.symm this]
    · rfl

/-- **unknown_before_suspend.**  In every reachable state, a worker suspended in a test proper (phase plain or
main) of copy `n` — in particular right after the step that started it — has its placeholder
`{status := "UNKNOWN", tag}` in the results of `n`, hence in the `sharedResults` every other worker's
`shouldRerun` looks at through its own copy `n'` of the class: the execution in flight is counted. -/
theorem unknown_before_suspend {g : Graph} (hwf : graphWF g = true) {ncls : Nat} {store : List (String × List (String × String))}
    {s : State} (hr : ReachableR g ncls store s) (w n : Nat) (ph : Phase) (dir : Dir) (uid : String) (tag wait : Nat)
    (hpc : (s.wd w).pc = .test n ph dir uid tag wait) (hph : ph ≠ .pre) :
    phOf (g.node n).name tag ∈ (s.nd n).results ∧
    ∀ n', (g.node n').flat = false → (g.node n).cls = (g.node n').cls → phOf (g.node n).name tag ∈ sharedResults g s n' := by
  have b := hr.basic hwf
  have h := (b.placeholder w n ph dir uid tag wait trivial hpc).1 hph
  exact ⟨h, fun n' hflat hcls => mem_sharedResults g s n n' _ (b.pcOK w n ph dir uid tag wait trivial hpc).1 hflat hcls h⟩

/-- … while the placeholder of a creation pre-step lives on the worker's private copy of the results. -/
theorem unknown_before_suspend_pre {g : Graph} (hwf : graphWF g = true) {ncls : Nat} {store : List (String × List (String × String))}
    {s : State} (hr : ReachableR g ncls store s) (w n : Nat) (dir : Dir) (uid : String) (tag wait : Nat)
    (hpc : (s.wd w).pc = .test n .pre dir uid tag wait) :
    phOf (s.wd w).preName tag ∈ (s.wd w).preResults ∧ (g.node n).objectRoot = true := by
  have b := hr.basic hwf
  refine ⟨(b.placeholder w n .pre dir uid tag wait trivial hpc).2 rfl, ?_⟩
  have := (b.pcOK w n .pre dir uid tag wait trivial hpc).2.2.2.1
  cases hc : (g.node n).objectRoot
  · exact absurd (this.mp hc) (by decide)
  · rfl

/-- the tags of executions in flight are pairwise distinct and below the tag counter -/
theorem tags_distinct {g : Graph} (hwf : graphWF g = true) {ncls : Nat} {store : List (String × List (String × String))}
    {s : State} (hr : ReachableR g ncls store s) (v v' n n' : Nat) (ph ph' : Phase) (dir dir' : Dir) (uid uid' : String)
    (tag tag' wait wait' : Nat) (hvv : v ≠ v')
    (hpc : (s.wd v).pc = .test n ph dir uid tag wait) (hpc' : (s.wd v').pc = .test n' ph' dir' uid' tag' wait') :
    tag ≠ tag' ∧ tag < s.nextTag :=
  ⟨(hr.basic hwf).tagsDistinct v v' n ph dir uid tag wait n' ph' dir' uid' tag' wait' trivial trivial hvv hpc hpc',
   ((hr.basic hwf).pcOK v n ph dir uid tag wait trivial hpc).2.2.1⟩

/-! Witness of known finding `count:object-root-creation-hidden-from-retry-budget`: while `net1` creates the vm
(pre-step of the object root, retries enabled), the results the other worker's decision looks at are empty;
`net2` starts a second creation of the same class although `max_tries = 1`. -/

def gR : Graph :=
  { workers := [{ id := "net1", swarm := "localhost" }, { id := "net2", swarm := "localhost" }],
    nodes := [
      { cls := 0, owner := some 0, name := "all.root.vms.vm1.nets.localhost.net1", pfx := "1a1", objectRoot := true,
        sets := [("vm1", "root")], objs := ["vm1"], setup := [(2, ["vm1"])], maxTries := some 1, mct := some 2 },
      { cls := 0, owner := some 1, name := "all.root.vms.vm1.nets.localhost.net2", pfx := "1b1", objectRoot := true,
        sets := [("vm1", "root")], objs := ["vm1"], setup := [(2, ["vm1"])], maxTries := some 1, mct := some 2 },
      { cls := 1, owner := none, name := "all.internal.stateless.noop", pfx := "1", flat := true, sharedRoot := true,
        cleanup := [(0, ["vm1"]), (1, ["vm1"])] }],
    root := 2 }

/-- is worker `w` suspended in phase `ph` of copy `n` -/
def inTestAt (s : State) (w n : Nat) (ph : Phase) : Bool :=
  match (s.wd w).pc with
  | .test n' ph' _ _ _ _ => n' == n && ph' == ph
  | _ => false

def sR1 : State := (resume gR (initState gR 2 []) 0 { status := none } 20).1
def sR2 : State := (resume gR sR1 1 { status := none } 20).1

/-- What the run `sR1`, `sR2` shows, here and for `budget_stateful_roots` below, from ONE kernel evaluation.  Evaluating a
run is dear (for every `worker.id in name` the kernel decodes the UTF-8 of the node name), a `decide` per example would
evaluate it again from the initial state, and plain `decide` once more in the elaborator. -/
theorem gR_run :
    (inTestAt sR1 0 0 .pre = true ∧ ((sR1.wd 0).preResults.map (·.status)) = ["UNKNOWN"] ∧
      sharedResults gR sR1 1 = []) ∧
    (inTestAt sR2 0 0 .pre = true ∧ inTestAt sR2 1 1 .pre = true) ∧
    ((sharedFilteredResults gR sR2 0 (some 0)).length = 0 ∧ creationsInFlight gR sR2 0 .global 0 = [0, 1] ∧
      classLimit gR sR2 0 = 2) := by
  rw [sR2, sR1]
  simp only [resume_eq_resumeP, hidden_resumeP, initState_hidden]
  decide +kernel

example : graphWF gR = true := by decide +kernel
example : inTestAt sR1 0 0 .pre = true ∧ ((sR1.wd 0).preResults.map (·.status)) = ["UNKNOWN"] ∧
    sharedResults gR sR1 1 = [] := gR_run.1
example : inTestAt sR2 0 0 .pre = true ∧ inTestAt sR2 1 1 .pre = true := gR_run.2.1

end results

section identifiers

/-- **uids_distinct_trav.**  In every reachable state the job records of the parsed copies of classes without
object roots carry pairwise distinct (name, uid): the list of the keys of `jobResults`, restricted to the names
of such copies, has no duplicates.  (Each `startTest` of a test proper uses `uidOf pfx k` with `k` the number
of results of the whole class, which only grows — `results_monotone`, placeholder exactly once — and is raised
by the placeholder before anybody else can start; `uidOf` is injective in `k`; distinct copies have distinct
names.) -/
theorem uids_distinct_trav {g : Graph} (hwf : graphWF g = true) (hN : namesInjB g = true) (hP : preFreshB g = true)
    {ncls : Nat} {store : List (String × List (String × String))} {s : State} (hr : ReachableR g ncls store s) :
    ((s.jobResults.map (fun r => (r.1, r.2.1))).filter (fun k => goodName g k.1)).Nodup :=
  (hr.uids hwf (namesInjB_sound hN) (preFreshB_sound hP)).nodup

/-- … and the executions in flight (reported or not, "never reported" included) carry identifiers that differ
from each other, each being `uidOf pfx k` for a counter `k` below the current number of results of the class. -/
theorem uids_inflight_distinct {g : Graph} (hwf : graphWF g = true) (hN : namesInjB g = true) (hP : preFreshB g = true)
    {ncls : Nat} {store : List (String × List (String × String))} {s : State} (hr : ReachableR g ncls store s)
    (v n : Nat) (dir : Dir) (uid : String) (tag wait : Nat) (hpc : (s.wd v).pc = .test n .plain dir uid tag wait)
    (hg : good g n = true) :
    (∃ k, k < classLen g s (g.node n).cls ∧ uid = uidOf (g.node n).pfx k) ∧
    ∀ v' n' dir' uid' tag' wait', v ≠ v' → (s.wd v').pc = .test n' .plain dir' uid' tag' wait' →
      ((g.node n).name, uid) ≠ ((g.node n').name, uid') := by
  have u := hr.uids hwf (namesInjB_sound hN) (preFreshB_sound hP)
  exact ⟨u.inflight v n dir uid tag wait trivial hpc hg,
    fun v' n' dir' uid' tag' wait' hvv hpc' => u.distinct v v' n dir uid tag wait n' dir' uid' tag' wait' trivial trivial hvv hpc hpc' hg⟩

/-- **own_result_read.**  In every reachable state, an execution in flight of a test proper has no job record
under its (name, uid) yet.  Hence the lookup of `resumeTest` — the first record with this (name, uid), after
the stub appended the outcome at `wait = 0` — finds exactly the record reported by this very execution and
never a stale one; and when nothing is reported it finds nothing. -/
theorem own_result_read {g : Graph} (hwf : graphWF g = true) (hN : namesInjB g = true) (hP : preFreshB g = true)
    {ncls : Nat} {store : List (String × List (String × String))} {s : State} (hr : ReachableR g ncls store s)
    (w n : Nat) (dir : Dir) (uid : String) (tag wait : Nat) (hpc : (s.wd w).pc = .test n .plain dir uid tag wait)
    (hg : good g n = true) :
    s.jobResults.find? (fun r => r.1 == (g.node n).name && r.2.1 == uid) = none ∧
    ∀ st d, (s.jobResults ++ [((g.node n).name, uid, st, d)]).find? (fun r => r.1 == (g.node n).name && r.2.1 == uid) =
      some ((g.node n).name, uid, st, d) := by
  have u := hr.uids hwf (namesInjB_sound hN) (preFreshB_sound hP)
  have hnone : s.jobResults.find? (fun r => r.1 == (g.node n).name && r.2.1 == uid) = none := by
    rw [List.find?_eq_none]
    intro x hx hp
    simp only [Bool.and_eq_true, beq_iff_eq] at hp
    apply u.unreported w n dir uid tag wait trivial hpc hg
    unfold keys
    exact List.mem_map.mpr ⟨x, hx, by rw [hp.1, hp.2]⟩
  refine ⟨hnone, fun st d => ?_⟩
  rw [List.find?_append, hnone]
  simp

/-- … and the step in which an execution of a test proper reports outcome `st` files, on the copy it ran on,
a result with this execution's uid, the reported duration and the reported status (a PASS may be downgraded
to WARN by the duration rule) — the result read is the worker's own. -/
theorem own_result_filed {g : Graph} (hwf : graphWF g = true) (hN : namesInjB g = true) (hP : preFreshB g = true)
    {ncls : Nat} {store : List (String × List (String × String))} {s : State} (hr : ReachableR g ncls store s)
    (w n : Nat) (dir : Dir) (uid : String) (tag : Nat) (hpc : (s.wd w).pc = .test n .plain dir uid tag 0)
    (hg : good g n = true) (out : Outcome) (st : String) (hst : out.status = some st) (fuel : Nat) (hf : 0 < fuel) :
    ∃ res ∈ ((resume g s w out fuel).1.nd n).results, res.uid = uid ∧ res.dur = out.dur ∧
      (res.status = st ∨ (st = "PASS" ∧ res.status = "WARN")) :=
  resume_files_own_result (GraphWF.of_bool hwf) (hr.basic hwf) (hr.uids hwf (namesInjB_sound hN) (preFreshB_sound hP))
    w n dir uid tag hpc hg out st hst fuel hf

end identifiers

section budget

/-- a stateless test is run only while its class has fewer results — of whatever status, the placeholders of
executions in flight included — than `max(max_tries, 1)`; the decision leaves the state alone -/
theorem stateless_run_rule (g : Graph) (s : State) (n w : Nat) (s1 : State) (evs : List Event)
    (hsets : (g.node n).sets.isEmpty = true) (h : runDecision g s n w = .ok (true, s1, evs)) :
    s1 = s ∧ ((sharedResults g s n).length : Int) < max ((g.node n).maxTries.getD 1) 1 :=
  ⟨(runDecision_true_stateless g s n w s1 evs hsets h).1, (runDecision_true_stateless g s n w s1 evs hsets h).2.2⟩

/-- every start of a test proper (or of the second step of a creation) appends exactly one result — the
placeholder — to the copy it runs on and none elsewhere -/
theorem start_appends_one (g : Graph) (s : State) (n w : Nat) (ph : Phase) (dir : Dir) (hph : ph ≠ .pre)
    (hn : n < s.nodes.length) :
    ((startTest g s n w ph dir).1.nd n).results = (s.nd n).results ++ [phOf (g.node n).name s.nextTag] ∧
    ∀ j, j ≠ n → ((startTest g s n w ph dir).1.nd j).results = (s.nd j).results := by
  constructor
  · rcases startTest_results g s n w ph dir n with h | ⟨_, _, _, h⟩
    · exfalso
      have := (startTest_nonpre_len g s n w ph dir hph hn).1
      rw [h] at this; omega
    · exact h
  · intro j hj
    rcases startTest_results g s n w ph dir j with h | ⟨_, h, _⟩
    · exact h
    · exact absurd h hj

/-- **budget_stateless** (C03 for stateless classes, global scope).  For a class `c` of stateless tests proper
(no set states, no object root) whose copies agree on `max_tries = M`: in every reachable state the class has
at most `max(M, 1)` results, placeholders of executions in flight included.  Since every start appends exactly
one result (`start_appends_one`), results of such classes are never removed or added otherwise
(`results_monotone`; a placeholder is replaced by the result of its own execution), the class is started at
most `max(max_tries, 1)` times along any run, by whichever workers. -/
theorem budget_stateless {g : Graph} (hwf : graphWF g = true) {ncls : Nat} {store : List (String × List (String × String))}
    {s : State} (hr : ReachableR g ncls store s) (c : Nat) (M : Option Int) (hc : statelessClass g c M = true) :
    (classLen g s c : Int) ≤ max (M.getD 1) 1 ∧
    ∀ i, i < g.nodes.length → (g.node i).flat = false → (g.node i).cls = c →
      ((sharedResults g s i).length : Int) ≤ max (M.getD 1) 1 := by
  have h := hr.budget hwf c M hc
  refine ⟨h, fun i hi hflat hcls => ?_⟩
  rw [sharedResults_length g s i hi hflat, hcls]
  exact h

/-- **budget_stateful_partial.**  For stateful tests only the one-step rule is proved: a stateful test is run
only (a) on the scan path — nobody of the scope finished the class and the state control reports a set state
missing; neither earlier results nor executions in flight are looked at — or (b) by the rerun rule,
`max_tries ≠ 1` and fewer counted results in the reuse scope (placeholders included) than `max_tries`.
The run-level bound built on this rule is `budget_stateful` below (classes without object roots; the bound is
`max(max_tries, 1, largest is_occupied threshold)`, which is `max(max_tries, 1)` when `max_concurrent_tries` is unset or
within `max(max_tries, 1)` and no re-entrancy bump happened) and `budget_stateful_roots` (classes with object roots and
`max_tries ≤ 1`: creations in flight counted as results-to-be; with `max_tries ≤ 1` the rerun rule never fires, and on
the scan path creations and results together number at most the marks in scope).  For object roots with
`max_tries ≥ 2` the bound is false (`root_creation_hidden`), as it is for `max_concurrent_tries > max_tries`
(witness below). -/
theorem budget_stateful_partial (g : Graph) (s : State) (n w : Nat) (s1 : State) (evs : List Event)
    (hsets : (g.node n).sets.isEmpty = false) (h : runDecision g s n w = .ok (true, s1, evs)) :
    (isFinished g s n w 1 = false ∧ (scanStates g s n w).1 = true) ∨
    (((countedResults g s1 n w).length : Int) < (g.node n).maxTries.getD 1 ∧ (g.node n).maxTries.getD 1 ≠ 1) :=
  runDecision_true_stateful g s n w s1 evs hsets h

/-! Witness of known finding `count:mct>max_tries`: `max_tries = 1`, `max_concurrent_tries = 2`, a stateful
setup class, two workers — two `startTest`s of the class happen (both executions in flight, two results in the
class), reached by explicit `resume` steps. -/

def gW : Graph :=
  { workers := [{ id := "net1", swarm := "localhost" }, { id := "net2", swarm := "localhost" }],
    nodes := [
      { cls := 0, owner := some 0, name := "all.install.vms.vm1.nets.localhost.net1", pfx := "1a1",
        sets := [("vm1", "install")], objs := ["vm1"], setup := [(2, ["vm1"])], maxTries := some 1, mct := some 2 },
      { cls := 0, owner := some 1, name := "all.install.vms.vm1.nets.localhost.net2", pfx := "1b1",
        sets := [("vm1", "install")], objs := ["vm1"], setup := [(2, ["vm1"])], maxTries := some 1, mct := some 2 },
      { cls := 1, owner := none, name := "all.internal.stateless.noop", pfx := "1", flat := true, sharedRoot := true,
        cleanup := [(0, ["vm1"]), (1, ["vm1"])] }],
    root := 2 }

def sW1 : State := (resume gW (initState gW 2 []) 0 { status := none } 20).1
def sW2 : State := (resume gW sW1 1 { status := none } 20).1

/- `sW2` is rewritten by its defining equation and not left to unification: asked whether `sW2` and `(resume …).1` are
the same term, elaborator and kernel both evaluate the run. -/
example : ReachableR gW 2 [] sW2 := by
  rw [sW2, sW1]
  exact .step 1 _ 20 (.step 0 _ 20 (.init []) (by decide) (by decide)) (by decide) (by decide)
example : inTestAt sW2 0 0 .plain = true ∧ inTestAt sW2 1 1 .plain = true ∧ classLen gW sW2 0 = 2 ∧
    (max ((gW.node 0).maxTries.getD 1) 1 = 1) := by
  rw [sW2, sW1]
  simp only [resume_eq_resumeP, hidden_resumeP, initState_hidden]
  decide +kernel

/-! Non-vacuity: a stateless class with `max_tries = 2` and two workers; both executions allowed by the budget
are started (the second one counts the placeholder of the first: uid `…r1`), the first fails, nothing more is
started. -/

def gS : Graph :=
  { workers := [{ id := "net1", swarm := "localhost" }, { id := "net2", swarm := "localhost" }],
    nodes := [
      { cls := 0, owner := some 0, name := "all.quicktest.vms.vm1.nets.localhost.net1", pfx := "1a1",
        objs := ["vm1"], setup := [(2, ["vm1"])], maxTries := some 2 },
      { cls := 0, owner := some 1, name := "all.quicktest.vms.vm1.nets.localhost.net2", pfx := "1b1",
        objs := ["vm1"], setup := [(2, ["vm1"])], maxTries := some 2 },
      { cls := 1, owner := none, name := "all.internal.stateless.noop", pfx := "1", flat := true, sharedRoot := true,
        cleanup := [(0, ["vm1"]), (1, ["vm1"])] }],
    root := 2 }

def sS1 : State := (resume gS (initState gS 2 []) 0 { status := none } 20).1
def sS2 : State := (resume gS sS1 1 { status := none } 20).1
def sS3 : State := (resume gS sS2 0 { status := some "FAIL", dur := 3 } 20).1

theorem gS_run :
    (inTestAt sS2 0 0 .plain = true ∧ inTestAt sS2 1 1 .plain = true ∧ classLen gS sS2 0 = 2) ∧
    ((match (sS2.wd 0).pc, (sS2.wd 1).pc with
      | .test _ _ _ u _ _, .test _ _ _ u' _ _ => (u, u')
      | _, _ => ("", "")) = ("1a1", "1b1r1")) ∧
    (sS3.jobResults = [("all.quicktest.vms.vm1.nets.localhost.net1", "1a1", "FAIL", 3)] ∧
      (sS3.nd 0).results.map (·.status) = ["FAIL"] ∧ (sS3.nd 1).results.map (·.status) = ["UNKNOWN"] ∧
      inTestAt sS3 0 0 .plain = false) := by
  rw [sS3, sS2, sS1]
  simp only [resume_eq_resumeP, hidden_resumeP, initState_hidden]
  decide +kernel

example : graphWF gS = true ∧ namesInjB gS = true ∧ preFreshB gS = true ∧ statelessClass gS 0 (some 2) = true ∧
    good gS 0 = true ∧ good gS 1 = true := by decide +kernel
example : ReachableR gS 2 [] sS3 := by
  rw [sS3, sS2, sS1]
  exact .step 0 _ 20 (.step 1 _ 20 (.step 0 _ 20 (.init []) (by decide) (by decide)) (by decide) (by decide))
    (by decide) (by decide)
/-- states of a lazily expanded run (nodes not parsed yet are `hidden`) are covered as well -/
example : ReachableR gS 2 [] (resume gS (initState gS 2 [] [0, 1]) 0 { status := none } 20).1 :=
  .step 0 _ 20 (.init [0, 1]) (by decide) (by decide)
example : inTestAt sS2 0 0 .plain = true ∧ inTestAt sS2 1 1 .plain = true ∧ classLen gS sS2 0 = 2 := gS_run.1
example : (match (sS2.wd 0).pc, (sS2.wd 1).pc with
    | .test _ _ _ u _ _, .test _ _ _ u' _ _ => (u, u')
    | _, _ => ("", "")) = ("1a1", "1b1r1") := gS_run.2.1
example : sS3.jobResults = [("all.quicktest.vms.vm1.nets.localhost.net1", "1a1", "FAIL", 3)] ∧
    (sS3.nd 0).results.map (·.status) = ["FAIL"] ∧ (sS3.nd 1).results.map (·.status) = ["UNKNOWN"] ∧
    inTestAt sS3 0 0 .plain = false := gS_run.2.2

/-!
### The budget of stateful (setup) classes along every run

Vocabulary (`Lemmas/TravBudget.lean`, `Lemmas/TravExcl.lean`): `sharedFilteredResults g s n (some v)` is the very list
`should_rerun` counts for copy `n` with `started_worker = v` (`shared_filtered_results`: the results of all bridged copies
whose name contains the scope filter of `v`); `classLimit g s c` is the largest threshold `is_occupied` has had in force
for a copy of class `c` (`max(max_concurrent_tries (default max_tries (default 1)), 1)`, plus the re-entrancy bumps);
`NoBump s`: no bounce has outlasted the timeout budget of the node it waited for (the documented recovery path raises
the threshold then, and the guarantee is void, as in C04).

`statefulClass g c M sh` (decidable, static) — each clause is needed, witnesses below and in `design.d/C03.md`:
* the copies of class `c` are parsed, have set states (stateless classes: `budget_stateless`), agree on `max_tries = M`
  and on the scope shape `sh` (C04's `mixed_shapes_overlap`), and the root of the graph is not one of them;
* no copy is an object root — FALSE otherwise for `max_tries ≥ 2`: `root_creation_hidden` (known finding
  `count:object-root-creation-hidden-from-retry-budget`);
* a copy is cared for by at most one worker (`worker.id in name` holds for one worker only) — the `started` and `finished`
  marks of a copy are single slots, a second worker on the same copy overwrites them;
* the filter on result names agrees with the scope of `is_started`/`is_finished`: observer `v` counts the results of
  `u`'s copy iff `u` is within `v`'s scope (`own`: `u = v`, `swarm`: same swarm, `global`: always).
-/

/-- **budget_stateful** (C03 for setup classes).  In every reachable state — any graph, any number of workers, any
interleaving, any outcomes, lazy expansion included — for a class `c` of stateful tests proper satisfying the static,
decidable `statefulClass g c M sh`: the results of the class that any observer `v` counts in its reuse scope
(placeholders of executions in flight included, `unknown_before_suspend`) number at most
`max(max_tries, 1, largest is_occupied threshold of the class so far)`; and when `max_concurrent_tries` is unset or at
most `max(max_tries, 1)` on every copy and no re-entrancy bump has happened, at most `max(max_tries, 1)`.
Every start appends exactly one result (`start_appends_one`), a placeholder is replaced by the result of its own
execution (`results_monotone`): within one reuse scope the class is started at most that often along any run. -/
theorem budget_stateful {g : Graph} (hwf : graphWF g = true) {ncls : Nat} {store : List (String × List (String × String))}
    {s : State} (hr : ReachableR g ncls store s) (c : Nat) (M : Option Int) (sh : Shape)
    (hc : statefulClass g c M sh = true) (n : Nat) (hn : n < g.nodes.length) (hnc : (g.node n).cls = c)
    (v : Nat) (hv : v < g.workers.length) :
    ((sharedFilteredResults g s n (some v)).length : Int) ≤ max (max (M.getD 1) 1) (classLimit g s c) ∧
    (mctWithin g c M = true → NoBump s →
      ((sharedFilteredResults g s n (some v)).length : Int) ≤ max (M.getD 1) 1) := by
  have h := hr.budgetStateful hwf hc n hn hnc v hv
  refine ⟨h, fun hm hb => ?_⟩
  have := classLimit_le_of_mctWithin (statefulClass_spec hc) hm s hb
  omega

theorem scan_phase_results {g : Graph} (hwf : graphWF g = true) {ncls : Nat} {store : List (String × List (String × String))}
    {s : State} (hr : ReachableR g ncls store s) (c : Nat) (M : Option Int) (sh : Shape)
    (hc : statefulClass g c M sh = true) (j : Nat) (hj : j < g.nodes.length) (hjc : (g.node j).cls = c)
    (hne : (s.nd j).results ≠ []) :
    (∃ u tag ph dir uid wait, (s.wd u).pc = .test j ph dir uid tag wait ∧ (s.nd j).results = [phOf (g.node j).name tag] ∧
      (s.nd j).started = some u ∧ g.idIn u j = true) ∨
    (∃ u, u < g.workers.length ∧ g.idIn u j = true ∧ FinIn g s c sh u) := by
  have b := hr.binv hwf (statefulClass_spec hc)
  rcases b.p1 j hj hjc hne with ⟨u, tag, _, ⟨ph, dir, uid, wait, hpc, _⟩, hres⟩ | h
  · obtain ⟨_, _, h3, h4⟩ := b.infl u trivial j ph dir uid tag wait hpc hjc
    exact Or.inl ⟨u, tag, ph, dir, uid, wait, hpc, hres, h4, h3⟩
  · exact Or.inr h

/-! Non-vacuity, and the bound is attained: three workers, a setup class with `max_tries = 2` (threshold 2).  net1 and
net2 both start it on the scan path (nobody has finished yet — the scan path does not look at results), net3 finds the
class occupied; net1 fails; net3 comes back, finds the class finished and the budget used up, and does not run. -/

def gT : Graph :=
  { workers := [{ id := "net1", swarm := "lh" }, { id := "net2", swarm := "lh" }, { id := "net3", swarm := "lh" }],
    nodes := [
      { cls := 0, owner := some 0, name := "install.vm1.lh.net1", pfx := "1a1",
        sets := [("vm1", "install")], objs := ["vm1"], setup := [(3, ["vm1"])], maxTries := some 2 },
      { cls := 0, owner := some 1, name := "install.vm1.lh.net2", pfx := "1b1",
        sets := [("vm1", "install")], objs := ["vm1"], setup := [(3, ["vm1"])], maxTries := some 2 },
      { cls := 0, owner := some 2, name := "install.vm1.lh.net3", pfx := "1c1",
        sets := [("vm1", "install")], objs := ["vm1"], setup := [(3, ["vm1"])], maxTries := some 2 },
      { cls := 1, owner := none, name := "noop", pfx := "1", flat := true, sharedRoot := true,
        cleanup := [(0, ["vm1"]), (1, ["vm1"]), (2, ["vm1"])] }],
    root := 3 }

def sT1 : State := (resume gT (initState gT 2 []) 0 { status := none } 20).1
def sT2 : State := (resume gT sT1 1 { status := none } 20).1
def sT3 : State := (resume gT sT2 2 { status := none } 20).1
def sT4 : State := (resume gT sT3 0 { status := some "FAIL", dur := 1 } 20).1
def sT5 : State := (resume gT sT4 2 { status := none } 20).1

example : graphWF gT = true ∧ statefulClass gT 0 (some 2) .global = true ∧ mctWithin gT 0 (some 2) = true := by decide +kernel
/-- the last clause (no worker has bounced before its step) is what makes the run to `sT3` a patient one -/
theorem gT_run :
    (inTestAt sT3 0 0 .plain = true ∧ inTestAt sT3 1 1 .plain = true ∧ isOccupied gT sT3 2 2 = true ∧
      (sharedFilteredResults gT sT3 2 (some 2)).length = 2 ∧ sT3.nodes.all (fun d => d.bump == 0) = true) ∧
    ((sT5.nd 0).results.map (·.status) = ["FAIL"] ∧ (sT5.nd 1).results.map (·.status) = ["UNKNOWN"] ∧
      (sT5.nd 2).results = [] ∧ (sT5.nd 2).finished = some 2 ∧ inTestAt sT5 2 2 .plain = false ∧
      (sharedFilteredResults gT sT5 2 (some 2)).length = 2) ∧
    ((sT1.wd 1).occAt = [] ∧ (sT2.wd 2).occAt = []) := by
  rw [sT5, sT4, sT3, sT2, sT1]
  simp only [resume_eq_resumeP, hidden_resumeP, initState_hidden]
  decide +kernel

example : ReachableR gT 2 [] sT5 := by
  rw [sT5, sT4, sT3, sT2, sT1]
  exact .step 2 _ 20 (.step 0 _ 20 (.step 2 _ 20 (.step 1 _ 20 (.step 0 _ 20 (.init []) (by decide) (by decide))
    (by decide) (by decide)) (by decide) (by decide)) (by decide) (by decide)) (by decide) (by decide)
set_option maxRecDepth 100000 in
example : inTestAt sT3 0 0 .plain = true ∧ inTestAt sT3 1 1 .plain = true ∧ isOccupied gT sT3 2 2 = true ∧
    (sharedFilteredResults gT sT3 2 (some 2)).length = 2 ∧ sT3.nodes.all (fun d => d.bump == 0) = true := gT_run.1
set_option maxRecDepth 100000 in
example : (sT5.nd 0).results.map (·.status) = ["FAIL"] ∧ (sT5.nd 1).results.map (·.status) = ["UNKNOWN"] ∧
    (sT5.nd 2).results = [] ∧ (sT5.nd 2).finished = some 2 ∧ inTestAt sT5 2 2 .plain = false ∧
    (sharedFilteredResults gT sT5 2 (some 2)).length = 2 := gT_run.2.1

/-! Why object roots must be excluded (known finding `count:object-root-creation-hidden-from-retry-budget`, here with
retries configured and `max_concurrent_tries` unset: `max_tries = 2`).  The creation pre-step keeps its placeholder on a
private copy of the results, and its success starts the test proper WITHOUT a further decision
(`creation_success_starts_unconditionally`), so creations in flight are results-to-be that nobody counts.  In `sRR` both
workers are inside the creation (threshold 2) and the class has no result.  From there (evaluated with the compiled model,
`design.d/C03.md`; the kernel cannot evaluate `String.splitOn` in the pre-step's name): net2's creation fails — one result
— net2 is let in again by the rerun rule (1 < 2) and starts a second creation; then both creations succeed and both tests
proper start: three results with `max(max_tries, 1) = 2`, no bump. -/

/-- a successful creation pre-step is followed by the start of the test proper, whatever the results of the class
are by then: no run decision, no look at the budget -/
theorem creation_success_starts_unconditionally (g : Graph) (w n : Nat) (dir : Dir) (fuel : Nat) (s : State) (evs : List Event) :
    resumeTest.continueAfter g w n .pre dir fuel s true evs =
      ((startTest g s n w .main dir).1, evs ++ (startTest g s n w .main dir).2.1) := rfl

def gRR : Graph :=
  { workers := [{ id := "net1", swarm := "localhost" }, { id := "net2", swarm := "localhost" }],
    nodes := [
      { cls := 0, owner := some 0, name := "all.root.vms.vm1.nets.localhost.net1", pfx := "1a1", objectRoot := true,
        sets := [("vm1", "root")], objs := ["vm1"], setup := [(2, ["vm1"])], maxTries := some 2 },
      { cls := 0, owner := some 1, name := "all.root.vms.vm1.nets.localhost.net2", pfx := "1b1", objectRoot := true,
        sets := [("vm1", "root")], objs := ["vm1"], setup := [(2, ["vm1"])], maxTries := some 2 },
      { cls := 1, owner := none, name := "all.internal.stateless.noop", pfx := "1", flat := true, sharedRoot := true,
        cleanup := [(0, ["vm1"]), (1, ["vm1"])] }],
    root := 2 }

def sRR : State := (resume gRR (resume gRR (initState gRR 2 []) 0 { status := none } 20).1 1 { status := none } 20).1

set_option maxRecDepth 100000 in
theorem root_creation_hidden :
    ReachableR gRR 2 [] sRR ∧ statefulClass gRR 0 (some 2) .global = false ∧ mctWithin gRR 0 (some 2) = true ∧
    (inTestAt sRR 0 0 .pre = true ∧ inTestAt sRR 1 1 .pre = true ∧ classLen gRR sRR 0 = 0 ∧ classLimit gRR sRR 0 = 2) :=
  ⟨by
    rw [sRR]
    exact .step 1 _ 20 (.step 0 _ 20 (.init []) (by decide) (by decide)) (by decide) (by decide),
   by decide +kernel, by decide +kernel, by
    rw [sRR]
    simp only [resume_eq_resumeP, hidden_resumeP, initState_hidden]
    decide +kernel⟩

/-!
### Object roots with `max_tries ≤ 1`

An object root is created in two phases: the creation pre-step (`pc = .test n .pre …`) runs on a copy of the root's
results kept by the worker — its placeholder is invisible to everybody else — and its success starts the test proper
without a decision.  A creation in flight is therefore a result-to-be, and the statement that is TRUE counts it:
`creationsInFlight g s c sh v` lists the workers inside the creation pre-step of a copy of class `c` that observer `v`
sees.  A failed pre-step files its result at the root (under the name of the pre-step, /repo fix 7ba7970) and finishes
the root; a pre-step that was never reported files its UNKNOWN placeholder there — in all cases exactly what the creation
in flight stood for.

`statefulClassRoots g c M sh` (decidable, static) is `statefulClass` without "no copy is an object root", with
* `max_tries` unset or `≤ 1` — otherwise FALSE (`root_creation_hidden`, `max_tries = 2`: the rerun rule does not see
  the creations in flight);
* an observer whose name filter matches the name of the creation pre-step of a root (`preNameOf`) sees the root — the
  results a failed pre-step files carry that name.  (For the `global` shape the clause is void; for `own`/`swarm` it
  contains `String.splitOn`, which `#eval` evaluates but the kernel does not reduce.)
-/

/-- **budget_stateful_roots** (C03 for setup classes with object roots, `max_tries ≤ 1`).  In every reachable state —
any graph, any number of workers, any interleaving, any outcomes incl. never reported, lazy expansion included — for a
class `c` satisfying the static, decidable `statefulClassRoots g c M sh`: the results of the class any observer `v` counts
in its reuse scope (placeholders of tests proper in flight included) TOGETHER WITH the creations in flight on copies it
sees number at most `max(1, largest is_occupied threshold of the class so far)`; and at most 1 when
`max_concurrent_tries` is unset or `≤ 1` on every copy and no re-entrancy bump has happened.  Every creation in flight
ends as exactly one result or none more (`creation_success_starts_unconditionally`, failed pre-step accounting), so the
root is created-and-run at most that often per reuse scope along any run. -/
theorem budget_stateful_roots {g : Graph} (hwf : graphWF g = true) {ncls : Nat} {store : List (String × List (String × String))}
    {s : State} (hr : ReachableR g ncls store s) (c : Nat) (M : Option Int) (sh : Shape)
    (hc : statefulClassRoots g c M sh = true) (n : Nat) (hn : n < g.nodes.length) (hnc : (g.node n).cls = c)
    (v : Nat) (hv : v < g.workers.length) :
    (((sharedFilteredResults g s n (some v)).length + (creationsInFlight g s c sh v).length : Nat) : Int) ≤
      max 1 (classLimit g s c) ∧
    (mctWithin g c M = true → NoBump s →
      (sharedFilteredResults g s n (some v)).length + (creationsInFlight g s c sh v).length ≤ 1) := by
  have h := hr.budgetStatefulRoots hwf hc n hn hnc v hv
  refine ⟨h, fun hm hb => ?_⟩
  obtain ⟨hC, hM⟩ := statefulClassRoots_spec hc
  have := classLimit_le_of_mctWithin hC hm s hb
  omega

/-- the general form behind both run-level theorems: under the (undecided) hypotheses `BClass` — copies are object
roots only if `max_tries ≤ 1` — results in scope plus creations in flight in scope stay within
`max(max_tries, 1, largest threshold)` -/
theorem budget_stateful_general {g : Graph} (hwf : graphWF g = true) {ncls : Nat} {store : List (String × List (String × String))}
    {s : State} (hr : ReachableR g ncls store s) (c : Nat) (M : Option Int) (sh : Shape)
    (hc : BClass g c M sh) (n : Nat) (hn : n < g.nodes.length) (hnc : (g.node n).cls = c)
    (v : Nat) (hv : v < g.workers.length) :
    (((sharedFilteredResults g s n (some v)).length + (creationsInFlight g s c sh v).length : Nat) : Int) ≤
      max (max (M.getD 1) 1) (classLimit g s c) :=
  hr.budgetB hwf hc n hn hnc v hv

/-! Non-vacuity, and the general bound is attained with the creations counted (and only with them): `gR` (two object
roots, `max_tries = 1`, `max_concurrent_tries = 2`, the graph of the known finding) — in `sR2` both workers are inside
the creation, the class has no result: 0 + 2 = threshold 2.  `gQ`: `max_concurrent_tries` unset — net2 finds the class
occupied while net1 creates: 0 + 1 ≤ 1, the sharp bound. -/

example : graphWF gR = true ∧ statefulClassRoots gR 0 (some 1) .global = true ∧ mctWithin gR 0 (some 1) = false := by
  decide +kernel
example : ReachableR gR 2 [] sR2 := by
  rw [sR2, sR1]
  exact .step 1 _ 20 (.step 0 _ 20 (.init []) (by decide) (by decide)) (by decide) (by decide)
set_option maxRecDepth 100000 in
example : (sharedFilteredResults gR sR2 0 (some 0)).length = 0 ∧ creationsInFlight gR sR2 0 .global 0 = [0, 1] ∧
    classLimit gR sR2 0 = 2 := gR_run.2.2
/-- with retries configured the hypothesis fails, and so does the bound (`root_creation_hidden`) -/
example : statefulClassRoots gRR 0 (some 2) .global = false := by decide +kernel

def gQ : Graph :=
  { workers := [{ id := "net1", swarm := "localhost" }, { id := "net2", swarm := "localhost" }],
    nodes := [
      { cls := 0, owner := some 0, name := "all.root.vms.vm1.nets.localhost.net1", pfx := "1a1", objectRoot := true,
        sets := [("vm1", "root")], objs := ["vm1"], setup := [(2, ["vm1"])] },
      { cls := 0, owner := some 1, name := "all.root.vms.vm1.nets.localhost.net2", pfx := "1b1", objectRoot := true,
        sets := [("vm1", "root")], objs := ["vm1"], setup := [(2, ["vm1"])] },
      { cls := 1, owner := none, name := "all.internal.stateless.noop", pfx := "1", flat := true, sharedRoot := true,
        cleanup := [(0, ["vm1"]), (1, ["vm1"])] }],
    root := 2 }

def sQ1 : State := (resume gQ (initState gQ 2 []) 0 { status := none } 20).1
def sQ2 : State := (resume gQ sQ1 1 { status := none } 20).1

example : graphWF gQ = true ∧ statefulClassRoots gQ 0 none .global = true ∧ mctWithin gQ 0 none = true := by decide +kernel
theorem gQ_run :
    (inTestAt sQ2 0 0 .pre = true ∧ inTestAt sQ2 1 1 .pre = false ∧ isOccupied gQ sQ1 1 1 = true ∧
      (sharedFilteredResults gQ sQ2 1 (some 1)).length = 0 ∧ creationsInFlight gQ sQ2 0 .global 1 = [0] ∧
      sQ2.nodes.all (fun d => d.bump == 0) = true) ∧
    (sQ1.wd 1).occAt = [] := by
  rw [sQ2, sQ1]
  simp only [resume_eq_resumeP, hidden_resumeP, initState_hidden]
  decide +kernel

example : ReachableR gQ 2 [] sQ2 := by
  rw [sQ2, sQ1]
  exact .step 1 _ 20 (.step 0 _ 20 (.init []) (by decide) (by decide)) (by decide) (by decide)
set_option maxRecDepth 100000 in
example : inTestAt sQ2 0 0 .pre = true ∧ inTestAt sQ2 1 1 .pre = false ∧ isOccupied gQ sQ1 1 1 = true ∧
    (sharedFilteredResults gQ sQ2 1 (some 1)).length = 0 ∧ creationsInFlight gQ sQ2 0 .global 1 = [0] ∧
    sQ2.nodes.all (fun d => d.bump == 0) = true := gQ_run.1

/-!
### Where the threshold grows

`classLimit` in the general bounds is the largest `is_occupied` threshold a copy of the class has had.  It depends on the
state only through the `bump` counters, and those are written in one place: the back-off branch of the loop (`iter`:
the worker stands again before an occupied node it bounced off before and `occWait > timeout * max_tries`).  Whether a
step takes that branch is decided by the stepping worker's back-off record at the beginning of the step
(`overWaited g s w`, `Lemmas/TravPatient.lean`).
-/

/-- **classLimit_grows_only_by_backoff.**  A step of a worker that has not waited longer than `timeout * max_tries` at
an occupied node leaves every bump counter, hence the largest threshold of every class, as it was; in particular it
preserves `NoBump`.  (Any state, any worker, any outcome, any fuel; no hypothesis on the graph.) -/
theorem classLimit_grows_only_by_backoff (g : Graph) (s : State) (w : Nat) (out : Outcome) (fuel : Nat)
    (h : ¬ overWaited g s w) :
    (∀ i, ((resume g s w out fuel).1.nd i).bump = (s.nd i).bump) ∧
    (∀ c, classLimit g (resume g s w out fuel).1 c = classLimit g s c) ∧
    (NoBump s → NoBump (resume g s w out fuel).1) :=
  ⟨resume_bump_eq g s w out fuel h, resume_classLimit_eq g s w out fuel h, resume_noBump g s w out fuel h⟩

/-- **budget_patient** — the sharp bounds for all runs in which no worker ever waited longer than `timeout * max_tries`
at occupied nodes (`ReachableP`: every step is taken by a worker with `¬ overWaited`): with `max_concurrent_tries`
unset or within `max(max_tries, 1)` on every copy, a stateful class without object roots has at most
`max(max_tries, 1)` counted results per reuse scope, and a class with object roots (`max_tries ≤ 1`) at most one counted
result or creation in flight. -/
theorem budget_patient {g : Graph} (hwf : graphWF g = true) {ncls : Nat} {store : List (String × List (String × String))}
    {s : State} (hr : ReachableP g ncls store s) (c : Nat) (M : Option Int) (sh : Shape) (hm : mctWithin g c M = true)
    (n : Nat) (hn : n < g.nodes.length) (hnc : (g.node n).cls = c) (v : Nat) (hv : v < g.workers.length) :
    NoBump s ∧
    (statefulClass g c M sh = true → ((sharedFilteredResults g s n (some v)).length : Int) ≤ max (M.getD 1) 1) ∧
    (statefulClassRoots g c M sh = true →
      (sharedFilteredResults g s n (some v)).length + (creationsInFlight g s c sh v).length ≤ 1) :=
  ⟨hr.noBump,
   fun hc => (budget_stateful hwf hr.reachableR c M sh hc n hn hnc v hv).2 hm hr.noBump,
   fun hc => (budget_stateful_roots hwf hr.reachableR c M sh hc n hn hnc v hv).2 hm hr.noBump⟩

/-- non-vacuity: the run to `sQ2` (net1 creates the root, net2 bounces off) is of this kind -/
example : ReachableP gQ 2 [] sQ2 := by
  rw [sQ2]
  refine .step 1 _ 20 ?_ (by decide) (by decide) (not_overWaited_of_nil gQ_run.2)
  rw [sQ1]
  exact .step 0 _ 20 (.init []) (by decide) (by decide) (not_overWaited_of_nil (by decide))
/-- … and so is the run to `sT3` (two executions of a setup class with `max_tries = 2`, the third worker bounces) -/
example : ReachableP gT 2 [] sT3 := by
  rw [sT3]
  refine .step 2 _ 20 ?_ (by decide) (by decide) (not_overWaited_of_nil gT_run.2.2.2)
  rw [sT2]
  refine .step 1 _ 20 ?_ (by decide) (by decide) (not_overWaited_of_nil gT_run.2.2.1)
  rw [sT1]
  exact .step 0 _ 20 (.init []) (by decide) (by decide) (not_overWaited_of_nil (by decide))

/-! Why a copy must be cared for by one worker only (`worker.id in params["name"]` is a substring test: `"net1"` occurs
in the name of `net11`'s copy).  `net1` picks `net11`'s copy as if it were its own and starts the setup test on it; `net11`
is not kept out (`own` scope: occupied only if `net11` itself holds the class), overwrites the `started` mark and starts the
same copy again: two executions in flight on ONE copy, two results in `net11`'s own scope with `max_tries = 1`, threshold 1,
no bump.  The real code does the same (`design.d/C03.md`: `net1` executes `net11`'s copy, the copy is executed three times). -/

def gU : Graph :=
  { workers := [{ id := "net11", swarm := "lh" }, { id := "net1", swarm := "lh" }],
    nodes := [
      { cls := 0, owner := some 0, name := "setup.vm1.lh.net11", pfx := "1a1", shape := .own,
        sets := [("vm1", "s01")], objs := ["vm1"], setup := [(2, ["vm1"])] },
      { cls := 0, owner := some 1, name := "setup.vm1.lh.net1", pfx := "1b1", shape := .own,
        sets := [("vm1", "s01")], objs := ["vm1"], setup := [(2, ["vm1"])] },
      { cls := 1, owner := none, name := "noop", pfx := "1", flat := true, sharedRoot := true,
        cleanup := [(0, ["vm1"]), (1, ["vm1"])] }],
    root := 2 }

def sU : State := (resume gU (resume gU (initState gU 2 []) 1 { status := none } 20).1 0 { status := none } 20).1

set_option maxRecDepth 100000 in
theorem shared_copy_exceeds_budget :
    ReachableR gU 2 [] sU ∧ statefulClass gU 0 none .own = false ∧ mctWithin gU 0 none = true ∧
    (inTestAt sU 0 0 .plain = true ∧ inTestAt sU 1 0 .plain = true ∧
      (sharedFilteredResults gU sU 0 (some 0)).length = 2 ∧ classLimit gU sU 0 = 1) :=
  ⟨by
    rw [sU]
    exact .step 0 _ 20 (.step 1 _ 20 (.init []) (by decide) (by decide)) (by decide) (by decide),
   by decide +kernel, by decide +kernel, by
    rw [sU]
    simp only [resume_eq_resumeP, hidden_resumeP, initState_hidden]
    decide +kernel⟩

end budget

end I2N.Props.C03
