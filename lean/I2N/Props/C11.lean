import I2N.Lemmas.Cmd
import I2N.Extracted.GenCmd
/-! C11 — command line selections and overrides mean what the documentation says. -/
namespace I2N.Props.C11
open I2N.Cmd

/-- a tiny but complete configuration used by the non-vacuity examples -/
def av0 : Avail :=
  { vms := ["vm1".toList, "vm2".toList]
    restrictions := ["all".toList, "normal".toList, "minimal".toList]
    defaultOnly := some "normal".toList
    defaultVm := [("vm1".toList, "CentOS".toList)]
    tests := [["all".toList, "quicktest".toList, "tutorial1".toList],
              ["all".toList, "tutorial2".toList, "files".toList],
              ["normal".toList, "quicktest".toList, "tutorial1".toList],
              ["normal".toList, "tutorial2".toList, "files".toList],
              ["minimal".toList, "quicktest".toList, "tutorial1".toList]]
    nets := [(["nets".toList, "localhost".toList, "net1".toList], "net1".toList),
             (["nets".toList, "localhost".toList, "net2".toList], "net2".toList)]
    vmObjs := [("vm1".toList, [["vm1".toList, "Linux".toList, "CentOS".toList], ["vm1".toList, "Linux".toList, "Fedora".toList]])] }

def args0 (l : List String) : List Str := l.map String.toList

/-! ## malformed arguments are rejected -/

/-- Any argument list containing an argument that is not of the form `<\w+>=<value>` is rejected
(whatever else it contains and wherever the argument stands). -/
theorem malformed_rejected (av : Avail) (args : List Str) (a : Str)
    (hmem : a ∈ args) (hbad : splitArg a = none) : ∃ e, paramsFromCmd av args = .error e := by
  apply paramsFromCmd_error_of_loop
  apply loop_rejects (a := a) _ args _ hmem
  intro st
  exact ⟨.valueError, by simp [step, hbad]⟩

example : splitArg "ccc".toList = none := by decide +kernel
example : splitArg " a=x".toList = none := by decide +kernel
example : splitArg "=x".toList = none := by decide +kernel
example : splitArg "a==x".toList = some ("a".toList, "=x".toList) := by decide +kernel
example : ∃ e, paramsFromCmd av0 (args0 ["aaa=bbb", "ccc"]) = .error e :=
  malformed_rejected av0 _ "ccc".toList (by decide +kernel) (by decide +kernel)
/-- and the error is the documented `ValueError` when nothing before it fails -/
example : paramsFromCmd av0 (args0 ["aaa=bbb", "ccc"]) = .error .valueError := by decide +kernel


/-! ## unknown vms are rejected -/

/-- A `vms=` argument naming a vm that is not available is rejected, wherever it stands. -/
theorem unknown_vm_rejected (av : Avail) (args : List Str) (a v x : Str)
    (hmem : a ∈ args) (hkv : splitArg a = some (kVms, v))
    (hx : x ∈ splitComma v) (hun : x ∉ av.vms) : ∃ e, paramsFromCmd av args = .error e := by
  apply paramsFromCmd_error_of_loop
  apply loop_rejects (a := a) _ args _ hmem
  intro st
  have hc : classify av a = .vms v := classify_vms_iff.mpr hkv
  have h5 : (splitComma v).all (av.vms.contains ·) = false := by
    rw [List.all_eq_false]
    exact ⟨x, hx, by simpa using hun⟩
  exact ⟨.valueError, by rw [step_eq, hc]; simp only [stepC, h5]; rfl⟩

example : ∃ e, paramsFromCmd av0 (args0 ["only=normal", "vms=vm1,vmX"]) = .error e :=
  unknown_vm_rejected av0 _ "vms=vm1,vmX".toList "vm1,vmX".toList "vmX".toList
    (by decide +kernel) (by decide +kernel) (by decide +kernel) (by decide +kernel)
/-- the empty selection `vms=` names the vm `""` -/
example : paramsFromCmd av0 (args0 ["vms="]) = .error .valueError := by decide +kernel
/-- conversely every vm of an accepted configuration is available, and the selection is the last
`vms=` given (all available vms if none) -/
theorem vms_selection (av : Avail) (args : List Str) (c : Config)
    (h : paramsFromCmd av args = .ok c) :
    c.vms = lastVms av av.vms args ∧ ∀ x ∈ c.vms, x ∈ av.vms :=
  ⟨(accepted h).vms, (accepted h).vmsAvail⟩

example : (paramsFromCmd av0 (args0 ["vms=vm1,vm2", "only=minimal", "vms=vm2"])).toOption.map (·.vms)
    = some ["vm2".toList] := by decide +kernel

/-! ## unknown object restrictions -/

/-- An `only_X=`/`no_X=` argument whose object `X` is neither `nets` nor (exactly) an available vm is
rejected, wherever it stands.  (Full since /repo 6e359ac; before, keys were matched by prefix and
`only_vm10=x` was read as a restriction `only0 x` of vm1.) -/
theorem unknown_object_restr_rejected (av : Avail) (args : List Str) (a k v : Str)
    (hmem : a ∈ args) (hkv : splitArg a = some (k, v)) (hobj : isObjKey k = true)
    (hunknown : ∀ x, (k = kOnlyU ++ x ∨ k = kNoU ++ x) → x ≠ kNets ∧ x ∉ av.vms) :
    ∃ e, paramsFromCmd av args = .error e := by
  apply paramsFromCmd_error_of_loop
  apply loop_rejects (a := a) _ args _ hmem
  intro st
  have hnn : netsKey k = false := by
    rw [Bool.eq_false_iff]
    intro h
    simp only [netsKey, Bool.or_eq_true, beq_iff_eq] at h
    rcases h with h | h
    · exact (hunknown kNets (Or.inl (by rw [h]; rfl))).1 rfl
    · exact (hunknown kNets (Or.inr (by rw [h]; rfl))).1 rfl
  have hf : av.vms.find? (vmKey k) = none := by
    rw [List.find?_eq_none]
    intro x hx h
    simp only [vmKey, Bool.or_eq_true, beq_iff_eq] at h
    rcases h with h | h
    · exact (hunknown x (Or.inl h)).2 hx
    · exact (hunknown x (Or.inr h)).2 hx
  have hc : classify av a = .badObj k v :=
    classify_badObj_iff.mpr ⟨hkv, isObjKey_not_test k hobj, hobj, hnn, hf⟩
  exact ⟨.valueError, by rw [step_eq, hc]; rfl⟩

example : paramsFromCmd av0 (args0 ["only_something=restr"]) = .error .valueError := by decide +kernel
example : paramsFromCmd av0 (args0 ["no_vm4=Fedora"]) = .error .valueError := by decide +kernel
/-- regression examples of the pre-fix behaviour (prefix match): now rejected -/
example : paramsFromCmd av0 (args0 ["only_vm10=x"]) = .error .valueError := by decide +kernel
example : paramsFromCmd av0 (args0 ["only_vm1_vm1=Fedora"]) = .error .valueError := by decide +kernel
example : paramsFromCmd av0 (args0 ["only_nets_nets=net1"]) = .error .valueError := by decide +kernel
/-- the hypotheses are met by `only_vm10=x` on `av0` (vms vm1, vm2) -/
example : ∃ e, paramsFromCmd av0 (args0 ["aaa=b", "only_vm10=x"]) = .error e :=
  unknown_object_restr_rejected av0 _ "only_vm10=x".toList "only_vm10".toList "x".toList
    (by decide +kernel) (by decide +kernel) (by decide +kernel)
    (by
      intro x hx
      have hx' : x = "vm10".toList := by
        rcases hx with h | h
        · have : "only_vm10".toList = kOnlyU ++ "vm10".toList := by decide +kernel
          rw [this] at h; exact (List.append_cancel_left h).symm
        · simp [kNoU] at h
      subst hx'
      exact ⟨by decide +kernel, by decide +kernel⟩)
/-- and exact keys are still accepted -/
example : (paramsFromCmd av0 (args0 ["only_vm1=Fedora"])).toOption.map (·.availableVms)
    = some [("vm1".toList, [("only".toList, "Fedora".toList)]), ("vm2".toList, [])] := by decide +kernel

/-! ## conflicting net selections -/

/-- An explicit `nets=` and a non-empty `only_nets=`/`no_nets=` are rejected **in either order**
(full since /repo 893de05; before, `nets=net1 only_nets=net2` silently yielded `nets = net2`).
For the order restriction-first the restriction must still be in force when `nets=` is read, i.e. not
withdrawn by a later `only_nets=`/`no_nets=` with an *empty* value (the documented way to lift a
restriction, see the example below); for the order `nets=`-first there is no side condition. -/
theorem nets_conflict_rejected (av : Avail) (pre mid post : List Str) (r n kr vr vn : Str)
    (hr : splitArg r = some (kr, vr)) (hkr : kr = kOnlyNets ∨ kr = kNoNets) (hvr : vr ≠ [])
    (hn : splitArg n = some (kNets, vn)) :
    ((∀ m ∈ mid, ∀ k, splitArg m = some (k, []) → k ≠ kOnlyNets ∧ k ≠ kNoNets) →
      ∃ e, paramsFromCmd av (pre ++ r :: (mid ++ n :: post)) = .error e) ∧
    (∃ e, paramsFromCmd av (pre ++ n :: (mid ++ r :: post)) = .error e) := by
  have hnk : netsKey kr = true := by
    simp only [netsKey, Bool.or_eq_true, beq_iff_eq]; exact hkr
  have c_r : classify av r = .netsR kr vr := classify_netsR_iff.mpr ⟨hr, hnk⟩
  have c_n : classify av n = .nets vn := classify_nets_iff.mpr hn
  -- an accepted run would pass the second of the two arguments in a state that refuses it
  have refused : ∀ {l : List Str}, (∀ st', loop av (St.init av) l ≠ .ok st') → ∃ e, paramsFromCmd av l = .error e := by
    intro l h
    apply paramsFromCmd_error_of_loop
    cases hl : loop av (St.init av) l with
    | error e => exact ⟨e, rfl⟩
    | ok st' => exact absurd hl (h st')
  constructor
  · intro hmid
    refine refused fun st' hl => ?_
    obtain ⟨st1, st2, _, hs2, h3⟩ := loop_ok_around hl
    obtain ⟨st3, st4, h4, hs4, _⟩ := loop_ok_around h3
    have n2 : st2.netsStr.isSome = true := by
      rw [stepC_netsStr st1 st2 _ hs2, c_r]
      exact netsOf_isSome hvr
    have n3 : st3.netsStr.isSome = true := by
      apply loop_netsStr_some mid st2 st3 _ n2 h4
      intro m hm k hc
      obtain ⟨hs, hk⟩ := classify_netsR_iff.mp hc
      simp only [netsKey, Bool.or_eq_true, beq_iff_eq] at hk
      exact hk.elim (hmid m hm k hs).1 (hmid m hm k hs).2
    rw [c_n] at hs4
    rw [stepC_nets_ok hs4] at n3
    cases n3
  · refine refused fun st' hl => ?_
    obtain ⟨st1, st2, _, hs2, h3⟩ := loop_ok_around hl
    obtain ⟨st3, st4, h4, hs4, _⟩ := loop_ok_around h3
    have e2 : st2.explicitNets = true := by
      rw [stepC_explicit st1 st2 _ hs2, c_n]
    have e3 : st3.explicitNets = true := loop_explicit_mono mid st2 st3 e2 h4
    rw [c_r] at hs4
    obtain ⟨hno, _⟩ := stepC_netsR_ok hs4
    rw [netsOf_isSome hvr, e3] at hno
    cases hno

example : paramsFromCmd av0 (args0 ["only_nets=net2", "aaa=bbb", "nets=net1"]) = .error .valueError := by decide +kernel
/-- regression example of the pre-fix behaviour (F6): the reverse order is rejected as well now -/
example : paramsFromCmd av0 (args0 ["nets=net1", "aaa=bbb", "only_nets=net2"]) = .error .valueError := by decide +kernel
example : paramsFromCmd av0 (args0 ["nets=", "no_nets=net2"]) = .error .valueError := by decide +kernel
/-- the hypotheses of both parts are met -/
example : (∃ e, paramsFromCmd av0 (args0 ["only_nets=net2", "aaa=bbb", "nets=net1"]) = .error e) ∧
    (∃ e, paramsFromCmd av0 (args0 ["nets=net1", "aaa=bbb", "only_nets=net2"]) = .error e) := by
  have h := nets_conflict_rejected av0 [] [ "aaa=bbb".toList ] [] "only_nets=net2".toList "nets=net1".toList
    "only_nets".toList "net2".toList "net1".toList (by decide +kernel) (Or.inl (by decide +kernel)) (by decide +kernel) (by decide +kernel)
  refine ⟨h.1 ?_, h.2⟩
  intro m hm k hs
  simp only [List.mem_singleton] at hm
  subst hm
  have : splitArg "aaa=bbb".toList = some ("aaa".toList, "bbb".toList) := by decide +kernel
  rw [this] at hs; cases hs
/-- an empty nets restriction is no restriction: it conflicts with nothing and withdraws an earlier one -/
example : (paramsFromCmd av0 (args0 ["only_nets=", "nets=net1"])).toOption.map (·.paramDict)
    = some [("nets".toList, "net1".toList)] := by decide +kernel
example : (paramsFromCmd av0 (args0 ["only_nets=net2", "only_nets=", "nets=net1"])).toOption.map (·.paramDict)
    = some [("nets".toList, "net1".toList)] := by decide +kernel

/-! ## the default primary restriction -/

/-- The restriction lines of an accepted command line are exactly the typed `only=`/`no=` in their
order, followed by `only <default>` **iff** no typed value names a primary restriction; the default
is `default_only` of the command line, else of the configuration, else `all`. -/
theorem default_iff_no_primary (av : Avail) (args : List Str) (c : Config)
    (h : paramsFromCmd av args = .ok c) :
    c.testsLines = typedTests av args ++
      (if args.any (primaryArg av) then [] else [(kOnly, testsDefault av c.paramDict)]) :=
  (accepted h).testsLines

/-- a default that is not a primary restriction is rejected (only when it is needed) -/
example : paramsFromCmd av0 (args0 ["default_only=nonminimal"]) = .error .valueError := by decide +kernel
example : (paramsFromCmd av0 (args0 ["default_only=nonminimal", "only=minimal"])).toOption.map (·.testsLines)
    = some [("only".toList, "minimal".toList)] := by decide +kernel
example : (paramsFromCmd av0 (args0 ["only=tutorial1"])).toOption.map (·.testsLines)
    = some [("only".toList, "tutorial1".toList), ("only".toList, "normal".toList)] := by decide +kernel
example : (paramsFromCmd av0 (args0 ["only=tutorial1", "only=all..quicktest"])).toOption.map (·.testsLines)
    = some [("only".toList, "tutorial1".toList), ("only".toList, "all..quicktest".toList)] := by decide +kernel


/-! ## repeated `only=` arguments intersect and equal the `..` form -/

/-- two `only` lines select what one `only` line with the conjunction of the filters selects
(at any position: see `order_irrelevant`) -/
theorem only_only_eq_and (u : List Name) (A B : Filter) (ls : List Line) :
    select u ((true, A) :: (true, B) :: ls) = select u ((true, andF A B) :: ls) := by
  simp only [select]
  congr 1
  funext n
  simp only [keep_cons, keepLine, sat_andF]
  cases sat A n <;> cases sat B n <;> simp

/-- textual form (README: `only=aaa only=bbb` is `only=aaa..bbb`): for comma free operands `a`, `b` of the
strict grammar the value `a..b` parses to the conjunction, so both command lines select the same tests -/
theorem only_only_eq_dotdot (u : List Name) (a b : Str) (wa wb : Word)
    (ha : ∀ c ∈ a, (c == ',') = false) (hb : ∀ c ∈ b, (c == ',') = false)
    (hpa : parseWord a = some wa) (hpb : parseWord b = some wb) (hlast : a.getLast? ≠ some '.') :
    parseLines [(kOnly, a), (kOnly, b)] = .ok [(true, [wa]), (true, [wb])] ∧
    parseLines [(kOnly, a ++ '.' :: '.' :: b)] = .ok [(true, [wa ++ wb])] ∧
    select u [(true, [wa]), (true, [wb])] = select u [(true, [wa ++ wb])] := by
  have fa : parseFilter a = some [wa] := by
    simp [parseFilter, splitComma, splitBy_none _ a ha, hpa]
  have fb : parseFilter b = some [wb] := by
    simp [parseFilter, splitComma, splitBy_none _ b hb, hpb]
  have hab : ∀ c ∈ a ++ '.' :: '.' :: b, (c == ',') = false := by
    intro c hc
    simp only [List.mem_append, List.mem_cons] at hc
    rcases hc with h | h | h | h
    · exact ha c h
    · subst h; decide
    · subst h; decide
    · exact hb c h
  have fab : parseFilter (a ++ '.' :: '.' :: b) = some [wa ++ wb] := by
    have hw : parseWord (a ++ '.' :: '.' :: b) = some (wa ++ wb) := by
      unfold parseWord at hpa hpb ⊢
      rw [splitDD_append a b hlast, List.mapM_append, hpa, hpb]
      rfl
    simp [parseFilter, splitComma, splitBy_none _ _ hab, hw]
  refine ⟨?_, ?_, ?_⟩
  · simp [parseLines, parseLine, fa, fb]
  · simp [parseLines, parseLine, fab]
  · have := only_only_eq_and u [wa] [wb] []
    simpa [andF] using this

example : parseWord "minimal".toList = some [["minimal".toList]] := by decide +kernel
example : parseWord "quicktest.tutorial1".toList = some [["quicktest".toList, "tutorial1".toList]] := by decide +kernel
example : select av0.tests [(true, [[["minimal".toList]]]), (true, [[["quicktest".toList, "tutorial1".toList]]])]
    = [["minimal".toList, "quicktest".toList, "tutorial1".toList]] := by decide +kernel
example : (parseFilter "minimal..quicktest.tutorial1".toList)
    = some [[["minimal".toList], ["quicktest".toList, "tutorial1".toList]]] := by decide +kernel
/-- with a comma the textual equivalence does not hold (`,` binds weaker than `..`): `only=a,b only=c`
is `(a ∨ b) ∧ c` while `only=a,b..c` is `a ∨ (b ∧ c)` — the general law is `only_only_eq_and` -/
example : select av0.tests [(true, [[["all".toList]], [["normal".toList]]]), (true, [[["files".toList]]])]
    ≠ select av0.tests [(true, [[["all".toList]], [["normal".toList], ["files".toList]]])] := by decide +kernel
/-- `..` is unordered, `.` is ordered and adjacent -/
example : select av0.tests [(true, [[["tutorial1".toList], ["normal".toList]]])]
    = select av0.tests [(true, [[["normal".toList], ["tutorial1".toList]]])] := by decide +kernel
example : select av0.tests [(true, [[["normal".toList, "tutorial1".toList]]])] = [] := by decide +kernel

/-! ## `no=` excludes -/

/-- a `no` line removes exactly the variants matching its filter, wherever it stands -/
theorem no_excludes (u : List Name) (l1 l2 : List Line) (f : Filter) :
    select u (l1 ++ (false, f) :: l2) = (select u (l1 ++ l2)).filter (fun n => !sat f n) := by
  have hp : (l1 ++ (false, f) :: l2).Perm ((l1 ++ l2) ++ [(false, f)]) := by
    simpa using (List.perm_middle (a := (false, f)) (l₁ := l1) (l₂ := l2)).trans
      (List.perm_append_singleton (false, f) (l1 ++ l2)).symm
  have : select u (l1 ++ (false, f) :: l2) = select u ((l1 ++ l2) ++ [(false, f)]) := by
    simp only [select]; congr 1; funext n; exact keep_perm hp n
  rw [this, select_append]
  congr 1
  funext n
  simp [keep, keepLine]

/-- `no=x` for a single variant name removes the tests whose name contains `x` -/
theorem no_excludes_variant (u : List Name) (l1 l2 : List Line) (x : Str) :
    select u (l1 ++ (false, [[[x]]]) :: l2) = (select u (l1 ++ l2)).filter (fun n => !n.contains x) := by
  rw [no_excludes]
  congr 1
  funext n
  simp [sat, satWord, isInfix_single]

example : select av0.tests [(true, [[["normal".toList]]]), (false, [[["tutorial1".toList]]])]
    = [["normal".toList, "tutorial2".toList, "files".toList]] := by decide +kernel
/-- excluding everything is rejected as an empty Cartesian product -/
example : paramsFromCmd av0 (args0 ["only=minimal", "no=tutorial1"]) = .error .emptyProduct := by decide +kernel

/-! ## per vm restrictions and `vms=` narrow the objects -/

/-- The restriction lines of every available vm are exactly the typed non-empty `only_<vm>=`/`no_<vm>=`
values in their order, and the configured (or command line) default **iff** nothing was typed for that
vm (`only_<vm>=` with an empty value lifts the default: the vm is unrestricted). Arguments for other vms,
`vms=`, tests and nets do not occur in it. -/
theorem vm_restr_lines (av : Avail) (args : List Str) (c : Config)
    (h : paramsFromCmd av args = .ok c) :
    c.availableVms = av.vms.map (fun vm =>
      (vm, typedVm av vm args ++ (if vmTyped av vm args then [] else vmDefaultLines av c.paramDict vm))) :=
  (accepted h).availableVms

/-- more restriction lines never select more: the selection under `ls ++ extra` is a sub-list of the
selection under `ls` (for tests, nets and vm variants alike) -/
theorem vm_restr_narrows (u : List Name) (ls extra : List Line) :
    (select u (ls ++ extra)).Sublist (select u ls) := by
  rw [select_append]
  exact List.filter_sublist

/-- on the vm objects: if both restriction strings parse and select something, the objects of the longer
one are among the objects of the shorter one -/
theorem vm_objects_narrow (av : Avail) (vm : Str) (lines extra : List (Str × Str)) (r r' : List Name)
    (h : selectedVmObjs av vm lines = .ok r) (h' : selectedVmObjs av vm (lines ++ extra) = .ok r') :
    r'.Sublist r := by
  obtain ⟨ls, hp, rfl⟩ := selectedVmObjs_ok h
  obtain ⟨ls', hp', rfl⟩ := selectedVmObjs_ok h'
  rw [parseLines_append, hp] at hp'
  cases hq : parseLines extra with
  | error e => rw [hq] at hp'; cases hp'
  | ok ex =>
    rw [hq] at hp'
    cases hp'
    exact vm_restr_narrows _ ls ex

example : selectedVmObjs av0 "vm1".toList [] =
    .ok [["vm1".toList, "Linux".toList, "CentOS".toList], ["vm1".toList, "Linux".toList, "Fedora".toList]] := by decide +kernel
example : selectedVmObjs av0 "vm1".toList [("only".toList, "Fedora".toList)] =
    .ok [["vm1".toList, "Linux".toList, "Fedora".toList]] := by decide +kernel
example : (paramsFromCmd av0 (args0 ["only_vm1=Fedora", "aaa=b", "no_vm1=x"])).toOption.map (·.availableVms)
    = some [("vm1".toList, [("only".toList, "Fedora".toList), ("no".toList, "x".toList)]), ("vm2".toList, [])] := by
  decide +kernel
example : (paramsFromCmd av0 (args0 ["only_vm2=Win10"])).toOption.map (·.availableVms)
    = some [("vm1".toList, [("only".toList, "CentOS".toList)]), ("vm2".toList, [("only".toList, "Win10".toList)])] := by
  decide +kernel
example : (paramsFromCmd av0 (args0 ["only_vm1="])).toOption.map (·.availableVms)
    = some [("vm1".toList, []), ("vm2".toList, [])] := by decide +kernel

/-- `vms=` narrows the objects: the vm strings handed on are those of the selected vms, unchanged -/
theorem vms_narrows (av : Avail) (args : List Str) (c : Config) (h : paramsFromCmd av args = .ok c) :
    c.vmStrs = c.availableVms.filter (fun p => c.vms.contains p.1) ∧
    c.vms = lastVms av av.vms args ∧ (∀ x ∈ c.vms, x ∈ av.vms) :=
  ⟨(accepted h).vmStrs, vms_selection av args c h⟩

example : (paramsFromCmd av0 (args0 ["vms=vm2", "only_vm2=Win7"])).toOption.map (·.vmStrs)
    = some [("vm2".toList, [("only".toList, "Win7".toList)])] := by decide +kernel

/-! ## any other `K=V` overrides that parameter in every parsed test -/

/-- If `K=V` is given (K not `only`/`no`/`only_*`/`no_*`/`vms`) and no later argument writes K, every
test of the selection has `K ↦ V` with commas replaced by spaces, whatever the configuration says (last
occurrence wins: "no later argument writes K"). -/
theorem override_everywhere (av : Avail) (pre post : List Str) (a k v : Str) (c : Config)
    (h : paramsFromCmd av (pre ++ a :: post) = .ok c)
    (hkv : splitArg a = some (k, v)) (ht : isTestKey k = false) (ho : isObjKey k = false) (hv : k ≠ kVms)
    (hpost : ∀ b ∈ post, writes av k b = false) :
    dictGet c.paramDict k = some (commaToSpace v) ∧
    ∀ (names : List Name), selectedTests av c = .ok names → ∀ n ∈ names, ∀ base : List (Str × Str),
      testParam c base k = some (commaToSpace v) := by
  have key : dictGet c.paramDict k = some (commaToSpace v) := by
    rw [(accepted h).paramDict k, List.foldl_append, List.foldl_cons, foldl_pdUpd_not_writes post _ hpost]
    by_cases hn : k = kNets
    · subst hn
      rw [classify_nets_iff.mpr hkv]
      simp [pdUpd]
    · rw [classify_other_iff.mpr ⟨hkv, ht, ho, hv, hn⟩]
      simp [pdUpd]
  refine ⟨key, ?_⟩
  intro names _ n _ base
  simp [testParam, key]

example : (paramsFromCmd av0 (args0 ["aaa=b,c", "only=minimal", "aaa=d,e"])).toOption.map (·.paramDict)
    = some [("aaa".toList, "d e".toList)] := by decide +kernel
example : (paramsFromCmd av0 (args0 ["aaa=b,c"])).toOption.map
    (fun c => testParam c [("aaa".toList, "configured".toList)] "aaa".toList) = some (some "b c".toList) := by decide +kernel

/-! ## the order of independent arguments is irrelevant -/

/-- the selection does not depend on the order of the restriction lines -/
theorem order_irrelevant (u : List Name) (ls ls' : List Line) (h : ls.Perm ls') :
    select u ls = select u ls' := by
  simp only [select]
  congr 1
  funext n
  exact keep_perm h n


/-- On argument lists: if two orders of the same arguments are both accepted and produce the same
parameter dictionary (as a map), then they produce permuted restriction lines for the tests and for
every vm, and select exactly the same tests.
*Partial*: acceptance of one order is not derived from acceptance of the other, and equality of the
dictionaries is a hypothesis — the dictionary is last-wins for a repeated key (and for `nets=` against an
empty `only_nets=`); for lists without such pairs the two hypotheses are checked
implementation against implementation by the harness (`equiv.order`). -/
theorem order_irrelevant_args_partial (av : Avail) (args args' : List Str) (c c' : Config)
    (hperm : args.Perm args')
    (h : paramsFromCmd av args = .ok c) (h' : paramsFromCmd av args' = .ok c')
    (hpd : ∀ k, dictGet c.paramDict k = dictGet c'.paramDict k) :
    c.testsLines.Perm c'.testsLines ∧
    (∀ names names', selectedTests av c = .ok names → selectedTests av c' = .ok names' → names = names') ∧
    (c.availableVms.map (·.1) = c'.availableVms.map (·.1)) ∧
    (∀ vm l l', (vm, l) ∈ c.availableVms → (vm, l') ∈ c'.availableVms → av.vms.Nodup → l.Perm l') := by
  have t1 := default_iff_no_primary av args c h
  have t2 := default_iff_no_primary av args' c' h'
  have hany : args.any (primaryArg av) = args'.any (primaryArg av) := hperm.any_eq
  have hlines : c.testsLines.Perm c'.testsLines := by
    rw [t1, t2, hany, testsDefault_congr hpd]
    exact (typedTests_perm hperm).append_right _
  have v1 := vm_restr_lines av args c h
  have v2 := vm_restr_lines av args' c' h'
  refine ⟨hlines, ?_, ?_, ?_⟩
  · intro names names' hn hn'
    obtain ⟨ls, hp, rfl⟩ := selectedTests_ok hn
    obtain ⟨ls2, hp2, rfl⟩ := selectedTests_ok hn'
    obtain ⟨ls', e', p'⟩ := parseLines_perm hlines hp
    rw [e'] at hp2
    cases hp2
    exact order_irrelevant _ _ _ p'
  · rw [v1, v2]; simp
  · intro vm l l' hm hm' hnd
    rw [v1] at hm
    rw [v2] at hm'
    simp only [List.mem_map, Prod.mk.injEq] at hm hm'
    obtain ⟨x, _, rfl, rfl⟩ := hm
    obtain ⟨y, _, rfl, rfl⟩ := hm'
    rw [vmTyped_perm hperm, vmDefaultLines_congr hpd]
    exact (typedVm_perm hperm).append_right _

example : (paramsFromCmd av0 (args0 ["only=tutorial1", "aaa=b", "only_vm1=Fedora", "only=minimal"])).toOption.map
      (fun c => (selectedTests av0 c).toOption)
    = (paramsFromCmd av0 (args0 ["only=minimal", "only_vm1=Fedora", "only=tutorial1", "aaa=b"])).toOption.map
      (fun c => (selectedTests av0 c).toOption) := by decide +kernel

/-! ## The model's one-step function is the Python source of the tokenizing loop (translator tie)

`I2N/Extracted/GenCmd.lean` is regenerated on every `./check C11` from the CURRENT source of
`avocado_i2n/cmd_parser.py` by `harness/pygen_pxcmd.py` (which cuts the body of the `for cmd_param in config["params"]`
loop out of `params_from_cmd` and hands it to the translator `harness/pygen.py`): the branch structure — malformed
argument, `only`/`no`, `only_*`/`no_*` split into nets / vm / unknown object, `vms`, `nets`, any other `K=V` —, the
order of the tests, the two nets conflict checks of /repo 893de05 and where they stand relative to the evaluation of
the restriction, and the raised errors are translated; the regular expressions stay the hand recognisers `splitArg`,
`netsKey`, `vmKey`; every statement that updates the loop state is pinned verbatim to a named action of the state
monad `StateT St (Except Err)` (table in the generated file).  The statements in front of the loop are pinned as well
and stand for `St.init`. -/

section MatchesSource
open I2N.Extracted.GenCmd

/-- the primary-restriction scan (`for variant in re.split(…, value): if variant in available_restrictions:
use_tests_default = False`; translated since the translator has loops with effects) as ONE update of `useDef` -/
def scanPrimary (av : Avail) (value : Str) : M Unit :=
  modSt (fun st => { st with useDef := st.useDef && !(splitVariants value).any (av.restrictions.contains ·) })
/-- `for vm_name in with_selected_vms: if vm_name not in available_vms: raise ValueError(…)` as one test -/
def checkSelVms (av : Avail) (l : List Str) : M Unit := fun st =>
  if l.all (av.vms.contains ·) then .ok ((), st) else .error Err.valueError
/-- the three statements in front of the `break` of the first-matching-vm search as one update -/
def addVmLine (vm key value : Str) : M Unit :=
  modSt (fun st => { st with vmNoDef := vm :: st.vmNoDef,
                             vmLines := if value.isEmpty then st.vmLines
                                        else st.vmLines ++ [(vm, (removeAll ('_' :: vm) key, value))] })

theorem scan_loop_run (av : Avail) (l : List Str) (st : St) :
    (l.forM (fun variant => (do
        if av.restrictions.contains variant then dropTestsDefault else pure () : M Unit))) st =
      .ok ((), { st with useDef := st.useDef && !l.any (av.restrictions.contains ·) }) := by
  induction l generalizing st with
  | nil => simp [List.forM, pure, StateT.pure, Except.pure]
  | cons v r ih =>
    simp only [List.forM, bind, StateT.bind]
    by_cases h : av.restrictions.contains v = true
    · simp only [h, if_true, dropTestsDefault, modSt, Except.bind, List.any_cons, Bool.true_or,
        Bool.not_true, Bool.and_false]
      have := ih { st with useDef := false }
      simp only [Bool.false_and] at this
      exact this
    · have h' : av.restrictions.contains v = false := by simpa using h
      simp only [h', Bool.false_eq_true, if_false, pure, StateT.pure, Except.pure, Except.bind,
        List.any_cons, Bool.false_or]
      exact ih st

/-- **the translated primary-restriction scan is the hand model's update** — any number of variants -/
theorem scan_loop_matches (av : Avail) (value : Str) :
    ((splitVariants value).forM (fun variant => (do
        if av.restrictions.contains variant then dropTestsDefault else pure () : M Unit))) = scanPrimary av value := by
  funext st
  rw [scan_loop_run]; rfl

theorem vms_loop_run (av : Avail) (l : List Str) (st : St) :
    (l.forM (fun vm_name => (do
        if !av.vms.contains vm_name then throw Err.valueError : M Unit))) st =
      if l.all (av.vms.contains ·) then .ok ((), st) else .error Err.valueError := by
  induction l with
  | nil => simp [List.forM, pure, StateT.pure, Except.pure]
  | cons v r ih =>
    simp only [List.forM, bind, StateT.bind]
    by_cases h : av.vms.contains v = true
    · simp only [h, Bool.not_true, Bool.false_eq_true, if_false, pure, StateT.pure, Except.pure,
        Except.bind, List.all_cons, Bool.true_and]
      exact ih
    · have h' : av.vms.contains v = false := by simpa using h
      simp only [h', Bool.not_false, if_true, throw, throwThe, MonadExceptOf.throw, Except.bind,
        List.all_cons, Bool.false_and, Bool.false_eq_true, if_false]
      rfl

/-- **the translated `vms=` validation loop is the hand model's `all` test** — any number of selected vms -/
theorem vms_loop_matches (av : Avail) (l : List Str) :
    (l.forM (fun vm_name => (do if !av.vms.contains vm_name then throw Err.valueError : M Unit))) = checkSelVms av l := by
  funext st
  rw [vms_loop_run]; rfl

/-- the translated body of the first-matching-vm search is the hand model's update -/
theorem vm_body_matches (vm key value : Str) :
    (do dropVmDefault vm
        let vm_str := vmStrOf vm key value
        addVmStr vm vm_str : M Unit) = addVmLine vm key value := by
  funext st
  simp only [bind, StateT.bind, dropVmDefault, addVmStr, vmStrOf, addVmLine, modSt, Except.bind]
  by_cases h : value.isEmpty = true <;> simp [h]

/- what `simp` unfolds below: the state monad of the generated body and its primitive actions -/
attribute [local simp] StateT.run bind StateT.bind Except.bind throw throwThe MonadExceptOf.throw StateT.lift Except.map
  pure StateT.pure Except.pure readSt modSt pyStartsWith

/-- **The hand written `step` IS the body of the tokenizing loop of `params_from_cmd`**: for every configuration, every
loop state and every argument the regenerated definition ends in the same state or raises the same error.  No
hypotheses. -/
theorem step_matches_source (av : Avail) (st : St) (arg : Str) :
    (genStep av arg).run st = (step av st arg).map (fun s => ((), s)) := by
  unfold genStep step
  simp only [scan_loop_matches, vms_loop_matches]
  cases h : splitArg arg with
  | none => simp
  | some kv =>
    obtain ⟨key, value⟩ := kv
    by_cases h1 : (key == kOnly || key == kNo) = true
    · simp [scanPrimary, addTestsLine, h1]
    by_cases h2 : (kOnlyU.isPrefixOf key || kNoU.isPrefixOf key) = true
    · by_cases h3 : netsKey key = true
      · by_cases h4 : value = []
        · simp [setNetsStr, setNetsByRestr, h1, h2, h3, h4]
          cases netsBy av none <;> rfl
        · by_cases h5 : st.explicitNets = true
          · simp [setNetsStr, h1, h2, h3, h4, h5]
          · simp [setNetsStr, setNetsByRestr, h1, h2, h3, h4, h5]
            cases netsBy av (some (removeAll kUNets key, value)) <;> rfl
      · cases h6 : av.vms.find? (vmKey key) <;> simp [dropVmDefault, addVmStr, vmStrOf, h1, h2, h3, h6]
        by_cases hv : value = [] <;> simp [hv]
    by_cases h7 : (key == kVms) = true
    · by_cases h10 : (splitComma value).all (av.vms.contains ·) = true
      · simp [setSelVms, checkSelVms, h1, h2, h7]
        simp at h10; rw [if_pos h10, if_pos h10]
      · simp [setSelVms, checkSelVms, h1, h2, h7]
        simp at h10; rw [if_neg (by simpa using h10), if_neg (by simpa using h10)]
    by_cases h8 : (key == kNets) = true
    · cases h9 : st.netsStr <;> simp [setParam, setExplicitNets, h1, h2, h7, h8, h9]
    · simp [setParam, h1, h2, h7, h8]

/-- the whole loop: running the regenerated body over the argument list (Python's `for`) is the model's `loop` — for
every configuration, every start state and every argument list of any length -/
theorem loop_matches_source (av : Avail) (st : St) (args : List Str) :
    (args.forM (genStep av)).run st = (loop av st args).map (fun s => ((), s)) := by
  induction args generalizing st with
  | nil => rfl
  | cons a as ih =>
    have h := step_matches_source av st a
    show StateT.run (do genStep av a; as.forM (genStep av)) st = _
    simp only [loop]
    cases hs : step av st a with
    | error e =>
      rw [hs] at h
      simp at h
      simp [h]
    | ok st' =>
      rw [hs] at h
      simp at h
      simpa [h] using ih st'

/-- `params_from_cmd` = the regenerated loop from the pinned initial state, then `finish` -/
theorem paramsFromCmd_matches_source (av : Avail) (args : List Str) :
    paramsFromCmd av args =
      match (args.forM (genStep av)).run (St.init av) with
      | .error e => .error e
      | .ok (_, st) => finish av st := by
  rw [loop_matches_source]
  unfold paramsFromCmd
  cases loop av (St.init av) args <;> rfl

/-- the generated definition computes (it is not stuck on anything): a malformed argument; an unknown object; an unknown
vm; the two nets conflicts in both orders; a primary restriction lifts the default; a plain override.
(`decide +kernel`: the instance is evaluated by the kernel — since the three inner loops are translated (`List.forM`,
`find?` inside `StateT`) the elaborator's own reduction of these terms takes minutes and tens of GB; no axiom is added.) -/
example : (genStep av0 "ccc".toList).run (St.init av0) = .error .valueError := by decide +kernel
example : (genStep av0 "only_vm10=x".toList).run (St.init av0) = .error .valueError := by decide +kernel
example : (genStep av0 "vms=vm1,vm3".toList).run (St.init av0) = .error .valueError := by decide +kernel
example : ((genStep av0 "nets=net1".toList).run (St.init av0) >>= fun r => (genStep av0 "only_nets=net2".toList).run r.2)
    = .error .valueError := by decide +kernel
example : ((genStep av0 "only_nets=net2".toList).run (St.init av0) >>= fun r => (genStep av0 "nets=net1".toList).run r.2)
    = .error .valueError := by decide +kernel
example : ((genStep av0 "only=normal..tutorial1".toList).run (St.init av0)).toOption.map (·.2.useDef) = some false := by
  decide +kernel
example : ((genStep av0 "a=b,c".toList).run (St.init av0)).toOption.map (·.2.pd) =
    some [("a".toList, "b c".toList)] := by decide +kernel

end MatchesSource


end I2N.Props.C11
