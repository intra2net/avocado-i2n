import I2N.Model.Transfer
import I2N.Lemmas.Transfer
import I2N.Extracted.GenTransfer
/-!
# C14 — Pool transfers are exact, never destroy data, and exclude each other

Part (a): the file-system model of `TransferOps` (`I2N.Transfer.downloadLocal` …), for ALL file systems,
paths, contents and hash limits.  Part (b): the lock protocol of `image_lock` for ANY number of processes
(process ids are all of `Nat`), any jobs, any interleaving, with an exception or a death at any step of any
critical section; and the soundness of the trace monitor that judges traces of the real processes.

`limit` is the number of leading bytes `compare_local` hashes (1 MiB in the code).  Because only a prefix is
hashed, exactness and "skipped only when equal" hold under the decidable side condition `prefixFaithful`
(both contents fit in the prefix or already differ inside it): theorems named `…_partial`, with the
counter-example outside the condition next to them (finding `skip-on-equal-prefix`, design.d/C14.md).
-/
namespace I2N.Props.C14
open I2N.Transfer

/-! ## (a) transfers are exact -/

/-- under the side condition, equal hashes of the prefix mean equal contents -/
theorem compareLocal_iff {limit : Nat} {fs : FS} {cache pool : Path}
    (hfaith : prefixFaithful limit fs cache pool = true) :
    compareLocal limit fs cache pool = true ↔ read fs cache = read fs pool := by
  unfold compareLocal digest
  unfold prefixFaithful at hfaith
  cases hc : read fs cache <;> cases hp : read fs pool <;> simp_all
  exact ⟨fun h => hfaith.resolve_left (not_not_intro h), fun h => h ▸ rfl⟩

/-- `download_local` that succeeds leaves the pool entry untouched and makes the cache read exactly what the
    pool reads (also when it skipped the copy) — provided the hashed prefix decides equality. -/
theorem download_exact_partial {limit : Nat} {fs fs' : FS} {cache pool : Path}
    (hpool : islink fs pool = false) (hfaith : prefixFaithful limit fs cache pool = true)
    (h : downloadLocal limit fs cache pool = .ok fs') :
    fs' pool = fs pool ∧ read fs' pool = read fs pool ∧ read fs' cache = read fs' pool := by
  have hrp : resolve fs pool = pool := resolve_of_not_link hpool
  unfold downloadLocal at h
  split at h
  · rename_i hcmp
    cases h
    exact ⟨rfl, rfl, (compareLocal_iff hfaith).mp hcmp⟩
  · exact copy_exact h (fun e => (copy_ok h).choose_spec.2.1 (hrp.trans e))

/-- the same for `upload_local`: the cache entry is untouched, the pool reads exactly what the cache reads. -/
theorem upload_exact_partial {limit : Nat} {fs fs' : FS} {cache pool : Path}
    (hpool : islink fs pool = false) (hfaith : prefixFaithful limit fs cache pool = true)
    (h : uploadLocal limit fs cache pool = .ok fs') :
    fs' cache = fs cache ∧ read fs' cache = read fs cache ∧ read fs' pool = read fs' cache := by
  have hrp : resolve fs pool = pool := resolve_of_not_link hpool
  unfold uploadLocal at h
  split at h
  · rename_i hcmp
    cases h
    exact ⟨rfl, rfl, ((compareLocal_iff hfaith).mp hcmp).symm⟩
  · refine copy_exact h (fun e => (copy_ok h).choose_spec.2.1 ?_)
    rw [hrp] at e
    rw [e]
/-- The full statement (without `prefixFaithful`) is FALSE of the model, as it is of the code: for EVERY hash
    limit there are a cache and a pool file that differ, for which the download "succeeds" by skipping. -/
theorem download_skips_on_equal_prefix (limit : Nat) (fs : FS) (cache pool : Path) (x y : Data)
    (hc : read fs cache = some x) (hp : read fs pool = some y) (hxy : x.take limit = y.take limit) :
    downloadLocal limit fs cache pool = .ok fs ∧ uploadLocal limit fs cache pool = .ok fs := by
  simp [downloadLocal, uploadLocal, compareLocal, digest, hc, hp, hxy]

/-- `skip_when_equal`: equal contents (or both missing) ⇒ nothing is copied, in every mode. -/
theorem skip_when_equal (limit : Nat) (fs : FS) (cache pool : Path) (h : read fs cache = read fs pool) :
    downloadLocal limit fs cache pool = .ok fs ∧ uploadLocal limit fs cache pool = .ok fs ∧
    (islink fs cache = false → downloadLink limit fs cache pool = .ok fs ∧
                               uploadLink limit fs cache pool = .ok fs) := by
  have hc : compareLocal limit fs cache pool = true := by simp [compareLocal, digest, h]
  refine ⟨by simp [downloadLocal, hc], by simp [uploadLocal, hc], ?_⟩
  intro hl
  simp [downloadLink, uploadLink, uploadLocal, compareLink, hl, hc]

/-- an already correct link is left alone -/
theorem skip_when_linked (limit : Nat) (fs : FS) (cache pool : Path) (h : fs cache = .link pool) :
    downloadLink limit fs cache pool = .ok fs := by
  simp [downloadLink, compareLink, islink, resolve, h]

/-- conversely the copy is attempted whenever the contents differ — under the prefix condition. -/
theorem copy_when_different_partial (limit : Nat) (fs : FS) (cache pool : Path)
    (hfaith : prefixFaithful limit fs cache pool = true) (h : read fs cache ≠ read fs pool) :
    downloadLocal limit fs cache pool = copy fs pool cache ∧
    uploadLocal limit fs cache pool = copy fs cache pool := by
  simp [downloadLocal, uploadLocal, mt (compareLocal_iff hfaith).mp h]

/-! ## (a) transfers never destroy data -/

/-- frame: a download writes only where the cache path resolves to, an upload only where the pool path
    resolves to, a delete only the pool entry; every other path keeps its node. -/
theorem transfer_frame {limit : Nat} {fs fs' : FS} {cache pool : Path} :
    (downloadLocal limit fs cache pool = .ok fs' → ∀ q, q ≠ resolve fs cache → fs' q = fs q) ∧
    (uploadLocal limit fs cache pool = .ok fs' → ∀ q, q ≠ resolve fs pool → fs' q = fs q) ∧
    (deleteLocal fs pool = .ok fs' → fs' pool = .absent ∧ ∀ q, q ≠ pool → fs' q = fs q) := by
  refine ⟨?_, ?_, ?_⟩
  · intro h q hq
    unfold downloadLocal at h
    split at h
    · cases h; rfl
    · obtain ⟨d, _, _, rfl⟩ := copy_ok h
      exact write_other _ _ _ _ hq
  · intro h q hq
    unfold uploadLocal at h
    split at h
    · cases h; rfl
    · obtain ⟨d, _, _, rfl⟩ := copy_ok h
      exact write_other _ _ _ _ hq
  · intro h
    obtain ⟨_, rfl⟩ := unlink_ok h
    exact ⟨write_same _ _ _, fun q hq => write_other _ _ _ _ hq⟩

/-- a transfer that fails has no file system to show for it in the model (`Except`): the real code is
    checked to leave every tracked path as it was.  A failing delete means the entry was already gone. -/
theorem delete_missing (fs : FS) (pool : Path) (h : fs pool = .absent) :
    deleteLocal fs pool = .error .fileNotFound := by
  simp [deleteLocal, unlink, h]

/-- what a successful `download_link` did: nothing, or it put the link in the place of an entry that was no real file
(an older link is dropped first) and changed nothing else -/
theorem downloadLink_ok {limit : Nat} {fs fs' : FS} {cache pool : Path}
    (h : downloadLink limit fs cache pool = .ok fs') :
    fs' = fs ∨ ((∀ d, fs cache ≠ .file d) ∧ fs' cache = .link pool ∧ ∀ q, q ≠ cache → fs' q = fs q) := by
  unfold downloadLink at h
  split at h
  · cases h; exact .inl rfl
  · split at h
    · cases h
    · right
      by_cases hl : islink fs cache = true
      · simp only [hl, if_true] at h
        cases hu : unlink fs cache with
        | error e => rw [hu] at h; cases h
        | ok fs1 =>
          rw [hu] at h
          obtain ⟨_, rfl⟩ := unlink_ok hu
          obtain ⟨_, rfl⟩ := symlink_ok h
          obtain ⟨t, ht⟩ := islink_iff.mp hl
          refine ⟨fun d hd => (by rw [ht] at hd; cases hd), write_same _ _ _, fun q hq => ?_⟩
          rw [write_other _ _ _ _ hq, write_other _ _ _ _ hq]
      · have hl' : islink fs cache = false := by simpa using hl
        simp only [hl', Bool.false_eq_true, if_false] at h
        obtain ⟨habs, rfl⟩ := symlink_ok h
        exact ⟨fun d hd => (by rw [habs] at hd; cases hd), write_same _ _ _, fun q hq => write_other _ _ _ _ hq⟩

/-- `link_never_clobbers`: whatever `download_link` does, every real file of the file system is still the
    same real file afterwards (only links and absent entries are ever changed) … -/
theorem link_never_clobbers {limit : Nat} {fs fs' : FS} {cache pool : Path}
    (h : downloadLink limit fs cache pool = .ok fs') :
    ∀ q d, fs q = .file d → fs' q = .file d := by
  intro q d hq
  rcases downloadLink_ok h with rfl | ⟨hnf, _, hrest⟩
  · exact hq
  · rw [hrest q (fun heq => hnf d (heq ▸ hq))]; exact hq

/-- … and real data in the cache that differs from the pool makes it refuse (`RuntimeError`). -/
theorem link_refuses_real_data (limit : Nat) (fs : FS) (cache pool : Path)
    (hreal : islink fs cache = false) (hex : pexists fs cache = true)
    (hdiff : compareLocal limit fs cache pool = false) :
    downloadLink limit fs cache pool = .error .runtimeError := by
  simp [downloadLink, compareLink, hreal, hex, hdiff]

/-- when it does link, the cache entry is a link to the pool path and nothing else changed -/
theorem link_result {limit : Nat} {fs fs' : FS} {cache pool : Path}
    (h : downloadLink limit fs cache pool = .ok fs') (hne : fs' ≠ fs) :
    fs' cache = .link pool ∧ ∀ q, q ≠ cache → fs' q = fs q :=
  (downloadLink_ok h).resolve_left hne |>.2

/-- `never_upload_link`: a link in the cache is refused before anything is locked or touched, also through
    the dispatcher (`;` in the pool location) … -/
theorem never_upload_link (limit : Nat) (fs : FS) (cache pool : Path) (spec : String)
    (hl : islink fs cache = true) :
    uploadLink limit fs cache pool = .error .valueError ∧
    (dispatch spec = .ok (.lnk, pool) → upload limit fs cache spec = .error .valueError) := by
  refine ⟨by simp [uploadLink, hl], ?_⟩
  intro hd
  simp [upload, hd, uploadLink, hl]

/-- … and no upload ever creates a link anywhere. -/
theorem upload_creates_no_link {limit : Nat} {fs fs' : FS} {cache pool : Path}
    (h : uploadLink limit fs cache pool = .ok fs' ∨ uploadLocal limit fs cache pool = .ok fs') :
    ∀ q t, fs' q = .link t → fs q = .link t := by
  have key : uploadLocal limit fs cache pool = .ok fs' → ∀ q t, fs' q = .link t → fs q = .link t := by
    intro h q t hq
    unfold uploadLocal at h
    split at h
    · cases h; exact hq
    · obtain ⟨d, _, _, rfl⟩ := copy_ok h
      by_cases hqp : q = resolve fs pool
      · subst hqp; rw [write_same] at hq; cases hq
      · rw [write_other _ _ _ _ hqp] at hq; exact hq
  rcases h with h | h
  · unfold uploadLink at h
    split at h
    · cases h
    · exact key h
  · exact key h

/-! ## (b) the critical section of one process is the big-step operation -/

/-- the body of the three compare-then-copy operations, which differ in the direction of the copy only -/
theorem runCS_copy {limit : Nat} {op : Op} {cache pool : Path} {fs : FS} (src dst : Path) (hlen : csLen op = 2)
    (h0 : csStep limit op cache pool 0 fs = .next fs (if compareLocal limit fs cache pool then 2 else 1))
    (h1 : csStep limit op cache pool 1 fs = liftCopy (copy fs src dst) 2) :
    runCS limit op cache pool 4 0 fs = if compareLocal limit fs cache pool then .ok fs else copy fs src dst := by
  rw [runCS, if_neg (by omega), h0]
  cases compareLocal limit fs cache pool with
  | true =>
    simp only [if_true]
    rw [runCS, if_pos (by omega)]
  | false =>
    simp only [Bool.false_eq_true, if_false]
    rw [runCS, if_neg (by omega), h1]
    cases copy fs src dst with
    | error e => rfl
    | ok fs' => simp only [liftCopy]; rw [runCS, if_pos (by omega)]

/-- running the body of the `with image_lock` block step by step, undisturbed, is exactly the operation -/
theorem body_is_operation (limit : Nat) (fs : FS) (cache pool : Path) :
    runCS limit .dl cache pool 4 0 fs = downloadLocal limit fs cache pool ∧
    runCS limit .ul cache pool 4 0 fs = uploadLocal limit fs cache pool ∧
    runCS limit .del cache pool 4 0 fs = deleteLocal fs pool ∧
    runCS limit .dll cache pool 6 0 fs = downloadLink limit fs cache pool ∧
    (islink fs cache = false → runCS limit .ull cache pool 4 0 fs = uploadLink limit fs cache pool) := by
  refine ⟨runCS_copy pool cache rfl rfl rfl, runCS_copy cache pool rfl rfl rfl, ?_, ?_, fun hl => ?_⟩
  · unfold deleteLocal
    cases hu : unlink fs pool <;> simp [runCS, csLen, csStep, liftCopy, hu]
  · unfold downloadLink
    by_cases hc : compareLink limit fs cache pool = true
    · simp [runCS, csLen, csStep, hc]
    · by_cases hd : (!islink fs cache && pexists fs cache) = true
      · simp [runCS, csLen, csStep, hc, hd]
      · by_cases hl : islink fs cache = true
        · cases hu : unlink fs cache with
          | error e => simp [runCS, csLen, csStep, hc, hl, liftCopy, hu]
          | ok fs1 =>
            cases hs : symlink fs1 pool cache <;>
              simp [runCS, csLen, csStep, hc, hl, liftCopy, hu, hs]
        · have hl' : islink fs cache = false := by simpa using hl
          have hp : pexists fs cache = false := by simpa [hl'] using hd
          cases hs : symlink fs pool cache <;>
            simp [runCS, csLen, csStep, hc, hl', hp, liftCopy, hs]
  · rw [uploadLink, hl]
    exact runCS_copy cache pool rfl rfl rfl

/-! ## (b) mutual exclusion, release, timeout — any number of processes, any interleaving -/

/-- `mutex`: two processes inside critical sections on the same pool path are the same process. -/
theorem mutex {limit : Nat} {jobs : Nat → Job} {fs0 : FS} {s : State}
    (hr : Reachable limit jobs fs0 s) (p q i j : Nat)
    (hp : s.pc p = .inCS i) (hq : s.pc q = .inCS j) (hsame : (jobs p).pool = (jobs q).pool) : p = q := by
  obtain ⟨h1, _⟩ := inv_reachable hr
  have a := h1 p i hp
  have b := h1 q j hq
  rw [hsame, b] at a
  exact (Option.some.inj a).symm

/-- nobody is ever inside a critical section without owning the lock, and a lock is only ever owned by a
    process that is alive and inside its critical section on that very path (no stale locks). -/
theorem lock_owned_iff_inside {limit : Nat} {jobs : Nat → Job} {fs0 : FS} {s : State}
    (hr : Reachable limit jobs fs0 s) :
    (∀ p i, s.pc p = .inCS i → s.owner (jobs p).pool = some p) ∧
    (∀ path p, s.owner path = some p → (∃ i, s.pc p = .inCS i) ∧ (jobs p).pool = path) :=
  inv_reachable hr

/-- `released`: when the body raises (an injected exception or a failing file-system call), or the process
    dies inside the critical section, the lock cell is free in the very next state … -/
theorem released {limit : Nat} {jobs : Nat → Job} {s s' : State} {p i : Nat} {a : Act}
    (hp : s.pc p = .inCS i) (h : stepAct limit jobs s p a = some s')
    (hleft : ∀ k, s'.pc p ≠ .inCS k) : s'.owner (jobs p).pool = none := by
  cases stepAct_move h with
  | outside _ _ hs => exact (hs i hp).elim
  | acquire hs => exact (hs i hp).elim
  | inside _ j => exact (hleft j (setPc_same ..)).elim
  | leave => exact setOwner_same ..

/-- … both actions are always enabled inside a critical section (a crash or an exception at EVERY step) … -/
theorem fault_anywhere (limit : Nat) (jobs : Nat → Job) (s : State) (p i : Nat) (hp : s.pc p = .inCS i) :
    (∃ s', stepAct limit jobs s p .crash = some s' ∧ s'.pc p = .dead ∧ s'.owner (jobs p).pool = none) ∧
    (∃ s', stepAct limit jobs s p .raise = some s' ∧ s'.pc p = .failed .injected ∧
           s'.owner (jobs p).pool = none) := by
  constructor
  · exact ⟨_, by unfold stepAct; rw [hp], setPc_same .., setOwner_same ..⟩
  · exact ⟨_, by unfold stepAct; rw [hp], setPc_same .., setOwner_same ..⟩

/-- … and a free lock is obtained by the next attempt of any waiting process that has attempts left. -/
theorem obtainable_when_free (limit : Nat) (jobs : Nat → Job) (s : State) (q k : Nat)
    (hq : s.pc q = .trying k) (hk : k < (jobs q).timeout) (hfree : s.owner (jobs q).pool = none) :
    ∃ s', stepAct limit jobs s q .tryLock = some s' ∧ s'.pc q = .inCS 0 ∧
          s'.owner (jobs q).pool = some q ∧ s'.fs = s.fs := by
  refine ⟨{ s with pc := setPc s q (.inCS 0), owner := setOwner s (jobs q).pool (some q),
                     hist := .acq q (jobs q).pool :: s.hist }, ?_, ?_, ?_, rfl⟩
  · unfold stepAct; rw [hq]; simp only [hk, if_true, hfree]
  · exact setPc_same ..
  · exact setOwner_same ..

/-- `timeout_raises`: a process whose attempts are used up can only raise `RuntimeError` (or die); it does
    not enter the critical section, and neither the files nor any lock cell change. -/
theorem timeout_raises {limit : Nat} {jobs : Nat → Job} {s s' : State} {p k : Nat} {a : Act}
    (hp : s.pc p = .trying k) (hk : (jobs p).timeout ≤ k) (h : stepAct limit jobs s p a = some s') :
    (s'.pc p = .failed .runtimeError ∨ s'.pc p = .dead) ∧ s'.fs = s.fs ∧ s'.owner = s.owner := by
  have hk' : ¬ k < (jobs p).timeout := by omega
  unfold stepAct at h
  rw [hp] at h
  cases a <;> simp only [hk', if_false] at h <;> first
    | (cases h; exact ⟨Or.inl (setPc_same s p _), rfl, rfl⟩)
    | (cases h; exact ⟨Or.inr (setPc_same s p _), rfl, rfl⟩)
    | (simp at h)

/-- a busy lock is never taken: the attempt of a waiting process on an owned lock only counts up -/
theorem busy_waits {limit : Nat} {jobs : Nat → Job} {s s' : State} {p k o : Nat}
    (hp : s.pc p = .trying k) (hown : s.owner (jobs p).pool = some o)
    (h : stepAct limit jobs s p .tryLock = some s') :
    (s'.pc p = .trying (k + 1) ∨ s'.pc p = .failed .runtimeError) ∧ s'.fs = s.fs ∧ s'.owner = s.owner := by
  unfold stepAct at h
  rw [hp] at h
  simp only [hown] at h
  split at h
  · cases h; exact ⟨Or.inl (setPc_same s p _), rfl, rfl⟩
  · cases h; exact ⟨Or.inr (setPc_same s p _), rfl, rfl⟩

/-- the files only ever change by a step of a process that is inside its critical section, holding the lock
    of its pool path ("rather than proceeding unlocked") -/
theorem files_change_only_under_lock {limit : Nat} {jobs : Nat → Job} {fs0 : FS} {s s' : State} {p : Nat}
    {a : Act} (hr : Reachable limit jobs fs0 s) (h : stepAct limit jobs s p a = some s')
    (hch : s'.fs ≠ s.fs) : (∃ i, s.pc p = .inCS i) ∧ s.owner (jobs p).pool = some p := by
  cases stepAct_move h with
  | inside i _ _ hi => exact ⟨⟨i, hi⟩, (inv_reachable hr).1 p i hi⟩
  | _ => exact absurd rfl hch

/-! ## (b) the trace monitor -/

/-- soundness of `mutexTrace`, interval form: in an accepted trace
    * two acquisitions of the same path (by anybody) are separated by a release or the death of the first
      holder — critical sections on one path never overlap;
    * every file-system event, and every release, of `q` on `path` lies inside a critical section of `q` on
      `path` (its acquisition precedes with no release / death of `q` in between);
    * a process that reports a timeout holds no lock at that moment. -/
theorem mutexTrace_sound {t : List Event} (h : mutexTrace t = true) :
    (∀ u v w p q path, t = u ++ .acq p path :: v ++ .acq q path :: w → .rel p path ∈ v ∨ .crash p ∈ v) ∧
    (∀ u w q path, (t = u ++ .fsop q path :: w ∨ t = u ++ .rel q path :: w) →
        ∃ u1 u2, u = u1 ++ .acq q path :: u2 ∧ .rel q path ∉ u2 ∧ .crash q ∉ u2) ∧
    (∀ u w q path, t = u ++ .timeout q :: w → holdsR u.reverse q path = false) := by
  have ok_at : ∀ u e w, t = u ++ e :: w → okEvent (heldOf [] u) e = true := by
    intro u e w ht
    unfold mutexTrace at h
    rw [ht, monitorFrom_append] at h
    simp only [monitorFrom, Bool.and_eq_true] at h
    exact h.2.1
  refine ⟨?_, ?_, ?_⟩
  · intro u v w p q path ht
    have hok := ok_at (u ++ .acq p path :: v) (.acq q path) w (by simpa using ht)
    simp only [okEvent, Bool.not_eq_true', ← Bool.not_eq_true, holdsAny_iff, not_exists] at hok
    have hb := (Bool.not_eq_true _).mp (hok p)
    rw [holdsBy_heldOf] at hb
    have hrev : (u ++ .acq p path :: v).reverse = v.reverse ++ .acq p path :: u.reverse := by simp
    rw [hrev] at hb
    rcases released_after_acq _ _ _ _ hb with h1 | h1
    · left; simpa using h1
    · right; simpa using h1
  · intro u w q path ht
    have hok : holdsBy (heldOf [] u) q path = true := by
      rcases ht with ht | ht
      · have := ok_at u _ w ht; simpa [okEvent] using this
      · have := ok_at u _ w ht; simpa [okEvent] using this
    rw [holdsBy_heldOf] at hok
    obtain ⟨r1, r2, hr, h1, h2⟩ := acq_of_holdsR _ _ _ hok
    refine ⟨r2.reverse, r1.reverse, ?_, by simpa using h1, by simpa using h2⟩
    have := congrArg List.reverse hr
    simpa using this
  · intro u w q path ht
    have hok := ok_at u _ w ht
    simp only [okEvent, Bool.not_eq_true', ← Bool.not_eq_true, holdsSome_iff, not_exists] at hok
    rw [← holdsBy_heldOf, ← Bool.not_eq_true]
    exact hok path

/-- the monitor is not stricter than the protocol: the history of EVERY reachable state of the protocol
    machine (any number of processes, any interleaving, any fault) is accepted, and what the monitor
    believes to be held is exactly the lock cells of the state.  So the predicate the real traces are
    judged by is the one the model's runs satisfy. -/
theorem reachable_traces_accepted {limit : Nat} {jobs : Nat → Job} {fs0 : FS} {s : State}
    (hr : Reachable limit jobs fs0 s) :
    mutexTrace s.hist.reverse = true ∧
    ∀ p path, holdsBy (heldOf [] s.hist.reverse) p path = true ↔ s.owner path = some p :=
  traceInv_reachable hr

/-- `runActs` (what the driver replays real traces with) only produces reachable states -/
theorem runActs_reachable {limit : Nat} {jobs : Nat → Job} {fs0 : FS} {s s' : State}
    (hr : Reachable limit jobs fs0 s) (acts : List (Nat × Act))
    (h : runActs limit jobs s acts = some s') : Reachable limit jobs fs0 s' := by
  induction acts generalizing s with
  | nil => simp [runActs] at h; subst h; exact hr
  | cons pa rest ih =>
    obtain ⟨p, a⟩ := pa
    simp only [runActs] at h
    cases hs : stepAct limit jobs s p a with
    | none => rw [hs] at h; cases h
    | some s1 =>
      rw [hs] at h
      exact ih (Reachable.step p a hr hs) h

/-! ## Non-vacuity and the witnesses of the false full statements -/

section examples

/-- a cache file and a pool file that agree on the first 2 symbols and differ afterwards -/
private def fsPrefix : FS := fun q =>
  if q = "/c/img" then .file [7, 7, 1] else if q = "/p/img" then .file [7, 7, 2, 9] else .absent

/-- finding `skip-on-equal-prefix` in the model: the download succeeds, the cache is NOT what the pool holds -/
example : (match downloadLocal 2 fsPrefix "/c/img" "/p/img" with
           | .ok fs' => read fs' "/c/img" != read fs' "/p/img" | .error _ => false) = true := by decide +kernel
example : prefixFaithful 2 fsPrefix "/c/img" "/p/img" = false := by decide +kernel
/-- … and with the whole content hashed the same input is transferred exactly -/
example : (match downloadLocal 4 fsPrefix "/c/img" "/p/img" with
           | .ok fs' => read fs' "/c/img" == read fs' "/p/img" | .error _ => false) = true := by decide +kernel
example : prefixFaithful 4 fsPrefix "/c/img" "/p/img" = true ∧ islink fsPrefix "/p/img" = false := by decide +kernel
/-- for every limit: `replicate limit 0 ++ [1]` vs `replicate limit 0 ++ [2]` -/
example (limit : Nat) : ∃ x y : Data, x ≠ y ∧ x.take limit = y.take limit := by
  refine ⟨List.replicate limit 0 ++ [1], List.replicate limit 0 ++ [2], ?_, ?_⟩
  · intro h
    have := List.append_cancel_left h
    cases this
  · simp

private def fsLink : FS := fun q =>
  if q = "/c/img" then .link "/p/other" else if q = "/p/other" then .file [1]
  else if q = "/p/img" then .file [2] else if q = "/c/real" then .file [3] else .absent

/-- link mode: a stale link is re-pointed, real data is refused, a link is not uploaded -/
example : (match downloadLink 9 fsLink "/c/img" "/p/img" with
           | .ok fs' => fs' "/c/img" == .link "/p/img" && fs' "/p/other" == .file [1] | .error _ => false) = true := by
  decide +kernel
example : (match downloadLink 9 fsLink "/c/real" "/p/img" with
           | .error e => e == .runtimeError | .ok _ => false) = true := by decide +kernel
example : (match upload 9 fsLink "/c/img" ":/p;/img" with
           | .error e => e == .valueError | .ok _ => false) = true := by decide +kernel
example : (match dispatch ":/p;/img" with
           | .ok (m, p) => m == .lnk && p == "/p/img" | .error _ => false) = true := by decide +kernel
/-- a plain download into a cache that is a link writes THROUGH the link (frame theorem, `resolve`) -/
example : (match downloadLocal 9 fsLink "/c/img" "/p/img" with
           | .ok fs' => fs' "/p/other" == .file [2] && fs' "/c/img" == .link "/p/other" | .error _ => false) = true := by
  decide +kernel

private def jobs2 : Nat → Job := fun p =>
  if p = 0 then { op := .ul, cache := "/c/real", pool := "/p/img", timeout := 2 }
  else { op := .del, cache := "", pool := "/p/img", timeout := 1 }

/-- a reachable state with process 0 inside its critical section and process 1 timed out -/
example : (match runActs 9 jobs2 (State.init fsLink)
                  [(0, .start), (1, .start), (0, .tryLock), (1, .tryLock), (1, .tryLock), (0, .step)] with
           | some s => s.pc 0 == .inCS 1 && s.pc 1 == .failed .runtimeError && s.owner "/p/img" == some 0
           | none => false) = true := by decide +kernel
/-- the lock is obtainable after the holder died inside the critical section -/
example : (match runActs 9 jobs2 (State.init fsLink)
                  [(0, .start), (1, .start), (0, .tryLock), (0, .step), (0, .crash), (1, .tryLock), (1, .step),
                   (1, .unlock)] with
           | some s => s.pc 0 == .dead && s.pc 1 == .done && s.owner "/p/img" == none && s.fs "/p/img" == .absent
           | none => false) = true := by decide +kernel
/-- the history of that run, as the monitor sees it -/
example : (match runActs 9 jobs2 (State.init fsLink)
                  [(0, .start), (1, .start), (0, .tryLock), (0, .step), (0, .crash), (1, .tryLock), (1, .step),
                   (1, .unlock)] with
           | some s => s.hist.reverse == [.acq 0 "/p/img", .fsop 0 "/p/img", .crash 0, .acq 1 "/p/img",
                                          .fsop 1 "/p/img", .rel 1 "/p/img"] && mutexTrace s.hist.reverse
           | none => false) = true := by decide +kernel
/-- the monitor accepts a hand-over after a death and rejects an overlap and an unlocked access -/
example : mutexTrace [.acq 1 "P", .fsop 1 "P", .crash 1, .acq 2 "P", .fsop 2 "P", .rel 2 "P", .timeout 3] = true := by
  decide +kernel
example : mutexTrace [.acq 1 "P", .acq 2 "P"] = false := by decide +kernel
example : mutexTrace [.acq 1 "P", .rel 1 "P", .fsop 1 "P"] = false := by decide +kernel

end examples

/-! ## The regenerated compare-then-copy decisions (`harness/pygen.py`)

`I2N/Extracted/GenTransfer.lean` is regenerated on every run from the source of `TransferOps.compare_local`,
`compare_link`, `download_local`, `upload_local`, `delete_local`, `download_link`, `upload_link` (Python AST → Lean `do`
block in the state monad `M = StateT FS (Except Err)`: `os.path.exists` / `islink` / `realpath` read the file system,
`shutil.copy` / `os.unlink` / `os.symlink` replace it or raise, `with image_lock(…)` is translated in place — the lock
protocol is part (b) —, `os.makedirs` and log calls are dropped, `raise` is `throw`).  The theorems say that the hand
written big-step operations of `I2N.Transfer` ARE these functions: which comparison is made, what is skipped, what is
copied where, which error is raised, in which order. -/

section Regenerated
open I2N.Extracted.GenTransfer

/-- the number of leading bytes `compare_local` hashes, as written in the Python source (`hash_file(path, 1048576, …)`) -/
def sourceLimit : Nat := 1048576

/-- what a translated function of type `M Unit` makes of a file system, in the vocabulary of the model -/
def runM (m : M Unit) (fs : FS) : Except Err FS := (m.run fs).map (·.2)

/-- **`compareLocal` is the Python source of `compare_local`** (with the limit written in the source), for all file
systems and paths.  No hypotheses. -/
theorem compareLocal_matches_source (fs : FS) (cache pool : Path) :
    genCompareLocal fs cache pool = compareLocal sourceLimit fs cache pool := by
  unfold genCompareLocal compareLocal digest pexists hashFile noHash sourceLimit
  cases h1 : read fs cache <;> cases h2 : read fs pool <;> simp <;> rfl

/-- **`compareLink` is the Python source of `compare_link`.**  No hypotheses. -/
theorem compareLink_matches_source (fs : FS) (cache pool : Path) :
    genCompareLink fs cache pool = compareLink sourceLimit fs cache pool := by
  unfold genCompareLink compareLink
  cases h : islink fs cache <;> simp [compareLocal_matches_source]

/- what `simp` unfolds in the proofs below: the state monad of the generated functions -/
attribute [local simp] readFS stepFS StateT.run bind StateT.bind Except.bind Except.map pure StateT.pure Except.pure throw
  throwThe MonadExceptOf.throw StateT.lift liftM monadLift MonadLift.monadLift

/-- **`downloadLocal` is the Python source of `download_local`**: same resulting file system or the same error, for all
file systems and paths.  No hypotheses. -/
theorem downloadLocal_matches_source (fs : FS) (cache pool : Path) :
    runM (genDownloadLocal cache pool) fs = downloadLocal sourceLimit fs cache pool := by
  unfold runM genDownloadLocal downloadLocal
  rw [← compareLocal_matches_source]
  cases h : genCompareLocal fs cache pool
  · simp [h]
    cases copy fs pool cache <;> rfl
  · simp [h]

/-- **`uploadLocal` is the Python source of `upload_local`.**  No hypotheses. -/
theorem uploadLocal_matches_source (fs : FS) (cache pool : Path) :
    runM (genUploadLocal cache pool) fs = uploadLocal sourceLimit fs cache pool := by
  unfold runM genUploadLocal uploadLocal
  rw [← compareLocal_matches_source]
  cases h : genCompareLocal fs cache pool
  · simp [h]
    cases copy fs cache pool <;> rfl
  · simp [h]

/-- **`deleteLocal` is the Python source of `delete_local`.**  No hypotheses. -/
theorem deleteLocal_matches_source (fs : FS) (pool : Path) :
    runM (genDeleteLocal pool) fs = deleteLocal fs pool := by
  unfold runM genDeleteLocal deleteLocal
  simp
  cases unlink fs pool <;> rfl

/-- **`uploadLink` is the Python source of `upload_link`** (a symbolic link is refused before anything else).  No
hypotheses. -/
theorem uploadLink_matches_source (fs : FS) (cache pool : Path) :
    runM (genUploadLink cache pool) fs = uploadLink sourceLimit fs cache pool := by
  unfold genUploadLink uploadLink
  rw [← uploadLocal_matches_source]
  cases h : islink fs cache
  · unfold runM; simp [h]
    generalize genUploadLocal cache pool fs = r
    cases r <;> rfl
  · unfold runM; simp [h]

/-- **`downloadLink` is the Python source of `download_link`**: skip when `compare_link` holds, refuse to replace real
data, drop an existing link, then link — in this order.  No hypotheses. -/
theorem downloadLink_matches_source (fs : FS) (cache pool : Path) :
    runM (genDownloadLink cache pool) fs = downloadLink sourceLimit fs cache pool := by
  unfold runM genDownloadLink downloadLink
  rw [← compareLink_matches_source]
  cases h : genCompareLink fs cache pool
  · cases h1 : islink fs cache <;> cases h2 : pexists fs cache
    all_goals simp [h, h1, h2]
    all_goals first
      | (cases symlink fs pool cache <;> rfl)
      | (cases unlink fs cache with
         | error e => rfl
         | ok v => dsimp only; cases symlink v pool cache <;> rfl)
  · simp [h]

/-- the generated functions compute: a download copies a missing file, an identical one is left alone, a missing pool
file raises, real data is never replaced by a link, a link is never uploaded -/
def fsEx : FS := fun p => if p = "/pool/a" then .file [1, 2, 3] else if p = "/cache/b" then .file [7] else
  if p = "/cache/l" then .link "/pool/a" else .absent
example : (runM (genDownloadLocal "/cache/a" "/pool/a") fsEx).map (fun fs => (fs "/cache/a", fs "/pool/a")) =
    .ok (.file [1, 2, 3], .file [1, 2, 3]) := by rfl
example : genCompareLocal fsEx "/cache/l" "/pool/a" = true ∧ genCompareLocal fsEx "/cache/b" "/pool/a" = false ∧
    genCompareLink fsEx "/cache/l" "/pool/a" = true ∧ genCompareLink fsEx "/cache/l" "/pool/x" = false := by decide +kernel
example : (runM (genDownloadLocal "/cache/a" "/pool/none") fsEx).map (fun fs => fs "/cache/a") = .ok .absent := by rfl
example : (runM (genDownloadLocal "/cache/b" "/pool/none") fsEx).map (fun fs => fs "/cache/b") = .error .fileNotFound := by rfl
example : (runM (genDownloadLink "/cache/b" "/pool/a") fsEx).map (fun fs => fs "/cache/b") = .error .runtimeError := by rfl
example : (runM (genDownloadLink "/cache/l" "/pool/x") fsEx).map (fun fs => fs "/cache/l") = .ok (.link "/pool/x") := by rfl
example : (runM (genUploadLink "/cache/l" "/pool/a") fsEx).map (fun fs => fs "/pool/a") = .error .valueError := by rfl
example : (runM (genDeleteLocal "/pool/a") fsEx).map (fun fs => fs "/pool/a") = .ok .absent := by rfl

/-! ### The dispatchers `download` / `upload` / `delete` -/

theorem isInfixL_single (c : Char) (l : List Char) : I2N.Rules.isInfixL [c] l = l.contains c := by
  induction l with
  | nil => rfl
  | cons b bs ih =>
    simp only [I2N.Rules.isInfixL, I2N.Rules.isPrefixL, ih, List.contains_cons, Bool.and_true]

/-- Python's `";" in path` (substring test of `I2N.Rules`) is the model's character test -/
theorem isSubstr_semicolon (p : List Char) : I2N.Rules.isSubstr ";" (String.ofList p) = p.contains ';' := by
  have h : (String.ofList p).toList = p := String.toList_ofList
  unfold I2N.Rules.isSubstr
  rw [h]
  exact isInfixL_single ';' p

theorem ofList_eq_empty (l : List Char) : (String.ofList l == "") = (l == []) := by
  cases l with
  | nil => rfl
  | cons a l =>
    have : String.ofList (a :: l) ≠ "" := by
      intro h
      have := congrArg String.toList h
      simp at this
    rw [beq_eq_false_iff_ne.mpr this]; rfl

theorem removeChar_ofList (p : List Char) :
    pyRemoveChar ';' (String.ofList p) = String.ofList (p.filter (· != ';')) := by
  unfold pyRemoveChar
  have h : (String.ofList p).toList = p := String.toList_ofList
  rw [h]

/-- the shape the three generated dispatchers share; `lnk` / `loc` are what link mode and local mode call -/
def genDispatch (lnk loc : Path → M Unit) (pool : Path) : M Unit := do
  let mut hosts : String := ""
  let mut path : String := ""
  match (splitColonStr pool) with
  | [pyPart1_1, pyPart1_2] =>
    hosts := pyPart1_1
    path := pyPart1_2
  | _ => throw Err.valueError
  if (!(hosts == "")) then
    remoteM
  else if (I2N.Rules.isSubstr ";" path) then
    lnk (pyRemoveChar ';' path)
  else
    loc path
  return ()

/-- the generated dispatcher is the model's `dispatch` followed by the operation of the mode: the location string is split
at `:`, anything but two parts is a `ValueError`, a host part means a remote transfer (outside the model), a `;` in the
path selects link mode and is removed, everything else is local mode -/
theorem genDispatch_run (lnk loc : Path → M Unit) (fs : FS) (spec : String) :
    runM (genDispatch lnk loc spec) fs =
      match dispatch spec with
      | .error e => .error e
      | .ok (.remote, _) => .error .notModelled
      | .ok (.lnk, p) => runM (lnk p) fs
      | .ok (.loc, p) => runM (loc p) fs := by
  unfold genDispatch dispatch splitColonStr remoteM runM
  generalize splitColon spec.toList = parts
  match parts with
  | [] => simp
  | [a] => simp
  | a :: b :: c :: r => simp
  | [a, b] =>
    simp [ofList_eq_empty, isSubstr_semicolon, removeChar_ofList]
    by_cases ha : a = [] <;> by_cases hb : ';' ∈ b <;> simp only [ha, hb, if_true, if_false]
    · simp
      generalize lnk (String.ofList (List.filter (fun x => x != ';') b)) fs = r
      cases r <;> rfl
    · simp
      generalize loc (String.ofList b) fs = r
      cases r <;> rfl
    · rfl
    · rfl

/-- **`download` is the Python source of `TransferOps.download`**: see `genDispatch_run`.  No hypotheses. -/
theorem download_matches_source (fs : FS) (cache spec : String) :
    runM (genDownload cache spec) fs = download sourceLimit fs cache spec := by
  rw [show genDownload cache spec = genDispatch (genDownloadLink cache) (genDownloadLocal cache) spec from rfl,
    genDispatch_run]
  simp only [downloadLink_matches_source, downloadLocal_matches_source]
  rfl

/-- **`upload` is the Python source of `TransferOps.upload`**: see `genDispatch_run`.  No hypotheses. -/
theorem upload_matches_source (fs : FS) (cache spec : String) :
    runM (genUpload cache spec) fs = upload sourceLimit fs cache spec := by
  rw [show genUpload cache spec = genDispatch (genUploadLink cache) (genUploadLocal cache) spec from rfl,
    genDispatch_run]
  simp only [uploadLink_matches_source, uploadLocal_matches_source]
  rfl

/-- **`delete` is the Python source of `TransferOps.delete`** (`delete_link` = `delete_local`): see `genDispatch_run`.  No
hypotheses. -/
theorem delete_matches_source (fs : FS) (spec : String) :
    runM (genDelete spec) fs = delete fs spec := by
  rw [show genDelete spec = genDispatch genDeleteLocal genDeleteLocal spec from rfl, genDispatch_run]
  simp only [deleteLocal_matches_source]
  unfold delete
  cases dispatch spec with
  | error e => rfl
  | ok mp => obtain ⟨m, p⟩ := mp; cases m <;> rfl

/-- the generated dispatchers compute: local mode, link mode (the `;` is dropped), a remote location, a malformed one -/
example : (runM (genDownload "/cache/a" ":/pool/a") fsEx).map (fun fs => fs "/cache/a") = .ok (.file [1, 2, 3]) := by rfl
example : (runM (genDownload "/cache/a" ":/pool;/a") fsEx).map (fun fs => fs "/cache/a") = .ok (.link "/pool/a") := by rfl
example : (runM (genUpload "/cache/b" "host:/pool/a") fsEx).map (fun fs => fs "/pool/a") = .error .notModelled := by rfl
example : (runM (genDelete "/pool/a") fsEx).map (fun fs => fs "/pool/a") = .error .valueError := by rfl
example : (runM (genDelete ":/pool/a") fsEx).map (fun fs => fs "/pool/a") = .ok .absent := by rfl

end Regenerated

end I2N.Props.C14
