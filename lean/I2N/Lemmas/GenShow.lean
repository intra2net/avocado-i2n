/-! Helper for the translator tie of C17 (`I2N/Extracted/GenShow.lean`): two folds with pointwise equal step functions. -/
namespace I2N.Show

theorem foldl_congr_fun {α β : Type} {g1 g2 : β → α → β} (h : ∀ b a, g1 b a = g2 b a) (l : List α) (b : β) :
    l.foldl g1 b = l.foldl g2 b := by
  rw [show g1 = g2 from funext fun b => funext (h b)]

end I2N.Show
