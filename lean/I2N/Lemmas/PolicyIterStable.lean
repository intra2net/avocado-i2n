import I2N.Lemmas.PolicyGenIter
import I2N.Lemmas.Policy
/-!
# When is the chain stable?  (hypothesis `topStable` of `iterObjects_matches_source`, C12)

`Params.object_params(name)` overwrites `states_chain` only from a key `states_chain_<name>…`.  The configuration of
/repo (`tp_folder/configs/guest-base.cfg`: `states_chain = nets vms images`, no suffixed variant) and every caller in
`states/setup.py` (`state_params["states_chain"] = composite_types[-1]`, unsuffixed) only ever write the plain key.
`topStable_of_noSuffix`: a dictionary none of whose keys begins with `states_chain_`, and whose chain does not name a
type `states_chain` / `states_chain_…`, has a stable chain - at every depth.
-/
namespace I2N.PolicyGenIter
open I2N.Policy

/-- the key begins with `states_chain_` -/
def chainKey (k : String) : Bool := "states_chain_".toList.isPrefixOf k.toList

/-- no key of the dictionary begins with `states_chain_` -/
def NoSuffix (p : Params) : Prop := ∀ kv ∈ p, chainKey kv.1 = false

/-- a type name that does not interfere with the key `states_chain` -/
def okType (t : String) : Bool := t != "states_chain" && !chainKey t

theorem mem_set {p : Params} {k v : String} {kv : String × String} (h : kv ∈ p.set k v) : kv.1 = k ∨ kv ∈ p := by
  induction p with
  | nil => simp_all [Params.set]
  | cons a rest ih => grind [Params.set]

theorem NoSuffix.set {p : Params} (h : NoSuffix p) {k : String} (v : String) (hk : chainKey k = false) :
    NoSuffix (p.set k v) := by
  intro kv hkv
  rcases mem_set hkv with e | e
  · rw [e]; exact hk
  · exact h kv e

theorem beforeFirst_prefix (suf : List Char) : ∀ l : List Char, beforeFirst suf l <+: l
  | [] => by simp [beforeFirst]
  | c :: cs => by
    unfold beforeFirst
    split
    · exact List.nil_prefix
    · exact (List.prefix_cons_inj c).mpr (beforeFirst_prefix suf cs)

theorem beforeFirst_append (suf : List Char) : ∀ l : List Char, suf <:+ l → (beforeFirst suf l ++ suf) <+: l
  | [], h => by
    have : suf = [] := List.suffix_nil.mp h
    subst this
    simp [beforeFirst]
  | c :: cs, h => by
    unfold beforeFirst
    split
    · rename_i hp
      simpa using List.isPrefixOf_iff_prefix.mp hp
    · rename_i hp
      have hs : suf <:+ cs := by
        rcases List.suffix_cons_iff.mp h with e | e
        · exfalso; apply hp; rw [e]; exact List.isPrefixOf_iff_prefix.mpr (List.prefix_refl _)
        · exact e
      simpa using (List.prefix_cons_inj c).mpr (beforeFirst_append suf cs hs)

/-- the key written by `object_params` from a key that does not begin with `states_chain_` is neither `states_chain`
nor begins with `states_chain_` -/
theorem written_key_ok (k name : String) (hk : chainKey k = false) (he : endsWith k ("_" ++ name) = true) :
    String.ofList (beforeFirst ("_" ++ name).toList k.toList) ≠ "states_chain" ∧
    chainKey (String.ofList (beforeFirst ("_" ++ name).toList k.toList)) = false := by
  have happ := beforeFirst_append _ _ (List.isSuffixOf_iff_suffix.mp he)
  have hpre := beforeFirst_prefix ("_" ++ name).toList k.toList
  -- either way `k` itself would begin with `states_chain_`
  have hno (h : "states_chain_".toList <+: k.toList) : False := by
    rw [chainKey, List.isPrefixOf_iff_prefix.mpr h] at hk; exact Bool.noConfusion hk
  refine ⟨fun e => hno ?_, ?_⟩
  · rw [show beforeFirst ("_" ++ name).toList k.toList = "states_chain".toList by
      simpa using congrArg String.toList e] at happ
    exact .trans ⟨name.toList, by simp⟩ happ
  · rw [Bool.eq_false_iff]
    intro hc
    have h1 : "states_chain_".toList <+: beforeFirst ("_" ++ name).toList k.toList := by
      simpa using List.isPrefixOf_iff_prefix.mp hc
    exact hno (h1.trans hpre)

/-- `object_params(name)` of a dictionary without `states_chain_…` keys: still none, same `states_chain` -/
theorem objectParams_stable (p : Params) (name : String) (h : NoSuffix p) :
    NoSuffix (p.objectParams name) ∧ (p.objectParams name).get? "states_chain" = p.get? "states_chain" := by
  unfold Params.objectParams
  -- invariant of the fold over any sub-list of `p`
  suffices key : ∀ (l : List (String × String)) (acc : Params), (∀ kv ∈ l, chainKey kv.1 = false) → NoSuffix acc →
      let r := l.foldl (fun acc kv =>
        if endsWith kv.1 ("_" ++ name) then acc.set (String.ofList (beforeFirst ("_" ++ name).toList kv.1.toList)) kv.2
        else acc) acc
      NoSuffix r ∧ r.get? "states_chain" = acc.get? "states_chain" from key p p h h
  intro l
  induction l with
  | nil => intro acc _ ha; exact ⟨ha, rfl⟩
  | cons kv rest ih =>
    intro acc hl ha
    dsimp only at ih ⊢
    simp only [List.foldl_cons]
    have hrest : ∀ x ∈ rest, chainKey x.1 = false := fun x hx => hl x (List.mem_cons_of_mem _ hx)
    split
    · rename_i he
      obtain ⟨hne, hck⟩ := written_key_ok kv.1 name (hl kv List.mem_cons_self) he
      obtain ⟨h1, h2⟩ := ih _ hrest (ha.set kv.2 hck)
      exact ⟨h1, by rw [h2, Params.get?_set, if_neg hne]⟩
    · exact ih acc hrest ha

theorem objOf_stable (p : Params) (cs : List (String × String)) (t n : String) (h : NoSuffix p)
    (ht : okType t = true) :
    NoSuffix (objOf p cs t n) ∧ (objOf p cs t n).objects "states_chain" = p.objects "states_chain" := by
  obtain ⟨h1, h2⟩ := objectParams_stable p n h
  simp only [okType, Bool.and_eq_true, bne_iff_ne, ne_eq, Bool.not_eq_true'] at ht
  unfold objOf
  refine ⟨((h1.set n ht.2).set _ (by decide)).set _ (by decide), ?_⟩
  unfold Params.objects Params.getD
  have h3 : ¬ (t = "states_chain") := ht.1
  rw [Params.get?_set, Params.get?_set, Params.get?_set, h2, if_neg (by decide), if_neg (by decide), if_neg h3]

theorem chainStable_of_noSuffix (full : List String) (last : String) :
    ∀ (rest : List String) (cs : List (String × String)) (p : Params), NoSuffix p →
      p.objects "states_chain" = full → (∀ t ∈ rest, okType t = true) → chainStable full last rest cs p = true
  | [], _, _, _, _, _ => rfl
  | t :: rest, cs, p, h, hp, ht => by
    unfold chainStable
    rw [List.all_eq_true]
    intro n _
    obtain ⟨h1, h2⟩ := objOf_stable p cs t n h (ht t List.mem_cons_self)
    have ih := chainStable_of_noSuffix full last rest (cs ++ [(n, t)]) (objOf p cs t n) h1 (h2.trans hp)
      (fun x hx => ht x (List.mem_cons_of_mem _ hx))
    simp [h2, hp, ih]

/-- **what the callers provide is enough**: no key beginning with `states_chain_`, no type called `states_chain…` -/
theorem topStable_of_noSuffix (p : Params) (h : NoSuffix p) (ht : ∀ t ∈ p.objects "states_chain", okType t = true) :
    topStable p = true := by
  unfold topStable
  split
  · rfl
  · exact chainStable_of_noSuffix _ _ _ [] p h rfl ht

end I2N.PolicyGenIter
