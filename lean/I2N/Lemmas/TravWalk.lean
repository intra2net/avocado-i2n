import I2N.Lemmas.TravMoves
/-!
A walk through the loop for a relation given by what it does on the elementary updates.

`Walk gv P w R` says that the relation `R` on states is reflexive, transitive and holds across the elementary updates a
worker `w` makes: registers and store, the inert fields of a node record, the `started` mark and the end of a traversal on
nodes `P` holds of, the worker's own record with the path kept on `P`.  The `walk_*` lemmas carry such a relation through
every operation of the loop — `pullLocations`, `runDecision`, `syncStates`, `reverseNode`, the picks, `prepare` — and, by
cases over the moves of `TravMoves.lean`, through the rest of the loop body (`walk_of_after`), an iteration
(`walk_of_iter`, `walk_of_iterL`) and the loop (`walk_of_ran`), except where an iteration ends suspended: in the start of
a test or in the back-off, which `Paused` describes with what the model has tested on the way.
The instances are `Fr` of `TravBudget.lean` (`fr_walk`) and `Calm` of `TravPatient.lean` (`calm_walk`); the other frame
relations of the development (`Silent`, `Passive`, `Clean.Fr`, `Term.Fr`, …) are walked through the loop in their own files.
-/
namespace I2N.Trav

structure Walk (gv : Graph) (P : Nat → Prop) (w : Nat) (R : State → State → Prop) : Prop where
  refl : ∀ s, R s s
  trans : ∀ {s s1 s2}, R s s1 → R s1 s2 → R s s2
  /-- registers, store, job results, tags, lazy expansion -/
  quiet : ∀ {s s'}, s'.nodes = s.nodes → s'.workers = s.workers → R s s'
  /-- `rerunDisabled`, `getLoc` -/
  inert : ∀ s n (f : NodeD → NodeD),
    (∀ d, (f d).results = d.results ∧ (f d).bump = d.bump ∧ (f d).started = d.started ∧ (f d).finished = d.finished) →
    R s (s.setNd n f)
  mark : ∀ s n o, P n → R s (s.setNd n (fun d => { d with started := o }))
  finish : ∀ s n, P n → R s (finishTraverse s n w)
  /-- the worker's own record, back-off fields aside: the path stays on `P`, the pc is kept or leaves the test -/
  worker : ∀ s (f : WorkerD → WorkerD),
    (∀ d, (∀ x ∈ (f d).path, x ∈ d.path ∨ P x) ∧
      ((f d).pc = d.pc ∨ ∀ n ph dir uid tag wait, (f d).pc ≠ .test n ph dir uid tag wait) ∧
      (f d).occAt = d.occAt ∧
      (f d).occWait = d.occWait) →
    R s (s.setWd w f)
  /-- so that the walk can go on from `s'` -/
  path : ∀ {s s'}, R s s' → (∀ x ∈ (s.wd w).path, P x) → ∀ x ∈ (s'.wd w).path, P x
  root : P gv.root
  adj : ∀ n x, x ∈ (gv.node n).cleanup.map (·.1) ∨ x ∈ (gv.node n).setup.map (·.1) →
    relevant gv w x = true → P x

/-- The ways an iteration of `w` in `s` ends suspended: in the start of a test (object roots: of the creation pre-step, on
a copy of the results), with what `Iter.start` and `Iter.create` carry, or in the back-off. -/
inductive Paused (gv : Graph) (w : Nat) (s : State) : State → Prop
  | start (n prev : Nat) (dir : Dir) (s1 : State) (evs : List Event) (hv : Visit gv s w n prev dir)
      (hd : runDecision gv (entered gv s w n) n w = .ok (true, s1, evs)) (hroot : (gv.node n).objectRoot = false) :
      Paused gv w s (startTest gv s1 n w .plain dir).1
  | create (n prev : Nat) (dir : Dir) (s1 : State) (evs : List Event) (hv : Visit gv s w n prev dir)
      (hd : runDecision gv (entered gv s w n) n w = .ok (true, s1, evs)) (hroot : (gv.node n).objectRoot = true) :
      Paused gv w s (startTest gv (preset gv s1 w n) n w .pre dir).1
  | bounce (n : Nat) (ho : isOccupied gv s n w = true) : Paused gv w s (bounced gv s w n)

section
variable {gv : Graph} {P : Nat → Prop} {w : Nat} {R : State → State → Prop}

theorem walk_foldl {β} (hR : Walk gv P w R) (f : State → β → State) (h : ∀ s b, R s (f s b)) (l : List β) (s : State) :
    R s (l.foldl f s) := by
  induction l generalizing s with
  | nil => exact hR.refl s
  | cons a r ih => exact hR.trans (h s a) (ih _)

theorem walk_pop (hR : Walk gv P w R) (s : State) : R s (popPath s w) :=
  hR.worker s _ (fun _ => ⟨fun _ hx => Or.inl (List.dropLast_subset _ hx), Or.inl rfl, rfl, rfl⟩)

theorem walk_push (hR : Walk gv P w R) (s : State) (m : Nat) (hm : P m) : R s (pushPath s w m) :=
  hR.worker s _ (fun _ =>
    ⟨fun _ hx => (List.mem_append.mp hx).imp id (fun h => by rw [List.mem_singleton.mp h]; exact hm),
      Or.inl rfl, rfl, rfl⟩)

theorem walk_setPc (hR : Walk gv P w R) (s : State) {pc : Pc} (h : ∀ n ph dir uid tag wait, pc ≠ .test n ph dir uid tag wait) :
    R s (s.setWd w (fun d => { d with pc := pc })) :=
  hR.worker s _ (fun _ => ⟨fun _ hx => Or.inl hx, Or.inr h, rfl, rfl⟩)

theorem walk_pickChild (hR : Walk gv P w R) (s : State) (n x : Nat) (s' : State)
    (h : pickChild gv s n w = some (x, s')) :
    R s (pushPath s' w x) := by
  obtain ⟨hm, hrel, _, hs⟩ := pickChild_eq_some h
  rw [hs]
  exact hR.trans (s1 := s.setCr _ _) (hR.quiet rfl rfl) (walk_push hR _ x (hR.adj n x (Or.inl hm) hrel))

theorem walk_pickParent (hR : Walk gv P w R) (s : State) (n x : Nat) (s' : State)
    (h : pickParent gv s n w = some (x, s')) :
    R s (pushPath s' w x) := by
  obtain ⟨hm, hrel, _, hs⟩ := pickParent_eq_some h
  rw [hs]
  exact hR.trans (s1 := s.setCr _ _) (hR.quiet rfl rfl) (walk_push hR _ x (hR.adj n x (Or.inr hm) hrel))

theorem walk_runDecision (hR : Walk gv P w R) (g : Graph) (s : State) (n v : Nat) (b : Bool) (s1 : State)
    (e1 : List Event) (h : runDecision g s n v = .ok (b, s1, e1)) : R s s1 := by
  rcases runDecision_state g s n v b s1 e1 h with h | h
  · rw [h]; exact hR.refl s
  · rw [h]; exact hR.inert s n _ (fun _ => ⟨rfl, rfl, rfl, rfl⟩)

theorem walk_pullLocations (hR : Walk gv P w R) (g : Graph) (s : State) (n : Nat) : R s (pullLocations g s n) := by
  obtain ⟨l, h⟩ := pullLocations_setNd g s n
  rw [h]
  exact hR.inert s n _ (fun _ => ⟨rfl, rfl, rfl, rfl⟩)

theorem walk_syncStates (hR : Walk gv P w R) (g : Graph) (s : State) (n v : Nat) (rv : Option (List String)) :
    R s (syncStates g s n v rv).1 := by
  obtain ⟨st, h⟩ := syncStates_store g s n v rv
  rw [h]
  exact hR.quiet rfl rfl

theorem walk_reverseNode (hR : Walk gv P w R) (g : Graph) (s : State) (n : Nat) (s' : State) (evs : List Event)
    (hn : P n) (h : reverseNode g s n w = .ok (s', evs)) : R s s' := by
  rcases reverseNode_eq_ok h with ⟨_, rfl, _⟩ | ⟨_, clean, s2, _, hs, rfl⟩
  · exact hR.refl s'
  · refine hR.trans (hR.mark s n (some w) hn) (hR.trans ?_ (hR.mark s2 n none hn))
    split at hs
    · obtain rfl : (syncStates g _ n w none).1 = s2 := congrArg Prod.fst hs
      exact walk_syncStates hR g _ n w none
    · cases hs; exact hR.refl _

theorem walk_dropChildren (hR : Walk gv P w R) (g : Graph) (s : State) (next v : Nat) : R s (dropChildren g s next v) := by
  unfold dropChildren
  apply walk_foldl hR
  rintro s ⟨p, _⟩
  exact hR.quiet rfl rfl

theorem walk_of_after (hR : Walk gv P w R) {n prev : Nat} {dir : Dir} {s : State} {r : Step} (hn : P n)
    (h : After gv w n prev dir s r) : R s r.1 := by
  cases h with
  | undecided => exact hR.refl s
  | up run s1 evs _ hd =>
    refine hR.trans (walk_runDecision hR gv s n w run s1 evs hd) (hR.trans ?_ (walk_pop hR _))
    split
    · exact hR.quiet rfl rfl
    · exact hR.refl s1
  | again s1 evs _ hd => exact hR.trans (walk_runDecision hR gv s n w true s1 evs hd) (walk_pop hR s1)
  | postponed s1 evs _ hd =>
    exact hR.trans (walk_runDecision hR gv s n w false s1 evs hd) (hR.worker s1 _ (fun _ =>
      ⟨fun x hx => Or.inr (by rw [List.mem_singleton.mp hx]; exact hR.root), Or.inl rfl, rfl, rfl⟩))
  | cleaned s1 evs s3 evs2 _ hd _ _ hr =>
    exact hR.trans (walk_runDecision hR gv s n w false s1 evs hd) (hR.trans (walk_dropChildren hR gv s1 n w)
      (hR.trans (walk_reverseNode hR gv _ n s3 evs2 hn hr) (walk_pop hR s3)))
  | uncleaned s1 evs _ _ hd =>
    exact hR.trans (walk_runDecision hR gv s n w false s1 evs hd) (walk_dropChildren hR gv s1 n w)
  | descend s1 evs c s2 _ hd _ hp =>
    exact hR.trans (walk_runDecision hR gv s n w false s1 evs hd) (walk_pickChild hR s1 n c s2 hp)
  | childless s1 evs _ hd => exact walk_runDecision hR gv s n w false s1 evs hd

theorem walk_entered (hR : Walk gv P w R) (s : State) {n : Nat} (hn : P n) : R s (entered gv s w n) :=
  hR.trans (hR.mark s n (some w) hn) (walk_pullLocations hR gv _ n)

/-- up to the first run decision of a visit -/
theorem walk_decided (hR : Walk gv P w R) {s s1 : State} {n : Nat} {run : Bool} {evs : List Event} (hn : P n)
    (hd : runDecision gv (entered gv s w n) n w = .ok (run, s1, evs)) : R s s1 :=
  hR.trans (walk_entered hR s hn) (walk_runDecision hR gv _ n w run s1 evs hd)

theorem walk_of_iter (hR : Walk gv P w R) {s : State} {r : Step} (hpath : ∀ x ∈ (s.wd w).path, P x)
    (h : Iter gv w s r) : R s r.1 ∨ (Paused gv w s r.1 ∧ r.2.2 = Flow.suspend) := by
  have hlast : ∀ {n}, (s.wd w).path.getLast? = some n → P n := fun hl => hpath _ (List.mem_of_getLast? hl)
  cases h with
  | exit =>
    exact Or.inl (hR.worker s _ (fun _ =>
      ⟨fun x hx => by simp at hx, Or.inr (fun _ _ _ _ _ _ h => by cases h), rfl, rfl⟩))
  | lost => exact Or.inl (hR.refl s)
  | fromRoot n c s1 _ _ _ hp => exact Or.inl (walk_pickChild hR s n c s1 hp)
  | bounce n _ _ _ ho => exact Or.inr ⟨.bounce n ho, rfl⟩
  | toParent n _ p s1 _ _ _ hp => exact Or.inl (walk_pickParent hR s n p s1 hp)
  | undecided n _ _ _ hv => exact Or.inl (walk_entered hR s (hlast hv.last))
  | start n prev dir s1 evs hv hd hroot => exact Or.inr ⟨.start n prev dir s1 evs hv hd hroot, rfl⟩
  | create n prev dir s1 evs hv hd hroot => exact Or.inr ⟨.create n prev dir s1 evs hv hd hroot, rfl⟩
  | skip n _ _ s1 evs r hv hd ha =>
    exact Or.inl (hR.trans (walk_decided hR (hlast hv.last) hd)
      (hR.trans (hR.finish s1 n (hlast hv.last)) (walk_of_after (r := r) hR (hlast hv.last) ha)))

theorem walk_reveal (hR : Walk gv P w R) (g : Graph) (s : State) (f v : Nat) : R s (reveal g s f v) := by
  fun_cases reveal g s f v <;> exact hR.quiet rfl rfl

theorem walk_prepare (hR : Walk gv P w R) (g : Graph) (s : State) : R s (prepare g s w) := by
  have h0 : ∀ b, R s (s.setWd w (fun d => { d with unexplored := b })) :=
    fun b => hR.worker s _ (fun _ => ⟨fun _ hx => Or.inl hx, Or.inl rfl, rfl, rfl⟩)
  fun_cases prepare g s w with
  | case1 => exact hR.refl s
  | case2 => exact hR.trans (h0 _) (walk_reveal hR g _ _ w)
  | case3 => exact h0 _

end

section
variable {g : Graph} {P : Nat → Prop} {w : Nat} {R : State → State → Prop}

theorem walk_of_iterL (hR : ∀ s, Walk (vis g s) P w R) {s : State} {r : Step} (hpath : ∀ x ∈ (s.wd w).path, P x)
    (h : IterL g w s r) :
    R s r.1 ∨ ((∃ s1, R s s1 ∧ Paused (vis g s1) w s1 r.1) ∧ r.2.2 = Flow.suspend) := by
  obtain ⟨s1, hp, hi⟩ := h
  have h0 : R s s1 := by
    cases hp with
    | stay => exact (hR s).refl s
    | expand => exact walk_prepare (hR s) g s
  rcases walk_of_iter (hR s1) ((hR s).path h0 hpath) hi with h1 | ⟨h1, hs⟩
  · exact Or.inl ((hR s).trans h0 h1)
  · exact Or.inr ⟨⟨s1, h0, h1⟩, hs⟩

/-- The loop, from the state it sets the pc in: `R` holds to the end, or up to the state `s1` of the last iteration, which
ends suspended. -/
theorem walk_of_ran (hR : ∀ s, Walk (vis g s) P w R) {fuel : Nat} {s : State} {evs : List Event} {r : State × List Event}
    (hpath : ∀ x ∈ (s.wd w).path, P x) (h : Ran g w fuel s evs r) :
    (fuel = 0 ∧ r.1 = s) ∨ R (s.setWd w (fun d => { d with pc := .loop })) r.1 ∨
      ∃ s1, R (s.setWd w (fun d => { d with pc := .loop })) s1 ∧ Paused (vis g s1) w s1 r.1 := by
  have loop : ∀ s, R s (s.setWd w (fun d => { d with pc := .loop })) := fun s => walk_setPc (hR s) s (fun _ _ _ _ _ _ e => by cases e)
  induction h with
  | dry => exact Or.inl ⟨rfl, rfl⟩
  | @cont _ s _ s1 _ _ hi _ ih =>
    rcases walk_of_iterL hR ((hR s).path (loop s) hpath) hi with h1 | ⟨_, hs⟩
    · refine Or.inr ?_
      rcases ih ((hR s).path h1 ((hR s).path (loop s) hpath)) with ⟨_, e⟩ | h2 | ⟨s2, h2, hp⟩
      · exact Or.inl (e ▸ h1)
      · exact Or.inl ((hR s).trans h1 ((hR s).trans (loop s1) h2))
      · exact Or.inr ⟨s2, (hR s).trans h1 ((hR s).trans (loop s1) h2), hp⟩
    · cases hs
  | @stop _ s _ _ _ _ hi => exact Or.inr ((walk_of_iterL hR ((hR s).path (loop s) hpath) hi).imp_right And.left)
  | @fail _ s _ s1 _ _ hi =>
    rcases walk_of_iterL hR ((hR s).path (loop s) hpath) hi with h1 | ⟨_, hs⟩
    · exact Or.inr (Or.inl ((hR s).trans h1 (walk_setPc (hR s) s1 (fun _ _ _ _ _ _ e => by cases e))))
    · cases hs

end

end I2N.Trav
