import I2N.Model.Cmd
/-! Lemmas for the command line model (C11): one argument is classified (`classify`), an accepted step is the
update `stepE` of its class, and what the loop leaves in each field of the state is read off the argument list. -/
deriving instance DecidableEq for Except

namespace I2N.Cmd

theorem loop_append (av : Avail) (st : St) (xs ys : List Str) :
    loop av st (xs ++ ys) =
      match loop av st xs with
      | .error e => .error e
      | .ok st' => loop av st' ys := by
  induction xs generalizing st with
  | nil => simp [loop]
  | cons a as ih =>
    simp only [List.cons_append, loop]
    cases step av st a with
    | error e => simp
    | ok st' => simp [ih]

/-- an argument that fails in every state -/
def Rejects (av : Avail) (a : Str) : Prop := ∀ st, ∃ e, step av st a = .error e

theorem loop_rejects {av : Avail} {a : Str} (h : Rejects av a) :
    ∀ (args : List Str) (st : St), a ∈ args → ∃ e, loop av st args = .error e := by
  intro args
  induction args with
  | nil => intro st hm; cases hm
  | cons b bs ih =>
    intro st hm
    simp only [loop]
    cases hs : step av st b with
    | error e => exact ⟨e, rfl⟩
    | ok st' =>
      simp only
      rcases List.mem_cons.mp hm with rfl | hm'
      · obtain ⟨e, he⟩ := h st
        rw [hs] at he; cases he
      · exact ih st' hm'

theorem paramsFromCmd_error_of_loop {av : Avail} {args : List Str}
    (h : ∃ e, loop av (St.init av) args = .error e) : ∃ e, paramsFromCmd av args = .error e := by
  obtain ⟨e, he⟩ := h
  exact ⟨e, by simp [paramsFromCmd, he]⟩

/-! ### classification of one argument: `step` = `stepC ∘ classify` -/

inductive Cls where
  | bad
  | test (k v : Str)
  | netsR (k v : Str)
  | vmR (vm k v : Str)
  | badObj (k v : Str)
  | vms (v : Str)
  | nets (v : Str)
  | other (k v : Str)
deriving DecidableEq, Repr

def isTestKey (k : Str) : Bool := k == kOnly || k == kNo
def isObjKey (k : Str) : Bool := kOnlyU.isPrefixOf k || kNoU.isPrefixOf k

def classify (av : Avail) (a : Str) : Cls :=
  match splitArg a with
  | none => .bad
  | some (k, v) =>
    if isTestKey k then .test k v
    else if isObjKey k then
      if netsKey k then .netsR k v
      else match av.vms.find? (vmKey k) with
        | some vm => .vmR vm k v
        | none => .badObj k v
    else if k == kVms then .vms v
    else if k == kNets then .nets v
    else .other k v

def netsOf (k v : Str) : Option (Str × Str) := if v.isEmpty then none else some (removeAll kUNets k, v)

/-- the state an accepted step leads to (for a nets restriction the names are those `netsBy` selects, none where
it raises) -/
def stepE (av : Avail) (st : St) : Cls → St
  | .bad => st
  | .badObj _ _ => st
  | .test k v =>
    { st with
      useDef := st.useDef && !(splitVariants v).any (av.restrictions.contains ·)
      tests := st.tests ++ [(k, v)] }
  | .netsR k v =>
    { st with netsStr := netsOf k v, pd := dictSet st.pd kNets (joinSp ((netsBy av (netsOf k v)).toOption.getD [])) }
  | .vmR vm k v =>
    { st with
      vmNoDef := vm :: st.vmNoDef
      vmLines := if v.isEmpty then st.vmLines else st.vmLines ++ [(vm, (removeAll ('_' :: vm) k, v))] }
  | .vms v => { st with selVms := splitComma v }
  | .nets v => { st with pd := dictSet st.pd kNets (commaToSpace v), explicitNets := true }
  | .other k v => { st with pd := dictSet st.pd k (commaToSpace v) }

/-- the guards of a step: which classes are refused, in which states -/
def stepC (av : Avail) (st : St) (c : Cls) : Except Err St :=
  match c with
  | .bad => .error .valueError
  | .badObj _ _ => .error .valueError
  | .netsR k v =>
    if (netsOf k v).isSome && st.explicitNets then .error .valueError
    else match netsBy av (netsOf k v) with
      | .error e => .error e
      | .ok _ => .ok (stepE av st c)
  | .vms v => if (splitComma v).all (av.vms.contains ·) then .ok (stepE av st c) else .error .valueError
  | .nets _ => if st.netsStr.isSome then .error .valueError else .ok (stepE av st c)
  | _ => .ok (stepE av st c)

theorem step_eq (av : Avail) (st : St) (a : Str) : step av st a = stepC av st (classify av a) := by
  unfold step classify
  cases splitArg a with
  | none => rfl
  | some p =>
    obtain ⟨k, v⟩ := p
    simp only [isTestKey, isObjKey]
    by_cases h1 : (k == kOnly || k == kNo) = true
    · simp [h1, stepC, stepE]
    · by_cases h2 : (kOnlyU.isPrefixOf k || kNoU.isPrefixOf k) = true
      · by_cases h3 : netsKey k = true
        · simp [h1, h2, h3, stepC, stepE, netsOf]
          generalize netsBy av (if v = [] then none else some (removeAll kUNets k, v)) = r
          cases r <;> rfl
        · cases hf : av.vms.find? (vmKey k) with
          | none => simp [h1, h2, h3, stepC]
          | some vm => simp [h1, h2, h3, stepC, stepE]
      · by_cases h4 : (k == kVms) = true
        · simp [h1, h2, h4, stepC, stepE]
        · by_cases h5 : (k == kNets) = true
          · have : k = kNets := by simpa using h5
            subst this
            simp [h1, h2, h4, stepC, stepE]
          · simp [h1, h2, h4, h5, stepC, stepE]

theorem loop_ok_cons {av : Avail} {st st' : St} {a : Str} {as : List Str} :
    loop av st (a :: as) = .ok st' ↔ ∃ st1, step av st a = .ok st1 ∧ loop av st1 as = .ok st' := by
  simp only [loop]
  cases step av st a with
  | error e => simp
  | ok st1 => simp

theorem loop_ok_append {av : Avail} {st st' : St} {xs ys : List Str} :
    loop av st (xs ++ ys) = .ok st' ↔ ∃ st1, loop av st xs = .ok st1 ∧ loop av st1 ys = .ok st' := by
  rw [loop_append]
  cases loop av st xs with
  | error e => simp
  | ok st1 => simp

/-! ### reading the classification (what the constructors of `Cls` mean in terms of the argument) -/

/-- the path through `classify` that leads to each class -/
theorem classify_spec (av : Avail) (a : Str) :
    match classify av a with
    | .bad => splitArg a = none
    | .test k v => splitArg a = some (k, v) ∧ isTestKey k = true
    | .netsR k v => splitArg a = some (k, v) ∧ isTestKey k = false ∧ isObjKey k = true ∧ netsKey k = true
    | .vmR vm k v => splitArg a = some (k, v) ∧ isTestKey k = false ∧ isObjKey k = true ∧ netsKey k = false ∧
        av.vms.find? (vmKey k) = some vm
    | .badObj k v => splitArg a = some (k, v) ∧ isTestKey k = false ∧ isObjKey k = true ∧ netsKey k = false ∧
        av.vms.find? (vmKey k) = none
    | .vms v => splitArg a = some (kVms, v)
    | .nets v => splitArg a = some (kNets, v)
    | .other k v => splitArg a = some (k, v) ∧ isTestKey k = false ∧ isObjKey k = false ∧ k ≠ kVms ∧ k ≠ kNets := by
  unfold classify
  cases splitArg a with
  | none => rfl
  | some p =>
    obtain ⟨k, v⟩ := p
    simp only
    by_cases h1 : isTestKey k = true
    · simp [h1]
    · by_cases h2 : isObjKey k = true
      · by_cases h3 : netsKey k = true
        · simp [h1, h2, h3]
        · cases hf : av.vms.find? (vmKey k) <;> simp [h1, h2, h3, hf]
      · by_cases h4 : k = kVms
        · subst h4; simp [h1, h2]
        · by_cases h5 : k = kNets
          · subst h5; simp [h1, h2, h4]
          · simp [h1, h2, h4, h5]

theorem classify_bad_iff {av : Avail} {a : Str} : classify av a = .bad ↔ splitArg a = none := by
  constructor
  · intro h; have := classify_spec av a; rw [h] at this; exact this
  · intro h; simp [classify, h]

theorem classify_test_iff {av : Avail} {a k v : Str} :
    classify av a = .test k v ↔ splitArg a = some (k, v) ∧ (k = kOnly ∨ k = kNo) := by
  constructor
  · intro h; have := classify_spec av a; rw [h] at this; simpa [isTestKey] using this
  · rintro ⟨hs, hk⟩
    have : isTestKey k = true := by simpa [isTestKey] using hk
    simp [classify, hs, this]

theorem classify_vms_iff {av : Avail} {a v : Str} :
    classify av a = .vms v ↔ splitArg a = some (kVms, v) := by
  constructor
  · intro h; have := classify_spec av a; rw [h] at this; exact this
  · intro hs
    have h1 : isTestKey kVms = false := by decide
    have h2 : isObjKey kVms = false := by decide
    simp [classify, hs, h1, h2]

theorem classify_nets_iff {av : Avail} {a v : Str} :
    classify av a = .nets v ↔ splitArg a = some (kNets, v) := by
  constructor
  · intro h; have := classify_spec av a; rw [h] at this; exact this
  · intro hs
    have h1 : isTestKey kNets = false := by decide
    have h2 : isObjKey kNets = false := by decide
    have h3 : (kNets == kVms) = false := by decide
    simp [classify, hs, h1, h2, h3]

theorem netsKey_obj (k : Str) (hk : netsKey k = true) : isObjKey k = true ∧ isTestKey k = false := by
  simp only [netsKey, Bool.or_eq_true, beq_iff_eq] at hk
  rcases hk with rfl | rfl
  · exact ⟨by decide, by decide⟩
  · exact ⟨by decide, by decide⟩

/-- a nets restriction: the key is `only_nets` / `no_nets` -/
theorem classify_netsR_iff {av : Avail} {a k v : Str} :
    classify av a = .netsR k v ↔ splitArg a = some (k, v) ∧ netsKey k = true := by
  constructor
  · intro h; have := classify_spec av a; rw [h] at this; exact ⟨this.1, this.2.2.2⟩
  · rintro ⟨hs, hk⟩
    obtain ⟨h1, h2⟩ := netsKey_obj k hk
    simp [classify, hs, h1, h2, hk]

/-- a vm restriction: the key is `only_<vm>` / `no_<vm>` for an available vm -/
theorem classify_vmR_iff {av : Avail} {a vm k v : Str} :
    classify av a = .vmR vm k v ↔
      splitArg a = some (k, v) ∧ isTestKey k = false ∧ isObjKey k = true ∧ netsKey k = false ∧
        av.vms.find? (vmKey k) = some vm := by
  constructor
  · intro h; have := classify_spec av a; rw [h] at this; exact this
  · rintro ⟨hs, h1, h2, h3, hf⟩
    simp [classify, hs, h1, h2, h3, hf]

theorem classify_badObj_iff {av : Avail} {a k v : Str} :
    classify av a = .badObj k v ↔
      splitArg a = some (k, v) ∧ isTestKey k = false ∧ isObjKey k = true ∧ netsKey k = false ∧
        av.vms.find? (vmKey k) = none := by
  constructor
  · intro h; have := classify_spec av a; rw [h] at this; exact this
  · rintro ⟨hs, h1, h2, h3, hf⟩
    simp [classify, hs, h1, h2, h3, hf]

/-- any other key: a plain parameter override -/
theorem classify_other_iff {av : Avail} {a k v : Str} :
    classify av a = .other k v ↔
      splitArg a = some (k, v) ∧ isTestKey k = false ∧ isObjKey k = false ∧ k ≠ kVms ∧ k ≠ kNets := by
  constructor
  · intro h; have := classify_spec av a; rw [h] at this; exact this
  · rintro ⟨hs, h1, h2, h3, h4⟩
    simp [classify, hs, h1, h2, h3, h4]

/-! ### specification vocabulary: what an argument list *says* (independent of the loop state) -/

/-- the typed `only=`/`no=` restrictions, in order -/
def typedTests (av : Avail) (args : List Str) : List (Str × Str) :=
  args.filterMap (fun a => match classify av a with | .test k v => some (k, v) | _ => none)

/-- an `only=`/`no=` argument whose value names a primary restriction (`main_restrictions`) -/
def primaryArg (av : Avail) (a : Str) : Bool :=
  match classify av a with
  | .test _ v => (splitVariants v).any (av.restrictions.contains ·)
  | _ => false

/-- the typed non-empty restrictions of one vm, in order, as restriction lines -/
def typedVm (av : Avail) (vm : Str) (args : List Str) : List (Str × Str) :=
  args.filterMap (fun a => match classify av a with
    | .vmR vm' k v => if vm' == vm && !v.isEmpty then some (removeAll ('_' :: vm') k, v) else none
    | _ => none)

/-- some `only_<vm>=`/`no_<vm>=` (possibly empty) was typed for this vm -/
def vmTyped (av : Avail) (vm : Str) (args : List Str) : Bool :=
  args.any (fun a => match classify av a with | .vmR vm' _ _ => vm' == vm | _ => false)

/-- the last `vms=` selection, the available vms if there is none -/
def lastVms (av : Avail) (dflt : List Str) (args : List Str) : List Str :=
  args.foldl (fun acc a => match classify av a with | .vms v => splitComma v | _ => acc) dflt

/-- the argument writes parameter `k` of the dictionary -/
def writes (av : Avail) (k : Str) (a : Str) : Bool :=
  match classify av a with
  | .other k' _ => k' == k
  | .nets _ => kNets == k
  | .netsR _ _ => kNets == k
  | _ => false

theorem stepC_netsR_ok {av : Avail} {st st' : St} {k v : Str} (h : stepC av st (.netsR k v) = .ok st') :
    ((netsOf k v).isSome && st.explicitNets) = false ∧ ∃ names, netsBy av (netsOf k v) = .ok names ∧
      st' = { st with netsStr := netsOf k v, pd := dictSet st.pd kNets (joinSp names) } := by
  simp only [stepC] at h
  by_cases hc : ((netsOf k v).isSome && st.explicitNets) = true
  · rw [if_pos hc] at h; cases h
  · rw [if_neg hc] at h
    cases hn : netsBy av (netsOf k v) with
    | error e => rw [hn] at h; cases h
    | ok names =>
      rw [hn] at h
      cases h
      exact ⟨by simpa using hc, names, rfl, by simp [stepE, hn, Except.toOption]⟩

theorem stepC_ok_of_step {av : Avail} {st st' : St} {a : Str} (h : step av st a = .ok st') :
    stepC av st (classify av a) = .ok st' := by rw [← step_eq]; exact h

theorem stepC_ok {av : Avail} {st st' : St} {c : Cls} (h : stepC av st c = .ok st') : st' = stepE av st c := by
  cases c with
  | bad => cases h
  | badObj k v => cases h
  | netsR k v =>
    obtain ⟨_, names, hn, rfl⟩ := stepC_netsR_ok h
    simp [stepE, hn, Except.toOption]
  | vms v =>
    simp only [stepC] at h
    split at h <;> cases h
    rfl
  | nets v =>
    simp only [stepC] at h
    split at h <;> cases h
    rfl
  | test k v => exact (Except.ok.inj h).symm
  | vmR vm k v => exact (Except.ok.inj h).symm
  | other k v => exact (Except.ok.inj h).symm

theorem typedTests_cons (av : Avail) (a : Str) (as : List Str) :
    typedTests av (a :: as) = (match classify av a with | .test k v => [(k, v)] | _ => []) ++ typedTests av as := by
  unfold typedTests
  rw [List.filterMap_cons]
  cases classify av a <;> rfl

theorem loop_tests {av : Avail} : ∀ (args : List Str) (st st' : St), loop av st args = .ok st' →
    st'.tests = st.tests ++ typedTests av args ∧
    st'.useDef = (st.useDef && !args.any (primaryArg av)) := by
  intro args
  induction args with
  | nil => intro st st' h; simp [loop] at h; subst h; simp [typedTests]
  | cons a as ih =>
    intro st st' h
    obtain ⟨st1, hs, hl⟩ := loop_ok_cons.mp h
    obtain ⟨i1, i2⟩ := ih st1 st' hl
    rw [i1, i2, stepC_ok (stepC_ok_of_step hs), typedTests_cons, List.any_cons, primaryArg]
    cases classify av a <;> simp [stepE, Bool.and_assoc]

/-- a projection of the state that every step updates by a function of the argument's class alone
is, after the loop, the left fold of these updates -/
theorem loop_fold {av : Avail} {α : Type} (f : St → α) (upd : Cls → α → α)
    (hstep : ∀ st st' c, stepC av st c = .ok st' → f st' = upd c (f st)) :
    ∀ (args : List Str) (st st' : St), loop av st args = .ok st' →
      f st' = args.foldl (fun acc a => upd (classify av a) acc) (f st) := by
  intro args
  induction args with
  | nil => intro st st' h; simp [loop] at h; subst h; rfl
  | cons a as ih =>
    intro st st' h
    obtain ⟨st1, hs, hl⟩ := loop_ok_cons.mp h
    rw [ih st1 st' hl, hstep st st1 _ (stepC_ok_of_step hs)]
    rfl

/-- a property of the state that every accepted step of the arguments at hand preserves holds after the loop -/
theorem loop_invariant {av : Avail} (P : St → Prop) : ∀ (args : List Str) (st st' : St),
    (∀ a ∈ args, ∀ s s1, P s → stepC av s (classify av a) = .ok s1 → P s1) → P st →
    loop av st args = .ok st' → P st' := by
  intro args
  induction args with
  | nil => intro st st' _ hp h; simp [loop] at h; subst h; exact hp
  | cons a as ih =>
    intro st st' hstep hp h
    obtain ⟨st1, hs, hl⟩ := loop_ok_cons.mp h
    exact ih st1 st' (fun b hb => hstep b (List.mem_cons_of_mem _ hb))
      (hstep a List.mem_cons_self st st1 hp (stepC_ok_of_step hs)) hl

/-- an accepted run over `pre ++ x :: post`, cut at `x` -/
theorem loop_ok_around {av : Avail} {st st' : St} {pre post : List Str} {x : Str}
    (h : loop av st (pre ++ x :: post) = .ok st') :
    ∃ st1 st2, loop av st pre = .ok st1 ∧ stepC av st1 (classify av x) = .ok st2 ∧ loop av st2 post = .ok st' := by
  obtain ⟨st1, h1, h2⟩ := loop_ok_append.mp h
  obtain ⟨st2, hs, h3⟩ := loop_ok_cons.mp h2
  exact ⟨st1, st2, h1, stepC_ok_of_step hs, h3⟩

/-- the guards of the two classes that are accepted conditionally -/
theorem stepC_vms_ok {av : Avail} {st st' : St} {v : Str} (h : stepC av st (.vms v) = .ok st') :
    (splitComma v).all (av.vms.contains ·) = true := by
  simp only [stepC] at h
  split at h
  · assumption
  · cases h

theorem stepC_nets_ok {av : Avail} {st st' : St} {v : Str} (h : stepC av st (.nets v) = .ok st') :
    st.netsStr.isSome = false := by
  simp only [stepC] at h
  split at h
  · cases h
  · rename_i hn; exact Bool.eq_false_iff.mpr hn

theorem dictGet_dictSet (d : List (Str × Str)) (k' k v : Str) :
    dictGet (dictSet d k' v) k = if k' == k then some v else dictGet d k := by
  induction d with
  | nil => simp [dictSet, dictGet]
  | cons p rest ih =>
    obtain ⟨k2, v2⟩ := p
    by_cases h2 : k' = k <;> by_cases h : k2 = k' <;> simp_all [dictSet, dictGet]

/-- how one argument class updates the dictionary entry `k` -/
def pdUpd (av : Avail) (k : Str) (c : Cls) (acc : Option Str) : Option Str :=
  match c with
  | .other k' v => if k' == k then some (commaToSpace v) else acc
  | .nets v => if kNets == k then some (commaToSpace v) else acc
  | .netsR k' v =>
    if kNets == k then
      match netsBy av (netsOf k' v) with
      | .ok names => some (joinSp names)
      | .error _ => acc
    else acc
  | _ => acc

theorem stepC_pd {av : Avail} (k : Str) : ∀ st st' c, stepC av st c = .ok st' →
    dictGet st'.pd k = pdUpd av k c (dictGet st.pd k) := by
  intro st st' c hs
  rw [stepC_ok hs]
  cases c with
  | netsR k' v =>
    obtain ⟨_, names, hn, _⟩ := stepC_netsR_ok hs
    simp [stepE, pdUpd, hn, Except.toOption, dictGet_dictSet]
  | nets v => simp [stepE, pdUpd, dictGet_dictSet]
  | other k' v => simp [stepE, pdUpd, dictGet_dictSet]
  | _ => rfl

theorem pdUpd_not_writes {av : Avail} {k a : Str} (h : writes av k a = false) (acc : Option Str) :
    pdUpd av k (classify av a) acc = acc := by
  unfold writes at h
  cases hc : classify av a <;> simp_all [pdUpd]

theorem foldl_pdUpd_not_writes {av : Avail} {k : Str} : ∀ (post : List Str) (acc : Option Str),
    (∀ b ∈ post, writes av k b = false) →
    post.foldl (fun acc a => pdUpd av k (classify av a) acc) acc = acc := by
  intro post
  induction post with
  | nil => intro acc _; rfl
  | cons b bs ih =>
    intro acc h
    simp only [List.foldl_cons]
    rw [pdUpd_not_writes (h b (by simp))]
    exact ih acc (fun x hx => h x (by simp [hx]))

theorem loop_pd {av : Avail} (k : Str) (args : List Str) (st st' : St) (h : loop av st args = .ok st') :
    dictGet st'.pd k = args.foldl (fun acc a => pdUpd av k (classify av a) acc) (dictGet st.pd k) :=
  loop_fold (fun st => dictGet st.pd k) (pdUpd av k) (stepC_pd k) args st st' h

theorem stepC_selVms {av : Avail} : ∀ st st' c, stepC av st c = .ok st' →
    st'.selVms = (match c with | .vms v => splitComma v | _ => st.selVms) := by
  intro st st' c hs
  rw [stepC_ok hs]
  cases c <;> rfl

theorem loop_selVms {av : Avail} (args : List Str) (st st' : St) (h : loop av st args = .ok st') :
    st'.selVms = lastVms av st.selVms args := by
  have := loop_fold (av := av) (fun st => st.selVms)
    (fun c acc => match c with | .vms v => splitComma v | _ => acc) stepC_selVms args st st' h
  rw [this]; rfl

def vmLinesOf (st : St) (vm : Str) : List (Str × Str) := (st.vmLines.filter (·.1 == vm)).map (·.2)

theorem typedVm_cons (av : Avail) (vm a : Str) (as : List Str) :
    typedVm av vm (a :: as) = typedVm av vm [a] ++ typedVm av vm as :=
  List.filterMap_append (l := [a])

theorem vmTyped_cons (av : Avail) (vm a : Str) (as : List Str) :
    vmTyped av vm (a :: as) = (vmTyped av vm [a] || vmTyped av vm as) :=
  List.any_append (xs := [a])

/-- what one accepted argument adds to the lines of `vm` and to the vms without default -/
theorem stepE_vmLines (av : Avail) (vm : Str) (st : St) (a : Str) :
    vmLinesOf (stepE av st (classify av a)) vm = vmLinesOf st vm ++ typedVm av vm [a] ∧
    (stepE av st (classify av a)).vmNoDef.contains vm = (st.vmNoDef.contains vm || vmTyped av vm [a]) := by
  simp only [typedVm, vmTyped, List.filterMap_cons, List.filterMap_nil, List.any_cons, List.any_nil, Bool.or_false]
  cases classify av a with
  | vmR vm' k v =>
    constructor
    · by_cases hv : v.isEmpty = true
      · simp [stepE, vmLinesOf, hv]
      · by_cases hvm : (vm' == vm) = true <;> simp [stepE, vmLinesOf, hv, hvm, List.filter_append]
    · simp only [stepE, List.contains_cons]
      rw [Bool.beq_comm, Bool.or_comm]
  | _ => simp [stepE, vmLinesOf]

theorem loop_vmLines {av : Avail} (vm : Str) : ∀ (args : List Str) (st st' : St), loop av st args = .ok st' →
    vmLinesOf st' vm = vmLinesOf st vm ++ typedVm av vm args ∧
    st'.vmNoDef.contains vm = (st.vmNoDef.contains vm || vmTyped av vm args) := by
  intro args
  induction args with
  | nil => intro st st' h; simp [loop] at h; subst h; simp [typedVm, vmTyped]
  | cons a as ih =>
    intro st st' h
    obtain ⟨st1, hs, hl⟩ := loop_ok_cons.mp h
    obtain ⟨i1, i2⟩ := ih st1 st' hl
    obtain ⟨s1, s2⟩ := stepE_vmLines av vm st a
    rw [i1, i2, stepC_ok (stepC_ok_of_step hs), s1, s2, typedVm_cons av vm a as, vmTyped_cons av vm a as,
      List.append_assoc, Bool.or_assoc]
    exact ⟨rfl, rfl⟩
theorem stepC_netsStr {av : Avail} : ∀ st st' c, stepC av st c = .ok st' →
    st'.netsStr = (match c with | .netsR k v => netsOf k v | _ => st.netsStr) := by
  intro st st' c hs
  rw [stepC_ok hs]
  cases c <;> rfl

/-- arguments that are not nets restrictions leave `nets_str` alone -/
theorem loop_netsStr_keep {av : Avail} : ∀ (mid : List Str) (st st' : St),
    (∀ m ∈ mid, ∀ k v, classify av m ≠ .netsR k v) → loop av st mid = .ok st' → st'.netsStr = st.netsStr := by
  intro mid st st' hm
  refine loop_invariant (fun s => s.netsStr = st.netsStr) mid st st' ?_ rfl
  intro a ha s s1 hs h1
  rw [stepC_netsStr s s1 _ h1]
  cases hc : classify av a with
  | netsR k v => exact absurd hc (hm a ha k v)
  | _ => exact hs

theorem stepC_explicit {av : Avail} : ∀ st st' c, stepC av st c = .ok st' →
    st'.explicitNets = (match c with | .nets _ => true | _ => st.explicitNets) := by
  intro st st' c hs
  rw [stepC_ok hs]
  cases c <;> rfl

theorem loop_explicit_mono {av : Avail} : ∀ (args : List Str) (st st' : St),
    st.explicitNets = true → loop av st args = .ok st' → st'.explicitNets = true := by
  intro args st st'
  refine loop_invariant (fun s => s.explicitNets = true) args st st' ?_
  intro a _ s s1 hs h1
  rw [stepC_explicit s s1 _ h1]
  cases classify av a with
  | nets v => rfl
  | _ => exact hs

theorem netsOf_isSome {k v : Str} (hv : v ≠ []) : (netsOf k v).isSome = true := by
  have : v.isEmpty = false := by simpa using hv
  simp [netsOf, this]

/-- arguments that do not withdraw the nets restriction (no `only_nets=`/`no_nets=` with an empty value)
keep `nets_str` non-empty -/
theorem loop_netsStr_some {av : Avail} : ∀ (mid : List Str) (st st' : St),
    (∀ m ∈ mid, ∀ k, classify av m ≠ .netsR k []) → st.netsStr.isSome = true →
    loop av st mid = .ok st' → st'.netsStr.isSome = true := by
  intro mid st st' hm
  refine loop_invariant (fun s => s.netsStr.isSome = true) mid st st' ?_
  intro a ha s s1 hs h1
  rw [stepC_netsStr s s1 _ h1]
  cases hc : classify av a with
  | netsR k v =>
    by_cases hv : v = []
    · subst hv; exact absurd hc (hm a ha k)
    · exact netsOf_isSome hv
  | _ => exact hs

theorem finish_ok {av : Avail} {st : St} {c : Config} (h : finish av st = .ok c) :
    ∃ tl ls, fullTestsStr av st = .ok tl ∧ parseLines tl = .ok ls ∧ (select av.tests ls).isEmpty = false ∧
      c = { paramDict := st.pd, testsLines := tl, availableVms := fullVmStrs av st,
            vmStrs := (fullVmStrs av st).filter (fun p => st.selVms.contains p.1), vms := st.selVms } := by
  revert h
  fun_cases finish av st with
  | case1 => nofun
  | case2 => nofun
  | case3 => nofun
  | case4 tl h1 ls h2 h3 => intro h; cases h; exact ⟨tl, ls, h1, h2, by simpa using h3, rfl⟩

theorem selectedTests_ok {av : Avail} {c : Config} {names : List Name} (h : selectedTests av c = .ok names) :
    ∃ ls, parseLines c.testsLines = .ok ls ∧ names = select av.tests ls := by
  revert h
  fun_cases selectedTests av c with
  | case1 => nofun
  | case2 ls hp => intro h; cases h; exact ⟨ls, hp, rfl⟩

theorem selectedVmObjs_ok {av : Avail} {vm : Str} {lines : List (Str × Str)} {r : List Name}
    (h : selectedVmObjs av vm lines = .ok r) :
    ∃ ls, parseLines lines = .ok ls ∧ r = select (vmUniverse av vm) ls := by
  revert h
  fun_cases selectedVmObjs av vm lines with
  | case1 => nofun
  | case2 => nofun
  | case3 ls hp => intro h; cases h; exact ⟨ls, hp, rfl⟩

theorem paramsFromCmd_ok {av : Avail} {args : List Str} {c : Config} (h : paramsFromCmd av args = .ok c) :
    ∃ st, loop av (St.init av) args = .ok st ∧ finish av st = .ok c := by
  unfold paramsFromCmd at h
  cases hl : loop av (St.init av) args with
  | error e => simp [hl] at h
  | ok st => exact ⟨st, rfl, by simpa [hl] using h⟩

/-- conjunction of two filters (distribute OR over AND) -/
def andF (A B : Filter) : Filter := A.flatMap (fun wa => B.map (wa ++ ·))

theorem satWord_append (wa wb : Word) (n : Name) : satWord (wa ++ wb) n = (satWord wa n && satWord wb n) := by
  simp [satWord, List.all_append]

theorem any_and_const {α : Type} (l : List α) (f : α → Bool) (b : Bool) :
    l.any (fun x => b && f x) = (b && l.any f) := by
  induction l with
  | nil => simp
  | cons x xs ih => simp only [List.any_cons, ih]; cases b <;> simp

theorem sat_andF (A B : Filter) (n : Name) : sat (andF A B) n = (sat A n && sat B n) := by
  induction A with
  | nil => simp [andF, sat]
  | cons wa rest ih =>
    have e : sat (andF (wa :: rest) B) n = (sat (B.map (wa ++ ·)) n || sat (andF rest B) n) := by
      simp [andF, sat, List.any_append]
    have e2 : sat (B.map (wa ++ ·)) n = (satWord wa n && sat B n) := by
      simp only [sat, List.any_map]
      rw [← any_and_const]
      congr 1
      funext wb
      exact satWord_append wa wb n
    rw [e, e2, ih]
    simp only [sat, List.any_cons]
    cases satWord wa n <;> cases rest.any (satWord · n) <;> cases B.any (satWord · n) <;> rfl

theorem keep_cons (l : Line) (ls : List Line) (n : Name) : keep (l :: ls) n = (keepLine l n && keep ls n) := by
  simp [keep]

theorem keep_append (ls ls' : List Line) (n : Name) : keep (ls ++ ls') n = (keep ls n && keep ls' n) := by
  simp [keep, List.all_append]

theorem keep_perm {ls ls' : List Line} (h : ls.Perm ls') (n : Name) : keep ls n = keep ls' n :=
  h.all_eq

theorem select_append (u : List Name) (ls ls' : List Line) :
    select u (ls ++ ls') = (select u ls).filter (keep ls') := by
  simp only [select, List.filter_filter]
  congr 1
  funext n
  rw [keep_append, Bool.and_comm]

theorem isInfix_single (x : Str) (n : Name) : isInfix [x] n = n.contains x := by
  induction n with
  | nil => simp [isInfix]
  | cons c cs ih =>
    simp only [isInfix, ih, List.contains_cons]
    by_cases h : x = c
    · subst h; simp [List.isPrefixOf]
    · have h1 : (x == c) = false := by simpa using h
      simp [List.isPrefixOf, h1]

theorem splitDD_ne_nil (s : Str) : splitDD s ≠ [] := by
  fun_induction splitDD s <;> simp

theorem splitBy_ne_nil (p : Char → Bool) (s : Str) : splitBy p s ≠ [] := by
  fun_induction splitBy p s <;> simp

theorem splitBy_none (p : Char → Bool) (s : Str) (h : ∀ c ∈ s, p c = false) : splitBy p s = [s] := by
  induction s with
  | nil => rfl
  | cons x xs ih =>
    have hx : p x = false := h x (by simp)
    have := ih (fun c hc => h c (by simp [hc]))
    simp [splitBy, hx, this]

theorem splitDD_append (a b : Str) (h : a.getLast? ≠ some '.') :
    splitDD (a ++ '.' :: '.' :: b) = splitDD a ++ splitDD b := by
  fun_induction splitDD a with
  | case1 => simp [splitDD]
  | case2 x =>
    have hx : (x == '.') = false := by
      simp only [List.getLast?_singleton, ne_eq, Option.some.injEq] at h
      simpa using h
    simp [splitDD, hx]
  | case3 x y xs hdd ih =>
    have hxs : xs ≠ [] := by
      intro e; subst e
      simp only [Bool.and_eq_true, beq_iff_eq] at hdd
      simp [hdd.2] at h
    have h' : xs.getLast? ≠ some '.' := by
      simpa [List.getLast?_cons_cons, List.getLast?_cons_of_ne_nil hxs] using h
    have := ih h'
    simp only [List.cons_append]
    rw [splitDD.eq_3, if_pos hdd, this]
  | case4 x y xs hdd hnil => exact absurd hnil (splitDD_ne_nil _)
  | case5 x y xs hdd hd tl hcons ih =>
    have h' : (y :: xs).getLast? ≠ some '.' := by simpa [List.getLast?_cons_cons] using h
    have := ih h'
    simp only [List.cons_append] at this ⊢
    rw [splitDD.eq_3, if_neg hdd, this, hcons]
    rfl

theorem isObjKey_not_test (k : Str) (hk : isObjKey k = true) : isTestKey k = false := by
  simp only [isObjKey, Bool.or_eq_true, List.isPrefixOf_iff_prefix] at hk
  rcases hk with ⟨t, rfl⟩ | ⟨t, rfl⟩
  · simp [isTestKey, kOnlyU, kOnly, kNo]
  · simp [isTestKey, kNoU, kOnly, kNo]

theorem parseLines_append (xs ys : List (Str × Str)) :
    parseLines (xs ++ ys) =
      match parseLines xs with
      | .error e => .error e
      | .ok a => match parseLines ys with
        | .error e => .error e
        | .ok b => .ok (a ++ b) := by
  induction xs with
  | nil => simp only [List.nil_append, parseLines]; cases parseLines ys <;> rfl
  | cons l ls ih =>
    simp only [List.cons_append, parseLines, ih]
    cases parseLine l with
    | error e => rfl
    | ok x =>
      simp only
      cases parseLines ls with
      | error e => rfl
      | ok a =>
        simp only
        cases parseLines ys <;> rfl

/-- the default restriction lines of a vm -/
def vmDefaultLines (av : Avail) (pd : List (Str × Str)) (vm : Str) : List (Str × Str) :=
  match vmDefault av pd vm with
  | some d => if d.isEmpty then [] else [(kOnly, d)]
  | none => []

theorem parseLines_cons_ok {l : Str × Str} {rest : List (Str × Str)} {ls : List Line} :
    parseLines (l :: rest) = .ok ls ↔
      ∃ x xs, parseLine l = .ok x ∧ parseLines rest = .ok xs ∧ ls = x :: xs := by
  simp only [parseLines]
  cases parseLine l with
  | error e => simp
  | ok x =>
    cases parseLines rest with
    | error e => simp
    | ok xs =>
      simp only [Except.ok.injEq]
      constructor
      · intro h; exact ⟨x, xs, rfl, rfl, h.symm⟩
      · rintro ⟨x', xs', h1, h2, h3⟩; subst h1; subst h2; exact h3.symm

/-- restriction strings that are permutations of each other parse to permuted line lists -/
theorem parseLines_perm {tl tl' : List (Str × Str)} (hp : tl.Perm tl') :
    ∀ {ls : List Line}, parseLines tl = .ok ls → ∃ ls', parseLines tl' = .ok ls' ∧ ls.Perm ls' := by
  induction hp with
  | nil => intro ls h; exact ⟨ls, h, List.Perm.refl _⟩
  | cons x _ ih =>
    intro ls h
    obtain ⟨y, ys, h1, h2, rfl⟩ := parseLines_cons_ok.mp h
    obtain ⟨ls', e, p⟩ := ih h2
    exact ⟨y :: ls', parseLines_cons_ok.mpr ⟨y, ls', h1, e, rfl⟩, p.cons _⟩
  | swap x y l =>
    intro ls h
    obtain ⟨a, as, h1, h2, rfl⟩ := parseLines_cons_ok.mp h
    obtain ⟨b, bs, h3, h4, rfl⟩ := parseLines_cons_ok.mp h2
    exact ⟨b :: a :: bs, parseLines_cons_ok.mpr ⟨b, a :: bs, h3, parseLines_cons_ok.mpr ⟨a, bs, h1, h4, rfl⟩, rfl⟩,
      List.Perm.swap _ _ _⟩
  | trans _ _ ih1 ih2 =>
    intro ls h
    obtain ⟨l1, e1, p1⟩ := ih1 h
    obtain ⟨l2, e2, p2⟩ := ih2 e1
    exact ⟨l2, e2, p1.trans p2⟩

theorem typedTests_perm {av : Avail} {args args' : List Str} (h : args.Perm args') :
    (typedTests av args).Perm (typedTests av args') := h.filterMap _

theorem typedVm_perm {av : Avail} {vm : Str} {args args' : List Str} (h : args.Perm args') :
    (typedVm av vm args).Perm (typedVm av vm args') := h.filterMap _

theorem vmTyped_perm {av : Avail} {vm : Str} {args args' : List Str} (h : args.Perm args') :
    vmTyped av vm args = vmTyped av vm args' := h.any_eq

theorem testsDefault_congr {av : Avail} {pd pd' : List (Str × Str)} (h : ∀ k, dictGet pd k = dictGet pd' k) :
    testsDefault av pd = testsDefault av pd' := by simp [testsDefault, h]

theorem vmDefaultLines_congr {av : Avail} {pd pd' : List (Str × Str)} (h : ∀ k, dictGet pd k = dictGet pd' k)
    (vm : Str) : vmDefaultLines av pd vm = vmDefaultLines av pd' vm := by
  simp [vmDefaultLines, vmDefault, h]

/-- What an accepted command line yields, field by field, in terms of what the argument list says. -/
structure Accepted (av : Avail) (args : List Str) (c : Config) : Prop where
  vms : c.vms = lastVms av av.vms args
  vmsAvail : ∀ x ∈ c.vms, x ∈ av.vms
  vmStrs : c.vmStrs = c.availableVms.filter (fun p => c.vms.contains p.1)
  availableVms : c.availableVms = av.vms.map (fun vm =>
    (vm, typedVm av vm args ++ (if vmTyped av vm args then [] else vmDefaultLines av c.paramDict vm)))
  testsLines : c.testsLines = typedTests av args ++
    (if args.any (primaryArg av) then [] else [(kOnly, testsDefault av c.paramDict)])
  paramDict : ∀ k, dictGet c.paramDict k = args.foldl (fun acc a => pdUpd av k (classify av a) acc) none

theorem accepted {av : Avail} {args : List Str} {c : Config} (h : paramsFromCmd av args = .ok c) :
    Accepted av args c := by
  obtain ⟨st, hl, hf⟩ := paramsFromCmd_ok h
  obtain ⟨tl, ls, hft, _, _, rfl⟩ := finish_ok hf
  obtain ⟨t1, t2⟩ := loop_tests args _ st hl
  simp only [St.init, List.nil_append, Bool.true_and] at t1 t2
  refine ⟨loop_selVms args _ st hl, ?_, rfl, ?_, ?_, fun k => loop_pd k args _ st hl⟩
  · refine loop_invariant (fun s => ∀ x ∈ s.selVms, x ∈ av.vms) args _ st ?_ (by simp [St.init]) hl
    intro a _ s s1 hi hs
    rw [stepC_selVms s s1 _ hs]
    cases hc : classify av a with
    | vms v =>
      rw [hc] at hs
      intro x hx
      simpa using List.all_eq_true.mp (stepC_vms_ok hs) x hx
    | _ => exact hi
  · refine List.map_congr_left fun vm _ => ?_
    obtain ⟨v1, v2⟩ := loop_vmLines vm args _ st hl
    simp only [St.init, vmLinesOf, List.filter_nil, List.map_nil, List.nil_append, List.contains_nil,
      Bool.false_or] at v1 v2
    show (vm, fullVmStr av st vm) = _
    rw [← v1, ← v2]
    rfl
  · unfold fullTestsStr at hft
    rw [t2, t1] at hft
    cases hany : args.any (primaryArg av) with
    | true => simp [hany] at hft; simp [hft]
    | false =>
      simp only [hany, Bool.not_false, if_true] at hft
      split at hft
      · cases hft; simp
      · cases hft

end I2N.Cmd
