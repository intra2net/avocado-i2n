import I2N.Lemmas.PolicyGen
/-! Equality of the regenerated `push_states` / `pop_states` iteration with the hand model. -/
set_option linter.unusedVariables false
namespace I2N.PolicyGen
open I2N.Policy I2N.PolicyM I2N.Extracted.Policy I2N.Extracted.GenPolicy

/-- the five statements "restrict parametric objects of this type in the subroutine" are the hand model's `restrict` -/
theorem restrict_def (sp : Params) :
    (List.foldl (fun acc tn => acc.set tn.1 tn.2) sp
        ((pySplitChar '/' (sp.getD "object_type" "")).zip (pySplitChar '/' (sp.getD "object_name" "")))).set
      "states_chain" ((pySplitChar '/' (sp.getD "object_type" "")).getLast?.getD "") = restrict sp := by
  simp only [restrict, splitSlash, pySplitChar, typeOf]

theorem outOf_eta {α : Type} (r : Except Err α × St) (sp rp : Params) :
    outOf (M.bindF (r.1, ({ sp := sp, rp := rp, st := r.2 } : PS)) fun _ => (pure () : M Unit)) =
      ((r.1.map fun _ => ()), r.2) := by
  rcases r with ⟨e | a, s⟩ <;> rfl

theorem pushOne_eq (B : Backends) (sp rp : Params) (st : St)
    (hk : (restrict sp).getD "push_state" "" = sp.getD "push_state" "") :
    outOf ((genPushOne B).run ⟨sp, rp, st⟩) = pushOne B sp st := by
  rw [M.run_ap]
  unfold genPushOne pushOne
  rcases ht : sp.truthy "push_state" with _ | state <;>
    simp only [ht, ↓M.bind_ap, ↓M.ite_ap, M.pure_ap, M.bindF_ok, rd, setP, doStatesM, zipSetM, outOf_mk, outOf_ite, truthyP,
      Option.isSome_none, Option.isSome_some, Bool.not_true, Bool.not_false, Bool.false_eq_true, if_true, if_false]
  have hs := truthy_getD ht
  by_cases hr : roots.contains state = true
  · have hr' := hr
    simp only [roots] at hr'
    simp only [if_true, hs, hr, hr']
  · have hr' := hr
    simp only [roots] at hr'
    simp only [if_false, Bool.false_eq_true, hs, hr, hr', restrict_def, hk, pushParams, dPushMode]
    generalize doStates B Do.set _ st = r
    rcases r with ⟨e | a, s⟩ <;> rfl

/-- the key `pop_state` is still what it was when `pop_states` reads it for the second time (after `get_state`,
`get_mode` were written and `get_states` returned) -/
theorem popGetParams_pop_state (sp : Params) (state : String)
    (hk : (restrict sp).getD "pop_state" "" = sp.getD "pop_state" "") :
    (popGetParams sp state).getD "pop_state" "" = sp.getD "pop_state" "" := by
  unfold popGetParams
  rw [Params.getD_set_ne _ _ _ (by decide), Params.getD_set_ne _ _ _ (by decide), hk]

theorem popOne_eq (B : Backends) (sp rp : Params) (st : St)
    (hk : (restrict sp).getD "pop_state" "" = sp.getD "pop_state" "") :
    outOf ((genPopOne B).run ⟨sp, rp, st⟩) = popOne B sp st := by
  rw [M.run_ap]
  unfold genPopOne popOne
  rcases ht : sp.truthy "pop_state" with _ | state <;>
    simp only [ht, ↓M.bind_ap, ↓M.ite_ap, M.pure_ap, M.bindF_ok, rd, setP, doStatesM, zipSetM, outOf_mk, outOf_ite, truthyP,
      Option.isSome_none, Option.isSome_some, Bool.not_true, Bool.not_false, Bool.false_eq_true, if_true, if_false]
  have hs := truthy_getD ht
  by_cases hr : roots.contains state = true
  · have hr' := hr
    simp only [roots] at hr'
    simp only [if_true, hs, hr, hr']
  · have hr' := hr
    simp only [roots] at hr'
    have hp := popGetParams_pop_state sp state hk
    rw [hs] at hp
    unfold popGetParams dPopGetMode at hp
    simp only [if_false, Bool.false_eq_true, hs, hr, hr', restrict_def, hk, popGetParams, popUnsetParams, dPopGetMode,
      dPopUnsetMode]
    generalize hg : doStates B Do.get _ st = r
    rcases r with ⟨e | a, s1⟩
    · rfl
    · simp only [↓M.bind_ap, M.bindF_ok, rd, setP, doStatesM, hp]
      generalize doStates B Do.unset _ s1 = r2
      rcases r2 with ⟨e | a, s⟩ <;> rfl

end I2N.PolicyGen
