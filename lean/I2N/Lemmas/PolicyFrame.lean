import I2N.Lemmas.Policy
import I2N.Spec.Policy
/-! How the functions of the policy model move the store: frame (`Same`), no-change (`Eqv`) and
monotonicity (`Mono`) lemmas, lifted from the backend primitives to whole calls. -/
set_option linter.unusedSimpArgs false

namespace I2N.Policy
open I2N.Extracted.Policy

/-- names are kept and a root is never lost (what every state *check* guarantees) -/
def Mono (a b : St) : Prop :=
  ∀ k, (b.store.obj k).names = (a.store.obj k).names ∧ ((a.store.obj k).root = true → (b.store.obj k).root = true)

theorem Mono.refl (a : St) : Mono a a := fun _ => ⟨rfl, id⟩
theorem Mono.trans {a b c : St} (h1 : Mono a b) (h2 : Mono b c) : Mono a c := fun k =>
  ⟨(h2 k).1.trans (h1 k).1, fun h => (h2 k).2 ((h1 k).2 h)⟩
theorem Eqv.mono {a b : St} (h : Eqv a b) : Mono a b := fun k => by
  have := h k; unfold Same at this; rw [this]; exact ⟨rfl, id⟩

/-- the nested check does not create a root for this object: the root is there, or the second
letter of its `check_mode` is not `f` -/
def NoForceAt (ip : Params) (st : St) : Prop :=
  (st.store.obj (keyOf ip)).root = true ∨
    ∀ c1 c2, letters (ip.getD "check_mode" dCheckMode) = some (c1, c2) → c2 ≠ 'f'

theorem NoForceAt.of_eqv {ip : Params} {a b : St} (h : Eqv a b) (hn : NoForceAt ip a) : NoForceAt ip b := by
  cases hn with
  | inl hr => left; have := h (keyOf ip); unfold Same at this; rw [this]; exact hr
  | inr hc => right; exact hc

/-! ### the root prerequisite -/

theorem keyOf_scope (sp : Params) (v : String) : keyOf (sp.set "pool_scope" v) = keyOf sp :=
  keyOf_set _ _ _ (by decide)

theorem Obj.root_eta (o : Obj) (h : o.root = true) : { root := true, names := o.names } = o := by
  cases o; simp_all

theorem rootPhase_obj (b : String) (sp : Params) (c1 c2 : Char) (st : St) (k : Key) :
    (rootPhase b sp c1 c2 st).2.store.obj k =
      if keyOf sp = k ∧ (st.store.obj (keyOf sp)).root = false ∧ c2 = 'f'
      then { st.store.obj (keyOf sp) with root := true } else st.store.obj k := by
  fun_cases rootPhase b sp c1 c2 st
  all_goals
    cases ‹bCheckRoot b sp st = _›
    simp_all +zetaDelta [bSetRoot_obj, keyOf_scope]
  -- left: the root exists and the first letter forces it again, through `destroy` or `unset_root`
  split <;> split <;> simp_all [bUnsetRoot_obj, keyOf_scope] <;> exact Obj.root_eta _ ‹_›

theorem rootPhase_val (b : String) (sp : Params) (c1 c2 : Char) (st : St) :
    (rootPhase b sp c1 c2 st).1 =
      if (st.store.obj (keyOf sp)).root = true ∨ c2 = 'f' then .ok (some ())
      else if c2 = 'r' then .ok none else .error .invalidPolicy := by
  fun_cases rootPhase b sp c1 c2 st <;> cases ‹bCheckRoot b sp st = _› <;> simp_all

theorem rootPhase_same (b sp c1 c2 st k) (h : keyOf sp ≠ k) : Same k st (rootPhase b sp c1 c2 st).2 := by
  simp [Same, rootPhase_obj, h]

theorem rootPhase_eqv (b sp c1 c2 st)
    (h : (st.store.obj (keyOf sp)).root = true ∨ c2 ≠ 'f') : Eqv st (rootPhase b sp c1 c2 st).2 := by
  intro k; unfold Same; rw [rootPhase_obj]
  cases h with
  | inl h => simp [h]
  | inr h => simp [h]

theorem rootPhase_mono (b sp c1 c2 st) : Mono st (rootPhase b sp c1 c2 st).2 := by
  intro k; rw [rootPhase_obj]
  split
  · rename_i h; obtain ⟨hk, _, _⟩ := h; subst hk; simp
  · exact ⟨rfl, id⟩

/-- after a root phase that lets the check go on, the root exists -/
theorem rootPhase_root (b sp c1 c2 st u st') (h : rootPhase b sp c1 c2 st = (.ok (some u), st')) :
    (st'.store.obj (keyOf sp)).root = true := by
  have hv := rootPhase_val b sp c1 c2 st
  have ho := rootPhase_obj b sp c1 c2 st (keyOf sp)
  rw [h] at hv ho
  grind

theorem checkCore_store (b sp state c1 c2 st) :
    (checkCore b sp state c1 c2 st).2.store = (rootPhase b sp c1 c2 st).2.store := by
  fun_cases checkCore b sp state c1 c2 st <;> simp_all
  cases ‹bShow _ _ _ = _›; rfl

theorem checkOne_store (B : Backends) (sp : Params) (st : St) :
    (checkOne B sp st).2.store = st.store ∨
    ∃ b c1 c2, letters (sp.getD "check_mode" dCheckMode) = some (c1, c2) ∧
      (checkOne B sp st).2.store = (rootPhase b (checkDefaults sp) c1 c2 st).2.store := by
  fun_cases checkOne B sp st
  case case7 b _ _ _ _ c1 c2 hl =>
    exact .inr ⟨b, c1, c2, by rwa [checkMode_checkDefaults] at hl, checkCore_store ..⟩
  all_goals exact .inl rfl

theorem Same.of_store {k : Key} {a b c : St} (h : c.store = b.store) (hs : Same k a b) : Same k a c := by
  unfold Same at *; rw [h, hs]
theorem Eqv.of_store {a b c : St} (h : c.store = b.store) (hs : Eqv a b) : Eqv a c :=
  fun k => Same.of_store h (hs k)
theorem Mono.of_store {a b c : St} (h : c.store = b.store) (hs : Mono a b) : Mono a c := by
  intro k; rw [h]; exact hs k

theorem checkOne_same (B sp st k) (h : keyOf sp ≠ k) : Same k st (checkOne B sp st).2 := by
  rcases checkOne_store B sp st with h1 | ⟨b, c1, c2, _, h1⟩
  · exact Same.of_store h1 (Same.refl _ _)
  · exact Same.of_store h1 (rootPhase_same _ _ _ _ _ _ (by rwa [keyOf_checkDefaults]))

theorem checkOne_eqv (B sp st) (h : NoForceAt sp st) : Eqv st (checkOne B sp st).2 := by
  rcases checkOne_store B sp st with h1 | ⟨b, c1, c2, hl, h1⟩
  · exact Eqv.of_store h1 (Eqv.refl _)
  · refine Eqv.of_store h1 (rootPhase_eqv _ _ _ _ _ ?_)
    rw [keyOf_checkDefaults]
    cases h with
    | inl h => exact Or.inl h
    | inr h => exact Or.inr (h c1 c2 hl)

theorem checkOne_mono (B sp st) : Mono st (checkOne B sp st).2 := by
  rcases checkOne_store B sp st with h1 | ⟨b, c1, c2, _, h1⟩
  · exact Mono.of_store h1 (Mono.refl _)
  · exact Mono.of_store h1 (rootPhase_mono _ _ _ _ _)

/-! ### `check_states` -/

/-- A preorder `R` on states that every step of the loop respects relates the first state to the last; `P` is what a
step asks of the state it starts in, and is kept along `R` (`Same k`: the key is not touched; `Eqv`: `NoForceAt`). -/
theorem checkLoop_rel {R : St → St → Prop} (hr : ∀ a, R a a) (ht : ∀ {a b c}, R a b → R b c → R a c)
    {P : Params → St → Prop} (hP : ∀ {ip a b}, R a b → P ip a → P ip b) (B : Backends)
    (hf : ∀ sp st, P sp st → R st (checkOne B sp st).2) (l : List Params) (st : St) (h : ∀ sp ∈ l, P sp st) :
    R st (checkLoop B l st).2 := by
  induction l generalizing st with
  | nil => exact hr _
  | cons sp rest ih =>
    have h1 := hf sp st (h sp List.mem_cons_self)
    unfold checkLoop
    rcases hc : checkOne B sp st with ⟨e | _ | _, st1⟩ <;> rw [hc] at h1
    · exact h1
    · exact h1
    · exact ht h1 (ih st1 fun ip hip => hP h1 (h ip (List.mem_cons_of_mem _ hip)))

/-- the objects a (nested or direct) `check_states` call iterates over -/
def iterKeys (p : Params) : List Key :=
  match iterObjects p with
  | .ok l => l.map keyOf
  | .error _ => []

/-- no object of the iteration gets a root created by the check -/
def NoForce (p : Params) (st : St) : Prop :=
  ∀ l, iterObjects p = .ok l → ∀ ip ∈ l, NoForceAt ip st

theorem checkStates_same (B p st k) (h : k ∉ iterKeys p) : Same k st (checkStates B p st).2 := by
  unfold checkStates; unfold iterKeys at h
  rcases hi : iterObjects p with e | l
  · exact Same.refl _ _
  · rw [hi] at h
    exact checkLoop_rel (R := Same k) (Same.refl k) Same.trans (P := fun sp _ => keyOf sp ≠ k) (fun _ => id) B
      (checkOne_same B · · k) l st fun sp hsp e => h (e ▸ List.mem_map_of_mem hsp)

theorem checkStates_eqv (B p st) (h : NoForce p st) : Eqv st (checkStates B p st).2 := by
  unfold checkStates
  rcases hi : iterObjects p with e | l
  · exact Eqv.refl _
  · exact checkLoop_rel (R := Eqv) Eqv.refl Eqv.trans (P := NoForceAt) NoForceAt.of_eqv B (checkOne_eqv B) l st (h l hi)

theorem checkStates_mono (B p st) : Mono st (checkStates B p st).2 := by
  unfold checkStates
  rcases hi : iterObjects p with e | l
  · exact Mono.refl _
  · exact checkLoop_rel (R := Mono) Mono.refl Mono.trans (P := fun _ _ => True) (fun _ => id) B
      (fun sp st _ => checkOne_mono B sp st) l st fun _ _ => trivial

/-! ### the policy chains are the documented table -/

theorem act_table (d : Do) (b : String) (sourced : Bool) (cp : Params) (state : String) (c1 c2 : Char)
    (exist : Bool) (st : St) :
    act d b sourced cp state c1 c2 exist st
      = perform d (docAction d exist c1 c2) b sourced cp state exist st := by
  -- cell by cell: both sides are `if` chains over the one letter that counts
  cases d <;> cases exist <;>
    simp only [act, getAct, setAct, unsetAct, docAction, docLetter, Bool.not_true, Bool.not_false, Bool.true_and,
      Bool.false_and, Bool.false_eq_true, if_true, if_false, beq_iff_eq] <;>
    grind only [perform, create, remove, bCheckRoot]

theorem keyOf_unsetState (cp : Params) (v : String) : keyOf (cp.set "unset_state" v) = keyOf cp :=
  keyOf_set _ _ _ (by decide)

theorem create_same (b cp state st k) (h : keyOf cp ≠ k) : Same k st (create b cp state st) := by
  unfold create; split
  · exact bSetRoot_same _ _ _ _ h
  · exact bSet_same _ _ _ _ h

theorem remove_same (b cp state st k) (h : keyOf cp ≠ k) : Same k st (remove b cp state st) := by
  unfold remove; split
  · exact bUnsetRoot_same _ _ _ _ h
  · exact bUnset_same _ _ _ _ h

theorem perform_same (d a b sourced cp state present st k) (h : keyOf cp ≠ k) :
    Same k st (perform d a b sourced cp state present st).2 := by
  have hu : keyOf (cp.set "unset_state" state) ≠ k := by rwa [keyOf_unsetState]
  fun_cases perform d a b sourced cp state present st
  case case4 => dsimp only; split <;> rfl
  case case7 => exact remove_same _ _ _ _ _ h
  case case8 =>
    refine .trans ?_ (create_same _ _ _ _ _ hu)
    rename_i st'
    unfold st'
    split
    · rfl
    · exact remove_same _ _ _ _ _ hu
  case case9 => exact create_same _ _ _ _ _ h
  case case10 st1 hc =>
    have h1 : Same k st st1 := (congrArg (fun x : Bool × St => x.2.store.obj k) hc).symm
    exact h1.trans (create_same _ _ _ _ _ h)
  case case11 hc _ => exact (congrArg (fun x : Bool × St => x.2.store.obj k) hc).symm
  all_goals rfl

theorem perform_error (d a b sourced cp state present st e)
    (h : (perform d a b sourced cp state present st).1 = .error e) :
    (perform d a b sourced cp state present st).2.store = st.store := by
  revert h
  fun_cases perform d a b sourced cp state present st <;> simp_all
  -- left: forcing a missing state without its root; the failed `check_root` is logged, the store is as before
  exact fun _ => (congrArg (·.2.store) ‹bCheckRoot b cp st = _›).symm

/-- the three ways one object is processed by get/set/unset: skipped, failed in or right after the nested
check, or decided by the policy chain on the result of the nested check -/
theorem doOne_shape (B : Backends) (d : Do) (sp : Params) (st : St) :
    ((doOne B d sp st).2 = st ∧
      (guardSkip sp ≠ .ok false ∨ sp.truthy d.stateKey = none)) ∨
    (∃ state, guardSkip sp = .ok false ∧ sp.truthy d.stateKey = some state ∧
      ((∃ e, (doOne B d sp st).1 = .error e ∧ (doOne B d sp st).2 = (checkStates B (doParams d sp) st).2) ∨
       (∃ exist b sourced c1 c2, (checkStates B (doParams d sp) st).1 = .ok exist ∧
          backendOf B (doParams d sp) = .ok (b, sourced) ∧
          letters ((doParams d sp).getD d.modeKey "") = some (c1, c2) ∧
          doOne B d sp st = act d b sourced (doParams d sp) state c1 c2 exist
            (checkStates B (doParams d sp) st).2))) := by
  fun_cases doOne B d sp st
  case case1 e hg => exact .inl ⟨rfl, .inl (by simp [hg])⟩
  case case2 hg => exact .inl ⟨rfl, .inl (by simp [hg])⟩
  case case3 ht => exact .inl ⟨rfl, .inr ht⟩
  case case4 hg state ht _ e _ hc => exact .inr ⟨state, hg, ht, .inl ⟨e, rfl, (congrArg Prod.snd hc).symm⟩⟩
  case case5 hg state ht _ _ _ hc e _ => exact .inr ⟨state, hg, ht, .inl ⟨e, rfl, (congrArg Prod.snd hc).symm⟩⟩
  case case6 hg state ht _ _ _ hc _ _ _ _ => exact .inr ⟨state, hg, ht, .inl ⟨_, rfl, (congrArg Prod.snd hc).symm⟩⟩
  case case7 hg state ht _ _ _ hc _ _ _ _ _ _ => exact .inr ⟨state, hg, ht, .inl ⟨_, rfl, (congrArg Prod.snd hc).symm⟩⟩
  case case8 hg state ht _ exist _ hc b sourced hb _ _ c1 c2 hl =>
    exact .inr ⟨state, hg, ht, .inr ⟨exist, b, sourced, c1, c2, congrArg Prod.fst hc, hb, hl,
      congrArg (act d b sourced _ state c1 c2 exist) (congrArg Prod.snd hc).symm⟩⟩

/-- the objects one step of get/set/unset can touch: those the nested check iterates over and the one the
backend is finally called on; nothing when the object is skipped (`skip_types`, read-only image, no state) -/
def touchDo (d : Do) (sp : Params) : List Key :=
  match guardSkip sp, sp.truthy d.stateKey with
  | .ok false, some _ => iterKeys (doParams d sp) ++ [keyOf (doParams d sp)]
  | _, _ => []

theorem doOne_same (B d sp st k) (h : k ∉ touchDo d sp) : Same k st (doOne B d sp st).2 := by
  rcases doOne_shape B d sp st with ⟨h1, _⟩ | ⟨state, hg, ht, h2⟩
  · rw [h1]; exact Same.refl _ _
  · simp only [touchDo, hg, ht, List.mem_append, List.mem_singleton, not_or] at h
    have hc := checkStates_same B (doParams d sp) st k h.1
    rcases h2 with ⟨e, _, h3⟩ | ⟨exist, b, sourced, c1, c2, _, _, _, h3⟩
    · rw [h3]; exact hc
    · rw [h3, act_table]
      exact hc.trans (perform_same _ _ _ _ _ _ _ _ _ (fun e => h.2 e.symm))

/-- an exception out of one step of get/set/unset leaves every object as it was, provided the nested check
does not create a root (`NoForce`) -/
theorem doOne_error_eqv (B d sp st e) (hn : NoForce (doParams d sp) st)
    (h : (doOne B d sp st).1 = .error e) : Eqv st (doOne B d sp st).2 := by
  rcases doOne_shape B d sp st with ⟨h1, _⟩ | ⟨state, hg, ht, h2⟩
  · rw [h1]; exact Eqv.refl _
  · have hc := checkStates_eqv B (doParams d sp) st hn
    rcases h2 with ⟨e', _, h3⟩ | ⟨exist, b, sourced, c1, c2, _, _, _, h3⟩
    · rw [h3]; exact hc
    · rw [h3, act_table] at h ⊢
      exact Eqv.of_store (perform_error _ _ _ _ _ _ _ _ _ h) hc

/-! ### whole calls -/

theorem loopM_rel {R : St → St → Prop} (hr : ∀ a, R a a) (ht : ∀ {a b c}, R a b → R b c → R a c)
    (f : Params → St → Except Err Unit × St) {P : Params → Prop} (hf : ∀ sp st, P sp → R st (f sp st).2)
    (l : List Params) (st : St) (h : ∀ sp ∈ l, P sp) : R st (loopM f l st).2 := by
  induction l generalizing st with
  | nil => exact hr _
  | cons sp rest ih =>
    have h1 := hf sp st (h sp List.mem_cons_self)
    unfold loopM
    rcases hc : f sp st with ⟨e | _, st1⟩ <;> rw [hc] at h1
    · exact h1
    · exact ht h1 (ih st1 fun ip hip => h ip (List.mem_cons_of_mem _ hip))

theorem loopM_same (f : Params → St → Except Err Unit × St) (touch : Params → List Key) (k : Key)
    (hf : ∀ sp st, k ∉ touch sp → Same k st (f sp st).2) (l : List Params) (st : St)
    (h : k ∉ l.flatMap touch) : Same k st (loopM f l st).2 :=
  loopM_rel (R := Same k) (Same.refl k) Same.trans f hf l st fun sp hsp hk => h (List.mem_flatMap.2 ⟨sp, hsp, hk⟩)

/-- a raising loop stopped at one object: everything before went through, nothing after was looked at -/
theorem loopM_error_split (f : Params → St → Except Err Unit × St) (l : List Params) (st st' : St) (e : Err)
    (h : loopM f l st = (.error e, st')) :
    ∃ pre sp post st1, l = pre ++ sp :: post ∧ loopM f pre st = (.ok (), st1) ∧ f sp st1 = (.error e, st') := by
  induction l generalizing st with
  | nil => simp [loopM] at h
  | cons sp rest ih =>
    unfold loopM at h
    rcases hc : f sp st with ⟨r, st1⟩
    rw [hc] at h
    rcases r with e1 | v
    · simp only [Prod.mk.injEq, Except.error.injEq] at h
      obtain ⟨he, hs⟩ := h
      subst he; subst hs
      exact ⟨[], sp, rest, st, rfl, rfl, hc⟩
    · obtain ⟨pre, sp', post, st2, hl, hp, hf⟩ := ih st1 h
      refine ⟨sp :: pre, sp', post, st2, by simp [hl], ?_, hf⟩
      simp [loopM, hc, hp]

/-- the objects a whole `get_states` / `set_states` / `unset_states` call can touch -/
def addressedDo (d : Do) (p : Params) : List Key :=
  match iterObjects p with
  | .ok l => l.flatMap (touchDo d)
  | .error _ => []

theorem doStates_same (B d p st k) (h : k ∉ addressedDo d p) : Same k st (doStates B d p st).2 := by
  unfold doStates; unfold addressedDo at h
  rcases hi : iterObjects p with e | l
  · exact Same.refl _ _
  · rw [hi] at h
    exact loopM_same _ (touchDo d) k (doOne_same B d · · k) l st h

/-- the object one step of `check_states` can touch -/
def touchCheck (sp : Params) : List Key :=
  match guardSkip sp, sp.truthy "check_state" with
  | .ok false, some _ => [keyOf sp]
  | _, _ => []

theorem checkOne_same' (B sp st k) (h : k ∉ touchCheck sp) : Same k st (checkOne B sp st).2 := by
  unfold touchCheck at h
  split at h
  · exact checkOne_same B sp st k fun e => h (e ▸ List.mem_singleton_self _)
  · next hn =>
    fun_cases checkOne B sp st
    case case4 hg _ ht _ _ _ => exact (hn _ hg ht).elim
    case case5 hg _ ht _ _ _ _ _ => exact (hn _ hg ht).elim
    case case6 hg _ ht _ _ _ _ _ _ _ => exact (hn _ hg ht).elim
    case case7 hg _ ht _ _ _ _ _ _ _ _ _ => exact (hn _ hg ht).elim
    all_goals exact Same.refl _ _

def touchPush (sp : Params) : List Key :=
  match sp.truthy "push_state" with
  | none => []
  | some state => if roots.contains state then [] else addressedDo .set (pushParams sp state)

def touchPop (sp : Params) : List Key :=
  match sp.truthy "pop_state" with
  | none => []
  | some state =>
    if roots.contains state then []
    else addressedDo .get (popGetParams sp state) ++ addressedDo .unset (popUnsetParams sp state)

theorem pushOne_same (B sp st k) (h : k ∉ touchPush sp) : Same k st (pushOne B sp st).2 := by
  unfold touchPush at h
  fun_cases pushOne B sp st
  case case3 state ht hr => simp only [ht, if_neg hr] at h; exact doStates_same B .set _ st k h
  all_goals exact Same.refl _ _

theorem popOne_same (B sp st k) (h : k ∉ touchPop sp) : Same k st (popOne B sp st).2 := by
  unfold touchPop at h
  fun_cases popOne B sp st
  case case1 | case2 => exact Same.refl _ _
  all_goals
    rename_i state ht hr _ _ hg
    simp only [ht, if_neg hr, List.mem_append, not_or] at h
    have h1 := hg ▸ doStates_same B .get _ st k h.1
  · exact h1
  · exact h1.trans (doStates_same B .unset _ _ k h.2)

/-- the objects one public call can touch, computed from the parameters alone -/
def addressed (op : Op) (p : Params) : List Key :=
  match iterObjects p with
  | .error _ => []
  | .ok l =>
    match op with
    | .check => l.flatMap touchCheck
    | .get => l.flatMap (touchDo .get)
    | .set => l.flatMap (touchDo .set)
    | .unset => l.flatMap (touchDo .unset)
    | .push => l.flatMap touchPush
    | .pop => l.flatMap touchPop

theorem liftUnit_snd (r : Except Err Unit × St) : (liftUnit r).2 = r.2 := by
  rcases r with ⟨r, st⟩; cases r <;> rfl

theorem runOp_same (B op p st k) (h : k ∉ addressed op p) : Same k st (runOp B op p st).2 := by
  unfold addressed at h
  rcases hi : iterObjects p with e | l
  · cases op <;> simp only [runOp, checkStates, doStates, hi, liftUnit_snd] <;> exact Same.refl _ _
  · rw [hi] at h
    cases op <;> simp only [runOp, checkStates, doStates, hi, liftUnit_snd] at h ⊢
    · exact checkLoop_rel (R := Same k) (Same.refl k) Same.trans (P := fun sp _ => k ∉ touchCheck sp) (fun _ => id) B
        (checkOne_same' B · · k) l st fun sp hsp hk => h (List.mem_flatMap.2 ⟨sp, hsp, hk⟩)
    · exact loopM_same _ (touchDo .get) k (doOne_same B .get · · k) l st h
    · exact loopM_same _ (touchDo .set) k (doOne_same B .set · · k) l st h
    · exact loopM_same _ (touchDo .unset) k (doOne_same B .unset · · k) l st h
    · exact loopM_same _ touchPush k (pushOne_same B · · k) l st h
    · exact loopM_same _ touchPop k (popOne_same B · · k) l st h

theorem runSeq_same (B : Backends) (k : Key) (ops : List (Op × Params)) (st : St)
    (h : ∀ o ∈ ops, k ∉ addressed o.1 o.2) : Same k st (runSeq B ops st) := by
  induction ops generalizing st with
  | nil => exact Same.refl _ _
  | cons o rest ih =>
    obtain ⟨op, p⟩ := o
    unfold runSeq
    exact (runOp_same B op p st k (h (op, p) (by simp))).trans
      (ih _ (fun o ho => h o (by simp [ho])))

/-! ### check and get never alter ordinary states and never lose a root -/

theorem perform_get_store (a b sourced cp state present st) :
    (perform .get a b sourced cp state present st).2.store = st.store := by
  cases a <;> simp only [perform]
  split <;> rfl

theorem doOne_get_mono (B sp st) : Mono st (doOne B .get sp st).2 := by
  rcases doOne_shape B .get sp st with ⟨h1, _⟩ | ⟨state, hg, ht, h2⟩
  · rw [h1]; exact Mono.refl _
  · have hc := checkStates_mono B (doParams .get sp) st
    rcases h2 with ⟨e, _, h3⟩ | ⟨exist, b, sourced, c1, c2, _, _, _, h3⟩
    · rw [h3]; exact hc
    · rw [h3, act_table]
      exact Mono.of_store (perform_get_store _ _ _ _ _ _ _) hc

theorem doStates_get_mono (B p st) : Mono st (doStates B .get p st).2 := by
  unfold doStates
  rcases hi : iterObjects p with e | l
  · exact Mono.refl _
  · exact loopM_rel (R := Mono) Mono.refl Mono.trans _ (P := fun _ => True) (fun sp st _ => doOne_get_mono B sp st) l st
      fun _ _ => trivial

end I2N.Policy
