import I2N.Lemmas.GraphResolve
/-!
Restricted versus unrestricted copies of the resolver's graph (property C09).

A worker's restrictions enter the resolver only through `allow : String → List String`.  This file compares the
graphs for two such functions `al` (restricted) and `au` (unrestricted) with `al vm ⊆ au vm`, at the level of
*bare* nodes: (test name, per-vm variant assignment), i.e. keys with the clone labels erased.

* `Reached`, `mem_bare_workerNodes`, `mem_bareParents_workerNodes`: nodes / edges of a copy in terms of `Dep`, the
  "needs, transitively" relation the resolver walks (`GraphResolve.lean`).
* `cands_restrict`: the producers of a requirement under `al` are those under `au` whose variants `al` allows.
* `Dep_mono`, `Dep_ok`: every restricted dependency path is an unrestricted one, through allowed variants only.
* `Dep_subst`: with a universally acceptable allowed variant `σ vm` for every vm that loses a variant, every
  unrestricted path becomes a restricted one by replacing excluded variants.
* `Dep_rank`: under an acyclicity rank bounded by the fuel, fuel never runs out along a path.
* `insts_has_parent`: every producer of a slot is the parent of some clone.
-/
namespace I2N.Resolve

/-- a key without its clone labels: (test, per-vm variant assignment) -/
def Key.bare (k : Key) : Name × Asg := (k.test, k.asg)

def Inst.bare (i : Inst) : Name × Asg := i.key.bare

/-- every vm variant of the assignment is one `allow` permits -/
def asgOK (allow : String → List String) (a : Asg) : Bool := a.all (fun e => (allow e.1).contains e.2)

theorem asgOK_iff (allow : String → List String) (a : Asg) :
    asgOK allow a = true ↔ ∀ e ∈ a, e.2 ∈ allow e.1 := by
  simp [asgOK]

/-- the bare parents of the bare node `x` in a node list: the parents of all its clones, labels erased -/
def bareParents (ns : List Inst) (x : Name × Asg) : List (Name × Asg) :=
  (ns.filter (fun i => decide (i.bare = x))).flatMap (fun i => i.parents.map (fun e => e.2.2.bare))

theorem mem_bareParents (ns : List Inst) (x y : Name × Asg) :
    y ∈ bareParents ns x ↔ ∃ i ∈ ns, i.bare = x ∧ ∃ e ∈ i.parents, e.2.2.bare = y := by
  simp only [bareParents, List.mem_flatMap, List.mem_filter, decide_eq_true_eq, List.mem_map, and_assoc]

/-! ## restricting `allow` filters the producers -/

theorem asgs_restrict (al au : String → List String) (hsub : ∀ vm v, v ∈ al vm → v ∈ au vm)
    (casg : Asg) (t : Test) (vms : List String) (a : Asg) :
    a ∈ asgs al casg t vms ↔ a ∈ asgs au casg t vms ∧ ∀ e ∈ a, e.2 ∈ al e.1 := by
  simp only [mem_asgs]
  exact ⟨fun ⟨h1, h2⟩ => ⟨⟨h1, fun e he => ⟨hsub _ _ (h2 e he).1, (h2 e he).2⟩⟩, fun e he => (h2 e he).1⟩,
    fun ⟨⟨h1, h2⟩, h3⟩ => ⟨h1, fun e he => ⟨h3 e he, (h2 e he).2⟩⟩⟩

/-- **the producers of a requirement for a restricted worker are those for the unrestricted worker composed on
allowed variants only** -/
theorem cands_restrict (S : Suite) (al au : String → List String) (hsub : ∀ vm v, v ∈ al vm → v ∈ au vm)
    (casg : Asg) (s : Slot) (t : Test) (a : Asg) :
    (t, a) ∈ cands S al casg s ↔ (t, a) ∈ cands S au casg s ∧ ∀ e ∈ a, e.2 ∈ al e.1 := by
  simp only [mem_cands, asgs_restrict al au hsub, and_assoc]

theorem cands_allowed (S : Suite) (allow : String → List String) (casg : Asg) (s : Slot) (t : Test) (a : Asg)
    (h : (t, a) ∈ cands S allow casg s) : ∀ e ∈ a, e.2 ∈ allow e.1 :=
  fun e he => (((mem_asgs ..).mp ((mem_cands ..).mp h).2.2.2.2).2 e he).1

theorem leafAsgs_restrict (S : Suite) (al au : String → List String) (hsub : ∀ vm v, v ∈ al vm → v ∈ au vm)
    (t : Test) (a : Asg) :
    a ∈ leafAsgs S al t ↔ a ∈ leafAsgs S au t ∧ ∀ e ∈ a, e.2 ∈ al e.1 :=
  asgs_restrict al au hsub [] t _ a

/-- a worker that may use fewer variants selects fewer leaf nodes, never others -/
theorem leafAsgs_mono (S : Suite) (allow allow' : String → List String)
    (h : ∀ vm v, v ∈ allow' vm → v ∈ allow vm) (t : Test) (a : Asg) (ha : a ∈ leafAsgs S allow' t) :
    a ∈ leafAsgs S allow t :=
  ((leafAsgs_restrict S allow' allow h t a).mp ha).1

/-! ## instances exist, and every producer is the parent of some clone -/

theorem addSlot_pick (acc : List Inst) (s : Slot) (ps : List Inst) (i0 : Inst) (h0 : i0 ∈ acc) (p : Inst)
    (hp : p ∈ ps) : ∃ i ∈ addSlot acc s ps, i.parents = i0.parents ++ [(s.vm, s.kind, p.key)] := by
  match ps, hp with
  | [p'], hp =>
    obtain rfl := List.mem_singleton.mp hp
    exact ⟨_, (addSlot_one acc s p) ▸ List.mem_map.mpr ⟨i0, h0, rfl⟩, rfl⟩
  | p' :: q :: ps, hp =>
    exact ⟨cloneFor i0 s p, (addSlot_many acc s p' q ps) ▸
      List.mem_flatMap.mpr ⟨i0, h0, List.mem_map.mpr ⟨p, hp, rfl⟩⟩, rfl⟩

theorem addSlot_grow (acc : List Inst) (s : Slot) (ps : List Inst) (i0 : Inst) (h0 : i0 ∈ acc) :
    ∃ i ∈ addSlot acc s ps, ∀ e ∈ i0.parents, e ∈ i.parents := by
  cases ps with
  | nil => exact ⟨i0, h0, fun _ he => he⟩
  | cons p ps =>
    obtain ⟨i, hi, he⟩ := addSlot_pick acc s (p :: ps) i0 h0 p (List.mem_cons_self ..)
    exact ⟨i, hi, fun e h => he ▸ List.mem_append_left _ h⟩

/-- the converse of `foldSlots_spec`: a start instance grows into a returned one, and for every remaining slot every
producer is chosen by some returned instance -/
theorem foldSlots_pick (S : Suite) (allow : String → List String) (f : Nat) (asg : Asg) :
    ∀ (rest : List Slot) (acc : List Inst) (i0 : Inst), i0 ∈ acc →
      (∃ i ∈ foldSlots S allow f asg rest acc, ∀ e ∈ i0.parents, e ∈ i.parents) ∧
      ∀ s ∈ rest, ∀ p ∈ prods S allow f asg s,
        ∃ i ∈ foldSlots S allow f asg rest acc, (s.vm, s.kind, p.key) ∈ i.parents
  | [], _, i0, h0 => ⟨⟨i0, h0, fun _ he => he⟩, fun _ hs => nomatch hs⟩
  | s' :: rest, acc, i0, h0 => by
    obtain ⟨i1, h1, hp1⟩ := addSlot_grow acc s' (prods S allow f asg s') i0 h0
    obtain ⟨⟨i, hi, hpi⟩, hrec⟩ := foldSlots_pick S allow f asg rest _ i1 h1
    refine ⟨⟨i, hi, fun e he => hpi e (hp1 e he)⟩, fun s hs p hp => ?_⟩
    rcases List.mem_cons.mp hs with rfl | hs
    · obtain ⟨i2, h2, e2⟩ := addSlot_pick acc s _ i0 h0 p hp
      obtain ⟨⟨i, hi, hpi⟩, _⟩ := foldSlots_pick S allow f asg rest _ i2 h2
      exact ⟨i, hi, hpi _ (e2 ▸ List.mem_append_right _ (List.mem_singleton.mpr rfl))⟩
    · exact hrec s hs p hp

theorem insts_bare (S : Suite) (allow : String → List String) (f : Nat) (t : Test) (asg : Asg) (i : Inst)
    (hi : i ∈ insts S allow f t asg) : i.bare = (t.name, asg) := by
  obtain ⟨h1, h2, _⟩ := insts_key S allow f t asg i hi
  simp only [Inst.bare, Key.bare, h1, h2]

theorem exists_inst (S : Suite) (allow : String → List String) (f : Nat) (t : Test) (asg : Asg) :
    ∃ i ∈ insts S allow (f + 1) t asg, i.bare = (t.name, asg) := by
  obtain ⟨i, hi, _⟩ := (foldSlots_pick S allow f asg _ _ _ (List.mem_singleton.mpr rfl)).1
  exact ⟨i, insts_eq_fold S allow f t asg ▸ hi, insts_bare S allow _ t asg i (insts_eq_fold S allow f t asg ▸ hi)⟩

/-- every producer of a declared slot is the parent, for that slot, of one of the node's clones -/
theorem insts_has_parent (S : Suite) (allow : String → List String) (f : Nat) (t : Test) (asg : Asg) (s : Slot)
    (hs : s ∈ instSlots t asg) (p : Inst) (hp : p ∈ prods S allow f asg s) :
    ∃ i ∈ insts S allow (f + 1) t asg, (s.vm, s.kind, p.key) ∈ i.parents :=
  insts_eq_fold S allow f t asg ▸ (foldSlots_pick S allow f asg _ _ _ (List.mem_singleton.mpr rfl)).2 s hs p hp

/-! ## a worker's copy in terms of `Dep` -/

/-- the walk from a selected test, composed with one of its leaf assignments, reaches test `t'` composed with `a'`
with fuel `g` left -/
def Reached (S : Suite) (allow : String → List String) (sel : List RLine) (g : Nat) (t' : Test) (a' : Asg) : Prop :=
  ∃ t ∈ selected S sel, ∃ a ∈ leafAsgs S allow t, Dep S allow S.fuel t a g t' a'

theorem Reached.snoc {S : Suite} {allow : String → List String} {sel : List RLine} {g : Nat} {t : Test} {a : Asg}
    (h : Reached S allow sel (g + 1) t a) (s : Slot) (t1 : Test) (a1 : Asg) (hs : s ∈ instSlots t a)
    (hc : (t1, a1) ∈ cands S allow a s) : Reached S allow sel g t1 a1 := by
  obtain ⟨t0, ht0, a0, ha0, hd⟩ := h
  exact ⟨t0, ht0, a0, ha0, hd.snoc s t1 a1 hs hc⟩

theorem mem_workerNodes_dep (S : Suite) (allow : String → List String) (sel : List RLine) (i : Inst) :
    i ∈ workerNodes S allow sel ↔
      ∃ g t' a', Reached S allow sel (g + 1) t' a' ∧ i ∈ insts S allow (g + 1) t' a' := by
  simp only [mem_workerNodes, mem_reveal, mem_anc_iff, Reached]
  constructor
  · rintro ⟨t, ht, a, ha, g, t', a', hd, hi⟩; exact ⟨g, t', a', ⟨t, ht, a, ha, hd⟩, hi⟩
  · rintro ⟨g, t', a', ⟨t, ht, a, ha, hd⟩, hi⟩; exact ⟨t, ht, a, ha, g, t', a', hd, hi⟩

/-- the (test, assignment) pairs of a worker's copy: what the walk reaches with fuel left -/
theorem mem_bare_workerNodes (S : Suite) (allow : String → List String) (sel : List RLine) (x : Name × Asg) :
    x ∈ (workerNodes S allow sel).map Inst.bare ↔
      ∃ g t' a', Reached S allow sel (g + 1) t' a' ∧ x = (t'.name, a') := by
  rw [List.mem_map]
  constructor
  · rintro ⟨i, hi, rfl⟩
    obtain ⟨g, t', a', hr, hi⟩ := (mem_workerNodes_dep S allow sel i).mp hi
    exact ⟨g, t', a', hr, insts_bare S allow _ t' a' i hi⟩
  · rintro ⟨g, t', a', hr, rfl⟩
    obtain ⟨i, hi, hb⟩ := exists_inst S allow g t' a'
    exact ⟨i, (mem_workerNodes_dep S allow sel i).mpr ⟨g, t', a', hr, hi⟩, hb⟩

/-- `y` is a declared producer of `x`, reached by the walk with enough fuel to instantiate both -/
def PEdge (S : Suite) (allow : String → List String) (sel : List RLine) (x y : Name × Asg) : Prop :=
  ∃ (f : Nat) (t : Test) (a : Asg) (s : Slot) (t1 : Test) (a1 : Asg),
    Reached S allow sel (f + 2) t a ∧ x = (t.name, a) ∧ s ∈ instSlots t a ∧
    (t1, a1) ∈ cands S allow a s ∧ y = (t1.name, a1)

/-- the bare edges of a worker's copy -/
theorem mem_bareParents_workerNodes (S : Suite) (allow : String → List String) (sel : List RLine)
    (x y : Name × Asg) : y ∈ bareParents (workerNodes S allow sel) x ↔ PEdge S allow sel x y := by
  rw [mem_bareParents]
  constructor
  · rintro ⟨i, hi, hx, e, he, hy⟩
    obtain ⟨g, t, a, hr, hi⟩ := (mem_workerNodes_dep S allow sel i).mp hi
    obtain ⟨s, hs, _, _, p, hp, hpk⟩ := insts_parents_sound S allow g t a i hi e he
    obtain ⟨t1, a1, hc, hpi⟩ := mem_prods S allow g a s p hp
    cases g with
    | zero => simp [insts] at hpi
    | succ g =>
      refine ⟨g, t, a, s, t1, a1, hr, ?_, hs, hc, ?_⟩
      · rw [← hx]; exact insts_bare S allow _ t a i hi
      · rw [← hy, ← hpk]; exact insts_bare S allow _ t1 a1 p hpi
  · rintro ⟨f, t, a, s, t1, a1, hr, rfl, hs, hc, rfl⟩
    obtain ⟨p, hp, hpb⟩ := exists_inst S allow f t1 a1
    have hpp : p ∈ prods S allow (f + 1) a s := List.mem_flatMap.mpr ⟨(t1, a1), hc, hp⟩
    obtain ⟨i, hi, hpar⟩ := insts_has_parent S allow (f + 1) t a s hs p hpp
    exact ⟨i, (mem_workerNodes_dep S allow sel i).mpr ⟨f + 1, t, a, hr, hi⟩,
      insts_bare S allow _ t a i hi, _, hpar, hpb⟩

/-- the copy is closed under bare parents -/
theorem PEdge_target (S : Suite) (allow : String → List String) (sel : List RLine) (x y : Name × Asg)
    (h : PEdge S allow sel x y) : y ∈ (workerNodes S allow sel).map Inst.bare := by
  obtain ⟨f, t, a, s, t1, a1, hr, _, hs, hc, rfl⟩ := h
  exact (mem_bare_workerNodes S allow sel _).mpr ⟨f, t1, a1, hr.snoc s t1 a1 hs hc, rfl⟩

/-! ## restricted paths are unrestricted paths through allowed variants -/

theorem Dep_mono (S : Suite) (al au : String → List String) (hsub : ∀ vm v, v ∈ al vm → v ∈ au vm)
    {f : Nat} {t : Test} {a : Asg} {g : Nat} {t' : Test} {a' : Asg} (h : Dep S al f t a g t' a') :
    Dep S au f t a g t' a' := by
  induction h with
  | refl f t a => exact Dep.refl _ _ _
  | step f t a s t1 a1 g t' a' hs hc _ ih =>
    exact Dep.step _ _ _ s t1 a1 _ _ _ hs ((cands_restrict S al au hsub a s t1 a1).mp hc).1 ih

theorem Dep_ok (S : Suite) (allow : String → List String)
    {f : Nat} {t : Test} {a : Asg} {g : Nat} {t' : Test} {a' : Asg} (h : Dep S allow f t a g t' a')
    (ha : ∀ e ∈ a, e.2 ∈ allow e.1) : ∀ e ∈ a', e.2 ∈ allow e.1 := by
  induction h with
  | refl f t a => exact ha
  | step f t a s t1 a1 g t' a' hs hc _ ih => exact ih (cands_allowed S allow a s t1 a1 hc)

/-! ## substituting excluded variants -/

/-- keep an allowed variant, replace an excluded one by the chosen allowed variant of its vm -/
def subV (al : String → List String) (σ : String → String) (vm v : String) : String :=
  if v ∈ al vm then v else σ vm

def subA (al : String → List String) (σ : String → String) (a : Asg) : Asg :=
  a.map (fun e => (e.1, subV al σ e.1 e.2))

/-- for every vm that loses a variant, `σ vm` is a variant the restricted worker and every test of the suite
accept -/
def SubstOK (S : Suite) (al au : String → List String) (σ : String → String) : Prop :=
  ∀ vm, (∃ x ∈ au vm, x ∉ al vm) → ∀ t ∈ S.tests, σ vm ∈ allowedFor al t vm

theorem subA_id (al : String → List String) (σ : String → String) (a : Asg) (h : ∀ e ∈ a, e.2 ∈ al e.1) :
    subA al σ a = a := by
  have hid : ∀ e ∈ a, (e.1, subV al σ e.1 e.2) = id e := fun e he => Prod.ext rfl (if_pos (h e he))
  rw [subA, List.map_congr_left hid, List.map_id]

theorem find_subA (al : String → List String) (σ : String → String) (vm : String) (a : Asg) :
    (subA al σ a).find? (fun e => e.1 == vm) =
      (a.find? (fun e => e.1 == vm)).map (fun e => (e.1, subV al σ e.1 e.2)) := by
  rw [subA, List.find?_map]; rfl

theorem instSlots_subA (al : String → List String) (σ : String → String) (t : Test) (a : Asg) :
    instSlots t (subA al σ a) = instSlots t a := by
  cases a with
  | nil => rfl
  | cons e a => simp [instSlots, subA]

theorem asgs_subst (S : Suite) (al au : String → List String)
    (σ : String → String) (hσ : SubstOK S al au σ) (casg : Asg) (t : Test) (ht : t ∈ S.tests)
    (vms : List String) (a : Asg) (ha : a ∈ asgs au casg t vms) :
    subA al σ a ∈ asgs al (subA al σ casg) t vms := by
  rw [mem_asgs] at ha ⊢
  refine ⟨by rw [subA, List.map_map]; exact ha.1, ?_⟩
  intro e he
  obtain ⟨e0, he0, rfl⟩ := List.mem_map.mp he
  obtain ⟨hau, honly, hkeep⟩ := ha.2 e0 he0
  -- a kept variant fits as before; a replaced one is `σ`'s, which every test supports
  have hsub : subV al σ e0.1 e0.2 ∈ al e0.1 ∧ ∀ o, t.only.find? (fun x => x.1 == e0.1) = some o →
      subV al σ e0.1 e0.2 ∈ o.2 := by
    unfold subV
    split
    · exact ⟨‹_›, honly⟩
    · exact (mem_allowedFor ..).mp (hσ e0.1 ⟨e0.2, hau, ‹_›⟩ t ht)
  refine ⟨hsub.1, hsub.2, fun c hc => ?_⟩
  rw [find_subA] at hc
  obtain ⟨c0, hc0, rfl⟩ := Option.map_eq_some_iff.mp hc
  have : c0.1 = e0.1 := by simpa using List.find?_some hc0
  rw [hkeep c0 hc0, this]

theorem cands_subst (S : Suite) (al au : String → List String)
    (σ : String → String) (hσ : SubstOK S al au σ) (casg : Asg) (s : Slot) (t : Test) (a : Asg)
    (h : (t, a) ∈ cands S au casg s) : (t, subA al σ a) ∈ cands S al (subA al σ casg) s := by
  rw [mem_cands] at h ⊢
  obtain ⟨h1, h2, h3, h4, h5⟩ := h
  exact ⟨h1, h2, h3, h4, asgs_subst S al au σ hσ casg t h1 _ a h5⟩

theorem leafAsgs_subst (S : Suite) (al au : String → List String)
    (σ : String → String) (hσ : SubstOK S al au σ) (t : Test) (ht : t ∈ S.tests) (a : Asg)
    (ha : a ∈ leafAsgs S au t) : subA al σ a ∈ leafAsgs S al t :=
  asgs_subst S al au σ hσ [] t ht _ a ha

/-- every unrestricted dependency path becomes a restricted one when excluded variants are replaced -/
theorem Dep_subst (S : Suite) (al au : String → List String)
    (σ : String → String) (hσ : SubstOK S al au σ)
    {f : Nat} {t : Test} {a : Asg} {g : Nat} {t' : Test} {a' : Asg} (h : Dep S au f t a g t' a') :
    Dep S al f t (subA al σ a) g t' (subA al σ a') := by
  induction h with
  | refl f t a => exact Dep.refl _ _ _
  | step f t a s t1 a1 g t' a' hs hc _ ih =>
    refine Dep.step _ _ _ s t1 (subA al σ a1) _ _ _ ?_ (cands_subst S al au σ hσ a s t1 a1 hc) ih
    rw [instSlots_subA]; exact hs

/-! ## fuel never runs out under a bounded acyclicity rank -/

theorem Dep_rank (S : Suite) (allow : String → List String) (rk : Name → Nat) (hrk : RankOK S rk)
    {f : Nat} {t : Test} {a : Asg} {g : Nat} {t' : Test} {a' : Asg} (h : Dep S allow f t a g t' a')
    (ht : t ∈ S.tests) (hf : rk t.name < f) : t' ∈ S.tests ∧ rk t'.name < g := by
  induction h with
  | refl f t a => exact ⟨ht, hf⟩
  | step f t a s t1 a1 g t' a' hs hc _ ih =>
    have := cands_rank S allow rk hrk t ht a s hs t1 a1 hc
    exact ih ((mem_cands S allow a s t1 a1).mp hc).1 (by omega)

/-! ## nodes and edges of the restricted copy versus the unrestricted copy (abstract `al ⊆ au`) -/

theorem Reached.mono {S : Suite} {al au : String → List String} (hsub : ∀ vm v, v ∈ al vm → v ∈ au vm)
    {sel : List RLine} {g : Nat} {t : Test} {a : Asg} (h : Reached S al sel g t a) :
    Reached S au sel g t a ∧ ∀ e ∈ a, e.2 ∈ al e.1 := by
  obtain ⟨t0, ht0, a0, ha0, hd⟩ := h
  obtain ⟨ha1, ha2⟩ := (leafAsgs_restrict S al au hsub t0 a0).mp ha0
  exact ⟨⟨t0, ht0, a0, ha1, Dep_mono S al au hsub hd⟩, Dep_ok S al hd ha2⟩

theorem bare_restrict_subset (S : Suite) (al au : String → List String) (hsub : ∀ vm v, v ∈ al vm → v ∈ au vm)
    (sel : List RLine) (x : Name × Asg) (hx : x ∈ (workerNodes S al sel).map Inst.bare) :
    x ∈ (workerNodes S au sel).map Inst.bare ∧ ∀ e ∈ x.2, e.2 ∈ al e.1 := by
  obtain ⟨g, t', a', hr, rfl⟩ := (mem_bare_workerNodes S al sel x).mp hx
  exact ⟨(mem_bare_workerNodes S au sel _).mpr ⟨g, t', a', (hr.mono hsub).1, rfl⟩, (hr.mono hsub).2⟩

theorem bare_restrict_subst (S : Suite) (al au : String → List String)
    (σ : String → String) (hσ : SubstOK S al au σ) (sel : List RLine) (x : Name × Asg)
    (hx : x ∈ (workerNodes S au sel).map Inst.bare) (hok : ∀ e ∈ x.2, e.2 ∈ al e.1) :
    x ∈ (workerNodes S al sel).map Inst.bare := by
  obtain ⟨g, t', a', ⟨t, ht, a, ha, hd⟩, rfl⟩ := (mem_bare_workerNodes S au sel x).mp hx
  exact (mem_bare_workerNodes S al sel _).mpr ⟨g, t', a',
    ⟨t, ht, _, leafAsgs_subst S al au σ hσ t (selected_subset S sel t ht) a ha,
      subA_id al σ a' hok ▸ Dep_subst S al au σ hσ hd⟩, rfl⟩

theorem PEdge_mono (S : Suite) (al au : String → List String) (hsub : ∀ vm v, v ∈ al vm → v ∈ au vm)
    (sel : List RLine) (x y : Name × Asg) (h : PEdge S al sel x y) :
    PEdge S au sel x y ∧ ∀ e ∈ y.2, e.2 ∈ al e.1 := by
  obtain ⟨f, t, a, s, t1, a1, hr, hx, hs, hc, rfl⟩ := h
  obtain ⟨hc1, hc2⟩ := (cands_restrict S al au hsub a s t1 a1).mp hc
  exact ⟨⟨f, t, a, s, t1, a1, (hr.mono hsub).1, hx, hs, hc1, rfl⟩, hc2⟩

/-- test names identify the tests of the suite -/
def UniqueNames (S : Suite) : Prop := ∀ t ∈ S.tests, ∀ t' ∈ S.tests, t.name = t'.name → t = t'

/-- the acyclicity rank stays below the resolver's fuel (always achievable for an acyclic suite: the fuel is the
number of tests plus one) -/
def RankBound (S : Suite) (rk : Name → Nat) : Prop := ∀ t ∈ S.tests, rk t.name < S.fuel

theorem countP_lt {α : Type} (p q : α → Bool) (l : List α) (h : ∀ x ∈ l, p x = true → q x = true)
    (a : α) (ha : a ∈ l) (hq : q a = true) (hp : p a = false) : l.countP p < l.countP q := by
  obtain ⟨l1, l2, rfl⟩ := List.append_of_mem ha
  have h1 := List.countP_mono_left (l := l1) fun x hx => h x (List.mem_append_left _ hx)
  have h2 := List.countP_mono_left (l := l2) fun x hx =>
    h x (List.mem_append_right _ (List.mem_cons_of_mem _ hx))
  simp only [List.countP_append, List.countP_cons, hq, hp, if_true, Bool.false_eq_true, if_false]
  omega

/-- every acyclicity rank can be replaced by one below the resolver's fuel: count the tests of smaller rank -/
theorem rank_bounded (S : Suite) (rk : Name → Nat) (hrk : RankOK S rk) :
    ∃ rk', RankOK S rk' ∧ RankBound S rk' := by
  refine ⟨fun n => S.tests.countP (fun t => decide (rk t.name < rk n)), ?_, ?_⟩
  · intro t ht s hs t' ht' hg hc
    have hlt := hrk t ht s hs t' ht' hg hc
    refine countP_lt _ _ S.tests ?_ t' ht' ?_ ?_
    · intro x _ hx
      simp only [decide_eq_true_eq] at hx ⊢
      omega
    · simpa using hlt
    · simp
  · intro t _
    have := List.countP_le_length (p := fun t' : Test => decide (rk t'.name < rk t.name)) (l := S.tests)
    simp only [Suite.fuel]
    omega

theorem Reached.rank {S : Suite} {allow : String → List String} {rk : Name → Nat} (hrk : RankOK S rk)
    (hb : RankBound S rk) {sel : List RLine} {g : Nat} {t : Test} {a : Asg} (h : Reached S allow sel g t a) :
    t ∈ S.tests ∧ rk t.name < g := by
  obtain ⟨t0, ht0, a0, _, hd⟩ := h
  exact Dep_rank S allow rk hrk hd (selected_subset S sel t0 ht0) (hb t0 (selected_subset S sel t0 ht0))

theorem PEdge_restrict_back (S : Suite) (al au : String → List String) (hsub : ∀ vm v, v ∈ al vm → v ∈ au vm)
    (hun : UniqueNames S) (rk : Name → Nat) (hrk : RankOK S rk)
    (sel : List RLine) (x y : Name × Asg) (hx : x ∈ (workerNodes S al sel).map Inst.bare)
    (h : PEdge S au sel x y) (hok : ∀ e ∈ y.2, e.2 ∈ al e.1) : PEdge S al sel x y := by
  obtain ⟨rk, hrk, hb⟩ := rank_bounded S rk hrk
  obtain ⟨g, t', a', hr', rfl⟩ := (mem_bare_workerNodes S al sel x).mp hx
  obtain ⟨f, t, a, s, t1, a1, hr, hxe, hs, hc, rfl⟩ := h
  obtain ⟨htm', hrk'⟩ := hr'.rank hrk hb
  obtain ⟨hn, rfl⟩ := Prod.mk.inj hxe
  obtain rfl : t' = t := hun t' htm' t (hr.rank hrk hb).1 hn
  have hlt := cands_rank S au rk hrk t' htm' a' s hs t1 a1 hc
  obtain ⟨g', rfl⟩ : ∃ g', g = g' + 1 := ⟨g - 1, by omega⟩
  exact ⟨g', t', a', s, t1, a1, hr', rfl, hs, (cands_restrict S al au hsub a' s t1 a1).mpr ⟨hc, hok⟩, rfl⟩

/-- the least set of bare nodes containing `leaves` and closed under `par`-steps to nodes satisfying `ok` -/
inductive Needed (leaves : Name × Asg → Prop) (par : Name × Asg → Name × Asg → Prop) (ok : Asg → Prop) :
    Name × Asg → Prop
  | leaf (x : Name × Asg) : leaves x → Needed leaves par ok x
  | step (x y : Name × Asg) : Needed leaves par ok x → par x y → ok y.2 → Needed leaves par ok y

theorem Needed.imp {leaves leaves' : Name × Asg → Prop} {par par' : Name × Asg → Name × Asg → Prop}
    {ok ok' : Asg → Prop} (hl : ∀ x, leaves x → leaves' x) (hp : ∀ x y, par x y → par' x y)
    (ho : ∀ a, ok a → ok' a) {x : Name × Asg} (h : Needed leaves par ok x) : Needed leaves' par' ok' x := by
  induction h with
  | leaf x h => exact Needed.leaf x (hl x h)
  | step x y _ h1 h2 ih => exact Needed.step x y ih (hp x y h1) (ho _ h2)

/-- what of the unrestricted copy (`au`) a worker restricted to `al` still needs: start at the selected tests
composed with variants `al` allows, follow the edges of the unrestricted copy to parents on allowed variants -/
def NeededA (S : Suite) (al au : String → List String) (sel : List RLine) : Name × Asg → Prop :=
  Needed (fun x => ∃ t ∈ selected S sel, x.1 = t.name ∧ x.2 ∈ leafAsgs S au t ∧ ∀ e ∈ x.2, e.2 ∈ al e.1)
    (fun x y => y ∈ bareParents (workerNodes S au sel) x) (fun a => ∀ e ∈ a, e.2 ∈ al e.1)

theorem needed_of_dep (S : Suite) (al au : String → List String) (hsub : ∀ vm v, v ∈ al vm → v ∈ au vm)
    (sel : List RLine) {f : Nat} {t : Test} {a : Asg} {g : Nat} {t' : Test} {a' : Asg}
    (h : Dep S al f t a g t' a') (hpath : Reached S au sel f t a)
    (hn : NeededA S al au sel (t.name, a)) (hg : 1 ≤ g) : NeededA S al au sel (t'.name, a') := by
  induction h with
  | refl f t a => exact hn
  | step f t a s t1 a1 g t' a' hs hc hd ih =>
    have hle := hd.le
    obtain ⟨f', rfl⟩ : ∃ f', f = f' + 1 := ⟨f - 1, by omega⟩
    obtain ⟨hc1, hc2⟩ := (cands_restrict S al au hsub a s t1 a1).mp hc
    refine ih (hpath.snoc s t1 a1 hs hc1) ?_ hg
    refine Needed.step (t.name, a) (t1.name, a1) hn ?_ hc2
    exact (mem_bareParents_workerNodes S au sel _ _).mpr ⟨f', t, a, s, t1, a1, hpath, rfl, hs, hc1, rfl⟩

/-- every node of the restricted copy is needed in the above sense (no hypothesis on the suite) -/
theorem needed_of_bare (S : Suite) (al au : String → List String) (hsub : ∀ vm v, v ∈ al vm → v ∈ au vm)
    (sel : List RLine) (x : Name × Asg) (hx : x ∈ (workerNodes S al sel).map Inst.bare) :
    NeededA S al au sel x := by
  obtain ⟨g, t', a', ⟨t, ht, a, ha, hd⟩, rfl⟩ := (mem_bare_workerNodes S al sel x).mp hx
  have ha := (leafAsgs_restrict S al au hsub t a).mp ha
  exact needed_of_dep S al au hsub sel hd ⟨t, ht, a, ha.1, Dep.refl _ _ _⟩ (Needed.leaf _ ⟨t, ht, rfl, ha⟩)
    (by omega)

theorem bare_of_needed (S : Suite) (al au : String → List String) (hsub : ∀ vm v, v ∈ al vm → v ∈ au vm)
    (hun : UniqueNames S) (rk : Name → Nat) (hrk : RankOK S rk)
    (sel : List RLine) (x : Name × Asg) (hx : NeededA S al au sel x) :
    x ∈ (workerNodes S al sel).map Inst.bare := by
  induction hx with
  | leaf x hl =>
    obtain ⟨t, ht, hn, ha⟩ := hl
    exact (mem_bare_workerNodes S al sel x).mpr
      ⟨S.tests.length, t, x.2, ⟨t, ht, x.2, (leafAsgs_restrict S al au hsub t x.2).mpr ha, Dep.refl _ _ _⟩,
        by rw [← hn]⟩
  | step x y _ hpar hok ih =>
    have hp := (mem_bareParents_workerNodes S au sel x y).mp hpar
    exact PEdge_target S al sel x y (PEdge_restrict_back S al au hsub hun rk hrk sel x y ih hp hok)

/-- the (test, per-vm variant assignment) pairs of a worker's copy -/
def copyTests (S : Suite) (user : List (String × VLine)) (sel : List RLine) (w : Worker) : List (Name × Asg) :=
  (resolveWorker S user sel w).nodes.map (fun n => n.inst.key.bare)

/-- the parents of the bare node `x` along the edges of a worker's copy, labels erased -/
def copyParents (S : Suite) (user : List (String × VLine)) (sel : List RLine) (w : Worker) (x : Name × Asg) :
    List (Name × Asg) :=
  ((resolveWorker S user sel w).edges.filter (fun e => decide (e.child.bare = x))).map (fun e => e.parent.bare)

theorem copyTests_eq (S : Suite) (user : List (String × VLine)) (sel : List RLine) (w : Worker) :
    copyTests S user sel w = (workerNodes S (allowed S user w) sel).map Inst.bare := by
  simp only [copyTests, resolveWorker, List.map_map]
  rfl

theorem mem_copyParents (S : Suite) (user : List (String × VLine)) (sel : List RLine) (w : Worker)
    (x y : Name × Asg) :
    y ∈ copyParents S user sel w x ↔ y ∈ bareParents (workerNodes S (allowed S user w) sel) x := by
  simp only [copyParents, List.mem_map, List.mem_filter, decide_eq_true_eq, mem_bareParents]
  constructor
  · rintro ⟨e, ⟨he, hc⟩, hp⟩
    obtain ⟨_, i, hi, hk, hpar⟩ := (mem_worker_edges S user sel w e).mp he
    exact ⟨i, hi, by rw [Inst.bare, hk]; exact hc, _, hpar, hp⟩
  · rintro ⟨i, hi, hx, e, he, hy⟩
    exact ⟨⟨w.name, i.key, e.1, e.2.1, e.2.2⟩,
      ⟨(mem_worker_edges S user sel w _).mpr ⟨rfl, i, hi, rfl, he⟩, hx⟩, hy⟩

theorem allowed_sublist (S : Suite) (user : List (String × VLine)) (w v : Worker) (hv : v.restr = [])
    (vm : String) : (allowed S user w vm).Sublist (allowed S user v vm) := by
  simp only [allowed, hv, List.filter_nil, List.foldl_nil]
  exact foldl_applyV_sublist _ _

theorem allowed_sub (S : Suite) (user : List (String × VLine)) (w v : Worker) (hv : v.restr = []) :
    ∀ vm x, x ∈ allowed S user w vm → x ∈ allowed S user v vm :=
  fun vm _ hx => (allowed_sublist S user w v hv vm).subset hx

theorem lookupD_nil (l : List (String × List String)) (k : String) (h : k ∉ l.map Prod.fst) :
    lookupD l k [] = [] := by
  rw [lookupD, List.find?_eq_none.mpr fun e he hek => h (List.mem_map.mpr ⟨e, he, eq_of_beq hek⟩)]

/-- a vm the suite does not define has no variants for any worker -/
theorem allowed_nil (S : Suite) (user : List (String × VLine)) (w : Worker) (vm : String)
    (h : vm ∉ S.variants.map Prod.fst) : allowed S user w vm = [] := by
  simp only [allowed, lookupD_nil S.variants vm h]
  have h1 := List.sublist_nil.mp (foldl_applyV_sublist (user.filter (fun e => e.1 == vm)) [])
  rw [h1]
  exact List.sublist_nil.mp (foldl_applyV_sublist _ [])

/-! ## suites for the counterexamples and non-vacuity examples of C09 -/
namespace RDemo
open Demo

/-- only the tests listed under `leaves` -/
def selLeaves : List RLine := [{ neg := false, alts := [[["leaves"]]] }]

/-- a two-vm leaf that needs the one-vm creation test on its first vm -/
def tPair : Test :=
  ⟨["quick", "p"], ["vm1", "vm2"], false, [["all"], ["leaves"]], [⟨"vm1", "images", ["install"], "install", ""⟩], []⟩

/-- the same leaf supporting only variant `X` of vm2 -/
def tPairX : Test := { tPair with only := [("vm2", ["X"])] }

/-- cx1: the restriction leaves no variant of vm2 -/
def cx1 : Suite := ⟨[("vm1", ["A"]), ("vm2", ["X"])], "vm1", [tInstall, tPair]⟩
/-- cx2: vm2 keeps variant `Y`, but the only dependant supports `X` alone -/
def cx2 : Suite := ⟨[("vm1", ["A"]), ("vm2", ["X", "Y"])], "vm1", [tInstall, tPairX]⟩

def free : Worker := ⟨"net1", []⟩
def noX : Worker := ⟨"net2", [("vm2", (true, ["X"]))]⟩

/-- cx3 / labels: `d` on vm1 needs `m`, which is composed on vm1 and every variant of vm2 (two producers for an
unrestricted worker: `d` is cloned); `m` needs `install` on vm1 -/
def tM : Test :=
  ⟨["internal", "m"], ["vm1", "vm2"], false, [["all"]], [⟨"vm1", "images", ["install"], "install", "mst"⟩], []⟩
def tD1 : Test :=
  ⟨["quick", "d"], ["vm1"], false, [["all"], ["leaves"]], [⟨"vm1", "images", ["m"], "", ""⟩], []⟩
def cx3 : Suite := ⟨[("vm1", ["A"]), ("vm2", ["X", "Y"])], "vm1", [tInstall, tM, tD1]⟩
def onlyX : Worker := ⟨"net2", [("vm2", (false, ["X"]))]⟩
def noXY : Worker := ⟨"net3", [("vm2", (true, ["X", "Y"]))]⟩
def rk3 (n : Name) : Nat :=
  if n == ["original", "install"] then 0 else if n == ["internal", "m"] then 1 else 2

/-- the demo suite's worker restricted to variant `A` of vm1 -/
def onlyA : Worker := ⟨"net2", [("vm1", (false, ["A"]))]⟩

end RDemo

end I2N.Resolve
