import I2N.Lemmas.TravGlobalN
/-!
Object roots in the single-worker termination theorem (property C02).

`Lemmas/TravGlobal.lean` excludes object roots (`noRootsB`): the bookkeeping invariant `Basic` says nothing about the result
list of an object root (`tagsBelow`/`tagsOnce` are stated for the other nodes), and a creation pre-step works on a COPY of the
root's results (`preResults`).  This file adds what is missing for ONE worker:

* `RN`: `tagsBelow` and `tagsOnce` for object roots;
* `R3`: while the worker is inside the pre-step of root `n` with placeholder tag `t`,
  `preResults = results n ++ [placeholder t]` and every tag of `results n` is below `t`
  (nobody else touches the root: there is no other worker);
* hence a failed (or never reported) pre-step appends exactly one result to the root, and the settlement of a test proper at
  a root keeps the length of its result list (`stepR`);
* the potential `24·(number of results) + qR(pc)` with `qR(pre … wait) = 12 + wait`, `qR(test … wait) = wait`,
  `qR(loop) = 11`, `qR(done) = qR(failed) = 23` grows with every step that does not find the worker over.
-/
namespace I2N.Trav.GlobalR
open I2N.Trav I2N.Trav.Global I2N.Trav.GlobalN

theorem notPh_eq (tag : Nat) : (fun r : Result => !(r.status == "UNKNOWN" && r.tag == tag)) = (fun r => !isPh tag r) := rfl

theorem isPh_false_of_tag_ne {t : Nat} {r : Result} (h : r.tag ≠ t) : isPh t r = false := by
  unfold isPh
  have : (r.tag == t) = false := by simpa using h
  rw [this]; simp

theorem filter_settle_pre (l : List Result) (nm : String) (tag : Nat) (res : Result) (hl : ∀ r ∈ l, r.tag < tag)
    (hres : res.tag = 0) (ht : 1 ≤ tag) :
    ((l ++ [phOf nm tag]) ++ [res]).filter (fun r => !(r.status == "UNKNOWN" && r.tag == tag)) = l ++ [res] := by
  rw [notPh_eq, List.filter_append, List.filter_append]
  have h1 : l.filter (fun r => !isPh tag r) = l := by
    rw [List.filter_eq_self]
    intro r hr
    rw [isPh_false_of_tag_ne (by have := hl r hr; omega)]; rfl
  have h2 : [phOf nm tag].filter (fun r => !isPh tag r) = [] := by
    have : isPh tag (phOf nm tag) = true := by rw [isPh_phOf]; simp
    simp [this]
  have h3 : [res].filter (fun r => !isPh tag r) = [res] := by
    have : isPh tag res = false := isPh_res_false res tag hres ht
    simp [this]
  rw [h1, h2, h3, List.append_nil]

/-- `tagsBelow` and `tagsOnce` for object roots -/
structure RN (g : Graph) (s : State) : Prop where
  below : ∀ m, (g.node m).objectRoot = true → ∀ r ∈ (s.nd m).results, r.tag < s.nextTag
  once : ∀ m t, (g.node m).objectRoot = true → 1 ≤ t → ((s.nd m).results.filter (isPh t)).length ≤ 1

/-- worker `w` inside a creation pre-step works on `results ++ [placeholder]` and the placeholder's tag is new to the root -/
def R3 (w : Nat) (s : State) : Prop :=
  ∀ n dir uid tag wait, (s.wd w).pc = .test n .pre dir uid tag wait →
    (s.wd w).preResults = (s.nd n).results ++ [phOf (s.wd w).preName tag] ∧ ∀ r ∈ (s.nd n).results, r.tag < tag

theorem RN.of_eq {g : Graph} {s s' : State} (r : RN g s) (hn : ∀ m, (s'.nd m).results = (s.nd m).results)
    (ht : s.nextTag ≤ s'.nextTag) : RN g s' :=
  ⟨fun m hm x hx => by rw [hn] at hx; exact Nat.lt_of_lt_of_le (r.below m hm x hx) ht,
   fun m t hm h1 => by rw [hn]; exact r.once m t hm h1⟩

theorem RN.silent {g : Graph} {w : Nat} {s s' : State} (r : RN g s) (a : Silent g w s s') : RN g s' :=
  r.of_eq a.results (by rw [a.tag]; exact Nat.le_refl _)

theorem RN.sameBook {g : Graph} {s s' : State} (r : RN g s) (h : SameBook s s') : RN g s' :=
  r.of_eq (fun m => by rw [h.nd]) (by rw [h.2.2]; exact Nat.le_refl _)

theorem R3.sameBook {w : Nat} {s s' : State} (r : R3 w s) (h : SameBook s s') : R3 w s' := by
  intro n dir uid tag wait hpc
  rw [h.wd] at hpc ⊢
  rw [h.nd]
  exact r n dir uid tag wait hpc

/-- one result `x` is appended to some result lists; `x` is no placeholder of a tag that occurs there already -/
theorem RN.append {g : Graph} {s s' : State} (r : RN g s) (x : Result)
    (hres : ∀ m, (s'.nd m).results = (s.nd m).results ∨
      ((s'.nd m).results = (s.nd m).results ++ [x] ∧
        ((g.node m).objectRoot = true → ∀ t, 1 ≤ t → isPh t x = true → (s.nd m).results.filter (isPh t) = [])))
    (ht : s.nextTag ≤ s'.nextTag) (hx : x.tag < s'.nextTag) : RN g s' := by
  refine ⟨fun m hm y hy => ?_, fun m t hm h1 => ?_⟩
  · rcases hres m with h | ⟨h, _⟩
    · rw [h] at hy; exact Nat.lt_of_lt_of_le (r.below m hm y hy) ht
    · rw [h] at hy
      rcases List.mem_append.mp hy with hy | hy
      · exact Nat.lt_of_lt_of_le (r.below m hm y hy) ht
      · rw [List.mem_singleton.mp hy]; exact hx
  · rcases hres m with h | ⟨h, hf⟩
    · rw [h]; exact r.once m t hm h1
    · rw [h, List.filter_append, List.length_append]
      by_cases hxt : isPh t x = true
      · rw [hf hm t h1 hxt]
        simp only [List.length_nil, Nat.zero_add]
        exact List.length_filter_le _ _
      · have : [x].filter (isPh t) = [] := by simp [hxt]
        rw [this]
        simp only [List.length_nil, Nat.add_zero]
        exact r.once m t hm h1

/-- the placeholder of a test proper is replaced by the result -/
theorem RN.settle {g : Graph} {s : State} (r : RN g s) (n : Nat) (res : Result) (tag : Nat) (hres : res.tag = 0)
    (hpos : 1 ≤ s.nextTag) : RN g (settleNd s n res tag) := by
  unfold settleNd
  refine ⟨fun m hm y hy => ?_, fun m t hm h1 => ?_⟩
  · rcases nd_setNd_cases s n (fun d => { d with results := (d.results ++ [res]).filter (fun r => !(r.status == "UNKNOWN" && r.tag == tag)) }) m with h | ⟨_, _, h⟩
    · rw [h] at hy; exact r.below m hm y hy
    · rw [h] at hy
      rcases List.mem_append.mp (List.mem_filter.mp hy).1 with hy | hy
      · exact r.below m hm y hy
      · rw [List.mem_singleton.mp hy, hres]; exact hpos
  · rcases nd_setNd_cases s n (fun d => { d with results := (d.results ++ [res]).filter (fun r => !(r.status == "UNKNOWN" && r.tag == tag)) }) m with h | ⟨_, _, h⟩
    · rw [h]; exact r.once m t hm h1
    · rw [h]
      refine Nat.le_trans (filter_filter_length_le _ _ _) ?_
      rw [List.filter_append, List.length_append]
      have : [res].filter (isPh t) = [] := by
        have : isPh t res = false := isPh_res_false res t hres h1
        simp [this]
      rw [this]
      simp only [List.length_nil, Nat.add_zero]
      exact r.once m t hm h1

def qR : Pc → Nat
  | .test _ .pre _ _ _ wait => 12 + wait
  | .test _ _ _ _ _ wait => wait
  | .loop => 11
  | .bounce => 11
  | .done => 23
  | .failed => 23

/-- how the loop part of a step ends, `T` = the number of results when it begins: nothing is started, or a test proper is
started (one placeholder appended), or a creation pre-step is started (on a copy) -/
def Tail (g : Graph) (w : Nat) (T : Nat) (s' : State) : Prop :=
  (total g s' = T ∧ (s'.wd w).pc.isTest = false) ∨ (total g s' = T + 1 ∧ qR (s'.wd w).pc = 0) ∨
    (total g s' = T ∧ qR (s'.wd w).pc = 12)

theorem startNonPre_R {g : Graph} {s : State} (r : RN g s) (n w : Nat) (ph : Phase) (dir : Dir) (hph : ph ≠ .pre)
    (hn : n < g.nodes.length) (hlen : s.nodes.length = g.nodes.length) (hw : w < s.workers.length) :
    RN g (startTest g s n w ph dir).1 ∧ R3 w (startTest g s n w ph dir).1 ∧
      total g (startTest g s n w ph dir).1 = total g s + 1 ∧ qR ((startTest g s n w ph dir).1.wd w).pc = 0 := by
  have hpc := startTest_pc g s n w ph dir hw
  obtain ⟨a1, a2⟩ := startTest_nonpre_len g s n w ph dir hph (by rw [hlen]; exact hn)
  refine ⟨?_, ?_, total_succ hn a1 a2, ?_⟩
  · rw [startTest_nonpre_fst g s n w ph dir hph]
    refine r.append (phOf (g.node n).name s.nextTag) (fun m => ?_) (Nat.le_succ _) (Nat.lt_succ_self _)
    rw [nd_setWd]
    rcases nd_setNd_cases ({ s with nextTag := s.nextTag + 1 }) n
      (fun d => { d with results := d.results ++ [phOf (g.node n).name s.nextTag] }) m with h | ⟨_, _, h⟩
    · left; rw [h]; rfl
    · right
      rw [h]
      refine ⟨rfl, fun hm t _ hx => ?_⟩
      rw [isPh_phOf] at hx
      have : t = s.nextTag := (by simpa using hx : s.nextTag = t).symm
      rw [this]
      exact filter_isPh_nil _ _ (r.below m hm)
  · intro n' dir' uid' tag' wait' e
    rw [hpc] at e
    cases ph
    · cases e
    · exact absurd rfl hph
    · cases e
  · rw [hpc]
    cases ph
    · rfl
    · exact absurd rfl hph
    · rfl

theorem startPre_R {g : Graph} {s : State} (r : RN g s) (n w : Nat) (dir : Dir) (hroot : (g.node n).objectRoot = true)
    (hw : w < s.workers.length) (hpre : (s.wd w).preResults = (s.nd n).results) :
    RN g (startTest g s n w .pre dir).1 ∧ R3 w (startTest g s n w .pre dir).1 ∧
      total g (startTest g s n w .pre dir).1 = total g s ∧ qR ((startTest g s n w .pre dir).1.wd w).pc = 12 := by
  rw [startTest_pre_fst]
  have hwd := wd_setWd_eq ({ s with nextTag := s.nextTag + 1 }) w (fun d => { d with
        preResults := d.preResults ++ [phOf (s.wd w).preName s.nextTag],
        pc := .test n .pre dir (uidOf "0" (s.wd w).preResults.length) s.nextTag 0 }) hw
  refine ⟨r.of_eq (fun m => rfl) (Nat.le_succ _), ?_, total_congr (fun m => rfl), by rw [hwd]; rfl⟩
  intro n' dir' uid' tag' wait' e
  rw [hwd] at e ⊢
  cases e
  exact ⟨congrArg (· ++ _) hpre, r.below n hroot⟩

theorem startFrom_R {g : Graph} {w : Nat} {s1 s' : State} (r : RN g s1) (h : StartFrom g w s1 s')
    (hlen : s1.nodes.length = g.nodes.length) (hw : w < s1.workers.length) :
    RN g s' ∧ R3 w s' ∧
      ((total g s' = total g s1 + 1 ∧ qR (s'.wd w).pc = 0) ∨ (total g s' = total g s1 ∧ qR (s'.wd w).pc = 12)) := by
  cases h with
  | plain n dir s0 evs gv hgv hn hroot hdec e =>
    rw [e]
    obtain ⟨a, b, c, d⟩ := startNonPre_R r n w .plain dir (by decide) hn hlen hw
    exact ⟨a, b, Or.inl ⟨c, d⟩⟩
  | pre n dir hn hroot e =>
    rw [e]
    obtain ⟨a, b, c, d⟩ := startPre_R
      (s := s1.setWd w (fun d => { d with preResults := (s1.nd n).results, preName := preNameOf g n w }))
      (r.of_eq (fun m => rfl) (Nat.le_refl _)) n w dir hroot (by rw [workers_length_setWd]; exact hw)
      (by rw [wd_setWd_eq s1 w _ hw]; rfl)
    exact ⟨a, b, Or.inr ⟨c, d⟩⟩

theorem tail_R {g : Graph} {w : Nat} {sd s' : State} (r : RN g sd) (hlen : sd.nodes.length = g.nodes.length)
    (hw : w < sd.workers.length)
    (h : (Silent g w sd s' ∧ (s'.wd w).pc.isTest = false) ∨ ∃ s1, Silent g w sd s1 ∧ StartFrom g w s1 s') :
    RN g s' ∧ R3 w s' ∧ Tail g w (total g sd) s' := by
  rcases h with ⟨a, hp⟩ | ⟨s1, a, hs⟩
  · refine ⟨r.silent a, ?_, Or.inl ⟨total_congr a.results, hp⟩⟩
    intro n dir uid tag wait e
    rw [e] at hp; cases hp
  · obtain ⟨x1, x2, x3⟩ := startFrom_R (r.silent a) hs (by rw [a.nodesLen]; exact hlen) (by rw [a.workersLen]; exact hw)
    refine ⟨x1, x2, ?_⟩
    rw [total_congr a.results] at x3
    rcases x3 with x3 | x3
    · exact Or.inr (Or.inl x3)
    · exact Or.inr (Or.inr x3)

theorem total_settleR {g : Graph} {s : State} {w n : Nat} {ph : Phase} {dir : Dir} {uid : String} {tag wait : Nat}
    (b : Basic g s All) (r : RN g s) (hpc : (s.wd w).pc = .test n ph dir uid tag wait) (hph : ph ≠ .pre)
    (res : Result) (hres : res.tag = 0) : total g (settleNd s n res tag) = total g s := by
  have ht := (b.pcOK w n ph dir uid tag wait trivial hpc).2.1
  refine total_settle_of_once b hpc hph res hres ?_
  cases hroot : (g.node n).objectRoot
  · exact b.tagsOnce n tag hroot ht
  · exact r.once n tag hroot ht

theorem appendRoot_R {g : Graph} {s s' : State} (r : RN g s) (n : Nat) (x : Result) (hn : n < g.nodes.length)
    (hne : ∀ m, m ≠ n → (s'.nd m).results = (s.nd m).results) (heq : (s'.nd n).results = (s.nd n).results ++ [x])
    (ht : s'.nextTag = s.nextTag)
    (hfresh : ∀ t, 1 ≤ t → isPh t x = true → (s.nd n).results.filter (isPh t) = []) (hx : x.tag < s.nextTag) :
    RN g s' ∧ total g s' = total g s + 1 := by
  refine ⟨r.append x (fun m => ?_) (by rw [ht]; exact Nat.le_refl _) (by rw [ht]; exact hx),
    total_succ hn (by rw [heq]; simp) (fun j hj => by rw [hne j hj])⟩
  by_cases hm : m = n
  · right
    subst hm
    exact ⟨heq, fun _ => hfresh⟩
  · left; exact hne m hm

/-- the failed (or never reported) creation pre-step is filed at the root: `appendPre` when the copy is `results ++ [x]` -/
theorem appendPre_R {g : Graph} {sc : State} (rc : RN g sc) (n w : Nat) (x : Result) (hn : n < g.nodes.length)
    (hlen : sc.nodes.length = g.nodes.length) (hpre : (sc.wd w).preResults = (sc.nd n).results ++ [x])
    (hfresh : ∀ t, 1 ≤ t → isPh t x = true → (sc.nd n).results.filter (isPh t) = []) (hx : x.tag < sc.nextTag) :
    RN g (appendPre sc n w) ∧ total g (appendPre sc n w) = total g sc + 1 := by
  refine appendRoot_R rc n x hn (fun m hm => ?_) ?_ rfl hfresh hx
  · unfold appendPre; rw [nd_setNd_ne sc n m _ hm]
  · unfold appendPre
    rw [nd_setNd_eq sc n _ (by rw [hlen]; exact hn)]
    show (sc.nd n).results ++ List.drop (sc.nd n).results.length (sc.wd w).preResults = _
    rw [hpre, List.drop_left]

/-- the shape of a step of worker `w` on a graph with object roots, provided nobody else touches the roots `w` works on
(`R3`) -/
def ShapeR (g : Graph) (w : Nat) (s s' : State) : Prop :=
  ((s.wd w).pc.isTest = false ∧ Tail g w (total g s) s') ∨
  ((s.wd w).pc.isTest = true ∧ total g s' = total g s ∧ qR (s'.wd w).pc = qR (s.wd w).pc + 1) ∨
  ((∃ n ph dir uid tag wait, (s.wd w).pc = .test n ph dir uid tag wait ∧ ph ≠ .pre) ∧ Tail g w (total g s) s') ∨
  ((∃ n dir uid tag wait, (s.wd w).pc = .test n .pre dir uid tag wait) ∧
    ((total g s' = total g s + 1 ∧ qR (s'.wd w).pc = 0) ∨ Tail g w (total g s + 1) s'))

theorem root_of_pre {g : Graph} {n : Nat} {ph : Phase} (h : (g.node n).objectRoot = false ↔ ph = .plain) (hp : ph = .pre) :
    (g.node n).objectRoot = true := by
  cases hc : (g.node n).objectRoot
  · have := h.mp hc; rw [hp] at this; cases this
  · rfl

theorem contEff_R {g : Graph} {w n : Nat} {ph : Phase} {dir : Dir} {sc s' : State} {ok : Bool} (rc : RN g sc)
    (hn : n < g.nodes.length) (hlen : sc.nodes.length = g.nodes.length) (hw : w < sc.workers.length)
    (hc : ContEff g w n ph dir sc ok s')
    (hpre : ph = .pre → ∃ x, (sc.wd w).preResults = (sc.nd n).results ++ [x] ∧
      (∀ t, 1 ≤ t → isPh t x = true → (sc.nd n).results.filter (isPh t) = []) ∧ x.tag < sc.nextTag) :
    RN g s' ∧ R3 w s' ∧
      ((ph ≠ .pre ∧ Tail g w (total g sc) s') ∨
        (ph = .pre ∧ ((total g s' = total g sc + 1 ∧ qR (s'.wd w).pc = 0) ∨ Tail g w (total g sc + 1) s'))) := by
  rcases hc with ⟨hp, _, e⟩ | ⟨_, hrest⟩
  · obtain ⟨x1, x2, x3, x4⟩ := startNonPre_R rc n w .main dir (by decide) hn hlen hw
    rw [← e] at x1 x2 x3 x4
    exact ⟨x1, x2, Or.inr ⟨hp, Or.inl ⟨x3, x4⟩⟩⟩
  · by_cases hph : ph = .pre
    · obtain ⟨x, hx1, hx2, hx3⟩ := hpre hph
      rw [if_pos hph] at hrest
      obtain ⟨y1, y2⟩ := appendPre_R rc n w x hn hlen hx1 hx2 hx3
      obtain ⟨x1, x2, x3⟩ := tail_R y1 (by unfold appendPre; rw [nodes_length_setNd]; exact hlen)
        (by unfold appendPre; exact hw) hrest
      rw [y2] at x3
      exact ⟨x1, x2, Or.inr ⟨hph, Or.inr x3⟩⟩
    · rw [if_neg hph] at hrest
      obtain ⟨x1, x2, x3⟩ := tail_R rc hlen hw hrest
      exact ⟨x1, x2, Or.inl ⟨hph, x3⟩⟩

theorem stepR (g : Graph) (hwf : GraphWF g) (s : State) (b : Basic g s All) (w : Nat) (r : RN g s) (r3 : R3 w s)
    (hw : w < g.workers.length) (out : Outcome) (fuel : Nat) (hf : 0 < fuel) :
    RN g (resume g s w out fuel).1 ∧ R3 w (resume g s w out fuel).1 ∧ ShapeR g w s (resume g s w out fuel).1 := by
  have hws : w < s.workers.length := by rw [b.workersLen]; exact hw
  rcases resume_eff g hwf s w out fuel hf hws (b.paths w) with ⟨hnt, h⟩ | ⟨n, ph, dir, uid, tag, wait, hpc, sa, hrep, h⟩
  · obtain ⟨x1, x2, x3⟩ := tail_R r b.nodesLen hws h
    exact ⟨x1, x2, Or.inl ⟨hnt, x3⟩⟩
  · have hok := b.pcOK w n ph dir uid tag wait trivial hpc
    have hsb : SameBook s sa := by
      rcases hrep with ⟨h, _⟩ | ⟨_, _, _, h, _⟩
      · rw [h]; exact ⟨rfl, rfl, rfl⟩
      · exact h
    have ba : Basic g sa All := b.sameBook hsb
    have ra : RN g sa := r.sameBook hsb
    have r3a : R3 w sa := r3.sameBook hsb
    have hpca : (sa.wd w).pc = .test n ph dir uid tag wait := by rw [hsb.wd]; exact hpc
    have hta : total g sa = total g s := total_congr (fun m => by rw [hsb.nd])
    have hwa : w < sa.workers.length := by rw [ba.workersLen]; exact hw
    generalize hs' : (resume g s w out fuel).1 = s' at h ⊢
    -- the continuation from a state `sc` with as many results as `s`
    have cont : ∀ sc {ok}, RN g sc → sc.nodes.length = g.nodes.length → w < sc.workers.length → total g sc = total g s →
        ContEff g w n ph dir sc ok s' →
        (ph = .pre → ∃ x, (sc.wd w).preResults = (sc.nd n).results ++ [x] ∧
          (∀ t, 1 ≤ t → isPh t x = true → (sc.nd n).results.filter (isPh t) = []) ∧ x.tag < sc.nextTag) →
        RN g s' ∧ R3 w s' ∧ ShapeR g w s s' := by
      intro sc ok rc hlen hwc htc hc hpre
      obtain ⟨x1, x2, x3⟩ := contEff_R rc hok.1 hlen hwc hc hpre
      rw [htc] at x3
      refine ⟨x1, x2, Or.inr (Or.inr ?_)⟩
      rcases x3 with ⟨hph, x3⟩ | ⟨hph, x3⟩
      · exact Or.inl ⟨⟨n, ph, dir, uid, tag, wait, hpc, hph⟩, x3⟩
      · subst hph
        exact Or.inr ⟨⟨n, dir, uid, tag, wait, hpc⟩, x3⟩
    rcases h with ⟨e, _, sb, res, ok, hsab, _, ⟨hres, _⟩, hc⟩ | ⟨_, h | hc⟩
    · -- the result has arrived and is settled: on the creation copy, or at the node
      have bb : Basic g sb All := ba.sameBook hsab
      have rb : RN g sb := ra.sameBook hsab
      have hpcb : (sb.wd w).pc = .test n ph dir uid tag wait := by rw [hsab.wd]; exact hpca
      have htb : total g sb = total g s := (total_congr (fun m => by rw [hsab.nd])).trans hta
      have hwb : w < sb.workers.length := by rw [bb.workersLen]; exact hw
      by_cases hph : ph = .pre
      · subst hph
        rw [if_pos rfl] at hc
        obtain ⟨p1, p2⟩ := (r3a.sameBook hsab) n dir uid tag wait hpcb
        refine cont (I2N.Trav.settlePre sb w res tag) (rb.of_eq (fun m => rfl) (Nat.le_refl _)) bb.nodesLen
          (by unfold I2N.Trav.settlePre; rw [workers_length_setWd]; exact hwb) ((total_congr (fun m => rfl)).trans htb) hc
          (fun _ => ⟨res, ?_, fun t h1 hx => (by rw [isPh_res_false res t hres h1] at hx; cases hx),
            (by rw [hres]; exact bb.tagPos)⟩)
        unfold I2N.Trav.settlePre
        rw [wd_setWd_eq sb w _ hwb]
        show ((sb.wd w).preResults ++ [res]).filter _ = _
        rw [p1]
        exact filter_settle_pre _ _ tag res p2 hres hok.2.1
      · rw [if_neg hph] at hc
        exact cont _ (rb.settle n res tag hres bb.tagPos) (by unfold settleNd; rw [nodes_length_setNd]; exact bb.nodesLen)
          (by unfold settleNd; exact hwb) ((total_settleR bb rb hpcb hph res hres).trans htb) hc (fun h => absurd h hph)
    · -- a tick of the result wait
      have hwd := wd_setWd_eq sa w (fun d => { d with pc := .test n ph dir uid tag (wait + 1) }) hwa
      refine ⟨?_, ?_, Or.inr (Or.inl ⟨by rw [hpc]; rfl, ?_, ?_⟩)⟩
      · rw [h]; exact ra.of_eq (fun m => rfl) (Nat.le_refl _)
      · rw [h]
        intro n' dir' uid' tag' wait' e
        rw [hwd] at e ⊢
        cases e
        exact r3a n dir uid tag wait hpca
      · rw [h]; exact (total_congr (fun m => rfl)).trans hta
      · rw [h, hwd, hpc]
        cases ph <;> rfl
    · -- the result never arrived: the placeholder of a creation pre-step is filed at the root
      refine cont sa ra ba.nodesLen hwa hta hc (fun hph => ?_)
      subst hph
      obtain ⟨p1, p2⟩ := r3a n dir uid tag wait hpca
      refine ⟨phOf (sa.wd w).preName tag, p1, fun t h1 hx => ?_, (ba.pcOK w n .pre dir uid tag wait trivial hpca).2.2.1⟩
      rw [isPh_phOf] at hx
      have : t = tag := (by simpa using hx : tag = t).symm
      rw [this]; exact filter_isPh_nil _ _ p2

structure RInv (g : Graph) (s : State) : Prop where
  rn : RN g s
  r3 : R3 0 s

theorem rinv_init (g : Graph) (ncls : Nat) (store : List (String × List (String × String))) :
    RInv g (initState g ncls store []) := by
  have hnd : ∀ m, ((initState g ncls store []).nd m).results = [] := by
    intro m
    unfold initState State.nd
    simp only [List.getD_eq_getElem?_getD, List.getElem?_map]
    cases g.nodes[m]? <;> rfl
  refine ⟨⟨fun m _ r hr => (by rw [hnd] at hr; cases hr), fun m t _ _ => (by rw [hnd]; simp)⟩, ?_⟩
  intro n dir uid tag wait e
  rw [init_pc] at e; cases e

def cntR (g : Graph) (s : State) : Nat := 24 * total g s + qR (s.wd 0).pc

theorem qR_test_le {pc : Pc} (h : ∀ n ph dir uid tag wait, pc = .test n ph dir uid tag wait → wait ≤ 10)
    (ht : pc.isTest = true) : qR pc ≤ 22 := by
  cases pc with
  | test n ph dir uid tag wait =>
    have := h n ph dir uid tag wait rfl
    cases ph
    · exact Nat.le_trans this (by decide)
    · exact Nat.add_le_add_left this 12
    · exact Nat.le_trans this (by decide)
  | _ => cases ht

theorem qR_loop {pc : Pc} (h1 : pc.isTest = false) (h2 : isOver pc = false) : qR pc = 11 := by
  cases pc <;> first | rfl | (cases h1; done) | cases h2

/-- **every step that does not end the traversal raises the counter** (object roots allowed) -/
theorem resume_cntR (g : Graph) (hwf : GraphWF g) (s : State) (b : Basic g s All) (ri : RInv g s)
    (hw0 : 0 < g.workers.length) (out : Outcome) (fuel : Nat) (hf : 0 < fuel)
    (hwait : ∀ n ph dir uid tag wait, (s.wd 0).pc = .test n ph dir uid tag wait → wait ≤ 10)
    (hT : ((resume g s 0 out fuel).1.wd 0).pc.isTest = true) :
    RInv g (resume g s 0 out fuel).1 ∧ cntR g s < cntR g (resume g s 0 out fuel).1 := by
  obtain ⟨x1, x2, x3⟩ := stepR g hwf s b 0 ri.rn ri.r3 hw0 out fuel hf
  refine ⟨⟨x1, x2⟩, ?_⟩
  by_cases hov : isOver (s.wd 0).pc = true
  · exfalso
    rw [resume_overN g s 0 out fuel hov] at hT
    cases hpc : (s.wd 0).pc <;> rw [hpc] at hov hT <;> first | (cases hov; done) | cases hT
  · have hov' : isOver (s.wd 0).pc = false := by simpa using hov
    unfold cntR
    generalize (resume g s 0 out fuel).1 = s' at hT x3 ⊢
    -- a loop part that ends in a test: a test proper was started (24 more) or a creation pre-step (weight 12)
    have tail : ∀ {T}, Tail g 0 T s' → 24 * T + 12 ≤ 24 * total g s' + qR (s'.wd 0).pc := by
      intro T ht
      rcases ht with ⟨_, h2⟩ | ⟨h1, h2⟩ | ⟨h1, h2⟩
      · rw [hT] at h2; cases h2
      · rw [h1, h2, Nat.mul_succ]; exact Nat.add_le_add_left (by decide) _
      · rw [h1, h2]; exact Nat.le_refl _
    rcases x3 with ⟨hnt, ht⟩ | ⟨hit, h1, h2⟩ | ⟨⟨n, ph, dir, uid, tag, wait, hpc, hph⟩, ht⟩ | ⟨⟨n, dir, uid, tag, wait, hpc⟩, ht⟩
    · rw [qR_loop hnt hov']
      exact lt_cnt (by decide : 11 < 12) (tail ht)
    · rw [h1, h2]; exact Nat.lt_succ_self _
    · have ha : qR (s.wd 0).pc ≤ 10 := by
        have := hwait n ph dir uid tag wait hpc
        rw [hpc]
        cases ph
        · exact this
        · exact absurd rfl hph
        · exact this
      exact lt_cnt (Nat.lt_succ_of_le (Nat.le_trans ha (by decide : 10 ≤ 11))) (tail ht)
    · have ha : qR (s.wd 0).pc ≤ 22 := qR_test_le hwait (by rw [hpc]; rfl)
      rcases ht with ⟨h1, h2⟩ | ht
      · rw [h1, Nat.mul_succ]
        exact lt_cnt (Nat.lt_succ_of_le (Nat.le_trans ha (by decide : 22 ≤ 23))) (Nat.le_add_right _ _)
      · have := tail ht
        rw [Nat.mul_succ, Nat.add_assoc] at this
        exact lt_cnt (Nat.lt_succ_of_le (Nat.le_trans ha (by decide : 22 ≤ 35))) this

/-- every node lies in a class covered by a budget theorem of C03, object roots included: stateless class without roots and
uniform `max_tries`; setup class without roots (`statefulClass`); or setup class that may contain object roots, with
`max_tries ≤ 1` (`statefulClassRoots`); for setup classes `max_concurrent_tries` is unset or within `max(max_tries, 1)` -/
def classesOKRB (g : Graph) : Bool :=
  (List.range g.nodes.length).all (fun n =>
    statelessClass g (g.node n).cls (g.node n).maxTries ||
    ((statefulClass g (g.node n).cls (g.node n).maxTries (g.node n).shape ||
        statefulClassRoots g (g.node n).cls (g.node n).maxTries (g.node n).shape) &&
      mctWithin g (g.node n).cls (g.node n).maxTries))

theorem total_le_resultBoundR {g : Graph} (hwf : graphWF g = true) (hcl : classesOKRB g = true) {ncls : Nat}
    {store : List (String × List (String × String))} {s : State} (hR : ReachableR g ncls store s) (hnb : NoBump s) :
    total g s ≤ resultBound g := by
  refine sum_map_le _ _ _ (fun n hn => results_le_of_class hwf hR hnb (List.mem_range.mp hn) ?_)
  unfold classesOKRB at hcl
  rw [List.all_eq_true] at hcl
  have hc := hcl n hn
  rw [Bool.or_eq_true, Bool.and_eq_true, Bool.or_eq_true] at hc
  exact hc.imp id (fun h => ⟨_, h.1.elim statefulClass_spec (fun h' => (statefulClassRoots_spec h').1), h.2⟩)

/-- **termination across suspensions for one worker, object roots allowed**: after any `24·resultBound g + 23` steps the
worker is done or dead -/
theorem run_overR {g : Graph} {ncls : Nat} (st : Static g ncls) (hcl : classesOKRB g = true)
    (store : List (String × List (String × String)))
    (steps : List (Outcome × Nat)) (hfuel : ∀ x ∈ steps, Term.bound g ≤ x.2)
    (hlen : 24 * resultBound g + 23 ≤ steps.length) :
    isOver ((runSteps g (initState g ncls store []) steps).wd 0).pc = true := by
  have hw : 0 < g.workers.length := by rw [st.one]; exact Nat.one_pos
  have hwf := GraphWF.of_bool st.wf
  refine resumes_end (I := fun s => GInv g ncls store s ∧ RInv g s) (fun s out fuel h hf => ?_) steps _
    ⟨ginv_init st store, rinv_init g ncls store⟩ hfuel (cntR g) (fun s out fuel h hf hno => ?_)
    (24 * resultBound g + 22) (fun s h hno => ?_) hlen
  · obtain ⟨x1, x2, _⟩ := stepR g hwf s (h.1.reachP.reachableR.basic st.wf) 0 h.2.rn h.2.r3 hw out fuel
      (Nat.lt_of_lt_of_le (bound_pos g) hf)
    exact ⟨(ginv_step st h.1 out fuel hf).1, x1, x2⟩
  · exact (resume_cntR g hwf s (h.1.reachP.reachableR.basic st.wf) h.2 hw out fuel (Nat.lt_of_lt_of_le (bound_pos g) hf)
      h.1.wait (isTest_of_final (ginv_step st h.1 out fuel hf).2 hno)).2
  · have h1 := total_le_resultBoundR st.wf hcl h.1.reachP.reachableR h.1.reachP.noBump
    have h2 : qR (s.wd 0).pc ≤ 22 := by
      by_cases ht : (s.wd 0).pc.isTest = true
      · exact qR_test_le h.1.wait ht
      · rw [qR_loop (by simpa using ht) hno]; decide
    unfold cntR
    omega

end I2N.Trav.GlobalR

