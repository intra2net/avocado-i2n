import I2N.Lemmas.ToolsFlags
import I2N.Lemmas.Walk
/-!
The bound of `reachWithin`: whatever is reachable along the cleanup edges is reachable within `|nodes|` steps
(a longer walk repeats a node and can be cut short; pigeonhole).  This discharges the gap of
`clean_flags_exact_partial` (C15).
-/
namespace I2N.Tools

theorem steps_iff {g : UGraph} {k a c : Nat} :
    Steps g k a c ↔ StepsR (fun a b => b ∈ (g.node a).children) k a c := by
  constructor <;> intro h <;> induction h with
  | zero a => exact .zero a
  | succ hb _ ih => exact .succ hb ih

/-- only a node of the graph has children -/
theorem children_lt {g : UGraph} {a b : Nat} (hb : b ∈ (g.node a).children) : a < g.nodes.length := by
  refine Nat.lt_of_not_le fun h => ?_
  have : (g.node a).children = [] := by
    simp [UGraph.node, List.getD, List.getElem?_eq_none h]
  rw [this] at hb
  cases hb

/-- **every walk can be cut to at most `|nodes|` steps** -/
theorem Steps.bounded {g : UGraph} : ∀ (j : Nat) {c m : Nat}, Steps g j c m →
    ∃ j', j' ≤ g.nodes.length ∧ Steps g j' c m := by
  intro j
  induction j using Nat.strong_induction_on with
  | _ j ih =>
    intro c m h
    rcases Nat.lt_or_ge g.nodes.length j with hj | hj
    · -- a longer walk passes twice through a node: leave out the loop
      obtain ⟨a, b, d, y, hk, h1, _, h3⟩ := (steps_iff.mp h).repeats (fun _ _ => children_lt) hj
      exact ih (a + d) (by omega) (steps_iff.mpr (h1.trans h3))
    · exact ⟨j, hj, h⟩

/-- reachability along cleanup edges, any number of steps -/
def Reach (g : UGraph) (c m : Nat) : Prop := ∃ j, Steps g j c m

theorem reach_iff_within (g : UGraph) (c m : Nat) :
    Reach g c m ↔ ∃ j, j ≤ g.nodes.length ∧ Steps g j c m :=
  ⟨fun ⟨j, h⟩ => Steps.bounded j h, fun ⟨j, _, h⟩ => ⟨j, h⟩⟩

end I2N.Tools
