import I2N.Lemmas.TravResults
import I2N.Lemmas.TravEval
/-!
The "inverse DFS" invariants of the traversal model behind C01 (a test starts only after this worker traversed all
its parents) and C05 (a state is removed only after the clean decision saw every involved worker cleanup-ready).

A relation `Upd g H0 w s s'` describes what a piece of a step of worker `w` may do to the marks `finished`, to the
`dropped*` registers, to `hidden` and to the worker records; it is reflexive and transitive, every move of a step
(`TravMoves.lean`) satisfies it, and the invariant `Trv` is preserved along it.  Most operations touch nothing of that
(`Passive`, which also serves the cleanup invariant of `TravClean.lean`).  The events of a step are described next to it
(`EvOk`): an `unset` request stems from a positive clean decision, a `start` from a setup-ready node.

`H0` is the set of nodes hidden initially (lazy expansion); `visH g hid` is the graph as visible with `hid` hidden.
-/
namespace I2N.Trav

/-! ## the graph visible with a given hidden set -/

/-- the graph as parsed when exactly the nodes `hid` are not parsed yet (`vis` reads the `hidden` field only) -/
def visH (g : Graph) (hid : List Nat) : Graph :=
  vis g { nodes := [], regs := [], workers := [], store := [], hidden := hid }

theorem vis_eq_visH (g : Graph) (s : State) : vis g s = visH g s.hidden := rfl

theorem visH_nil (g : Graph) : visH g [] = g := rfl

theorem sameNodes_visH (g : Graph) (hid : List Nat) : SameNodes (visH g hid) g := sameNodes_vis g _

theorem GraphWF.visH {g : Graph} (h : GraphWF g) (hid : List Nat) : GraphWF (visH g hid) := h.vis _

theorem visH_setup_sub (g : Graph) (hid : List Nat) (n : Nat) (p : Nat × List String)
    (h : p ∈ ((visH g hid).node n).setup) : p ∈ (g.node n).setup := by
  obtain ⟨su, cl, hn, hsu, _⟩ := vis_node g { nodes := [], regs := [], workers := [], store := [], hidden := hid } n
  unfold visH at h
  rw [hn] at h
  exact hsu p h

theorem visH_cleanup_sub (g : Graph) (hid : List Nat) (n : Nat) (p : Nat × List String)
    (h : p ∈ ((visH g hid).node n).cleanup) : p ∈ (g.node n).cleanup := by
  obtain ⟨su, cl, hn, _, hcl⟩ := vis_node g { nodes := [], regs := [], workers := [], store := [], hidden := hid } n
  unfold visH at h
  rw [hn] at h
  exact hcl p h

theorem clsName_sameNodes {gv g : Graph} (h : SameNodes gv g) (n : Nat) (ph : Phase) : clsName gv n ph = clsName g n ph := by
  unfold clsName; rw [h.cls]

/-! ## pieces of a step that the invariants do not see -/

/-- a piece of a step of worker `w` that none of the invariants sees: the registers, the records of the other workers, path
and pc of `w`, the number of nodes and the `finished` marks stay and nothing gets hidden; results, locations, `started`
marks, the store, the job results, the tag counter and the rest of `w`'s record may change, hidden nodes may be revealed -/
structure Passive (w : Nat) (s s' : State) : Prop where
  regs : s'.regs = s.regs
  workersLen : s'.workers.length = s.workers.length
  others : ∀ v, v ≠ w → s'.wd v = s.wd v
  path : (s'.wd w).path = (s.wd w).path
  pc : (s'.wd w).pc = (s.wd w).pc
  hidden : ∀ h ∈ s'.hidden, h ∈ s.hidden
  nodesLen : s'.nodes.length = s.nodes.length
  fin : ∀ i, (s'.nd i).finished = (s.nd i).finished

theorem Passive.refl (w : Nat) (s : State) : Passive w s s := ⟨rfl, rfl, fun _ _ => rfl, rfl, rfl, fun _ h => h, rfl, fun _ => rfl⟩

theorem Passive.trans {w : Nat} {s s1 s2 : State} (a : Passive w s s1) (b : Passive w s1 s2) : Passive w s s2 :=
  ⟨b.regs.trans a.regs, b.workersLen.trans a.workersLen, fun v hv => (b.others v hv).trans (a.others v hv),
    b.path.trans a.path, b.pc.trans a.pc, fun h hh => a.hidden h (b.hidden h hh), b.nodesLen.trans a.nodesLen,
    fun i => (b.fin i).trans (a.fin i)⟩

theorem Passive.ite {w : Nat} {s a b : State} {c : Prop} [Decidable c] (ha : Passive w s a) (hb : Passive w s b) :
    Passive w s (if c then a else b) := by
  split
  · exact ha
  · exact hb

theorem Passive.cr {w : Nat} {s s' : State} (a : Passive w s s') (c : Nat) : s'.cr c = s.cr c := by unfold State.cr; rw [a.regs]

theorem Passive.of_eq {w : Nat} {s s' : State} (hn : s'.nodes = s.nodes) (hr : s'.regs = s.regs) (hw : s'.workers = s.workers)
    (hh : s'.hidden = s.hidden) : Passive w s s' :=
  have hwd : ∀ v, s'.wd v = s.wd v := fun v => by unfold State.wd; rw [hw]
  ⟨hr, by rw [hw], fun v _ => hwd v, by rw [hwd], by rw [hwd], fun _ h => hh ▸ h, by rw [hn],
    fun i => by unfold State.nd; rw [hn]⟩

theorem passive_setNd (w : Nat) (s : State) (m : Nat) (f : NodeD → NodeD) (hf : ∀ d, (f d).finished = d.finished) :
    Passive w s (s.setNd m f) :=
  ⟨rfl, rfl, fun _ _ => rfl, rfl, rfl, fun _ h => h, nodes_length_setNd s m f, nd_setNd_proj (·.finished) s m f hf⟩

theorem passive_setWd (w : Nat) (s : State) (f : WorkerD → WorkerD) (hp : ∀ d, (f d).path = d.path)
    (hpc : ∀ d, (f d).pc = d.pc) : Passive w s (s.setWd w f) := by
  refine ⟨rfl, workers_length_setWd s w f, fun v hv => wd_setWd_ne s w v f hv, ?_, ?_, fun _ h => h, rfl, fun _ => rfl⟩
  · rcases wd_setWd_cases s w f with ⟨h, _⟩ | ⟨_, h⟩
    · rw [h]
    · rw [h, hp]
  · rcases wd_setWd_cases s w f with ⟨h, _⟩ | ⟨_, h⟩
    · rw [h]
    · rw [h, hpc]

theorem passive_runDecision (w : Nat) (g : Graph) (s : State) (n v : Nat) (b : Bool) (s1 : State) (e1 : List Event)
    (h : runDecision g s n v = .ok (b, s1, e1)) : Passive w s s1 := by
  rcases runDecision_state g s n v b s1 e1 h with h | h
  · rw [h]; exact Passive.refl w s
  · rw [h]; exact passive_setNd w s n _ (fun _ => rfl)

theorem passive_pullLocations (w : Nat) (g : Graph) (s : State) (n : Nat) : Passive w s (pullLocations g s n) := by
  obtain ⟨l, h⟩ := pullLocations_setNd g s n
  rw [h]
  exact passive_setNd w s n _ (fun _ => rfl)

theorem passive_reveal (w : Nat) (g : Graph) (s : State) (f v : Nat) : Passive w s (reveal g s f v) := by
  fun_cases reveal g s f v with
  | case1 => exact .of_eq rfl rfl rfl rfl
  | case2 => exact ⟨rfl, rfl, fun _ _ => rfl, rfl, rfl, fun _ h => (List.mem_filter.mp h).1, rfl, fun _ => rfl⟩

theorem passive_prepare (g : Graph) (s : State) (w : Nat) : Passive w s (prepare g s w) := by
  fun_cases prepare g s w with
  | case1 => exact Passive.refl w s
  | case2 gv next hl unexp s1 =>
    have h0 : Passive w s s1 := passive_setWd w s _ (fun _ => rfl) (fun _ => rfl)
    exact h0.trans (passive_reveal w g s1 next w)
  | case3 => exact passive_setWd w s _ (fun _ => rfl) (fun _ => rfl)

/-- the one request `sync_states` sends, if any: `unset` of the states queued for removal, restricted to the own pool, or
`get`; either is addressed to the pool of the worker the copy was parsed for (`netOf`; the acting worker's own pool when
the copy is its own) -/
theorem syncStates_spec (g : Graph) (s : State) (n v : Nat) (rv : Option (List String)) :
    (∀ w, Passive w s (syncStates g s n v rv).1) ∧ ∀ e ∈ (syncStates g s n v rv).2, (syncAcc (g.node n) rv).1 = true ∧
      (((syncAcc (g.node n) rv).2.1 = "unset" ∧
          e = .door (g.worker (g.netOf n v)).id "unset" (syncAcc (g.node n) rv).2.2.1 ["own"] true) ∨
       ((syncAcc (g.node n) rv).2.1 ≠ "unset" ∧
          e = .door (g.worker (g.netOf n v)).id "get" (syncAcc (g.node n) rv).2.2.2.1 (g.node n).scope true)) := by
  fun_cases syncStates g s n v rv with
  | case1 => exact ⟨fun w => Passive.refl w s, fun _ he => (nomatch he)⟩
  | case2 nd acc h wid hu =>
    refine ⟨fun _ => .of_eq rfl rfl rfl rfl, fun e he => ?_⟩
    rw [List.mem_singleton.mp he]
    exact ⟨by simpa using h, Or.inl ⟨by simpa using hu, rfl⟩⟩
  | case3 nd acc h wid hu =>
    refine ⟨fun _ => .of_eq rfl rfl rfl rfl, fun e he => ?_⟩
    rw [List.mem_singleton.mp he]
    exact ⟨by simpa using h, Or.inr ⟨by simpa using hu, rfl⟩⟩

theorem reverseNode_spec (g : Graph) (s : State) (n w : Nat) (s' : State) (evs : List Event)
    (h : reverseNode g s n w = .ok (s', evs)) :
    Passive w s s' ∧ (evs = [] ∨
      (cleanDecision g (s.setNd n (fun d => { d with started := some w })) n w = .ok true ∧
        evs = (syncStates g (s.setNd n (fun d => { d with started := some w })) n w none).2)) := by
  rcases reverseNode_eq_ok h with ⟨_, hs, rfl⟩ | ⟨_, clean, s2, hd, hsync, rfl⟩
  · rw [hs]; exact ⟨Passive.refl w s, Or.inl rfl⟩
  · have h0 : Passive w s (s.setNd n (fun d => { d with started := some w })) := passive_setNd w s n _ (fun _ => rfl)
    split at hsync
    · next hc =>
      obtain ⟨rfl, rfl⟩ : (syncStates g (s.setNd n (fun d => { d with started := some w })) n w none).1 = s2 ∧
          (syncStates g (s.setNd n (fun d => { d with started := some w })) n w none).2 = evs := by
        rw [hsync]; exact ⟨rfl, rfl⟩
      rw [Bool.and_eq_true] at hc
      exact ⟨h0.trans (((syncStates_spec g _ n w none).1 w).trans (passive_setNd w _ n _ (fun _ => rfl))),
        Or.inr ⟨hc.1 ▸ hd, rfl⟩⟩
    · cases hsync
      exact ⟨h0.trans (passive_setNd w _ n _ (fun _ => rfl)), Or.inl rfl⟩

/-! ## the relation `Upd` -/

/-- every node on worker `v`'s path is a node of the graph that `v` has to care about -/
def PathOk (g : Graph) (v : Nat) (s : State) : Prop :=
  ∀ x ∈ (s.wd v).path, x < g.nodes.length ∧ relevant g v x = true

/-- worker `v` has a traversed node of class `c`: a node of that class it has to care about, and if the node is a
parsed copy it carries `v`'s own `finished` mark -/
def Wit (g : Graph) (s : State) (v c : Nat) : Prop :=
  ∃ p, p < g.nodes.length ∧ (g.node p).cls = c ∧ relevant g v p = true ∧
    ((g.node p).flat = false → (s.nd p).finished = some v)

/-- node `n` is `v`'s own parsed copy and was setup-ready for `v` on the graph visible with `hid` hidden, where `hid`
lies between what is hidden now and what was hidden initially -/
def ReadyAt (g : Graph) (H0 : List Nat) (s : State) (v n : Nat) : Prop :=
  n < g.nodes.length ∧ g.idIn v n = true ∧ (g.node n).flat = false ∧
    ∃ hid, (∀ h ∈ s.hidden, h ∈ hid) ∧ (∀ h ∈ hid, h ∈ H0) ∧ isSetupReady (visH g hid) s n v = true

/-- a worker that awaits a test awaits it on a node that was setup-ready when the test was started -/
def PcOk (g : Graph) (H0 : List Nat) (v : Nat) (s : State) : Prop :=
  ∀ n ph dir uid tag wait, (s.wd v).pc = .test n ph dir uid tag wait → ReadyAt g H0 s v n

/-- the `droppedSetup` registers only grow -/
def MonoS (s s' : State) : Prop :=
  ∀ c c' u, u ∈ regWorkers (s.cr c).droppedSetup (some c') → u ∈ regWorkers (s'.cr c).droppedSetup (some c')

theorem isSetupReady_mono (g : Graph) (s s' : State) (n v : Nat) (hm : MonoS s s')
    (h : isSetupReady g s n v = true) : isSetupReady g s' n v = true := by
  rw [setup_ready_iff'] at h ⊢
  exact fun p hp hrel => hm _ _ _ (h p hp hrel)

theorem ReadyAt.mono {g : Graph} {H0 : List Nat} {s s' : State} {v n : Nat} (h : ReadyAt g H0 s v n)
    (hh : ∀ x ∈ s'.hidden, x ∈ s.hidden) (hm : MonoS s s') : ReadyAt g H0 s' v n := by
  obtain ⟨h1, h2, h3, hid, h4, h5, h6⟩ := h
  exact ⟨h1, h2, h3, hid, fun x hx => h4 x (hh x hx), h5, isSetupReady_mono _ s s' n v hm h6⟩

/-- what a piece of a step of worker `w` may do: a `finished` mark stays or becomes `w`'s own on a node `w` cares for; a new
registration in a `dropped*` register is `w`'s, for a class of which `w` has a traversed node (`Wit`, in the new state);
nothing gets hidden; the records of the other workers stay; `w`'s path stays within the nodes it cares for; its pc stays,
or leaves the tests, or is a test on a node that was setup-ready -/
structure Upd (g : Graph) (H0 : List Nat) (w : Nat) (s s' : State) : Prop where
  nodesLen : s'.nodes.length = s.nodes.length
  hidden : ∀ h ∈ s'.hidden, h ∈ s.hidden
  fin : ∀ i, (s'.nd i).finished = (s.nd i).finished ∨
    (i < g.nodes.length ∧ relevant g w i = true ∧ (s'.nd i).finished = some w)
  dropS : ∀ c c' v, v ∈ regWorkers (s'.cr c).droppedSetup (some c') →
    v ∈ regWorkers (s.cr c).droppedSetup (some c') ∨ (v = w ∧ Wit g s' w c')
  dropC : ∀ c c' v, v ∈ regWorkers (s'.cr c).droppedCleanup (some c') →
    v ∈ regWorkers (s.cr c).droppedCleanup (some c') ∨ (v = w ∧ Wit g s' w c')
  monoS : MonoS s s'
  others : ∀ v, v ≠ w → s'.wd v = s.wd v
  path : PathOk g w s → PathOk g w s'
  pc : (s'.wd w).pc = (s.wd w).pc ∨ (s'.wd w).pc.isTest = false ∨ PcOk g H0 w s'

theorem Upd.refl (g : Graph) (H0 : List Nat) (w : Nat) (s : State) : Upd g H0 w s s :=
  ⟨rfl, fun _ h => h, fun _ => Or.inl rfl, fun _ _ _ h => Or.inl h, fun _ _ _ h => Or.inl h, fun _ _ _ h => h,
    fun _ _ => rfl, fun h => h, Or.inl rfl⟩

/-- `w`'s own mark on a node survives whatever `w` does -/
theorem Upd.keepFin {g : Graph} {H0 : List Nat} {w : Nat} {s s' : State} (a : Upd g H0 w s s') (p : Nat)
    (h : (s.nd p).finished = some w) : (s'.nd p).finished = some w := by
  rcases a.fin p with h' | ⟨_, _, h'⟩
  · rw [h', h]
  · exact h'

theorem Upd.keepWit {g : Graph} {H0 : List Nat} {w : Nat} {s s' : State} (a : Upd g H0 w s s') {c : Nat}
    (h : Wit g s w c) : Wit g s' w c := by
  obtain ⟨p, h1, h2, h3, h4⟩ := h
  exact ⟨p, h1, h2, h3, fun hf => a.keepFin p (h4 hf)⟩

theorem PcOk.keep {g : Graph} {H0 : List Nat} {v : Nat} {s s' : State} (h : PcOk g H0 v s)
    (hpc : (s'.wd v).pc = (s.wd v).pc) (hh : ∀ x ∈ s'.hidden, x ∈ s.hidden) (hm : MonoS s s') : PcOk g H0 v s' := by
  intro n ph dir uid tag wait hp
  rw [hpc] at hp
  exact (h n ph dir uid tag wait hp).mono hh hm

theorem PcOk.of_nonTest {g : Graph} {H0 : List Nat} {v : Nat} {s : State} (h : (s.wd v).pc.isTest = false) :
    PcOk g H0 v s := by
  intro n ph dir uid tag wait hp
  rw [hp] at h; simp [Pc.isTest] at h

theorem Upd.trans {g : Graph} {H0 : List Nat} {w : Nat} {s s1 s2 : State} (a : Upd g H0 w s s1) (b : Upd g H0 w s1 s2) :
    Upd g H0 w s s2 where
  nodesLen := b.nodesLen.trans a.nodesLen
  hidden := fun h hh => a.hidden h (b.hidden h hh)
  fin := fun i => by
    rcases b.fin i with h | h
    · rcases a.fin i with h' | ⟨h1, h2, h3⟩
      · exact Or.inl (h.trans h')
      · exact Or.inr ⟨h1, h2, h.trans h3⟩
    · exact Or.inr h
  dropS := fun c c' v hv => by
    rcases b.dropS c c' v hv with h | h
    · rcases a.dropS c c' v h with h' | ⟨h1, h2⟩
      · exact Or.inl h'
      · exact Or.inr ⟨h1, b.keepWit h2⟩
    · exact Or.inr h
  dropC := fun c c' v hv => by
    rcases b.dropC c c' v hv with h | h
    · rcases a.dropC c c' v h with h' | ⟨h1, h2⟩
      · exact Or.inl h'
      · exact Or.inr ⟨h1, b.keepWit h2⟩
    · exact Or.inr h
  monoS := fun c c' u h => b.monoS c c' u (a.monoS c c' u h)
  others := fun v hv => (b.others v hv).trans (a.others v hv)
  path := fun h => b.path (a.path h)
  pc := by
    rcases b.pc with h | h | h
    · rcases a.pc with h' | h' | h'
      · exact Or.inl (h.trans h')
      · right; left; rw [h]; exact h'
      · right; right; exact h'.keep h b.hidden b.monoS
    · exact Or.inr (Or.inl h)
    · exact Or.inr (Or.inr h)

theorem Passive.upd {g : Graph} {H0 : List Nat} {w : Nat} {s s' : State} (a : Passive w s s') : Upd g H0 w s s' :=
  ⟨a.nodesLen, a.hidden, fun i => Or.inl (a.fin i), fun c c' v h => Or.inl (by rw [← a.cr c]; exact h),
    fun c c' v h => Or.inl (by rw [← a.cr c]; exact h), fun c c' u h => by rw [a.cr c]; exact h,
    a.others, fun h => by unfold PathOk; rw [a.path]; exact h, Or.inl a.pc⟩

theorem upd_setNd (g : Graph) (H0 : List Nat) (w : Nat) (s : State) (m : Nat) (f : NodeD → NodeD)
    (hf : ∀ d, (f d).finished = d.finished) : Upd g H0 w s (s.setNd m f) :=
  (passive_setNd w s m f hf).upd

theorem upd_setWd (g : Graph) (H0 : List Nat) (w : Nat) (s : State) (f : WorkerD → WorkerD)
    (hpath : ∀ d, (∀ x ∈ d.path, x < g.nodes.length ∧ relevant g w x = true) →
      ∀ x ∈ (f d).path, x < g.nodes.length ∧ relevant g w x = true)
    (hpc : ∀ d, (f d).pc = d.pc ∨ (f d).pc.isTest = false ∨
      ∀ n ph dir uid tag wait, (f d).pc = .test n ph dir uid tag wait → ReadyAt g H0 s w n) :
    Upd g H0 w s (s.setWd w f) := by
  refine ⟨rfl, fun _ h => h, fun _ => Or.inl rfl, fun _ _ _ h => Or.inl h, fun _ _ _ h => Or.inl h, fun _ _ _ h => h,
    fun v hv => wd_setWd_ne s w v f hv, ?_, ?_⟩
  · intro hp
    unfold PathOk
    rcases wd_setWd_cases s w f with ⟨h, _⟩ | ⟨_, h⟩
    · rw [h]; exact hp
    · rw [h]; exact hpath _ hp
  · rcases wd_setWd_cases s w f with ⟨h, _⟩ | ⟨_, h⟩
    · exact Or.inl (by rw [h])
    · rw [h]
      refine (hpc (s.wd w)).imp id (Or.imp id fun hr n ph dir uid tag wait hp => ?_)
      rw [h] at hp
      exact (hr n ph dir uid tag wait hp).mono (fun _ hh => hh) (fun _ _ _ hh => hh)

theorem upd_popPath (g : Graph) (H0 : List Nat) (w : Nat) (s : State) : Upd g H0 w s (popPath s w) :=
  upd_setWd g H0 w s _ (fun _ h x hx => h x (List.dropLast_subset _ hx)) (fun _ => Or.inl rfl)

theorem upd_pushPath (g : Graph) (H0 : List Nat) (w : Nat) (s : State) (m : Nat) (hm : m < g.nodes.length)
    (hr : relevant g w m = true) : Upd g H0 w s (pushPath s w m) :=
  upd_setWd g H0 w s _ (fun _ h x hx => by
    rcases List.mem_append.mp hx with hx | hx
    · exact h x hx
    · rw [List.mem_singleton.mp hx]; exact ⟨hm, hr⟩) (fun _ => Or.inl rfl)

theorem upd_setPc (g : Graph) (H0 : List Nat) (w : Nat) (s : State) (pc : Pc) (h : pc.isTest = false) :
    Upd g H0 w s (s.setWd w (fun d => { d with pc := pc })) :=
  upd_setWd g H0 w s _ (fun _ hp => hp) (fun _ => Or.inr (Or.inl h))

theorem upd_finishTraverse (g : Graph) (H0 : List Nat) (w : Nat) (s : State) (n : Nat) (hn : n < g.nodes.length)
    (hr : relevant g w n = true) : Upd g H0 w s (finishTraverse s n w) := by
  refine ⟨nodes_length_setNd s n _, fun _ h => h, fun i => ?_, fun _ _ _ h => Or.inl h, fun _ _ _ h => Or.inl h,
    fun _ _ _ h => h, fun _ _ => rfl, fun h => h, Or.inl rfl⟩
  unfold finishTraverse
  rcases nd_setNd_cases s n (fun d => { d with finished := some w, started := none }) i with h | ⟨h1, _, h2⟩
  · exact Or.inl (by rw [h])
  · exact Or.inr ⟨h1 ▸ hn, h1 ▸ hr, by rw [h2]⟩

theorem upd_setCr (g : Graph) (H0 : List Nat) (w : Nat) (s : State) (cc : Nat) (f : ClassRegs → ClassRegs) (c0 : Nat)
    (hS : ∀ r, (f r).droppedSetup = r.droppedSetup ∨
      (Wit g s w c0 ∧ (f r).droppedSetup = regAdd r.droppedSetup (c0, w)))
    (hC : ∀ r, (f r).droppedCleanup = r.droppedCleanup ∨
      (Wit g s w c0 ∧ (f r).droppedCleanup = regAdd r.droppedCleanup (c0, w))) :
    Upd g H0 w s (s.setCr cc f) := by
  have key : ∀ (π : ClassRegs → Reg), (∀ r, π (f r) = π r ∨ (Wit g s w c0 ∧ π (f r) = regAdd (π r) (c0, w))) → ∀ c c' v,
      (v ∈ regWorkers (π ((s.setCr cc f).cr c)) (some c') →
        v ∈ regWorkers (π (s.cr c)) (some c') ∨ (v = w ∧ Wit g (s.setCr cc f) w c')) ∧
      (v ∈ regWorkers (π (s.cr c)) (some c') → v ∈ regWorkers (π ((s.setCr cc f).cr c)) (some c')) := by
    intro π hπ c c' v
    rcases cr_setCr_cases s cc f c with h | ⟨_, h⟩
    · rw [h]; exact ⟨Or.inl, id⟩
    · rw [h]
      rcases hπ (s.cr c) with h' | ⟨hw, h'⟩
      · rw [h']; exact ⟨Or.inl, id⟩
      · rw [h', mem_regWorkers_regAdd]
        exact ⟨fun h => h.imp id (fun ⟨h1, h2⟩ => ⟨h1, h2 ▸ hw⟩), Or.inl⟩
  exact ⟨rfl, fun _ h => h, fun _ => Or.inl rfl, fun c c' v => (key (·.droppedSetup) hS c c' v).1,
    fun c c' v => (key (·.droppedCleanup) hC c c' v).1, fun c c' u => (key (·.droppedSetup) hS c c' u).2,
    fun _ _ => rfl, fun h => h, Or.inl rfl⟩

/-! ## the invariant `Trv` -/

/-- a parsed copy is cared for by one worker only (follows from `OwnerNames`) -/
def UniqueId (g : Graph) : Prop :=
  ∀ n, n < g.nodes.length → (g.node n).flat = false → ∀ v w, g.idIn v n = true → g.idIn w n = true → v = w

theorem relevant_nonflat {g : Graph} {v n : Nat} (h : relevant g v n = true) (hf : (g.node n).flat = false) :
    g.idIn v n = true := by
  unfold relevant at h
  rw [hf] at h
  simpa using h

/-- the invariant: nothing is hidden that was not hidden initially, and what `Upd` lets a worker write is justified for
every worker at once -/
structure Trv (g : Graph) (H0 : List Nat) (s : State) : Prop where
  nodesLen : s.nodes.length = g.nodes.length
  hidden : ∀ h ∈ s.hidden, h ∈ H0
  /-- `finished` of a parsed copy is only ever written with a worker that cares for the copy -/
  finOwner : ∀ i v, i < g.nodes.length → (g.node i).flat = false → (s.nd i).finished = some v → g.idIn v i = true
  /-- a worker registered as having dropped a parent class has traversed a node of that class -/
  dropS : ∀ c c' v, v ∈ regWorkers (s.cr c).droppedSetup (some c') → Wit g s v c'
  /-- a worker registered as having dropped a child class has traversed a node of that class -/
  dropC : ∀ c c' v, v ∈ regWorkers (s.cr c).droppedCleanup (some c') → Wit g s v c'
  path : ∀ v, PathOk g v s
  pc : ∀ v, PcOk g H0 v s

theorem Wit.upd {g : Graph} {H0 : List Nat} {w : Nat} {s s' : State} (hu : UniqueId g) (a : Upd g H0 w s s') {v c : Nat}
    (h : Wit g s v c) : Wit g s' v c := by
  obtain ⟨p, h1, h2, h3, h4⟩ := h
  refine ⟨p, h1, h2, h3, fun hf => ?_⟩
  rcases a.fin p with h' | ⟨_, h5, h6⟩
  · rw [h', h4 hf]
  · rw [h6, hu p h1 hf v w (relevant_nonflat h3 hf) (relevant_nonflat h5 hf)]

theorem Trv.upd {g : Graph} {H0 : List Nat} {w : Nat} {s s' : State} (hu : UniqueId g) (t : Trv g H0 s)
    (a : Upd g H0 w s s') : Trv g H0 s' where
  nodesLen := a.nodesLen.trans t.nodesLen
  hidden := fun h hh => t.hidden h (a.hidden h hh)
  finOwner := fun i v hi hf h => by
    rcases a.fin i with h' | ⟨_, h1, h2⟩
    · rw [h'] at h; exact t.finOwner i v hi hf h
    · rw [h2] at h
      cases h
      exact relevant_nonflat h1 hf
  dropS := fun c c' v h => by
    rcases a.dropS c c' v h with h' | ⟨h1, h2⟩
    · exact (t.dropS c c' v h').upd hu a
    · rw [h1]; exact h2
  dropC := fun c c' v h => by
    rcases a.dropC c c' v h with h' | ⟨h1, h2⟩
    · exact (t.dropC c c' v h').upd hu a
    · rw [h1]; exact h2
  path := fun v => by
    by_cases hv : v = w
    · subst hv; exact a.path (t.path v)
    · unfold PathOk; rw [a.others v hv]; exact t.path v
  pc := fun v => by
    by_cases hv : v = w
    · subst hv
      rcases a.pc with h' | h' | h'
      · exact (t.pc v).keep h' a.hidden a.monoS
      · exact PcOk.of_nonTest h'
      · exact h'
    · exact (t.pc v).keep (by rw [a.others v hv]) a.hidden a.monoS

/-! ## where `unset` requests and starts come from -/

/-- an event that is neither an `unset` request nor a test start -/
def Plain (e : Event) : Prop :=
  (∀ wid reqs sc ok, e ≠ .door wid "unset" reqs sc ok) ∧ (∀ wid cname uid locs k, e ≠ .start wid cname uid locs k)

/-- where the interesting events of a piece of a step of worker `w` that began in state `s` come from:
an `unset` request was sent by `sync_states` for a node whose clean decision (taken in a state `sd` that `w` produced,
on the graph visible at that time) was positive; a test was started on a node that was setup-ready for `w` -/
def EvOk (g : Graph) (H0 : List Nat) (w : Nat) (s : State) (e : Event) : Prop :=
  (∀ wid reqs sc ok, e = .door wid "unset" reqs sc ok →
    ∃ hid sd n, (∀ h ∈ sd.hidden, h ∈ hid) ∧ (∀ h ∈ hid, h ∈ H0) ∧ Upd g H0 w s sd ∧ n < g.nodes.length ∧
      (sd.nd n).started = some w ∧
      cleanDecision (visH g hid) sd n w = .ok true ∧ e ∈ (syncStates (visH g hid) sd n w none).2) ∧
  (∀ wid cname uid locs k, e = .start wid cname uid locs k →
    wid = (g.worker w).id ∧ ∃ n ph sd, cname = clsName g n ph ∧ Upd g H0 w s sd ∧ ReadyAt g H0 sd w n)

theorem EvOk.of_plain {g : Graph} {H0 : List Nat} {w : Nat} {s : State} {e : Event} (h : Plain e) : EvOk g H0 w s e :=
  ⟨fun wid reqs sc ok he => absurd he (h.1 wid reqs sc ok), fun wid cname uid locs k he => absurd he (h.2 wid cname uid locs k)⟩

theorem EvOk.mono {g : Graph} {H0 : List Nat} {w : Nat} {s0 s : State} {e : Event} (a : Upd g H0 w s0 s)
    (h : EvOk g H0 w s e) : EvOk g H0 w s0 e := by
  refine ⟨fun wid reqs sc ok he => ?_, fun wid cname uid locs k he => ?_⟩
  · obtain ⟨hid, sd, n, h1, h2, h3, h4⟩ := h.1 wid reqs sc ok he
    exact ⟨hid, sd, n, h1, h2, a.trans h3, h4⟩
  · obtain ⟨h0, n, ph, sd, h1, h2, h3⟩ := h.2 wid cname uid locs k he
    exact ⟨h0, n, ph, sd, h1, a.trans h2, h3⟩

/-- a piece of a step: the state effect and the provenance of its events -/
def Ok (g : Graph) (H0 : List Nat) (w : Nat) (s s' : State) (evs : List Event) : Prop :=
  Upd g H0 w s s' ∧ ∀ e ∈ evs, EvOk g H0 w s e

theorem Ok.trans {g : Graph} {H0 : List Nat} {w : Nat} {s s1 s2 : State} {e1 e2 : List Event}
    (a : Ok g H0 w s s1 e1) (b : Ok g H0 w s1 s2 e2) : Ok g H0 w s s2 (e1 ++ e2) := by
  refine ⟨a.1.trans b.1, fun e he => ?_⟩
  rcases List.mem_append.mp he with he | he
  · exact a.2 e he
  · exact (b.2 e he).mono a.1

theorem Ok.of_upd {g : Graph} {H0 : List Nat} {w : Nat} {s s1 s2 : State} {e2 : List Event}
    (a : Upd g H0 w s s1) (b : Ok g H0 w s1 s2 e2) : Ok g H0 w s s2 e2 :=
  ⟨a.trans b.1, fun e he => (b.2 e he).mono a⟩

theorem Ok.then_upd {g : Graph} {H0 : List Nat} {w : Nat} {s s1 s2 : State} {e1 : List Event}
    (a : Ok g H0 w s s1 e1) (b : Upd g H0 w s1 s2) : Ok g H0 w s s2 e1 :=
  ⟨a.1.trans b, a.2⟩

theorem Ok.silent {g : Graph} {H0 : List Nat} {w : Nat} {s s1 : State} (a : Upd g H0 w s s1) : Ok g H0 w s s1 [] :=
  ⟨a, fun _ h => by simp at h⟩

theorem scanStates_plain (g : Graph) (s : State) (n w : Nat) : ∀ e ∈ (scanStates g s n w).2, Plain e := by
  fun_cases scanStates g s n w with
  | case1 => exact fun _ he => nomatch he
  | case2 =>
    intro e he
    rw [List.mem_singleton.mp he]
    exact ⟨fun _ _ _ _ h => by simp at h, fun _ _ _ _ _ h => nomatch h⟩

/-- the run decision emits `check` requests only; a positive decision is about the worker's own parsed copy -/
theorem runDecision_events (g : Graph) (s : State) (n w : Nat) (b : Bool) (s1 : State) (e1 : List Event)
    (h : runDecision g s n w = .ok (b, s1, e1)) :
    (∀ e ∈ e1, Plain e) ∧ (b = true → (g.node n).flat = false ∧ g.idIn w n = true) := by
  rcases runDecision_eq_ok h with ⟨rfl, -, rfl⟩ | ⟨hf, hid, h'⟩
  · exact ⟨fun _ he => (nomatch he), fun hb => (nomatch hb)⟩
  · refine ⟨?_, fun _ => ⟨hf, hid⟩⟩
    split at h'
    · rw [runDecisionStateless_events g s n w b s1 e1 h']; exact fun _ he => nomatch he
    · rw [runDecisionStatefulCore_events g s n w _ _ b s1 e1 h']
      split
      · exact scanStates_plain g s n w
      · exact fun _ he => nomatch he

theorem upd_runDecision (g : Graph) (H0 : List Nat) (w : Nat) (gv : Graph) (s : State) (n v : Nat) (b : Bool) (s1 : State)
    (e1 : List Event) (h : runDecision gv s n v = .ok (b, s1, e1)) : Upd g H0 w s s1 :=
  (passive_runDecision w gv s n v b s1 e1 h).upd

theorem upd_pullLocations (g : Graph) (H0 : List Nat) (w : Nat) (gv : Graph) (s : State) (n : Nat) :
    Upd g H0 w s (pullLocations gv s n) :=
  (passive_pullLocations w gv s n).upd

theorem syncStates_events (g : Graph) (s : State) (n v : Nat) (rv : Option (List String)) :
    ∀ e ∈ (syncStates g s n v rv).2, ∃ act reqs sc, e = .door (g.worker (g.netOf n v)).id act reqs sc true := by
  intro e he
  rcases ((syncStates_spec g s n v rv).2 e he).2 with ⟨_, h⟩ | ⟨_, h⟩
  · exact ⟨_, _, _, h⟩
  · exact ⟨_, _, _, h⟩

/-! ## the walk through the loop -/

/-- static side conditions: well-formed edges, a flat root, and the hidden set of the graph the piece runs on lies
below the initial one -/
structure Ctx (g : Graph) (H0 hid0 : List Nat) : Prop where
  wf : GraphWF g
  rootFlat : (g.node g.root).flat = true
  sub0 : ∀ h ∈ hid0, h ∈ H0

theorem Ctx.root_ok {g : Graph} {H0 hid0 : List Nat} (c : Ctx g H0 hid0) (w : Nat) :
    g.root < g.nodes.length ∧ relevant g w g.root = true :=
  ⟨c.wf.root_lt, relevant_of_flat c.rootFlat⟩

theorem upd_toRoot {g : Graph} {H0 hid0 : List Nat} (c : Ctx g H0 hid0) (w : Nat) (s : State) (f : WorkerD → WorkerD)
    (hp : ∀ d, (f d).path = [(visH g hid0).root]) (hpc : ∀ d, (f d).pc = d.pc ∨ (f d).pc.isTest = false) :
    Upd g H0 w s (s.setWd w f) := by
  refine upd_setWd g H0 w s f (fun d _ x hx => ?_) (fun d => (hpc d).imp id Or.inl)
  rw [hp, List.mem_singleton] at hx
  rw [hx, (sameNodes_visH g hid0).root]
  exact c.root_ok w

theorem pickChild_rel (g : Graph) (s : State) (n w c : Nat) (s' : State) (h : pickChild g s n w = some (c, s')) :
    c ∈ (g.node n).cleanup.map (·.1) ∧ relevant g w c = true ∧
      s' = s.setCr (g.node c).cls (fun r => { r with pickedBySetup := regAdd r.pickedBySetup ((g.node n).cls, w) }) :=
  ⟨(pickChild_eq_some h).1, (pickChild_eq_some h).2.1, (pickChild_eq_some h).2.2.2⟩

theorem pickParent_rel (g : Graph) (s : State) (n w c : Nat) (s' : State) (h : pickParent g s n w = some (c, s')) :
    c ∈ (g.node n).setup.map (·.1) ∧ relevant g w c = true ∧
      s' = s.setCr (g.node c).cls (fun r => { r with pickedByCleanup := regAdd r.pickedByCleanup ((g.node n).cls, w) }) :=
  ⟨(pickParent_eq_some h).1, (pickParent_eq_some h).2.1, (pickParent_eq_some h).2.2.2⟩

theorem upd_pick (g : Graph) (H0 : List Nat) (w : Nat) (gv : Graph) (hsn : SameNodes gv g) (s : State) (c cc : Nat)
    (f : ClassRegs → ClassRegs) (hlt : c < gv.nodes.length) (hr : relevant gv w c = true)
    (hs : ∀ r, (f r).droppedSetup = r.droppedSetup) (hc : ∀ r, (f r).droppedCleanup = r.droppedCleanup) :
    Upd g H0 w s (pushPath (s.setCr cc f) w c) :=
  (upd_setCr g H0 w s cc f 0 (fun r => Or.inl (hs r)) (fun r => Or.inl (hc r))).trans
    (upd_pushPath g H0 w _ c (hsn.len ▸ hlt) (by rw [← relevant_sameNodes hsn]; exact hr))

theorem upd_pickChild (g : Graph) (H0 : List Nat) (w : Nat) (gv : Graph) (hsn : SameNodes gv g) (hwf : GraphWF gv)
    (s : State) (n c : Nat) (s' : State) (h : pickChild gv s n w = some (c, s')) : Upd g H0 w s (pushPath s' w c) := by
  obtain ⟨hc, hr, rfl⟩ := pickChild_rel gv s n w c s' h
  obtain ⟨p, hp, rfl⟩ := List.mem_map.mp hc
  exact upd_pick g H0 w gv hsn s _ _ _ (hwf.cleanup_lt n p hp) hr (fun _ => rfl) (fun _ => rfl)

theorem upd_pickParent (g : Graph) (H0 : List Nat) (w : Nat) (gv : Graph) (hsn : SameNodes gv g) (hwf : GraphWF gv)
    (s : State) (n c : Nat) (s' : State) (h : pickParent gv s n w = some (c, s')) : Upd g H0 w s (pushPath s' w c) := by
  obtain ⟨hc, hr, rfl⟩ := pickParent_rel gv s n w c s' h
  obtain ⟨p, hp, rfl⟩ := List.mem_map.mp hc
  exact upd_pick g H0 w gv hsn s _ _ _ (hwf.setup_lt n p hp) hr (fun _ => rfl) (fun _ => rfl)

/-- `reverse_node`: an `unset` request is preceded by a positive clean decision in the state with the `started` mark set -/
theorem reverseNode_ok (g : Graph) (H0 hid0 : List Nat) (w : Nat) (s : State) (n : Nat) (s' : State) (evs : List Event)
    (h0 : ∀ h ∈ hid0, h ∈ H0) (hsub : ∀ h ∈ s.hidden, h ∈ hid0) (hn : n < g.nodes.length)
    (hlen : s.nodes.length = g.nodes.length)
    (h : reverseNode (visH g hid0) s n w = .ok (s', evs)) : Ok g H0 w s s' evs := by
  obtain ⟨ha, hev⟩ := reverseNode_spec _ s n w s' evs h
  refine ⟨ha.upd, fun e he => ?_⟩
  rcases hev with rfl | ⟨hd, rfl⟩
  · exact nomatch he
  · refine ⟨fun wid reqs sc ok hev => ?_, fun wid cname uid locs k hev => ?_⟩
    · exact ⟨hid0, s.setNd n (fun d => { d with started := some w }), n, hsub, h0, upd_setNd g H0 w s n _ (fun _ => rfl), hn,
        by rw [nd_setNd_eq s n _ (by rw [hlen]; exact hn)], hd, he⟩
    · obtain ⟨act, reqs, sc, hdoor⟩ := syncStates_events _ _ n w none e he
      rw [hdoor] at hev; cases hev

theorem upd_dropChildren (g : Graph) (H0 : List Nat) (w : Nat) (gv : Graph) (hsn : SameNodes gv g) (next : Nat) (s : State)
    (hw : Wit g s w (g.node next).cls) : Upd g H0 w s (dropChildren gv s next w) := by
  unfold dropChildren
  induction (gv.node next).setup generalizing s with
  | nil => exact Upd.refl g H0 w s
  | cons a r ih =>
    have h1 : Upd g H0 w s (dropChild gv s a.1 next w) := by
      unfold dropChild
      rw [hsn.cls next]
      exact upd_setCr g H0 w s _ _ _ (fun _ => Or.inl rfl) (fun _ => Or.inr ⟨hw, rfl⟩)
    exact h1.trans (ih _ (h1.keepWit hw))

/-- the rest of the loop body after `traverse_node`: the worker drops `next` (as a parent of `prev` on the way up, as a
child of all its parents on the way down) only with its own `finished` mark on it -/
theorem ok_of_after {g : Graph} {H0 hid0 : List Nat} {w : Nat} {s : State} {next prev : Nat} {dir : Dir} {r : Step}
    (ctx : Ctx g H0 hid0) (hsub : ∀ h ∈ s.hidden, h ∈ hid0) (hlen : s.nodes.length = g.nodes.length)
    (hn : next < g.nodes.length) (hrel : relevant g w next = true)
    (hfin : (g.node next).flat = false → (s.nd next).finished = some w) (h : After (visH g hid0) w next prev dir s r) :
    Ok g H0 w s r.1 r.2.1 := by
  have hsn := sameNodes_visH g hid0
  have hdec : ∀ {run s1 evs}, runDecision (visH g hid0) s next w = .ok (run, s1, evs) →
      Passive w s s1 ∧ Ok g H0 w s s1 evs ∧ Wit g s1 w (g.node next).cls := fun hd =>
    have a := passive_runDecision w _ s next w _ _ _ hd
    ⟨a, ⟨a.upd, fun e he => EvOk.of_plain ((runDecision_events _ s next w _ _ _ hd).1 e he)⟩,
      next, hn, rfl, hrel, fun hf => (a.fin next).trans (hfin hf)⟩
  cases h with
  | undecided => exact Ok.silent (Upd.refl g H0 w s)
  | up run s1 evs _ hd =>
    obtain ⟨_, h1, hw1⟩ := hdec hd
    refine h1.then_upd (Upd.trans ?_ (upd_popPath g H0 w _))
    split
    · unfold dropParent
      rw [hsn.cls next]
      exact upd_setCr g H0 w s1 _ _ _ (fun _ => Or.inr ⟨hw1, rfl⟩) (fun _ => Or.inl rfl)
    · exact Upd.refl g H0 w s1
  | again s1 evs _ hd => exact (hdec hd).2.1.then_upd (upd_popPath g H0 w _)
  | postponed s1 evs _ hd =>
    exact (hdec hd).2.1.then_upd (upd_toRoot ctx w s1 _ (fun _ => rfl) (fun _ => Or.inl rfl))
  | cleaned s1 evs s3 evs2 _ hd _ _ hr =>
    obtain ⟨a, h1, hw1⟩ := hdec hd
    have h2 := upd_dropChildren g H0 w _ hsn next s1 hw1
    have h3 := reverseNode_ok g H0 hid0 w _ next s3 evs2 ctx.sub0 (fun h hh => hsub h (a.hidden h (h2.hidden h hh))) hn
      (h2.nodesLen.trans (a.nodesLen.trans hlen)) hr
    exact (h1.trans (Ok.of_upd h2 h3)).then_upd (upd_popPath g H0 w _)
  | uncleaned s1 evs e _ hd =>
    obtain ⟨_, h1, hw1⟩ := hdec hd
    exact h1.then_upd (upd_dropChildren g H0 w _ hsn next s1 hw1)
  | descend s1 evs c s2 _ hd _ hp =>
    exact (hdec hd).2.1.then_upd (upd_pickChild g H0 w _ hsn (ctx.wf.visH hid0) s1 next c s2 hp)
  | childless s1 evs _ hd => exact (hdec hd).2.1

theorem afterTraverse_ok (g : Graph) (H0 hid0 : List Nat) (ctx : Ctx g H0 hid0) (w : Nat) (s : State) (next prev : Nat)
    (dir : Dir) (hsub : ∀ h ∈ s.hidden, h ∈ hid0) (hlen : s.nodes.length = g.nodes.length)
    (hn : next < g.nodes.length) (hrel : relevant g w next = true)
    (hfin : (g.node next).flat = false → (s.nd next).finished = some w) :
    Ok g H0 w s (afterTraverse (visH g hid0) s w next prev dir).1 (afterTraverse (visH g hid0) s w next prev dir).2.1 :=
  ok_of_after ctx hsub hlen hn hrel hfin (afterTraverse_after ..)

/-- … entered with the `finished` mark just set -/
theorem ok_of_finishAfter {g : Graph} {H0 hid0 : List Nat} {w : Nat} {s : State} {next prev : Nat} {dir : Dir} {r : Step}
    (ctx : Ctx g H0 hid0) (hsub : ∀ h ∈ s.hidden, h ∈ hid0) (hlen : s.nodes.length = g.nodes.length)
    (hn : next < g.nodes.length) (hrel : relevant g w next = true)
    (h : After (visH g hid0) w next prev dir (finishTraverse s next w) r) : Ok g H0 w s r.1 r.2.1 :=
  Ok.of_upd (upd_finishTraverse g H0 w s next hn hrel)
    (ok_of_after ctx hsub ((nodes_length_setNd s next _).trans hlen) hn hrel
      (fun _ => by unfold finishTraverse; rw [nd_setNd_eq s next _ (by rw [hlen]; exact hn)]) h)

theorem ReadyAt.passive {g : Graph} {H0 : List Nat} {w : Nat} {s s' : State} {v n : Nat} (h : ReadyAt g H0 s v n)
    (a : Passive w s s') :
    ReadyAt g H0 s' v n :=
  h.mono a.hidden (fun c c' u hu => by rw [a.cr]; exact hu)

theorem upd_await (g : Graph) (H0 : List Nat) (w : Nat) {s s0 : State} (a : Passive w s s0) (f : WorkerD → WorkerD) (n : Nat)
    (hpath : ∀ d, (f d).path = d.path) (hpc : ∀ d, ∃ ph dir uid tag wait, (f d).pc = .test n ph dir uid tag wait)
    (hr : ReadyAt g H0 s w n) : Upd g H0 w s (s0.setWd w f) :=
  a.upd.trans (upd_setWd g H0 w s0 f (fun d h => hpath d ▸ h) fun d => Or.inr (Or.inr fun n' ph' dir' uid' tag' wait' hp => by
    obtain ⟨ph, dir, uid, tag, wait, hq⟩ := hpc d
    rw [hq] at hp
    cases hp
    exact hr.passive a))

/-- `run_test_node`, first half: the only source of `start` events -/
theorem startTest_ok (g : Graph) (H0 : List Nat) (w : Nat) (gv : Graph) (hsn : SameNodes gv g) (s : State) (n : Nat)
    (ph : Phase) (dir : Dir) (hr : ReadyAt g H0 s w n) :
    Ok g H0 w s (startTest gv s n w ph dir).1 (startTest gv s n w ph dir).2.1 := by
  have hev : ∀ uid locs k, ∀ e ∈ [Event.start (gv.worker w).id (clsName gv n ph) uid locs k], EvOk g H0 w s e := by
    intro uid locs k e he
    rw [List.mem_singleton.mp he]
    refine ⟨fun wid reqs sc ok hev => (nomatch hev), fun wid cname uid' locs' k' hev => ?_⟩
    cases hev
    exact ⟨by rw [hsn.worker], n, ph, s, clsName_sameNodes hsn n ph, Upd.refl g H0 w s, hr⟩
  have htag : Passive w s { s with nextTag := s.nextTag + 1 } := .of_eq rfl rfl rfl rfl
  fun_cases startTest gv s n w ph dir with
  | case1 =>
    exact ⟨upd_await g H0 w htag _ n (by intro _; rfl) (by intro _; exact ⟨_, _, _, _, _, rfl⟩) hr, hev _ _ _⟩
  | case2 =>
    exact ⟨upd_await g H0 w (htag.trans (passive_setNd w _ n _ (by intro _; rfl))) _ n (by intro _; rfl)
      (by intro _; exact ⟨_, _, _, _, _, rfl⟩) hr, hev _ _ _⟩

theorem plain_exit (wid : String) : Plain (.exit wid) := ⟨fun _ _ _ _ h => by simp at h, fun _ _ _ _ _ h => by simp at h⟩
theorem plain_sleep (wid : String) (q : Nat) : Plain (.sleep wid q) :=
  ⟨fun _ _ _ _ h => by simp at h, fun _ _ _ _ _ h => by simp at h⟩
theorem plain_raise (wid what : String) : Plain (.raise wid what) :=
  ⟨fun _ _ _ _ h => by simp at h, fun _ _ _ _ _ h => by simp at h⟩
theorem plain_finish (wid c uid st : String) : Plain (.finish wid c uid st) :=
  ⟨fun _ _ _ _ h => by simp at h, fun _ _ _ _ _ h => by simp at h⟩

theorem Ok.single {g : Graph} {H0 : List Nat} {w : Nat} {s s1 : State} {e : Event} (a : Upd g H0 w s s1) (h : Plain e) :
    Ok g H0 w s s1 [e] :=
  ⟨a, fun e' he => by rw [List.mem_singleton.mp he]; exact EvOk.of_plain h⟩

/-- the back-off: passive up to the last write, which sends `w` back to the root with pc `bounce` -/
theorem bounced_eq (gv : Graph) (s : State) (w next : Nat) :
    ∃ s1 f, Passive w s s1 ∧ bounced gv s w next = s1.setWd w f ∧ (∀ d, (f d).path = [gv.root]) ∧ ∀ d, (f d).pc = .bounce := by
  refine ⟨_, _, ?_, rfl, fun _ => rfl, fun _ => rfl⟩
  split
  · refine Passive.trans ?_ (passive_setWd w _ _ (fun _ => rfl) (fun _ => rfl))
    split
    · exact passive_setNd w s next _ (fun _ => rfl)
    · exact Passive.refl w s
  · exact passive_setWd w s _ (fun _ => rfl) (fun _ => rfl)

/-- one iteration: a test is started only on a node that the iteration found setup-ready and that the run decision took
for `w`'s own parsed copy -/
theorem ok_of_iter {g : Graph} {H0 hid0 : List Nat} {w : Nat} {s : State} {r : Step} (ctx : Ctx g H0 hid0)
    (hsub : ∀ h ∈ s.hidden, h ∈ hid0) (hlen : s.nodes.length = g.nodes.length) (hpath : PathOk g w s)
    (h : Iter (visH g hid0) w s r) : Ok g H0 w s r.1 r.2.1 := by
  have hsn := sameNodes_visH g hid0
  have hwfv := ctx.wf.visH hid0
  have hA : ∀ n, Passive w s (entered (visH g hid0) s w n) := fun n =>
    (passive_setNd w s n (fun d => { d with started := some w }) (fun _ => rfl)).trans (passive_pullLocations w _ _ n)
  have hdec : ∀ {n prev dir run s1 evs}, Visit (visH g hid0) s w n prev dir →
      runDecision (visH g hid0) (entered (visH g hid0) s w n) n w = .ok (run, s1, evs) →
      Passive w s s1 ∧ Ok g H0 w s s1 evs ∧ (run = true → ReadyAt g H0 s1 w n) := fun {n} _ _ _ _ _ hv hd =>
    have a := (hA n).trans (passive_runDecision w _ _ n w _ _ _ hd)
    have hrd := runDecision_events _ _ n w _ _ _ hd
    ⟨a, ⟨a.upd, fun e he => EvOk.of_plain (hrd.1 e he)⟩, fun hrun =>
      ReadyAt.passive ⟨(hpath n (List.mem_of_getLast? hv.last)).1, (idIn_sameNodes hsn w n) ▸ (hrd.2 hrun).2,
        hsn.flat n ▸ (hrd.2 hrun).1, hid0, hsub, ctx.sub0, hv.ready⟩ a⟩
  cases h with
  | exit => exact Ok.single (upd_setWd g H0 w s _ (fun _ _ x hx => by simp at hx) (fun _ => Or.inr (Or.inl rfl))) (plain_exit _)
  | lost => exact Ok.silent (Upd.refl g H0 w s)
  | fromRoot n c s1 _ _ _ hp => exact Ok.silent (upd_pickChild g H0 w _ hsn hwfv s n c s1 hp)
  | bounce n =>
    obtain ⟨s1, f, hb, he, hp, hpc⟩ := bounced_eq (visH g hid0) s w n
    rw [he]
    exact Ok.single (hb.upd.trans (upd_toRoot ctx w _ _ hp (fun d => Or.inr (by rw [hpc]; rfl)))) (plain_sleep _ _)
  | toParent n _ p s1 _ _ _ hp => exact Ok.silent (upd_pickParent g H0 w _ hsn hwfv s n p s1 hp)
  | undecided n => exact Ok.silent (hA n).upd
  | start n _ dir s1 evs hv hd =>
    obtain ⟨_, h1, hr1⟩ := hdec hv hd
    exact h1.trans (startTest_ok g H0 w _ hsn s1 n .plain dir (hr1 rfl))
  | create n _ dir s1 evs hv hd =>
    obtain ⟨_, h1, hr1⟩ := hdec hv hd
    have h2 : Passive w s1 (preset (visH g hid0) s1 w n) := passive_setWd w s1 _ (fun _ => rfl) (fun _ => rfl)
    exact h1.trans (Ok.of_upd h2.upd (startTest_ok g H0 w _ hsn _ n .pre dir ((hr1 rfl).passive h2)))
  | skip n _ _ s1 evs r hv hd ha =>
    obtain ⟨a, h1, _⟩ := hdec hv hd
    obtain ⟨hn, hrel⟩ := hpath n (List.mem_of_getLast? hv.last)
    exact h1.trans (ok_of_finishAfter ctx (fun h hh => hsub h (a.hidden h hh)) (a.nodesLen.trans hlen) hn hrel ha)

theorem iter_ok (g : Graph) (H0 hid0 : List Nat) (ctx : Ctx g H0 hid0) (w : Nat) (s : State)
    (hsub : ∀ h ∈ s.hidden, h ∈ hid0) (hlen : s.nodes.length = g.nodes.length) (hpath : PathOk g w s) :
    Ok g H0 w s (iter (visH g hid0) s w).1 (iter (visH g hid0) s w).2.1 :=
  ok_of_iter ctx hsub hlen hpath (iter_iter ..)

theorem upd_prepare (g : Graph) (H0 : List Nat) (w : Nat) (s : State) : Upd g H0 w s (prepare g s w) :=
  (passive_prepare g s w).upd

theorem ok_of_iterL {g : Graph} {H0 : List Nat} {w : Nat} {s : State} {r : Step} (hwf : GraphWF g)
    (hroot : (g.node g.root).flat = true) (hH : ∀ h ∈ s.hidden, h ∈ H0) (hlen : s.nodes.length = g.nodes.length)
    (hpath : PathOk g w s) (h : IterL g w s r) : Ok g H0 w s r.1 r.2.1 := by
  obtain ⟨s1, hp, hi⟩ := h
  have h0 : Upd g H0 w s s1 := by
    cases hp with
    | stay => exact Upd.refl g H0 w s
    | expand => exact upd_prepare g H0 w s
  rw [vis_eq_visH] at hi
  exact Ok.of_upd h0 (ok_of_iter ⟨hwf, hroot, fun h hh => hH h (h0.hidden h hh)⟩ (fun _ h => h) (h0.nodesLen.trans hlen)
    (h0.path hpath) hi)

theorem iterL_ok (g : Graph) (H0 : List Nat) (hwf : GraphWF g) (hroot : (g.node g.root).flat = true) (w : Nat) (s : State)
    (hH : ∀ h ∈ s.hidden, h ∈ H0) (hlen : s.nodes.length = g.nodes.length) (hpath : PathOk g w s) :
    Ok g H0 w s (iterL g s w).1 (iterL g s w).2.1 :=
  ok_of_iterL hwf hroot hH hlen hpath (iterL_iterL ..)

def OkFrom (g : Graph) (H0 : List Nat) (w : Nat) (s : State) (evs : List Event) (r : State × List Event) : Prop :=
  ∃ e', r.2 = evs ++ e' ∧ Ok g H0 w s r.1 e'

theorem OkFrom.step {g : Graph} {H0 : List Nat} {w : Nat} {s s1 : State} {evs e1 : List Event} {r : State × List Event}
    (a : Ok g H0 w s s1 e1) (b : OkFrom g H0 w s1 (evs ++ e1) r) : OkFrom g H0 w s evs r := by
  obtain ⟨e', h, b'⟩ := b
  exact ⟨e1 ++ e', by rw [h, List.append_assoc], a.trans b'⟩

theorem OkFrom.ok {g : Graph} {H0 : List Nat} {w : Nat} {s s1 : State} {evs : List Event} {r : State × List Event}
    (b : OkFrom g H0 w s1 evs r) (a : Ok g H0 w s s1 evs) : Ok g H0 w s r.1 r.2 := by
  obtain ⟨e', h, b'⟩ := b
  rw [h]; exact a.trans b'

structure Fit (g : Graph) (H0 : List Nat) (w : Nat) (s : State) : Prop where
  hidden : ∀ h ∈ s.hidden, h ∈ H0
  nodesLen : s.nodes.length = g.nodes.length
  path : PathOk g w s

theorem Upd.fit {g : Graph} {H0 : List Nat} {w : Nat} {s s' : State} (a : Upd g H0 w s s') (h : Fit g H0 w s) : Fit g H0 w s' :=
  ⟨fun x hx => h.hidden x (a.hidden x hx), a.nodesLen.trans h.nodesLen, a.path h.path⟩

theorem ok_of_ran {g : Graph} {H0 : List Nat} {w fuel : Nat} {s : State} {evs : List Event} {r : State × List Event}
    (hwf : GraphWF g) (hroot : (g.node g.root).flat = true) (hf : Fit g H0 w s) (h : Ran g w fuel s evs r) :
    OkFrom g H0 w s evs r := by
  have body : ∀ {s s1 e f}, Fit g H0 w s → IterL g w (s.setWd w (fun d => { d with pc := .loop })) (s1, e, f) →
      Ok g H0 w s s1 e := fun hf hi =>
    have h0 := upd_setPc g H0 w _ .loop rfl
    Ok.of_upd h0 (ok_of_iterL hwf hroot (h0.fit hf).hidden (h0.fit hf).nodesLen (h0.fit hf).path hi)
  induction h with
  | dry s evs => exact ⟨_, rfl, Ok.single (Upd.refl g H0 w s) (plain_raise _ _)⟩
  | cont hi _ ih => exact OkFrom.step (body hf hi) (ih ((body hf hi).1.fit hf))
  | stop hi => exact ⟨_, rfl, body hf hi⟩
  | fail hi =>
    exact ⟨_ ++ [_], List.append_assoc _ _ _, (body hf hi).trans (Ok.single (upd_setPc g H0 w _ .failed rfl) (plain_raise _ _))⟩

/-! ## the end of a test, and the whole step -/

theorem reportOutcome_spec (g : Graph) (s : State) (w n : Nat) (phase : Phase) (uid : String) (wait : Nat) (out : Outcome) :
    Passive w s (reportOutcome g s w n phase uid wait out).1 ∧ ∀ e ∈ (reportOutcome g s w n phase uid wait out).2, Plain e := by
  have hfin : ∀ a b c d, ∀ e ∈ [Event.finish a b c d], Plain e := fun a b c d e he =>
    List.mem_singleton.mp he ▸ plain_finish a b c d
  fun_cases reportOutcome g s w n phase uid wait out with
  | case1 wid name _ st _ s1 s2 =>
    refine ⟨?_, hfin _ _ _ _⟩
    have h1 : Passive w s s1 := .of_eq rfl rfl rfl rfl
    unfold s2
    split
    · exact h1.trans (.of_eq rfl rfl rfl rfl)
    · exact h1
  | case2 => exact ⟨Passive.refl w s, hfin _ _ _ _⟩
  | case3 => exact ⟨Passive.refl w s, fun _ he => (nomatch he)⟩

theorem reportOutcomeR_ok (g : Graph) (H0 : List Nat) (s : State) (w n : Nat) (phase : Phase) (uid : String) (wait : Nat)
    (out : Outcome) :
    Upd g H0 w s (reportOutcome g s w n phase uid wait out).1 ∧ ∀ e ∈ (reportOutcome g s w n phase uid wait out).2, Plain e :=
  ⟨(reportOutcome_spec g s w n phase uid wait out).1.upd, (reportOutcome_spec g s w n phase uid wait out).2⟩

theorem passive_recordResult (s : State) (w n : Nat) (phase : Phase) (name uid : String) (tag : Nat) (st0 : String) (dur : Nat) :
    Passive w s (recordResult s w n phase name uid tag st0 dur).1 := by
  have hX : ∀ (c : Prop) [Decidable c] jr, Passive w s (if c then { s with jobResults := jr } else s) :=
    fun c _ jr => .ite (.of_eq rfl rfl rfl rfl) (Passive.refl w s)
  unfold recordResult
  dsimp only
  by_cases hp : (phase == Phase.pre) = true
  · simp only [hp, if_true]
    exact (hX _ _).trans (passive_setWd w _ _ (fun _ => rfl) (fun _ => rfl))
  · simp only [hp, Bool.false_eq_true, if_false]
    exact (hX _ _).trans (passive_setNd w _ n _ (fun _ => rfl))

theorem upd_recordResultR (g : Graph) (H0 : List Nat) (s : State) (w n : Nat) (phase : Phase) (name uid : String) (tag : Nat)
    (st0 : String) (dur : Nat) : Upd g H0 w s (recordResult s w n phase name uid tag st0 dur).1 :=
  (passive_recordResult s w n phase name uid tag st0 dur).upd

theorem Ended.passive {g : Graph} {w n : Nat} {ph : Phase} {uid : String} {tag wait : Nat} {out : Outcome} {s sc : State}
    {ok : Bool} (h : Ended g w n ph uid tag wait out s sc ok) : Passive w s sc := by
  cases h with
  | found => exact (reportOutcome_spec ..).1.trans (passive_recordResult ..)
  | lost => exact (reportOutcome_spec ..).1

theorem passive_accounted (s : State) (w n : Nat) (ph : Phase) : Passive w s (accounted s w n ph) :=
  .ite (passive_setNd w s n _ (fun _ => rfl)) (Passive.refl w s)

/-- a whole step; the awaited test is on a node that was setup-ready when the test was started (`Trv.pc`) -/
theorem ok_of_resumed {g : Graph} {H0 : List Nat} {s : State} {w : Nat} {out : Outcome} {fuel : Nat} {r : State × List Event}
    (hwf : GraphWF g) (hroot : (g.node g.root).flat = true) (t : Trv g H0 s) (h : Resumed g w out fuel s r) :
    Ok g H0 w s r.1 r.2 := by
  have hf : Fit g H0 w s := ⟨t.hidden, t.nodesLen, t.path w⟩
  -- report and record, then the end of the traversal of the node of the finished test
  have ended : ∀ {n ph uid tag wait sc ok}, Ended g w n ph uid tag wait out s sc ok →
      Ok g H0 w s sc (reportOutcome g s w n ph uid wait out).2 := fun hs =>
    ⟨hs.passive.upd, fun e he => EvOk.of_plain ((reportOutcome_spec ..).2 e he)⟩
  have back : ∀ {n ph dir uid tag wait sc ok prev r}, (s.wd w).pc = .test n ph dir uid tag wait →
      Ended g w n ph uid tag wait out s sc ok →
      After (vis g (finishTraverse (accounted sc w n ph) n w)) w n prev dir (finishTraverse (accounted sc w n ph) n w) r →
      Ok g H0 w s r.1 ((reportOutcome g s w n ph uid wait out).2 ++ r.2.1) := by
    intro n ph dir uid tag wait sc ok prev r hpc hs ha
    have hr := t.pc w n ph dir uid tag wait hpc
    have a := hs.passive.trans (passive_accounted sc w n ph)
    rw [vis_eq_visH] at ha
    exact (ended hs).trans (Ok.of_upd (passive_accounted sc w n ph).upd
      (ok_of_finishAfter ⟨hwf, hroot, (a.upd.fit hf).hidden⟩ (fun _ h => h) (a.upd.fit hf).nodesLen hr.1
        (relevant_of_idIn hr.2.1) ha))
  cases h with
  | over => exact Ok.silent (Upd.refl g H0 w s)
  | loop r _ hr => exact (ok_of_ran hwf hroot hf hr).ok (Ok.silent (Upd.refl g H0 w s))
  | wait n ph dir uid tag wait hpc =>
    obtain ⟨ha, hea⟩ := reportOutcome_spec g s w n ph uid wait out
    exact Ok.trans ⟨ha.upd, fun e he => EvOk.of_plain (hea e he)⟩
      (Ok.single (upd_await g H0 w (Passive.refl w _) _ n (fun _ => rfl) (fun _ => ⟨_, _, _, _, _, rfl⟩)
        ((t.pc w n ph dir uid tag wait hpc).passive ha)) (plain_sleep _ _))
  | created n dir uid tag wait sc hpc hs =>
    exact (ended hs).trans (startTest_ok g H0 w g (SameNodes.refl g) sc n .main dir
      ((t.pc w n .pre dir uid tag wait hpc).passive hs.passive))
  | stuck n ph dir uid tag wait sc ok s1 e what hpc hs _ ha =>
    exact (back hpc hs ha).trans (Ok.single (upd_setPc g H0 w s1 .failed rfl) (plain_raise _ _))
  | back n ph dir uid tag wait sc ok s1 e f r hpc hs _ ha _ hr =>
    have h1 := back hpc hs ha
    exact (ok_of_ran hwf hroot (h1.1.fit hf) hr).ok h1

theorem resume_ok (g : Graph) (H0 : List Nat) (hwf : GraphWF g) (hroot : (g.node g.root).flat = true) (s : State)
    (w : Nat) (out : Outcome) (fuel : Nat) (t : Trv g H0 s) :
    Ok g H0 w s (resume g s w out fuel).1 (resume g s w out fuel).2 :=
  ok_of_resumed hwf hroot t (resume_resumed ..)

theorem Trv.step {g : Graph} {H0 : List Nat} (hwf : GraphWF g) (hroot : (g.node g.root).flat = true) (hu : UniqueId g)
    {s : State} (t : Trv g H0 s) (w : Nat) (out : Outcome) (fuel : Nat) : Trv g H0 (resume g s w out fuel).1 :=
  t.upd hu (resume_ok g H0 hwf hroot s w out fuel t).1

/-! ## the initial state, reachable states -/

theorem initState_cr (g : Graph) (ncls : Nat) (store : List (String × List (String × String))) (H0 : List Nat) (c : Nat) :
    (initState g ncls store H0).cr c = {} := by
  unfold initState State.cr
  simp only [List.getD_eq_getElem?_getD, List.getElem?_map]
  cases (List.range ncls)[c]? <;> rfl

theorem Trv.init (g : Graph) (hwf : GraphWF g) (hroot : (g.node g.root).flat = true) (ncls : Nat)
    (store : List (String × List (String × String))) (H0 : List Nat) : Trv g H0 (initState g ncls store H0) := by
  refine ⟨by simp [initState], fun _ h => h, ?_, ?_, ?_, ?_, ?_⟩
  · intro i v _ _ h; rw [initState_nd] at h; cases h
  · intro c c' v h; rw [initState_cr] at h; simp [regWorkers] at h
  · intro c c' v h; rw [initState_cr] at h; simp [regWorkers] at h
  · intro v x hx
    rcases initState_wd g ncls store H0 v with h | h
    · rw [h, List.mem_singleton] at hx
      rw [hx]
      exact ⟨hwf.root_lt, relevant_of_flat hroot⟩
    · rw [h] at hx; cases hx
  · intro v
    apply PcOk.of_nonTest
    rcases initState_wd g ncls store H0 v with h | h <;> rw [h] <;> rfl

/-- the states the scheduler can produce from the initial state in which exactly the nodes `H0` are not parsed yet
(`[]`: pre-parsed graph): any finite sequence of `resume` steps of any workers with any outcomes and any fuel -/
inductive ReachH (g : Graph) (ncls : Nat) (store : List (String × List (String × String))) (H0 : List Nat) : State → Prop
  | init : ReachH g ncls store H0 (initState g ncls store H0)
  | step (s : State) (w : Nat) (out : Outcome) (fuel : Nat) :
      ReachH g ncls store H0 s → ReachH g ncls store H0 (resume g s w out fuel).1

theorem ReachH.trv {g : Graph} (hwf : GraphWF g) (hroot : (g.node g.root).flat = true) (hu : UniqueId g) {ncls : Nat}
    {store : List (String × List (String × String))} {H0 : List Nat} {s : State} (h : ReachH g ncls store H0 s) :
    Trv g H0 s := by
  induction h with
  | init => exact Trv.init g hwf hroot ncls store H0
  | step s w out fuel _ ih => exact ih.step hwf hroot hu w out fuel

/-- running a schedule: a list of (worker, outcome of the awaited test) -/
def runSched (g : Graph) (fuel : Nat) (s : State) (l : List (Nat × Outcome)) : State :=
  l.foldl (fun s p => (resume g s p.1 p.2 fuel).1) s

theorem reachH_runSched (g : Graph) (ncls : Nat) (store : List (String × List (String × String))) (H0 : List Nat) (fuel : Nat)
    (l : List (Nat × Outcome)) (s : State) (h : ReachH g ncls store H0 s) : ReachH g ncls store H0 (runSched g fuel s l) := by
  induction l generalizing s with
  | nil => exact h
  | cons p l ih => exact ih _ (ReachH.step s p.1 p.2 fuel h)

/-! ## worker ids in node names: `OwnerNames` -/

/-- a worker's id occurs in the names of exactly its own parsed copies (`worker.id in node.params["name"]` is the
identity test the traversal uses) -/
def OwnerNames (g : Graph) : Prop :=
  ∀ w n, n < g.nodes.length → (g.node n).flat = false → (g.idIn w n = true ↔ (g.node n).owner = some w)

theorem OwnerNames.uniq {g : Graph} (h : OwnerNames g) : UniqueId g := by
  intro n hn hf v w hv hw
  have h1 := (h v n hn hf).mp hv
  have h2 := (h w n hn hf).mp hw
  rw [h1] at h2
  exact Option.some.inj h2

/-- decidable form of `OwnerNames` (worker indices beyond the worker list denote the default worker `"?"`) -/
def ownerNamesB (g : Graph) : Bool :=
  (List.range g.nodes.length).all (fun n =>
    (g.node n).flat ||
      (!strIn "?" (g.node n).name &&
       (match (g.node n).owner with | some w => decide (w < g.workers.length) | none => true) &&
       (List.range g.workers.length).all (fun w => g.idIn w n == ((g.node n).owner == some w))))

theorem ownerNamesB_sound {g : Graph} (h : ownerNamesB g = true) : OwnerNames g := by
  intro w n hn hf
  unfold ownerNamesB at h
  rw [List.all_eq_true] at h
  have := h n (List.mem_range.mpr hn)
  simp only [hf, Bool.false_or, Bool.and_eq_true, Bool.not_eq_true', List.all_eq_true, List.mem_range, beq_iff_eq] at this
  obtain ⟨⟨h1, h2⟩, h3⟩ := this
  by_cases hw : w < g.workers.length
  · have h4 := h3 w hw
    constructor
    · intro hi; rw [hi] at h4; simpa using h4.symm
    · intro ho; rw [h4, ho]; simp
  · have hwk : g.worker w = { id := "?", swarm := "?" } := by
      unfold Graph.worker
      rw [List.getD_eq_getElem?_getD, List.getElem?_eq_none (by omega)]; rfl
    constructor
    · intro hi
      unfold Graph.idIn at hi
      rw [hwk, h1] at hi
      cases hi
    · intro ho
      rw [ho] at h2
      simp only [decide_eq_true_eq] at h2
      exact absurd h2 hw

/-- the copies of one class are all flat or all parsed -/
def FlatClass (g : Graph) : Prop :=
  ∀ n, n < g.nodes.length → ∀ m, m < g.nodes.length → (g.node n).cls = (g.node m).cls → (g.node n).flat = (g.node m).flat

instance (g : Graph) : Decidable (FlatClass g) := by unfold FlatClass; infer_instance

/-- a registered drop of a parsed class by `w`: `w`'s own copy of the class carries `w`'s `finished` mark -/
theorem Wit.owned {g : Graph} {s : State} {w p : Nat} (hO : OwnerNames g) (hF : FlatClass g) (hp : p < g.nodes.length)
    (hf : (g.node p).flat = false) (h : Wit g s w (g.node p).cls) :
    ∃ p', p' < g.nodes.length ∧ (g.node p').cls = (g.node p).cls ∧ (g.node p').owner = some w ∧ (s.nd p').finished = some w := by
  obtain ⟨p', h1, h2, h3, h4⟩ := h
  have hf' : (g.node p').flat = false := by rw [hF p' h1 p hp h2]; exact hf
  exact ⟨p', h1, h2, (hO w p' h1 hf').mp (relevant_nonflat h3 hf'), h4 hf'⟩

/-- the `finished` mark of a worker on its own parsed copy is never overwritten -/
theorem Trv.stable {g : Graph} {H0 : List Nat} {s : State} (hwf : GraphWF g) (hroot : (g.node g.root).flat = true)
    (hu : UniqueId g) (t : Trv g H0 s) (v : Nat) (out : Outcome) (fuel : Nat) (p w : Nat) (hp : p < g.nodes.length)
    (hf : (g.node p).flat = false) (h : (s.nd p).finished = some w) : ((resume g s v out fuel).1.nd p).finished = some w := by
  rcases (resume_ok g H0 hwf hroot s v out fuel t).1.fin p with h' | ⟨_, h1, h2⟩
  · rw [h', h]
  · rw [h2, hu p hp hf v w (relevant_nonflat h1 hf) (t.finOwner p w hp hf h)]

/-! ## for the run-level statements: the `unset` request, and what the clean decision reads on the visible graph -/

/-- the only `unset` request `sync_states` can emit: the states queued for removal, addressed to the pool of the worker the
copy was parsed for (`netOf`; the acting worker's own pool when the copy is its own) -/
theorem syncStates_unset_event (g : Graph) (s : State) (n v : Nat) (rv : Option (List String)) (wid : String)
    (reqs : List (String × String)) (sc : List String) (ok : Bool)
    (h : Event.door wid "unset" reqs sc ok ∈ (syncStates g s n v rv).2) :
    wid = (g.worker (g.netOf n v)).id ∧ (syncAcc (g.node n) rv).1 = true ∧ (syncAcc (g.node n) rv).2.1 = "unset" ∧
      reqs = (syncAcc (g.node n) rv).2.2.1 := by
  obtain ⟨h1, ⟨h2, he⟩ | ⟨_, he⟩⟩ := (syncStates_spec g s n v rv).2 _ h
  · cases he; exact ⟨rfl, h1, h2, rfl⟩
  · simp at he

theorem unsetModeOf_sameNodes {gv g : Graph} (h : SameNodes gv g) (n : Nat) (vm : String) :
    unsetModeOf (gv.node n) vm = unsetModeOf (g.node n) vm :=
  h.proj (unsetModeOf · vm) (fun _ => rfl) n

theorem isReversible_sameNodes {gv g : Graph} (h : SameNodes gv g) (n : Nat) :
    isReversible (gv.node n) = isReversible (g.node n) :=
  h.proj isReversible (fun _ => rfl) n

theorem copies_sameNodes {gv g : Graph} (h : SameNodes gv g) (n : Nat) : gv.copies n = g.copies n := by
  unfold Graph.copies Graph.classNodes
  simp only [h.flat, h.cls, h.len]

theorem involved_sameNodes {gv g : Graph} (h : SameNodes gv g) (s : State) (n : Nat) : involved gv s n = involved g s n := by
  unfold involved
  simp only [h.cls, h.workers]

theorem isFinished_sameNodes {gv g : Graph} (h : SameNodes gv g) (s : State) (n w : Nat) (thr : Int) :
    isFinished gv s n w thr = isFinished g s n w thr := by
  unfold isFinished scopeCount sharedFinished
  simp only [h.flat, h.shape, copies_sameNodes h, involved_sameNodes h, h.worker]

/-! ## a small instance for the non-vacuity examples of `Props/C01.lean`, `Props/C05.lean`

Two workers; per worker a stateless test `a` (nodes 0, 1) and a dependant `b` (nodes 2, 3) that sets the removable state
`vm1/b` (`unset_mode=fi`); node 4 is the shared root. -/

def exGraph : Graph :=
  { workers := [{ id := "net1", swarm := "localhost" }, { id := "net2", swarm := "localhost" }],
    nodes := [
      { cls := 0, owner := some 0, name := "all.a.vms.vm1.nets.localhost.net1", pfx := "1a1", objs := ["vm1"],
        setup := [(4, ["vm1"])], cleanup := [(2, ["vm1"])] },
      { cls := 0, owner := some 1, name := "all.a.vms.vm1.nets.localhost.net2", pfx := "1a1", objs := ["vm1"],
        setup := [(4, ["vm1"])], cleanup := [(3, ["vm1"])] },
      { cls := 1, owner := some 0, name := "all.b.vms.vm1.nets.localhost.net1", pfx := "2a1", objs := ["vm1"],
        sets := [("vm1", "b")], unsetMode := [("vm1", "fi")], setup := [(0, ["vm1"])] },
      { cls := 1, owner := some 1, name := "all.b.vms.vm1.nets.localhost.net2", pfx := "2a1", objs := ["vm1"],
        sets := [("vm1", "b")], unsetMode := [("vm1", "fi")], setup := [(1, ["vm1"])] },
      { cls := 2, owner := none, name := "all.internal.stateless.noop", pfx := "1", flat := true, sharedRoot := true,
        cleanup := [(0, ["vm1"]), (1, ["vm1"])] }],
    root := 4 }

def exNoOut : Outcome := { status := none }
def exPass : Outcome := { status := some "PASS", dur := 1 }

/-- net1 went to its copy of `a` and started it -/
def exS1 : State := runSched exGraph 100 (initState exGraph 3 [] []) [(0, exNoOut)]
/-- `a` passed; net1 went on to `b`, was sent back to traverse (not rerun) and drop `a`, and started `b` -/
def exS2 : State := runSched exGraph 100 (initState exGraph 3 [] []) [(0, exNoOut), (0, exPass)]

/-- the same suite expanded lazily: initially only the shared root (4) and the flat test `b` (5) exist, the four parsed
nodes are hidden; a worker reveals its own copy of `b` and the ancestors of that copy when it reaches the flat node -/
def exLazy : Graph :=
  { workers := exGraph.workers,
    nodes := [
      { cls := 0, owner := some 0, name := "all.a.vms.vm1.nets.localhost.net1", pfx := "1a1", objs := ["vm1"],
        setup := [(4, ["vm1"])], cleanup := [(2, ["vm1"])] },
      { cls := 0, owner := some 1, name := "all.a.vms.vm1.nets.localhost.net2", pfx := "1a1", objs := ["vm1"],
        setup := [(4, ["vm1"])], cleanup := [(3, ["vm1"])] },
      { cls := 1, owner := some 0, name := "all.b.vms.vm1.nets.localhost.net1", pfx := "2a1", objs := ["vm1"],
        sets := [("vm1", "b")], unsetMode := [("vm1", "fi")], setup := [(0, ["vm1"]), (5, [])] },
      { cls := 1, owner := some 1, name := "all.b.vms.vm1.nets.localhost.net2", pfx := "2a1", objs := ["vm1"],
        sets := [("vm1", "b")], unsetMode := [("vm1", "fi")], setup := [(1, ["vm1"]), (5, [])] },
      { cls := 2, owner := none, name := "all.internal.stateless.noop", pfx := "1", flat := true, sharedRoot := true,
        cleanup := [(5, []), (0, ["vm1"]), (1, ["vm1"])] },
      { cls := 3, owner := none, name := "all.b.vms.vm1", pfx := "2a", flat := true, setless := "all.b.vms.vm1",
        setup := [(4, [])], cleanup := [(2, []), (3, [])] }],
    root := 4 }

def exL1 : State := runSched exLazy 100 (initState exLazy 4 [] [0, 1, 2, 3]) [(0, exNoOut)]
def exL2 : State := runSched exLazy 100 (initState exLazy 4 [] [0, 1, 2, 3]) [(0, exNoOut), (0, exPass)]

/-- an instance violating `OwnerNames`: the id of worker 0 (`net1`) is a substring of the name of worker 1's copy -/
def exBad : Graph :=
  { workers := [{ id := "net1", swarm := "localhost" }, { id := "net11", swarm := "localhost" }],
    nodes := [
      { cls := 0, owner := some 1, name := "all.a.vms.vm1.nets.localhost.net11", pfx := "1a1", objs := ["vm1"],
        setup := [(1, ["vm1"])] },
      { cls := 1, owner := none, name := "all.internal.stateless.noop", pfx := "1", flat := true, sharedRoot := true,
        cleanup := [(0, ["vm1"])] }],
    root := 1 }

theorem runSched_snoc (g : Graph) (fuel : Nat) (s : State) (l : List (Nat × Outcome)) (w : Nat) (out : Outcome) :
    runSched g fuel s (l ++ [(w, out)]) = (resume g (runSched g fuel s l) w out fuel).1 := by
  simp [runSched]

/-- What net1's run on `exGraph` shows — the step to `exS2` for `Props/C01.lean`, the step after it for `Props/C05.lean` —
from ONE kernel evaluation.  Evaluating a run is dear (for every `worker.id in name` the kernel decodes the UTF-8 of the
node name), each `decide` would evaluate it again from the initial state, and plain `decide` once more in the elaborator.
`exS2` is first written as the step from `exS1`, so that this step, whose events the first part speaks of, is the same
term throughout; the steps are then evaluated through `resumeP` (`Lemmas/TravEval.lean`), where the decoding is shared
between the loop iterations. -/
theorem exGraph_run :
    (0 ∈ regWorkers (exS2.cr (exGraph.node 2).cls).droppedSetup (some (exGraph.node 0).cls) ∧
      (exS2.nd 0).finished = some 0 ∧ (exGraph.node 0).owner = some 0 ∧
      Event.start "net1" "1" "2a1" [("vm1", ":/pool/shared net1:/pool/swarm")] 1 ∈ (resume exGraph exS1 0 exPass 100).2) ∧
    (isReversible (exGraph.node 2) = true ∧
      Event.door "net1" "unset" [("vm1", "b")] ["own"] true ∈ (resume exGraph exS2 0 exPass 100).2 ∧
      0 ∈ regWorkers ((resume exGraph exS2 0 exPass 100).1.cr (exGraph.node 0).cls).droppedCleanup
        (some (exGraph.node 2).cls) ∧
      ((resume exGraph exS2 0 exPass 100).1.nd 2).finished = some 0) := by
  have h := foldl_resume_eqP exGraph 100 [(0, exNoOut)] _ (initState_hidden exGraph 3 [])
  rw [show exS2 = (resume exGraph exS1 0 exPass 100).1 from runSched_snoc exGraph 100 _ [(0, exNoOut)] 0 exPass,
    show exS1 = runSchedP exGraph 100 _ _ from h.1,
    resume_eq_resumeP h.2, resume_eq_resumeP ((hidden_resumeP ..).trans h.2)]
  decide +kernel

theorem exLazy_run :
    (exL2.hidden = [1, 3] ∧
      0 ∈ regWorkers (exL2.cr (exLazy.node 2).cls).droppedSetup (some (exLazy.node 0).cls) ∧
      (exL2.nd 0).finished = some 0 ∧
      Event.start "net1" "1" "2a1" [("vm1", ":/pool/shared net1:/pool/swarm")] 1 ∈ (resume exLazy exL1 0 exPass 100).2) ∧
    Event.door "net1" "unset" [("vm1", "b")] ["own"] true ∈ (resume exLazy exL2 0 exPass 100).2 := by
  rw [show exL2 = (resume exLazy exL1 0 exPass 100).1 from runSched_snoc exLazy 100 _ [(0, exNoOut)] 0 exPass]
  decide +kernel

end I2N.Trav
