/-
Helper lemmas for the C13 theorems: `dedup`, the stable descending insertion sort behind `get_sources`,
the loops of `show` and `get`.  Core only.
-/
import I2N.Model.Pool
namespace I2N.Pool

/-! ### `dedup` (= `Params.objects`) -/

theorem mem_dedup {a : Src} {l : List Src} : a ∈ dedup l ↔ a ∈ l := by
  induction l with
  | nil => simp [dedup]
  | cons x xs ih =>
    simp only [dedup, List.mem_cons, List.mem_filter, ih, bne_iff_ne, ne_eq]
    by_cases h : a = x <;> simp [h]

theorem nodup_dedup (l : List Src) : (dedup l).Nodup := by
  induction l with
  | nil => simp [dedup]
  | cons x xs ih =>
    simp only [dedup, List.nodup_cons, List.mem_filter, bne_iff_ne, ne_eq, not_true_eq_false, and_false,
      not_false_eq_true, true_and]
    exact ih.filter _

/-! ### `sortDesc` (= `sorted(..., key=proximity, reverse=True)`) -/

theorem perm_insertDesc (key : Src → Nat) (x : Src) (l : List Src) : (insertDesc key x l).Perm (x :: l) := by
  induction l with
  | nil => simp [insertDesc]
  | cons y ys ih =>
    simp only [insertDesc]
    split
    · exact (List.Perm.cons y ih).trans (List.Perm.swap x y ys)
    · exact List.Perm.refl _

theorem perm_sortDesc (key : Src → Nat) (l : List Src) : (sortDesc key l).Perm l := by
  induction l with
  | nil => simp [sortDesc]
  | cons x xs ih => exact (perm_insertDesc key x _).trans (List.Perm.cons x ih)

/-- descending by key -/
def Desc (key : Src → Nat) (l : List Src) : Prop := l.Pairwise (fun a b => key b ≤ key a)

theorem desc_insertDesc (key : Src → Nat) (x : Src) (l : List Src) (h : Desc key l) :
    Desc key (insertDesc key x l) := by
  induction l with
  | nil => simp [insertDesc, Desc]
  | cons y ys ih =>
    have := fun a => (perm_insertDesc key x ys).mem_iff (a := a)
    grind [Desc, insertDesc, List.pairwise_cons]

theorem desc_sortDesc (key : Src → Nat) (l : List Src) : Desc key (sortDesc key l) := by
  induction l with
  | nil => simp [sortDesc, Desc]
  | cons x xs ih => exact desc_insertDesc key x _ ih

/-- stability: among the elements of one key the sort keeps the original order -/
theorem filter_insertDesc (key : Src → Nat) (k : Nat) (x : Src) (l : List Src) :
    (insertDesc key x l).filter (fun a => key a == k) = (x :: l).filter (fun a => key a == k) := by
  induction l with
  | nil => simp [insertDesc]
  | cons y ys ih => grind [insertDesc]

theorem filter_sortDesc (key : Src → Nat) (k : Nat) (l : List Src) :
    (sortDesc key l).filter (fun a => key a == k) = l.filter (fun a => key a == k) := by
  induction l with
  | nil => simp [sortDesc]
  | cons x xs ih =>
    simp only [sortDesc, filter_insertDesc]
    simp only [List.filter_cons, ih]

/-- the first `p` of a list is also the first `p` among the elements that share its key -/
theorem find_filter_key {key : Src → Nat} {p : Src → Bool} {l : List Src} {s : Src}
    (hf : l.find? p = some s) : (l.filter (fun a => key a == key s)).find? p = some s := by
  induction l with
  | nil => simp at hf
  | cons y ys ih =>
    by_cases hy : p y = true
    · simp only [List.find?_cons, hy, Option.some.injEq] at hf
      subst hf
      simp [hy]
    · have hy' : p y = false := by simpa using hy
      simp only [List.find?_cons, hy'] at hf
      simp only [List.filter_cons]
      split
      · simp only [List.find?_cons, hy']; exact ih hf
      · exact ih hf

/-! ### `get_sources` -/

theorem mem_getSources {e : Env} {locs : List Src} {s : Src} : s ∈ getSources e locs ↔ s ∈ locs := by
  unfold getSources
  rw [(perm_sortDesc _ _).mem_iff, mem_dedup]

theorem nodup_getSources (e : Env) (locs : List Src) : (getSources e locs).Nodup :=
  (perm_sortDesc _ _).nodup_iff.mpr (nodup_dedup locs)

theorem desc_getSources (e : Env) (locs : List Src) : Desc (proximity e) (getSources e locs) :=
  desc_sortDesc _ _

/-- in a descending list the first element satisfying `p` has the largest key among those satisfying `p` -/
theorem find_desc_max {key : Src → Nat} {p : Src → Bool} {l : List Src} {s : Src}
    (hd : Desc key l) (hf : l.find? p = some s) : ∀ t ∈ l, p t = true → key t ≤ key s := by
  induction l with
  | nil => simp at hf
  | cons y ys ih =>
    simp only [Desc, List.pairwise_cons] at hd
    intro t ht hpt
    by_cases hy : p y = true
    · simp only [List.find?_cons, hy, Option.some.injEq] at hf
      subst hf
      rcases List.mem_cons.mp ht with rfl | hm
      · exact Nat.le_refl _
      · exact hd.1 t hm
    · have hy' : p y = false := by simpa using hy
      simp only [List.find?_cons, hy'] at hf
      rcases List.mem_cons.mp ht with rfl | hm
      · exact absurd hpt hy
      · exact ih hd.2 hf t hm hpt

/-! ### `permitted` -/

theorem permitted_iff {skip : String} {e : Env} {scopes : List String} {s : Src} :
    permitted skip e scopes s = true ↔ sourceScope e s ≠ skip ∧ sourceScope e s ∈ scopes := by
  simp [permitted]

/-! ### the loop of `get` -/

theorem getLoop_eq (e : Env) (w : World) (scopes : List String) (state : String) (l : List Src) :
    getLoop e w scopes state l =
      match l.find? (permitted Extracted.Pool.getSkip e scopes) with
      | none => []
      | some s => getFrom w state s := by
  induction l with
  | nil => simp [getLoop]
  | cons y ys ih =>
    simp only [getLoop, List.find?_cons]
    by_cases hy : permitted Extracted.Pool.getSkip e scopes y = true
    · simp [hy]
    · have hy' : permitted Extracted.Pool.getSkip e scopes y = false := by simpa using hy
      simp [hy', ih]

/-! ### the loop of `show` -/

theorem mem_accumulate {x : String} {acc m : List String} (h : x ∈ accumulate acc m) : x ∈ acc ∨ x ∈ m := by
  unfold accumulate at h
  split at h
  · exact Or.inr h
  · exact Or.inl (List.mem_filter.mp h).1

theorem showLoop_contacts (e : Env) (w : World) (scopes : List String) (l : List Src) (acc : List String) :
    (showLoop e w scopes l acc).2 = (l.filter (permitted Extracted.Pool.showSkip e scopes)).map Contact.poolShow := by
  induction l generalizing acc with
  | nil => simp [showLoop]
  | cons y ys ih =>
    simp only [showLoop]
    by_cases hy : permitted Extracted.Pool.showSkip e scopes y = true
    · simp [hy, ih]
    · have hy' : permitted Extracted.Pool.showSkip e scopes y = false := by simpa using hy
      simp [hy', ih]

theorem showLoop_sound (e : Env) (w : World) (scopes : List String) (l : List Src) (acc : List String) (x : String)
    (h : x ∈ (showLoop e w scopes l acc).1) :
    x ∈ acc ∨ ∃ s ∈ l, permitted Extracted.Pool.showSkip e scopes s = true ∧ x ∈ w.mirror s := by
  induction l generalizing acc with
  | nil => exact Or.inl (by simpa [showLoop] using h)
  | cons y ys ih =>
    simp only [showLoop] at h
    by_cases hy : permitted Extracted.Pool.showSkip e scopes y = true
    · simp only [hy, if_true] at h
      rcases ih _ h with h1 | ⟨s, hs, hp, hx⟩
      · rcases mem_accumulate h1 with h2 | h2
        · exact Or.inl h2
        · exact Or.inr ⟨y, List.mem_cons_self, hy, h2⟩
      · exact Or.inr ⟨s, List.mem_cons_of_mem _ hs, hp, hx⟩
    · have hy' : permitted Extracted.Pool.showSkip e scopes y = false := by simpa using hy
      simp only [hy'] at h
      rcases ih _ h with h1 | ⟨s, hs, hp, hx⟩
      · exact Or.inl h1
      · exact Or.inr ⟨s, List.mem_cons_of_mem _ hs, hp, hx⟩

/-! ### the loop of `get_root` -/

theorem compareLoop_valid (vs : List Bool) (i : Nat) : (compareLoop vs i).2 = vs.all id := by
  induction vs generalizing i with
  | nil => simp [compareLoop]
  | cons v vs ih => cases v <;> simp [compareLoop, ih]

theorem compareLoop_contacts (vs : List Bool) (i : Nat) :
    ∀ c ∈ (compareLoop vs i).1, ∃ k, c = RContact.poolCompare k := by
  induction vs generalizing i with
  | nil => simp [compareLoop]
  | cons v vs ih =>
    cases v
    · simp [compareLoop]
    · intro c hc
      simp only [compareLoop, if_true, List.mem_cons] at hc
      rcases hc with rfl | hc
      · exact ⟨i, rfl⟩
      · exact ih _ c hc

/-! ### `compare_chain` -/

theorem compareFiles_iff (same : String → Bool) (fs : List String) :
    (compareFiles same fs).1 = true ↔ ∀ f ∈ fs, same f = true := by
  induction fs with
  | nil => simp [compareFiles]
  | cons f fs ih =>
    by_cases hf : same f = true
    · simp [compareFiles, hf, ih]
    · simp [compareFiles, hf]

theorem compareFiles_prefix (same : String → Bool) (fs : List String) : (compareFiles same fs).2 <+: fs := by
  induction fs with
  | nil => simp [compareFiles]
  | cons f fs ih =>
    by_cases hf : same f = true
    · simp only [compareFiles, hf, if_true]
      exact (List.prefix_cons_inj f).mpr ih
    · simp only [compareFiles, hf]
      exact ⟨fs, rfl⟩

theorem compareFiles_all (same : String → Bool) (fs : List String) (h : (compareFiles same fs).1 = true) :
    (compareFiles same fs).2 = fs := by
  induction fs with
  | nil => simp [compareFiles]
  | cons f fs ih =>
    by_cases hf : same f = true
    · simp only [compareFiles, hf, if_true] at h ⊢
      rw [ih h]
    · simp [compareFiles, hf] at h

/-- an invalid verdict is due to the last file compared; everything compared before it was equal -/
theorem compareFiles_stop (same : String → Bool) (fs : List String) (h : (compareFiles same fs).1 = false) :
    ∃ pre f, (compareFiles same fs).2 = pre ++ [f] ∧ same f = false ∧ ∀ g ∈ pre, same g = true := by
  induction fs with
  | nil => simp [compareFiles] at h
  | cons f fs ih =>
    by_cases hf : same f = true
    · simp only [compareFiles, hf, if_true] at h ⊢
      obtain ⟨pre, g, h1, h2, h3⟩ := ih h
      refine ⟨f :: pre, g, by simp [h1], h2, ?_⟩
      intro x hx
      rcases List.mem_cons.mp hx with rfl | hx
      · exact hf
      · exact h3 x hx
    · refine ⟨[], f, by simp [compareFiles, hf], by simpa using hf, by simp⟩

end I2N.Pool
