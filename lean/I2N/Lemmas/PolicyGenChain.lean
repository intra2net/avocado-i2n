import I2N.Lemmas.PolicyGenPush
/-! Equality of the regenerated `_state_check_chain` (one definition per value of its parameter `do`) with the atom
`chainM` the generated `get_states` / `set_states` / `unset_states` iterations call: same result, same dictionary
(`state_params` is rewritten in place and the caller goes on reading it), same store and backend calls. -/
set_option linter.unusedVariables false
namespace I2N.PolicyGen
open I2N.Policy I2N.PolicyM I2N.Extracted.Policy I2N.Extracted.GenPolicy

/-- the restriction written with the translator's splitter -/
theorem restrictWith_def (ty name : String) (sp : Params) :
    (List.foldl (fun acc tn => acc.set tn.1 tn.2) sp ((pySplitChar '/' ty).zip (pySplitChar '/' name))).set
      "states_chain" ((pySplitChar '/' ty).getLast?.getD "") = restrictWith ty name sp := by
  simp only [restrictWith, splitSlash, pySplitChar]

theorem M.bindF_pure {α : Type} (r : Except Err α × PS) : M.bindF r (fun a => (pure a : M α)) = r := by
  rcases r with ⟨e | a, s⟩ <;> rfl

/-- the three regenerated definitions are this block, with the name of the function as the literal `lit` -/
theorem chain_eq (B : Backends) (d : Do) (lit : String) (hl : (lit == "set") = decide (d = .set)) (ty name : String)
    (s : PS) :
    (do
      setP "check_state" (← rd (fun sp => sp.getD d.stateKey ""))
      if (← rd (truthyP d.locKey)) then
        setP "show_location" (← rd (fun sp => sp.getD d.locKey ""))
      if (lit == "set") then
        setP "check_opts" "soft_boot=yes"
        setP "soft_boot" "yes"
      else
        setP "check_opts" "soft_boot=no"
        setP "soft_boot" "no"
      let mut composite_types : List String := (pySplitChar '/' ty)
      let mut composite_names : List String := (pySplitChar '/' name)
      zipSetM composite_types composite_names
      setP "states_chain" (composite_types.getLast?.getD "")
      let mut state_exists : Bool := (← checkStatesM B)
      return state_exists : M Bool) s = chainM B d ty name s := by
  obtain ⟨sp, rp, st⟩ := s
  simp only [chainM, chainParamsWith, midP]
  rcases ht : (sp.set "check_state" _).truthy d.locKey with _ | l
  · simp only [hl, ht, decide_eq_true_eq, ↓M.bind_ap, ↓M.ite_ap, M.bindF_ok, M.bindF_pure, rd, setP, zipSetM,
      checkStatesM, truthyP, restrictWith_def, Option.isSome_none, Bool.false_eq_true, if_false]
    split <;> rfl
  · simp only [hl, ht, truthy_getD ht, decide_eq_true_eq, ↓M.bind_ap, ↓M.ite_ap, M.bindF_ok, M.bindF_pure, rd, setP,
      zipSetM, checkStatesM, truthyP, restrictWith_def, Option.isSome_some, if_true]
    split <;> rfl

theorem chainGet_eq (B : Backends) (ty name : String) (s : PS) :
    (genChainGet B ty name).run s = chainM B .get ty name s := by
  rw [M.run_ap]
  exact chain_eq B .get "get" (by decide) ty name s

theorem chainSet_eq (B : Backends) (ty name : String) (s : PS) :
    (genChainSet B ty name).run s = chainM B .set ty name s := by
  rw [M.run_ap]
  exact chain_eq B .set "set" (by decide) ty name s

theorem chainUnset_eq (B : Backends) (ty name : String) (s : PS) :
    (genChainUnset B ty name).run s = chainM B .unset ty name s := by
  rw [M.run_ap]
  exact chain_eq B .unset "unset" (by decide) ty name s

/-- with the type and the name of the dictionary itself (what all callers pass) the rewriting is the hand model's
`chainParams` -/
theorem chainParamsWith_self (d : Do) (sp : Params) :
    chainParamsWith d (sp.getD "object_type" "") (sp.getD "object_name" "") sp = chainParams d sp := by
  unfold chainParamsWith
  rw [chainParams_mid]
  unfold restrict restrictWith typeOf
  rw [midP_getD _ _ _ _ (by decide), midP_getD _ _ _ _ (by decide)]

end I2N.PolicyGen
