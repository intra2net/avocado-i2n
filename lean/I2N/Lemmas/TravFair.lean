import I2N.Lemmas.TravGlobalN
/-!
Termination ACROSS suspensions for ANY number of workers under a FAIR scheduler (property C02).

`Lemmas/TravGlobalN.lean` bounds the number of *productive* steps of a run by the static graph and shows that a step which
ends in the back-off sleep needs another worker that is inside a test or dead (`bounce_has_runner`).  Here the two are composed.
The scheduling arguments use nothing of a run but that its states are reachable (`ReachableF`) and its steps are steps of
real workers with fuel (`RealSteps`), so they serve every invariant that bounds the productive steps (`GInvN` here, `GInv2`
in `TravFair2`):

* `window_productiveF`: a stretch of steps in which every worker that is not over is resumed, taken from a state where
  nobody is dead and somebody is not over, contains a productive step.
* `Lively`: every `K` consecutive steps that end alive contain a productive step; `lively_over`: such a run with at most
  `B` productive steps does not end alive after `(B + 1)·K` steps.
* fair runs are lively (`FairW`, `fair_lively`), and so are runs under a virtual clock (`Timed`, `timed_livelyF`: at most
  `|workers|·(T/q + 1)` consecutive back-off steps).
* `resume_sleep`: a step that ends in the back-off sleep announces a sleep of at least 0.1 s as its last event.
-/
namespace I2N.Trav.Fair
open I2N.Trav I2N.Trav.Global I2N.Trav.GlobalN

/-! ## runs whose steps are admissible -/

/-- every step of the run is a step of a real worker with `fuel ≥ bound g`, and raises no `max_concurrent_tries` -/
def RunOK (g : Graph) : State → List StepN → Prop
  | _, [] => True
  | s, a :: r =>
    (a.1 < g.workers.length ∧ Term.bound g ≤ a.2.2 ∧ ∀ i, ((stepN g s a).nd i).bump = (s.nd i).bump) ∧
      RunOK g (stepN g s a) r

/-- no step of the run raises a `max_concurrent_tries` (weaker than `Patient`, and observable) -/
def BumpFree (g : Graph) : State → List StepN → Prop
  | _, [] => True
  | s, a :: r => (∀ i, ((stepN g s a).nd i).bump = (s.nd i).bump) ∧ BumpFree g (stepN g s a) r

theorem bumpFree_of_patient (g : Graph) (steps : List StepN) (s : State) (h : Patient g s steps) : BumpFree g s steps := by
  induction steps generalizing s with
  | nil => trivial
  | cons a r ih => exact ⟨resume_bump_eq g s a.1 a.2.1 a.2.2 h.1, ih _ h.2⟩

theorem runOK_of (g : Graph) (steps : List StepN) (s : State) (hreal : ∀ x ∈ steps, x.1 < g.workers.length)
    (hfuel : ∀ x ∈ steps, Term.bound g ≤ x.2.2) (hb : BumpFree g s steps) : RunOK g s steps := by
  induction steps generalizing s with
  | nil => trivial
  | cons a r ih =>
    exact ⟨⟨hreal a List.mem_cons_self, hfuel a List.mem_cons_self, hb.1⟩,
      ih _ (fun x hx => hreal x (List.mem_cons_of_mem _ hx)) (fun x hx => hfuel x (List.mem_cons_of_mem _ hx)) hb.2⟩

theorem runOK_append (g : Graph) (a b : List StepN) (s : State) (h : RunOK g s (a ++ b)) :
    RunOK g s a ∧ RunOK g (runStepsN g s a) b := by
  induction a generalizing s with
  | nil => exact ⟨trivial, h⟩
  | cons x r ih =>
    obtain ⟨y1, y2⟩ := ih _ h.2
    exact ⟨⟨h.1, y1⟩, y2⟩

theorem runStepsN_append (g : Graph) (s : State) (a b : List StepN) :
    runStepsN g s (a ++ b) = runStepsN g (runStepsN g s a) b := by
  unfold runStepsN; rw [List.foldl_append]

/-- every step is a step of a real worker with fuel -/
def RealSteps (g : Graph) (steps : List StepN) : Prop := ∀ x ∈ steps, x.1 < g.workers.length ∧ 0 < x.2.2

theorem RealSteps.head {g : Graph} {a : StepN} {r : List StepN} (h : RealSteps g (a :: r)) :
    a.1 < g.workers.length ∧ 0 < a.2.2 := h a List.mem_cons_self

theorem RealSteps.tail {g : Graph} {a : StepN} {r : List StepN} (h : RealSteps g (a :: r)) : RealSteps g r :=
  fun x hx => h x (List.mem_cons_of_mem _ hx)

theorem RealSteps.take {g : Graph} {steps : List StepN} (h : RealSteps g steps) (k : Nat) : RealSteps g (steps.take k) :=
  fun x hx => h x (List.mem_of_mem_take hx)

theorem RealSteps.drop {g : Graph} {steps : List StepN} (h : RealSteps g steps) (k : Nat) : RealSteps g (steps.drop k) :=
  fun x hx => h x (List.mem_of_mem_drop hx)

theorem realSteps_of_runOK {g : Graph} {steps : List StepN} {s : State} (h : RunOK g s steps) : RealSteps g steps := by
  induction steps generalizing s with
  | nil => intro x hx; cases hx
  | cons a r ih =>
    intro x hx
    rcases List.mem_cons.mp hx with e | hx
    · rw [e]; exact ⟨h.1.1, Nat.lt_of_lt_of_le (bound_pos g) h.1.2.1⟩
    · exact ih h.2 x hx

theorem ginvN_run {g : Graph} {ncls : Nat} (st : StaticN g ncls) {store : List (String × List (String × String))}
    (steps : List StepN) (s : State) (h : GInvN g ncls store s) (ok : RunOK g s steps) :
    GInvN g ncls store (runStepsN g s steps) := by
  induction steps generalizing s with
  | nil => exact h
  | cons a r ih =>
    obtain ⟨⟨hw, hf, hb⟩, ok'⟩ := ok
    rw [runStepsN_cons]
    exact ih _ (ginvN_step st h a.1 hw a.2.1 a.2.2 (Nat.lt_of_lt_of_le (bound_pos g) hf) hb) ok'

/-! ## counting productive steps -/

theorem productiveSteps_cons (g : Graph) (s : State) (a : StepN) (r : List StepN) :
    productiveSteps g s (a :: r) =
      (if productive (s.wd a.1).pc ((stepN g s a).wd a.1).pc then 1 else 0) + productiveSteps g (stepN g s a) r := rfl

theorem productiveSteps_append (g : Graph) (a b : List StepN) (s : State) :
    productiveSteps g s (a ++ b) = productiveSteps g s a + productiveSteps g (runStepsN g s a) b := by
  induction a generalizing s with
  | nil => simp [productiveSteps, runStepsN]
  | cons x r ih =>
    rw [List.cons_append, productiveSteps_cons, productiveSteps_cons, runStepsN_cons, ih]
    omega

theorem run_cnt {g : Graph} {ncls : Nat} (st : StaticN g ncls) (hnr : noRootsB g = true)
    {store : List (String × List (String × String))} (steps : List StepN) (s : State) (h : GInvN g ncls store s)
    (ok : RunOK g s steps) : cntN g s + productiveSteps g s steps ≤ cntN g (runStepsN g s steps) := by
  induction steps generalizing s with
  | nil => exact Nat.le_refl _
  | cons a r ih =>
    have c1 := step_cntN st hnr h a.1 ok.1.1 a.2.1 a.2.2 ok.1.2.1
    have c2 := ih _ (ginvN_step st h a.1 ok.1.1 a.2.1 a.2.2 (Nat.lt_of_lt_of_le (bound_pos g) ok.1.2.1) ok.1.2.2) ok.2
    rw [runStepsN_cons, productiveSteps_cons]
    unfold stepN at c2 ⊢
    omega

/-- the number of productive steps of an admissible run from the initial state is at most
`24·resultBound g + |workers|` -/
theorem productive_le_run {g : Graph} {ncls : Nat} (st : StaticN g ncls) (hnr : noRootsB g = true)
    (hcl : classesOKB g = true) (store : List (String × List (String × String))) (steps : List StepN)
    (ok : RunOK g (initState g ncls store []) steps) :
    productiveSteps g (initState g ncls store []) steps ≤ 24 * resultBound g + g.workers.length := by
  have c := run_cnt st hnr steps _ (ginvN_init g ncls store) ok
  have y := ginvN_run st steps _ (ginvN_init g ncls store) ok
  have h1 := total_le_resultBoundN st.wf hcl y.reachR y.noBump
  have h2 := qsum_le (g := g) y.wait
  have h3 : 12 * g.workers.length ≤ qsum g (initState g ncls store []) := by
    have := sum_map_const_ge (List.range g.workers.length) (fun v => q ((initState g ncls store []).wd v).pc) 12
      (fun v _ => by rw [init_pc]; exact Nat.le_refl _)
    rwa [List.length_range] at this
  unfold cntN at c
  omega

/-! ## what the steps of the others do to a worker -/

theorem run_keeps {g : Graph} {I : State → Prop}
    (hstep : ∀ s w out fuel, I s → w < g.workers.length → 0 < fuel → I (resume g s w out fuel).1)
    (steps : List StepN) (s : State) (h : I s) (ok : RealSteps g steps) : I (runStepsN g s steps) := by
  induction steps generalizing s with
  | nil => exact h
  | cons a r ih => exact ih _ (hstep s a.1 a.2.1 a.2.2 h ok.head.1 ok.head.2) ok.tail

theorem reachF_stepN {g : Graph} {ncls : Nat} {store : List (String × List (String × String))} {s : State}
    (h : ReachableF g ncls store s) (a : StepN) (r : List StepN) (ok : RealSteps g (a :: r)) :
    ReachableF g ncls store (stepN g s a) := .step s a.1 a.2.1 a.2.2 h ok.head.1 ok.head.2

theorem reachF_run {g : Graph} {ncls : Nat} {store : List (String × List (String × String))} (steps : List StepN)
    (s : State) (h : ReachableF g ncls store s) (ok : RealSteps g steps) : ReachableF g ncls store (runStepsN g s steps) :=
  run_keeps (fun s w out fuel h hw hf => .step s w out fuel h hw hf) steps s h ok

theorem stepN_other {g : Graph} {ncls : Nat} (st : StaticN g ncls) {store : List (String × List (String × String))}
    {s : State} (h : ReachableF g ncls store s) (a : StepN) (r : List StepN) (ok : RealSteps g (a :: r)) (v : Nat)
    (hv : v ≠ a.1) : (stepN g s a).wd v = s.wd v :=
  resume_others st h a.1 ok.head.1 a.2.1 a.2.2 ok.head.2 v hv

theorem over_run {g : Graph} {ncls : Nat} (st : StaticN g ncls) {store : List (String × List (String × String))}
    (steps : List StepN) (s : State) (h : ReachableF g ncls store s) (ok : RealSteps g steps) (v : Nat)
    (hov : isOver (s.wd v).pc = true) : (runStepsN g s steps).wd v = s.wd v := by
  induction steps generalizing s with
  | nil => rfl
  | cons a r ih =>
    have e : (stepN g s a).wd v = s.wd v := by
      by_cases hv : v = a.1
      · subst hv
        unfold stepN
        rw [resume_overN g s a.1 a.2.1 a.2.2 hov]
      · exact stepN_other st h a r ok v hv
    rw [runStepsN_cons, ih _ (reachF_stepN h a r ok) ok.tail (by rw [e]; exact hov), e]

/-- somebody real is not over, and nobody real is dead -/
def Alive (g : Graph) (s : State) : Prop :=
  (∃ u, u < g.workers.length ∧ isOver (s.wd u).pc = false) ∧ (∀ v, v < g.workers.length → (s.wd v).pc ≠ .failed)

theorem alive_of_run {g : Graph} {ncls : Nat} (st : StaticN g ncls) {store : List (String × List (String × String))}
    (steps : List StepN) (s : State) (h : ReachableF g ncls store s) (ok : RealSteps g steps)
    (ha : Alive g (runStepsN g s steps)) : Alive g s := by
  obtain ⟨⟨u, hu, hno⟩, hnf⟩ := ha
  refine ⟨⟨u, hu, ?_⟩, fun v hv hf => ?_⟩
  · cases hov : isOver (s.wd u).pc with
    | false => rfl
    | true => rw [over_run st steps s h ok u hov, hov] at hno; cases hno
  · have hov : isOver (s.wd v).pc = true := by rw [hf]; rfl
    exact hnf v hv (by rw [over_run st steps s h ok v hov]; exact hf)

theorem not_alive {g : Graph} {s : State} (h : ¬ Alive g s) :
    (∀ v, v < g.workers.length → (s.wd v).pc = .done) ∨ (∃ v, v < g.workers.length ∧ (s.wd v).pc = .failed) := by
  by_cases hf : ∃ v, v < g.workers.length ∧ (s.wd v).pc = .failed
  · exact Or.inr hf
  · left
    intro v hv
    have hnf : ∀ u, u < g.workers.length → (s.wd u).pc ≠ .failed := fun u hu e => hf ⟨u, hu, e⟩
    cases hov : isOver (s.wd v).pc with
    | false => exact absurd ⟨⟨v, hv, hov⟩, hnf⟩ h
    | true =>
      cases hpc : (s.wd v).pc with
      | done => rfl
      | failed => exact absurd hpc (hnf v hv)
      | loop => rw [hpc] at hov; cases hov
      | bounce => rw [hpc] at hov; cases hov
      | test n ph dir uid tag wait => rw [hpc] at hov; cases hov

/-! ## a window that resumes everybody contains a productive step -/

theorem productive_of_isTest {pc pc' : Pc} (h : pc.isTest = true) : productive pc pc' = true := by
  cases pc <;> first | rfl | cases h

theorem isOver_of_isTest {pc : Pc} (h : pc.isTest = true) : isOver pc = false := by
  cases pc <;> first | rfl | cases h

/-- a worker that is inside a test and is resumed in the run makes a productive step -/
theorem test_worker_productive {g : Graph} {ncls : Nat} (st : StaticN g ncls)
    {store : List (String × List (String × String))} (steps : List StepN) (s : State) (h : ReachableF g ncls store s)
    (ok : RealSteps g steps) (v : Nat) (ht : (s.wd v).pc.isTest = true) (hin : v ∈ steps.map (·.1)) :
    1 ≤ productiveSteps g s steps := by
  induction steps generalizing s with
  | nil => cases hin
  | cons a r ih =>
    rw [productiveSteps_cons]
    by_cases hv : v = a.1
    · subst hv
      rw [productive_of_isTest ht]
      simp
    · have e := stepN_other st h a r ok v hv
      have hin' : v ∈ r.map (·.1) := by
        rw [List.map_cons, List.mem_cons] at hin
        exact hin.resolve_left hv
      have := ih _ (reachF_stepN h a r ok) ok.tail (by rw [e]; exact ht) hin'
      omega

/-- a step of a worker that is not over, while nobody is inside a test and nobody is dead, is productive: it finds no
`started` mark, hence does not end asleep -/
theorem quiet_step_productive {g : Graph} {ncls : Nat} (st : StaticN g ncls)
    {store : List (String × List (String × String))} {s : State} (h : ReachableF g ncls store s) (a : StepN) (r : List StepN)
    (ok : RealSteps g (a :: r)) (hno : isOver (s.wd a.1).pc = false)
    (hnt : ¬ ∃ v, v < g.workers.length ∧ (s.wd v).pc.isTest = true)
    (hnf : ∀ v, v < g.workers.length → (s.wd v).pc ≠ .failed) :
    productive (s.wd a.1).pc ((stepN g s a).wd a.1).pc = true := by
  have hsym := edgeSymB_sound st.sym
  have hp := h.pinv hsym
  have hq : Quiet a.1 s := by
    intro v _
    by_cases hvl : v < g.workers.length
    · refine ⟨?_, hnf v hvl⟩
      cases hpc : (s.wd v).pc with
      | test n ph dir uid tag wait => exact absurd ⟨v, hvl, by rw [hpc]; rfl⟩ hnt
      | _ => rfl
    · rw [wd_default_of_ge s v (by rw [hp.wlen]; exact hvl)]
      exact ⟨rfl, by simp⟩
  exact productive_of_not_bounce hno (resume_quiet g hsym s a.1 a.2.1 a.2.2 ok.head.2 ok.head.1 hp hq).1

/-- **a window that resumes every worker which is not over contains a productive step**, provided nobody is dead and
somebody is not over at its beginning: if some worker is inside a test, its first step of the stretch is productive;
otherwise the steps of finished workers change nothing and the first step of a worker that is not over is productive -/
theorem window_productiveF {g : Graph} {ncls : Nat} (st : StaticN g ncls)
    {store : List (String × List (String × String))} (s : State) (h : ReachableF g ncls store s) (win : List StepN)
    (ok : RealSteps g win)
    (hcov : ∀ v, v < g.workers.length → isOver (s.wd v).pc = false → v ∈ win.map (·.1))
    (ha : Alive g s) : 1 ≤ productiveSteps g s win := by
  induction win with
  | nil =>
    obtain ⟨⟨u, hu, hno⟩, _⟩ := ha
    cases hcov u hu hno
  | cons a r ih =>
    rw [productiveSteps_cons]
    by_cases hov : isOver (s.wd a.1).pc = true
    · have e : stepN g s a = s := resume_overN g s a.1 a.2.1 a.2.2 hov
      have := ih ok.tail (fun v hv hno => by
        have hin := hcov v hv hno
        rw [List.map_cons, List.mem_cons] at hin
        exact hin.resolve_left (fun e => by rw [e, hov] at hno; cases hno))
      rw [e]
      omega
    · have hov' : isOver (s.wd a.1).pc = false := by simpa using hov
      by_cases ht : ∃ v, v < g.workers.length ∧ (s.wd v).pc.isTest = true
      · obtain ⟨v, hv, htv⟩ := ht
        rw [← productiveSteps_cons]
        exact test_worker_productive st (a :: r) s h ok v htv (hcov v hv (isOver_of_isTest htv))
      · rw [quiet_step_productive st h a r ok hov' ht ha.2]
        simp

theorem window_productive {g : Graph} {ncls : Nat} (st : StaticN g ncls)
    {store : List (String × List (String × String))} (s : State) (h : GInvN g ncls store s) (win : List StepN)
    (ok : RunOK g s win)
    (hcov : ∀ v, v < g.workers.length → isOver (s.wd v).pc = false → v ∈ win.map (·.1))
    (ha : Alive g s) : 1 ≤ productiveSteps g s win :=
  window_productiveF st s h.reachF win (realSteps_of_runOK ok) hcov ha

/-! ## lively runs: every stretch of `K` steps that ends alive contains a productive step -/

/-- every `K` consecutive steps of the run that end in a state where somebody is not over and nobody is dead contain a
productive step (at most `K - 1` consecutive back-off steps) -/
def Lively (g : Graph) (K : Nat) : State → List StepN → Prop
  | _, [] => True
  | s, a :: r =>
    (K ≤ (a :: r).length → Alive g (runStepsN g s ((a :: r).take K)) → 1 ≤ productiveSteps g s ((a :: r).take K)) ∧
      Lively g K (stepN g s a) r

theorem lively_drop (g : Graph) (K k : Nat) (steps : List StepN) (s : State) (h : Lively g K s steps) :
    Lively g K (runStepsN g s (steps.take k)) (steps.drop k) := by
  induction k generalizing s steps with
  | zero => rw [List.take_zero, List.drop_zero]; exact h
  | succ k ih =>
    cases steps with
    | nil => trivial
    | cons a r => rw [List.take_succ_cons, List.drop_succ_cons, runStepsN_cons]; exact ih r _ h.2

/-- a lively run that ends alive has made at least `j` productive steps if it has `j·K` steps -/
theorem lively_productive {g : Graph} {ncls : Nat} (st : StaticN g ncls) {store : List (String × List (String × String))}
    (K : Nat) (hK : 0 < K) (j : Nat) (steps : List StepN) (s : State) (h : ReachableF g ncls store s)
    (ok : RealSteps g steps) (hl : Lively g K s steps) (hlen : j * K ≤ steps.length) (ha : Alive g (runStepsN g s steps)) :
    j ≤ productiveSteps g s steps := by
  induction j generalizing s steps with
  | zero => exact Nat.zero_le _
  | succ j ih =>
    have hKl : K ≤ steps.length := by
      have : K ≤ (j + 1) * K := Nat.le_mul_of_pos_left K (Nat.succ_pos j)
      omega
    have hsplit : steps.take K ++ steps.drop K = steps := List.take_append_drop K steps
    have hfin : runStepsN g (runStepsN g s (steps.take K)) (steps.drop K) = runStepsN g s steps := by
      rw [← runStepsN_append, hsplit]
    have h1 := reachF_run _ s h (ok.take K)
    have ha1 : Alive g (runStepsN g s (steps.take K)) :=
      alive_of_run st (steps.drop K) _ h1 (ok.drop K) (by rw [hfin]; exact ha)
    have w : 1 ≤ productiveSteps g s (steps.take K) := by
      cases steps with
      | nil => simp at hKl; omega
      | cons a r => exact hl.1 hKl ha1
    have hl' : j * K ≤ (steps.drop K).length := by
      rw [List.length_drop]
      have : (j + 1) * K = j * K + K := Nat.succ_mul j K
      omega
    have r := ih (steps.drop K) (runStepsN g s (steps.take K)) h1 (ok.drop K) (lively_drop g K K steps s hl) hl'
      (by rw [hfin]; exact ha)
    have := productiveSteps_append g (steps.take K) (steps.drop K) s
    rw [hsplit] at this
    omega

/-- **a lively run with at most `B` productive steps is over after `(B + 1)·K` steps**: it does not end alive -/
theorem lively_over {g : Graph} {ncls : Nat} (st : StaticN g ncls) {store : List (String × List (String × String))}
    (K : Nat) (hK : 0 < K) (B : Nat) (steps : List StepN) (s : State) (h : ReachableF g ncls store s)
    (ok : RealSteps g steps) (hl : Lively g K s steps) (hB : productiveSteps g s steps ≤ B) (hlen : (B + 1) * K ≤ steps.length) :
    ¬ Alive g (runStepsN g s steps) := by
  intro ha
  have := lively_productive st K hK _ steps s h ok hl hlen ha
  omega

theorem lively_run_over {g : Graph} {ncls : Nat} (st : StaticN g ncls) (hnr : noRootsB g = true)
    (hcl : classesOKB g = true) (store : List (String × List (String × String))) (K : Nat) (hK : 0 < K)
    (steps : List StepN) (ok : RunOK g (initState g ncls store []) steps)
    (hl : Lively g K (initState g ncls store []) steps)
    (hlen : (24 * resultBound g + g.workers.length + 1) * K ≤ steps.length) :
    ¬ Alive g (runStepsN g (initState g ncls store []) steps) :=
  lively_over st K hK _ steps _ (.init []) (realSteps_of_runOK ok) hl (productive_le_run st hnr hcl store steps ok) hlen

/-! ## fair runs (windows) -/

/-- **fairness with window `K`**: every `K` consecutive steps of the run resume every real worker whose traversal is not
over at the beginning of those steps (steps of finished workers are allowed and change nothing) -/
def FairW (g : Graph) (K : Nat) : State → List StepN → Prop
  | _, [] => True
  | s, a :: r =>
    (K ≤ (a :: r).length → ∀ v, v < g.workers.length → isOver (s.wd v).pc = false → v ∈ ((a :: r).take K).map (·.1)) ∧
      FairW g K (stepN g s a) r

theorem fair_lively {g : Graph} {ncls : Nat} (st : StaticN g ncls) {store : List (String × List (String × String))}
    (K : Nat) (steps : List StepN) (s : State) (h : ReachableF g ncls store s) (ok : RealSteps g steps)
    (hfair : FairW g K s steps) : Lively g K s steps := by
  induction steps generalizing s with
  | nil => trivial
  | cons a r ih =>
    refine ⟨fun hKl ha => ?_, ih _ (reachF_stepN h a r ok) ok.tail hfair.2⟩
    exact window_productiveF st s h _ (ok.take K) (hfair.1 hKl) (alive_of_run st _ s h (ok.take K) ha)

/-- **a fair run is over after `(24·resultBound g + |workers| + 1)·K` steps**: it does not end alive -/
theorem fair_run_over {g : Graph} {ncls : Nat} (st : StaticN g ncls) (hnr : noRootsB g = true) (hcl : classesOKB g = true)
    (store : List (String × List (String × String))) (K : Nat) (hK : 0 < K) (steps : List StepN)
    (ok : RunOK g (initState g ncls store []) steps) (hfair : FairW g K (initState g ncls store []) steps)
    (hlen : (24 * resultBound g + g.workers.length + 1) * K ≤ steps.length) :
    ¬ Alive g (runStepsN g (initState g ncls store []) steps) :=
  lively_run_over st hnr hcl store K hK steps ok (fair_lively st K steps _ (.init []) (realSteps_of_runOK ok) hfair) hlen

/-! ## decidable forms for concrete runs -/

def decFairW (g : Graph) (K : Nat) : (s : State) → (steps : List StepN) → Decidable (FairW g K s steps)
  | _, [] => isTrue trivial
  | s, a :: r =>
    haveI := decFairW g K (stepN g s a) r
    (inferInstance : Decidable ((K ≤ (a :: r).length → ∀ v, v < g.workers.length → isOver (s.wd v).pc = false →
      v ∈ ((a :: r).take K).map (·.1)) ∧ FairW g K (stepN g s a) r))

instance (g : Graph) (K : Nat) (s : State) (steps : List StepN) : Decidable (FairW g K s steps) := decFairW g K s steps

/-- all `max_concurrent_tries` counters are untouched in every state of the run -/
def bumpFreeB (g : Graph) : State → List StepN → Bool
  | s, [] => s.nodes.all (fun d => d.bump == 0)
  | s, a :: r => s.nodes.all (fun d => d.bump == 0) && bumpFreeB g (stepN g s a) r

theorem nd_bump_zero (s : State) (h : s.nodes.all (fun d => d.bump == 0) = true) (i : Nat) : (s.nd i).bump = 0 := by
  unfold State.nd
  rw [List.getD_eq_getElem?_getD]
  cases hi : s.nodes[i]? with
  | none => rfl
  | some d =>
    rw [List.all_eq_true] at h
    simpa using h d (List.mem_of_getElem? hi)

theorem bumpFreeB_head (g : Graph) (s : State) (steps : List StepN) (h : bumpFreeB g s steps = true) :
    s.nodes.all (fun d => d.bump == 0) = true := by
  cases steps with
  | nil => exact h
  | cons a r => unfold bumpFreeB at h; rw [Bool.and_eq_true] at h; exact h.1

theorem bumpFree_of_B (g : Graph) (steps : List StepN) (s : State) (h : bumpFreeB g s steps = true) : BumpFree g s steps := by
  induction steps generalizing s with
  | nil => trivial
  | cons a r ih =>
    have h0 := bumpFreeB_head g s _ h
    unfold bumpFreeB at h
    rw [Bool.and_eq_true] at h
    refine ⟨fun i => ?_, ih _ h.2⟩
    rw [nd_bump_zero s h0 i, nd_bump_zero _ (bumpFreeB_head g _ r h.2) i]

/-! ## runs with a virtual clock

The scheduler of the code is the `asyncio` event loop: a suspended worker is resumed when its sleep (back-off sleep, test
execution, result-wait sleep) has elapsed.  `Timed g q T wake s steps`: `wake v` is the virtual time at which worker `v`
is due; each entry of the run carries the duration `d` of the suspension the step ENDS in; the worker that is resumed is
not over and is due first among the workers that are not over; a step that ends in the back-off sleep sleeps at least `q`;
a step that ends inside a test (start of a test, tick of the result wait) is resumed at most `T` later. -/

abbrev TStepN := StepN × Nat

def isBounce : Pc → Bool
  | .bounce => true
  | _ => false

/-- the due times after worker `w` went to sleep for `d` -/
def wakeAfter (wake : Nat → Nat) (w d : Nat) : Nat → Nat := fun v => if v = w then wake w + d else wake v

/-- **a run with a virtual clock** (event-driven scheduler) -/
def Timed (g : Graph) (q T : Nat) : (Nat → Nat) → State → List TStepN → Prop
  | _, _, [] => True
  | wake, s, x :: r =>
    (isOver (s.wd x.1.1).pc = false ∧
      (∀ v, v < g.workers.length → isOver (s.wd v).pc = false → wake x.1.1 ≤ wake v) ∧
      (isBounce ((stepN g s x.1).wd x.1.1).pc = true → q ≤ x.2) ∧
      (((stepN g s x.1).wd x.1.1).pc.isTest = true → x.2 ≤ T)) ∧
    Timed g q T (wakeAfter wake x.1.1 x.2) (stepN g s x.1) r

def decTimed (g : Graph) (q T : Nat) : (wake : Nat → Nat) → (s : State) → (steps : List TStepN) →
    Decidable (Timed g q T wake s steps)
  | _, _, [] => isTrue trivial
  | wake, s, x :: r =>
    haveI := decTimed g q T (wakeAfter wake x.1.1 x.2) (stepN g s x.1) r
    (inferInstance : Decidable ((isOver (s.wd x.1.1).pc = false ∧
      (∀ v, v < g.workers.length → isOver (s.wd v).pc = false → wake x.1.1 ≤ wake v) ∧
      (isBounce ((stepN g s x.1).wd x.1.1).pc = true → q ≤ x.2) ∧
      (((stepN g s x.1).wd x.1.1).pc.isTest = true → x.2 ≤ T)) ∧
      Timed g q T (wakeAfter wake x.1.1 x.2) (stepN g s x.1) r))

instance (g : Graph) (q T : Nat) (wake : Nat → Nat) (s : State) (steps : List TStepN) :
    Decidable (Timed g q T wake s steps) := decTimed g q T wake s steps

theorem timed_take (g : Graph) (q T k : Nat) (steps : List TStepN) (wake : Nat → Nat) (s : State)
    (h : Timed g q T wake s steps) : Timed g q T wake s (steps.take k) := by
  induction k generalizing wake s steps with
  | zero => rw [List.take_zero]; trivial
  | succ k ih =>
    cases steps with
    | nil => trivial
    | cons x r => rw [List.take_succ_cons]; exact ⟨h.1, ih r _ _ h.2⟩

/-- every worker inside a test is due at most `T` after every worker that is not over -/
def Due (g : Graph) (T : Nat) (wake : Nat → Nat) (s : State) : Prop :=
  ∀ v u, v < g.workers.length → u < g.workers.length → (s.wd v).pc.isTest = true → isOver (s.wd u).pc = false →
    wake v ≤ wake u + T

theorem due_init (g : Graph) (ncls : Nat) (store : List (String × List (String × String))) (T : Nat) (wake : Nat → Nat) :
    Due g T wake (initState g ncls store []) := by
  intro v u _ _ htv _
  rw [init_pc] at htv; cases htv

theorem due_step {g : Graph} {ncls : Nat} (st : StaticN g ncls) {store : List (String × List (String × String))}
    (q T : Nat) (wake : Nat → Nat) {s : State} (h : ReachableF g ncls store s) (x : TStepN) (r : List TStepN)
    (ok : RealSteps g ((x :: r).map (·.1))) (ht : Timed g q T wake s (x :: r)) (hd : Due g T wake s) :
    Due g T (wakeAfter wake x.1.1 x.2) (stepN g s x.1) := by
  obtain ⟨⟨hno, hmin, _, hT⟩, _⟩ := ht
  rw [List.map_cons] at ok
  intro v u hv hu htv hnu
  unfold wakeAfter
  by_cases e1 : v = x.1.1
  · subst e1
    simp only [if_true]
    have hd' := hT htv
    by_cases e2 : u = x.1.1
    · rw [if_pos e2]; omega
    · rw [if_neg e2]
      rw [stepN_other st h x.1 _ ok u e2] at hnu
      have := hmin u hu hnu
      omega
  · rw [if_neg e1]
    rw [stepN_other st h x.1 _ ok v e1] at htv
    by_cases e2 : u = x.1.1
    · rw [if_pos e2]
      have := hd v x.1.1 hv ok.head.1 htv hno
      omega
    · rw [if_neg e2]
      rw [stepN_other st h x.1 _ ok u e2] at hnu
      exact hd v u hv hu htv hnu

/-- how many more back-off sleeps of at least `q` worker `w` can take before the worker `v` is due first -/
def cap (q : Nat) (wake : Nat → Nat) (s : State) (v w : Nat) : Nat :=
  if isOver (s.wd w).pc then 0 else (wake v + q - wake w) / q

def phiT (g : Graph) (q : Nat) (wake : Nat → Nat) (s : State) (v : Nat) : Nat :=
  ((List.range g.workers.length).map (cap q wake s v)).sum

theorem sum_map_lt_of (l : List Nat) (hl : l.Nodup) (n : Nat) (hn : n ∈ l) (f f' : Nat → Nat) (h1 : f' n + 1 ≤ f n)
    (h2 : ∀ j ∈ l, j ≠ n → f' j ≤ f j) : (l.map f').sum + 1 ≤ (l.map f).sum := by
  induction l with
  | nil => cases hn
  | cons a r ih =>
    rw [List.nodup_cons] at hl
    simp only [List.map_cons, List.sum_cons]
    by_cases ha : a = n
    · subst ha
      have := sum_map_le r f' f (fun j hj => h2 j (List.mem_cons_of_mem _ hj) (fun e => hl.1 (e ▸ hj)))
      omega
    · have hn' : n ∈ r := (List.mem_cons.mp hn).resolve_left (fun e => ha e.symm)
      have := ih hl.2 hn' (fun j hj => h2 j (List.mem_cons_of_mem _ hj))
      have := h2 a List.mem_cons_self ha
      omega

theorem cap_le {g : Graph} {q T : Nat} (hq : 0 < q) {wake : Nat → Nat} {s : State} (hd : Due g T wake s) (v w : Nat)
    (hv : v < g.workers.length) (hw : w < g.workers.length) (htv : (s.wd v).pc.isTest = true) :
    cap q wake s v w ≤ T / q + 1 := by
  unfold cap
  cases hov : isOver (s.wd w).pc with
  | true => simp
  | false =>
    simp only [Bool.false_eq_true, if_false]
    have := hd v w hv hw htv hov
    rw [← Nat.add_div_right T hq]
    exact Nat.div_le_div_right (by omega)

theorem phiT_le {g : Graph} {q T : Nat} (hq : 0 < q) {wake : Nat → Nat} {s : State} (hd : Due g T wake s) (v : Nat)
    (hv : v < g.workers.length) (htv : (s.wd v).pc.isTest = true) :
    phiT g q wake s v ≤ g.workers.length * (T / q + 1) := by
  have := sum_map_const_le (List.range g.workers.length) (cap q wake s v) (T / q + 1)
    (fun w hw => cap_le hq hd v w hv (List.mem_range.mp hw) htv)
  rw [List.length_range] at this
  unfold phiT
  rw [Nat.mul_comm]
  exact this

/-- a sleep of at least `q` uses up one of the sleeps of length `q` that fit before time `a + q` -/
theorem sleeps_fit (q a b d : Nat) (hq : 0 < q) (hle : b ≤ a) (hd : q ≤ d) : (a + q - (b + d)) / q + 1 ≤ (a + q - b) / q := by
  rw [Nat.sub_add_comm hle, Nat.add_div_right _ hq]
  refine Nat.succ_le_succ (Nat.div_le_div_right ?_)
  exact Nat.le_trans (Nat.sub_le_sub_right (Nat.add_le_add_left hd a) _) (Nat.le_of_eq (Nat.add_sub_add_right a d b))

/-- **a stretch of back-off steps is at most as long as the sleeps that fit before a running test is due**: while worker
`v` is inside a test, every unproductive step is a back-off sleep of a worker that is due before `v`, and lowers `phiT` -/
theorem backoff_stretch_le {g : Graph} {ncls : Nat} (st : StaticN g ncls)
    {store : List (String × List (String × String))} (q T : Nat) (hq : 0 < q) (steps : List TStepN) (wake : Nat → Nat)
    (s : State) (h : ReachableF g ncls store s) (ok : RealSteps g (steps.map (·.1))) (ht : Timed g q T wake s steps) (v : Nat)
    (hv : v < g.workers.length) (htv : (s.wd v).pc.isTest = true)
    (hun : productiveSteps g s (steps.map (·.1)) = 0) : steps.length ≤ phiT g q wake s v := by
  induction steps generalizing wake s with
  | nil => exact Nat.zero_le _
  | cons x r ih =>
    rw [List.map_cons] at ok hun
    rw [productiveSteps_cons, Nat.add_eq_zero_iff] at hun
    obtain ⟨⟨hno, hmin, hB, _⟩, ht'⟩ := ht
    have hp : productive (s.wd x.1.1).pc ((stepN g s x.1).wd x.1.1).pc = false := by
      cases hpp : productive (s.wd x.1.1).pc ((stepN g s x.1).wd x.1.1).pc with
      | false => rfl
      | true => rw [hpp] at hun; cases hun.1
    have hvw : v ≠ x.1.1 := by
      intro e
      rw [← e, productive_of_isTest htv] at hp
      cases hp
    have hb : ((stepN g s x.1).wd x.1.1).pc = .bounce := by
      rcases unproductive_step g s x.1.1 x.1.2.1 x.1.2.2 hp with ⟨h1, _⟩ | ⟨_, h2⟩
      · rw [h1] at hno; cases hno
      · exact h2
    have ev := stepN_other st h x.1 _ ok v hvw
    have r1 := ih _ _ (reachF_stepN h x.1 _ ok) ok.tail ht' (by rw [ev]; exact htv) hun.2
    have hdec : phiT g q (wakeAfter wake x.1.1 x.2) (stepN g s x.1) v + 1 ≤ phiT g q wake s v := by
      unfold phiT
      refine sum_map_lt_of _ List.nodup_range x.1.1 (List.mem_range.mpr ok.head.1) _ _ ?_ ?_
      · -- the summand of the sleeping worker
        unfold cap wakeAfter
        rw [hno, hb, if_neg hvw, if_pos rfl]
        exact sleeps_fit q _ _ _ hq (hmin v hv (isOver_of_isTest htv)) (hB (by rw [hb]; rfl))
      · intro u _ hu
        unfold cap wakeAfter
        rw [stepN_other st h x.1 _ ok u hu, if_neg hvw, if_neg hu]
        exact Nat.le_refl _
    exact Nat.le_trans (Nat.succ_le_succ r1) hdec

/-- **at most `|workers|·(T/q + 1)` consecutive back-off steps**: a longer stretch of a timed run, taken from a state where
nobody is dead, contains a productive step -/
theorem timed_window_productive {g : Graph} {ncls : Nat} (st : StaticN g ncls)
    {store : List (String × List (String × String))} (q T : Nat) (hq : 0 < q) (win : List TStepN) (wake : Nat → Nat)
    (s : State) (h : ReachableF g ncls store s) (ok : RealSteps g (win.map (·.1))) (ht : Timed g q T wake s win)
    (hd : Due g T wake s) (hnf : ∀ v, v < g.workers.length → (s.wd v).pc ≠ .failed)
    (hlen : g.workers.length * (T / q + 1) + 1 ≤ win.length) : 1 ≤ productiveSteps g s (win.map (·.1)) := by
  cases hz : productiveSteps g s (win.map (·.1)) with
  | succ k => omega
  | zero =>
    exfalso
    by_cases hnt : ∃ v, v < g.workers.length ∧ (s.wd v).pc.isTest = true
    · obtain ⟨v, hv, htv⟩ := hnt
      have a := backoff_stretch_le st q T hq win wake s h ok ht v hv htv hz
      have b := phiT_le hq hd v hv htv
      omega
    · cases win with
      | nil => simp at hlen
      | cons x r =>
        rw [List.map_cons] at ok hz
        rw [productiveSteps_cons, quiet_step_productive st h x.1 _ ok ht.1.1 hnt hnf] at hz
        simp at hz

theorem timed_livelyF {g : Graph} {ncls : Nat} (st : StaticN g ncls) {store : List (String × List (String × String))}
    (q T : Nat) (hq : 0 < q) (steps : List TStepN) (wake : Nat → Nat) (s : State) (h : ReachableF g ncls store s)
    (ok : RealSteps g (steps.map (·.1))) (ht : Timed g q T wake s steps) (hd : Due g T wake s) :
    Lively g (g.workers.length * (T / q + 1) + 1) s (steps.map (·.1)) := by
  induction steps generalizing wake s with
  | nil => trivial
  | cons x r ih =>
    have hd' := due_step st q T wake h x r ok ht hd
    rw [List.map_cons] at ok ⊢
    refine ⟨fun hKl ha => ?_, ih _ _ (reachF_stepN h x.1 _ ok) ok.tail ht.2 hd'⟩
    rw [← List.map_cons (f := fun y : TStepN => y.1), ← List.map_take] at ha ⊢
    have okw : RealSteps g (((x :: r).take (g.workers.length * (T / q + 1) + 1)).map (·.1)) := by
      rw [List.map_take]; exact ok.take _
    have ha0 := alive_of_run st _ s h okw ha
    refine timed_window_productive st q T hq _ wake s h okw (timed_take g q T _ (x :: r) wake s ht) hd ha0.2 ?_
    rw [List.length_take]
    simp only [List.length_cons, List.length_map] at hKl ⊢
    omega

theorem timed_lively {g : Graph} {ncls : Nat} (st : StaticN g ncls) {store : List (String × List (String × String))}
    (q T : Nat) (hq : 0 < q) (steps : List TStepN) (wake : Nat → Nat) (s : State) (h : GInvN g ncls store s)
    (ok : RunOK g s (steps.map (·.1))) (ht : Timed g q T wake s steps) (hd : Due g T wake s) :
    Lively g (g.workers.length * (T / q + 1) + 1) s (steps.map (·.1)) :=
  timed_livelyF st q T hq steps wake s h.reachF (realSteps_of_runOK ok) ht hd

/-- **a timed run is over after `(24·resultBound g + |workers| + 1)·(|workers|·(T/q + 1) + 1)` steps** -/
theorem timed_run_over {g : Graph} {ncls : Nat} (st : StaticN g ncls) (hnr : noRootsB g = true) (hcl : classesOKB g = true)
    (store : List (String × List (String × String))) (q T : Nat) (hq : 0 < q) (wake : Nat → Nat) (steps : List TStepN)
    (ok : RunOK g (initState g ncls store []) (steps.map (·.1)))
    (ht : Timed g q T wake (initState g ncls store []) steps)
    (hlen : (24 * resultBound g + g.workers.length + 1) * (g.workers.length * (T / q + 1) + 1) ≤ steps.length) :
    ¬ Alive g (runStepsN g (initState g ncls store []) (steps.map (·.1))) :=
  lively_run_over st hnr hcl store _ (Nat.succ_pos _) _ ok
    (timed_livelyF st q T hq steps wake _ (.init []) (realSteps_of_runOK ok) ht (due_init g ncls store T wake))
    (by rw [List.length_map]; exact hlen)

/-! ## the sleep of a back-off step: the model's own duration

A step that ends in the back-off sleep emits, as its LAST event, `Event.sleep wid k` with `k ≥ 10` hundredths of a second
(`round(max(timeout·max_tries/1000, 0.1), 2)` in the code): the hypothesis `q ≤ d` of `Timed` with `q = 10` is met when `d`
is the duration the model announces. -/

/-- an iteration that suspends in the back-off sleep emits exactly the sleep event, of at least 0.1 s -/
def SleepOK (wid : String) (w : Nat) (r : Step) : Prop :=
  isSuspend r.2.2 = true → (r.1.wd w).pc = .bounce → ∃ k, 10 ≤ k ∧ r.2.1 = [Event.sleep wid k]

theorem SleepOK.quiet (wid : String) (w : Nat) (s' : State) (e : List Event) (f : Flow) (h1 : isSuspend f = false) :
    SleepOK wid w (s', e, f) := fun hs => by rw [h1] at hs; cases hs

theorem iter_sleep (gv : Graph) (s : State) (w : Nat) (hw : w < s.workers.length) :
    SleepOK (gv.worker w).id w (iter gv s w) := by
  have htrav : ∀ next prev dir, SleepOK (gv.worker w).id w (traverseNode gv s w next prev dir) := by
    intro next prev dir hs hb
    obtain ⟨s1, ph, h1, h2⟩ := traverseNode_suspend gv s w _ prev dir hs
    rw [h1, startTest_pc gv s1 _ w ph dir (by rw [h2]; exact hw)] at hb
    cases hb
  fun_cases iter gv s w with
  | case6 => intro _ _; exact ⟨_, Nat.le_max_right _ _, rfl⟩
  | case7 => exact htrav _ _ .up
  | case12 => exact htrav _ _ .down
  | _ => exact SleepOK.quiet _ w _ _ _ rfl

theorem iterL_sleep (g : Graph) (s : State) (w : Nat) (hw : w < s.workers.length) :
    SleepOK (g.worker w).id w (iterL g s w) := by
  unfold iterL
  split
  · rw [← vis_worker g s w]
    exact iter_sleep (vis g s) s w hw
  · dsimp only
    obtain ⟨_, h2, _, _⟩ := prepare_frame g s w
    rw [← vis_worker g (prepare g s w) w]
    exact iter_sleep (vis g (prepare g s w)) (prepare g s w) w (by rw [h2]; exact hw)

theorem iterL_workersLen (g : Graph) (hsym : EdgeSym g) (s : State) (w : Nat) :
    (iterL g s w).1.workers.length = s.workers.length := by
  obtain ⟨s1, hs1, _, hok⟩ := iterL_ok g hsym s w
  have h1 : s1.workers.length = s.workers.length := by
    rcases hs1 with h | h
    · rw [h]
    · rw [h]; exact (prepare_frame g s w).2.1
  rcases hok with ⟨he, _⟩ | ⟨_, _, _, he, _⟩
  · rw [he.workersLen, h1]
  · rw [he.workersLen, h1]

theorem getLast?_append_singleton (l : List Event) (x : Event) : (l ++ [x]).getLast? = some x := by simp

theorem runLoop_sleep (g : Graph) (hsym : EdgeSym g) (w fuel : Nat) (s : State) (evs : List Event)
    (hw : w < s.workers.length) (hpc : fuel = 0 → (s.wd w).pc ≠ .bounce) :
    ((runLoop g w fuel s evs).1.wd w).pc = .bounce →
      ∃ k, 10 ≤ k ∧ (runLoop g w fuel s evs).2.getLast? = some (Event.sleep (g.worker w).id k) := by
  have hset : ∀ (s : State) f, w < s.workers.length → w < (s.setWd w f).workers.length :=
    fun s f h => by rw [workers_length_setWd]; exact h
  fun_induction runLoop g w fuel s evs with
  | case1 => intro hb; exact absurd hb (hpc rfl)
  | case2 fuel s evs s0 s1 e heq ih =>
    have hw0 : w < s0.workers.length := hset s _ hw
    have hlen := iterL_workersLen g hsym s0 w
    have hcp := iterL_contPc g hsym s0 w
    rw [heq] at hlen hcp
    refine ih (by rw [hlen]; exact hw0) (fun _ => ?_)
    rw [hcp rfl, wd_setWd_eq s w _ hw]
    simp
  | case3 fuel s evs s0 s1 e heq =>
    have hsl := iterL_sleep g s0 w (hset s _ hw)
    rw [heq] at hsl
    intro hb
    obtain ⟨k, hk, he⟩ := hsl rfl hb
    dsimp only at he ⊢
    exact ⟨k, hk, by rw [he]; exact getLast?_append_singleton _ _⟩
  | case4 fuel s evs s0 s1 e heq =>
    have hend := iterL_end g s0 w (hset s _ hw)
    rw [heq] at hend
    intro hb
    rw [hend.exit rfl] at hb
    cases hb
  | case5 fuel s evs s0 s1 e what heq =>
    have hlen := iterL_workersLen g hsym s0 w
    rw [heq] at hlen
    intro hb
    rw [wd_setWd_eq s1 w _ (by rw [hlen]; exact hset s _ hw)] at hb
    cases hb

theorem continueAfter_sleep (g : Graph) (hsym : EdgeSym g) (w n : Nat) (phase : Phase) (dir : Dir) (fuel : Nat)
    (hf : 0 < fuel) (s : State) (ok : Bool) (evs : List Event) (h : PInv g s) (hpcw : (s.wd w).pc.node? = some n) :
    ((resumeTest.continueAfter g w n phase dir fuel s ok evs).1.wd w).pc = .bounce →
      ∃ k, 10 ≤ k ∧ (resumeTest.continueAfter g w n phase dir fuel s ok evs).2.getLast? =
        some (Event.sleep (g.worker w).id k) := by
  obtain ⟨hid, hlast, hlen⟩ := h.testOwn w n hpcw
  have hw : w < s.workers.length := lt_of_path_ne_nil s w (by intro h0; rw [h0] at hlen; simp at hlen)
  -- `w` is a worker of the state `afterTraverse` returns
  have after : ∀ sd, Qt w none s sd → ∀ prev s2 e2 f, afterTraverse (vis g (finishTraverse sd n w)) (finishTraverse sd n w)
      w n prev dir = (s2, e2, f) → w < s2.workers.length := by
    intro sd q2 prev s2 e2 f hat
    obtain ⟨_, _, hlF, hnF, hwF, _⟩ := h.finish hpcw q2
    obtain ⟨a, _, _, _⟩ := afterTraverse_ok (vis g (finishTraverse sd n w)) (edgeSym_vis g _ hsym) (finishTraverse sd n w) w n
      prev dir hwF hlF hnF
    rw [hat] at a
    rw [a.workersLen]; exact hwF
  have q2 : Qt w none s (if (phase == Phase.pre) = true then
        s.setNd n (fun d => { d with results := d.results ++ (s.wd w).preResults.drop d.results.length })
      else s) := by
    split
    · exact qt_setNd w none s n _ (fun d => Or.inl rfl)
    · exact Qt.refl _ _ _
  fun_cases resumeTest.continueAfter g w n phase dir fuel s ok evs with
  | case1 _ s1 e2 f hst =>
    intro hb
    have := startTest_pc g s n w .main dir hw
    rw [hst] at this
    rw [this] at hb
    cases hb
  | case2 _ _ _ sd sF s2 e2 what hat =>
    intro hb
    rw [wd_setWd_eq s2 w _ (after sd q2 _ s2 e2 _ hat)] at hb
    cases hb
  | case3 _ _ _ sd sF s2 e2 f _ hat =>
    exact runLoop_sleep g hsym w fuel s2 _ (after sd q2 _ s2 e2 f hat) (fun h0 => by omega)

theorem resumeTest_sleep (g : Graph) (hsym : EdgeSym g) (s : State) (w n : Nat) (phase : Phase) (dir : Dir) (uid : String)
    (tag wait : Nat) (out : Outcome) (fuel : Nat) (hf : 0 < fuel) (h : PInv g s) (hpcw : (s.wd w).pc.node? = some n) :
    ((resumeTest g s w n phase dir uid tag wait out fuel).1.wd w).pc = .bounce →
      ∃ k, 10 ≤ k ∧ (resumeTest g s w n phase dir uid tag wait out fuel).2.getLast? =
        some (Event.sleep (g.worker w).id k) := by
  rw [resumeTest_eq]
  obtain ⟨hA, hpcA⟩ := h.book (reportOutcome_bookOnly g s w n phase uid wait out) hpcw
  generalize reportOutcome g s w n phase uid wait out = ra at hA hpcA
  have tick : ∀ k (evs' : List Event),
      ((ra.1.setWd w (fun d => { d with pc := .test n phase dir uid tag k })).wd w).pc = .bounce →
        ∃ k', 10 ≤ k' ∧ evs'.getLast? = some (Event.sleep (g.worker w).id k') := by
    intro k evs' hb
    rw [wd_setWd_eq ra.1 w _ (lt_of_path_ne_nil ra.1 w (by
      intro h0; have := (hA.testOwn w n hpcA).2.2; rw [h0] at this; simp at this))] at hb
    cases hb
  split
  · next st0 dur _ =>
    obtain ⟨hB, hpcB⟩ := hA.book (recordResult_frame ra.1 w n phase
      (if (phase == Phase.pre) = true then (s.wd w).preName else (g.node n).name) uid tag st0 dur) hpcA
    exact continueAfter_sleep g hsym w n phase dir fuel hf _ _ _ hB hpcB
  · split
    · exact tick _ _
    · split
      · exact tick _ _
      · exact continueAfter_sleep g hsym w n phase dir fuel hf _ false _ hA hpcA

/-- **a step that ends in the back-off sleep announces a sleep of at least 0.1 s as its last event** -/
theorem resume_sleep (g : Graph) (hsym : EdgeSym g) (s : State) (w : Nat) (out : Outcome) (fuel : Nat) (hf : 0 < fuel)
    (hw : w < g.workers.length) (h : PInv g s) (hb : ((resume g s w out fuel).1.wd w).pc = .bounce) :
    ∃ k, 10 ≤ k ∧ (resume g s w out fuel).2.getLast? = some (Event.sleep (g.worker w).id k) := by
  have hws : w < s.workers.length := by rw [h.wlen]; exact hw
  revert hb
  fun_cases resume g s w out fuel with
  | case1 => exact runLoop_sleep g hsym w fuel s [] hws (fun h0 => by omega)
  | case2 => exact runLoop_sleep g hsym w fuel s [] hws (fun h0 => by omega)
  | case3 n phase dir uid tag wait heq =>
    exact resumeTest_sleep g hsym s w n phase dir uid tag wait out fuel hf h (by rw [heq]; rfl)
  | case4 heq => intro hb; rw [heq] at hb; cases hb
  | case5 heq => intro hb; rw [heq] at hb; cases hb

end I2N.Trav.Fair
