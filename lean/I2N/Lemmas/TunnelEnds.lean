import I2N.Lemmas.TunnelProj
/-! What the two end points see (`left_params[s]`, `right_params[s]`) in terms of the assignments of the parts. -/
namespace I2N.Tunnel

/-- `tunnel.left_params.get(s)` -/
def Tunnel.L (t : Tunnel) (s : String) : Option String := t.leftParams.get? ⟨s, []⟩
/-- `tunnel.right_params.get(s)` -/
def Tunnel.R (t : Tunnel) (s : String) : Option String := t.rightParams.get? ⟨s, []⟩

/-- the names are well formed (tunnel and end nodes pairwise distinct) and the end nodes do not overwrite
generated parameters -/
structure WF (name : String) (node1 node2 : Node) : Prop where
  h1 : name ≠ node1.name
  h2 : name ≠ node2.name
  h12 : node1.name ≠ node2.name
  c1 : Clean node1
  c2 : Clean node2

variable {name : String} {node1 node2 : Node} {local1 remote1 peer1 : SDict} {auth : Option SDict} {t : Tunnel}

def Built.all (b : Built name node1 node2 local1 remote1 peer1 auth t) : Assignments :=
  b.a0 ++ b.a1 ++ b.a2 ++ b.a3 ++ b.a4

theorem Built.lastVal_all (b : Built name node1 node2 local1 remote1 peer1 auth t) (k : Key) :
    lastVal b.all k =
      (lastVal b.a4 k).or ((lastVal b.a3 k).or ((lastVal b.a2 k).or ((lastVal b.a1 k).or (lastVal b.a0 k)))) := by
  simp [Built.all, lastVal_append, Option.or_assoc]

theorem Built.shape_all (b : Built name node1 node2 local1 remote1 peer1 auth t) :
    ∀ p ∈ b.all, Shape name node1.name node2.name p.1 := by
  intro p hp
  simp only [Built.all, List.mem_append] at hp
  rcases hp with (((hp | hp) | hp) | hp) | hp
  · exact (mainPart_good b.h0 p hp).2
  · exact (localPart_good b.h1 p hp).2
  · exact (remotePart_good b.h2 p hp).2
  · exact (peerPart_good b.h3 p hp).2
  · exact (authPart_good b.h4 p hp).2

theorem Built.params_get? (b : Built name node1 node2 local1 remote1 peer1 auth t) (k : Key) :
    t.params.get? k = lastVal b.all k := by
  rw [b.hparams, get?_assign_nil]; rfl

theorem Built.params_none (b : Built name node1 node2 local1 remote1 peer1 auth t) (k : Key)
    (hk : ¬ Shape name node1.name node2.name k) : t.params.get? k = none := by
  rw [b.params_get?, lastVal_eq_none]
  intro p hp he
  exact hk (by have := b.shape_all p hp; rw [he] at this; exact this)

/-- what an end node `n` (either of the two) reads under the generated name `s` after the constructor has merged the
tunnel parameters into its own -/
theorem Built.end_eq (b : Built name node1 node2 local1 remote1 peer1 auth t) (wf : WF name node1 node2)
    (n : Node) (hn : name ≠ n.name) (hc : Clean n) (s : String) (hs : s ∈ genStems) :
    (objectParams ((objectParams t.params n.name).update n.params) name).get? ⟨s, []⟩ =
      (lastVal b.all ⟨s, [name, n.name]⟩).or (lastVal b.all ⟨s, [name]⟩) := by
  rw [proj_get? t.params n.params name node1.name node2.name n.name s b.params_none wf.h1 wf.h2 hn
    (fun p hp he => hc p hp (by rw [he]; exact hs)), b.params_get?, b.params_get?]

/-- what the two end points find under a generated name `s`, when `f` says which assignments of the constructor are
the ones to `s` -/
theorem Built.ends_of (b : Built name node1 node2 local1 remote1 peer1 auth t) (wf : WF name node1 node2)
    {s : String} (hs : s ∈ genStems) {f : Key → Option String} (hf : ∀ q, lastVal b.all ⟨s, q⟩ = f ⟨s, q⟩) :
    t.L s = (f ⟨s, [name, node1.name]⟩).or (f ⟨s, [name]⟩) ∧
    t.R s = (f ⟨s, [name, node2.name]⟩).or (f ⟨s, [name]⟩) := by
  unfold Tunnel.L Tunnel.leftParams Tunnel.R Tunnel.rightParams
  rw [b.hleft, b.hright, b.hname, ← hf, ← hf, ← hf]
  exact ⟨b.end_eq wf node1 wf.h1 wf.c1 s hs, b.end_eq wf node2 wf.h2 wf.c2 s hs⟩

theorem lastVal_netOf (sNet sMask n : String) (nc : Option Netconfig) (k : Key) :
    lastVal (netOf sNet sMask name n nc) k =
      if k = k2 sMask name n then nc.map (·.netmask) else if k = k2 sNet name n then nc.map (·.netIp) else none := by
  cases nc <;> simp [netOf, lastVal, eq_comm]
  split <;> rfl

theorem mem_gen (s : String) (h : s ∈ mainStems ∨ s ∈ netStems ∨ s ∈ peerStems ∨ s ∈ authStems) :
    s ∈ genStems := by
  simp only [genStems, List.mem_append]
  rcases h with h | h | h | h <;> simp [h]

theorem extra_none {extra : Assignments} {n : String}
    (h : ∀ p ∈ extra, p.1 = k2 "vpnconn_remote_modeconfig_ip" name n)
    (s : String) (q : List String) (hs : s ≠ "vpnconn_remote_modeconfig_ip") : lastVal extra ⟨s, q⟩ = none := by
  rw [lastVal_eq_none]
  intro p hp he
  exact hs (by rw [h p hp] at he; exact (congrArg Key.stem he).symm)

/-- no parameter name is generated by two parts (each pair of lists compared once) -/
theorem stems_disjoint :
    (∀ s ∈ mainStems, s ∉ netStems ∧ s ∉ peerStems ∧ s ∉ authStems) ∧
    (∀ s ∈ netStems, s ∉ peerStems ∧ s ∉ authStems) ∧ (∀ s ∈ peerStems, s ∉ authStems) := by
  simp only [mainStems, netStems, peerStems, authStems, List.mem_cons, List.not_mem_nil, or_false, forall_eq_or_imp,
    forall_eq, String.reduceEq, not_false_eq_true, and_self, or_self]

/-! What the two end points find under the parameter names of one group, in terms of the one part of the constructor
that assigns the parameters of that group. -/

theorem main_ends (b : Built name node1 node2 local1 remote1 peer1 auth t) (wf : WF name node1 node2) :
    ∀ s ∈ mainStems, t.L s = (lastVal b.a0 ⟨s, [name, node1.name]⟩).or (lastVal b.a0 ⟨s, [name]⟩) ∧
      t.R s = (lastVal b.a0 ⟨s, [name, node2.name]⟩).or (lastVal b.a0 ⟨s, [name]⟩) := fun s hs =>
  b.ends_of wf (mem_gen s (.inl hs)) (f := lastVal b.a0) fun q => by
    obtain ⟨h1, h2, h3⟩ := stems_disjoint.1 s hs
    rw [b.lastVal_all, lastVal_none_of_stem (localPart_good b.h1) s q h1,
      lastVal_none_of_stem (remotePart_good b.h2) s q h1,
      lastVal_none_of_stem (peerPart_good b.h3) s q h2, lastVal_none_of_stem (authPart_good b.h4) s q h3]
    simp

theorem net_ends (b : Built name node1 node2 local1 remote1 peer1 auth t) (wf : WF name node1 node2) :
    ∀ s ∈ netStems,
      t.L s = ((lastVal b.a2 ⟨s, [name, node1.name]⟩).or (lastVal b.a1 ⟨s, [name, node1.name]⟩)).or
        ((lastVal b.a2 ⟨s, [name]⟩).or (lastVal b.a1 ⟨s, [name]⟩)) ∧
      t.R s = ((lastVal b.a2 ⟨s, [name, node2.name]⟩).or (lastVal b.a1 ⟨s, [name, node2.name]⟩)).or
        ((lastVal b.a2 ⟨s, [name]⟩).or (lastVal b.a1 ⟨s, [name]⟩)) := fun s hs =>
  b.ends_of wf (mem_gen s (.inr (.inl hs))) (f := fun k => (lastVal b.a2 k).or (lastVal b.a1 k)) fun q => by
    obtain ⟨hp, ha⟩ := stems_disjoint.2.1 s hs
    rw [b.lastVal_all, lastVal_none_of_stem (mainPart_good b.h0) s q (fun hm => (stems_disjoint.1 s hm).1 hs),
      lastVal_none_of_stem (peerPart_good b.h3) s q hp, lastVal_none_of_stem (authPart_good b.h4) s q ha]
    simp

theorem peer_ends (b : Built name node1 node2 local1 remote1 peer1 auth t) (wf : WF name node1 node2) :
    ∀ s ∈ peerStems, t.L s = (lastVal b.a3 ⟨s, [name, node1.name]⟩).or (lastVal b.a3 ⟨s, [name]⟩) ∧
      t.R s = (lastVal b.a3 ⟨s, [name, node2.name]⟩).or (lastVal b.a3 ⟨s, [name]⟩) := fun s hs =>
  b.ends_of wf (mem_gen s (.inr (.inr (.inl hs)))) (f := lastVal b.a3) fun q => by
    have hn : s ∉ netStems := fun hn => (stems_disjoint.2.1 s hn).1 hs
    rw [b.lastVal_all, lastVal_none_of_stem (localPart_good b.h1) s q hn,
      lastVal_none_of_stem (remotePart_good b.h2) s q hn,
      lastVal_none_of_stem (mainPart_good b.h0) s q (fun hm => (stems_disjoint.1 s hm).2.1 hs),
      lastVal_none_of_stem (authPart_good b.h4) s q (stems_disjoint.2.2 s hs)]
    simp

theorem auth_ends (b : Built name node1 node2 local1 remote1 peer1 auth t) (wf : WF name node1 node2) :
    ∀ s ∈ authStems, t.L s = (lastVal b.a4 ⟨s, [name, node1.name]⟩).or (lastVal b.a4 ⟨s, [name]⟩) ∧
      t.R s = (lastVal b.a4 ⟨s, [name, node2.name]⟩).or (lastVal b.a4 ⟨s, [name]⟩) := fun s hs =>
  b.ends_of wf (mem_gen s (.inr (.inr (.inr hs)))) (f := lastVal b.a4) fun q => by
    have hn : s ∉ netStems := fun hn => (stems_disjoint.2.1 s hn).2 hs
    rw [b.lastVal_all, lastVal_none_of_stem (localPart_good b.h1) s q hn,
      lastVal_none_of_stem (remotePart_good b.h2) s q hn,
      lastVal_none_of_stem (mainPart_good b.h0) s q (fun hm => (stems_disjoint.1 s hm).2.2 hs),
      lastVal_none_of_stem (peerPart_good b.h3) s q (fun hp => stems_disjoint.2.2 s hp hs)]
    simp

/-! ### the documented counterpart table (docstring of `__init__`: nic/custom = site, internetip/externalip = point) -/

/-- the right side's remote type describes the left side's local type -/
def counterRemote (lt : String) : String :=
  if lt = "nic" then "custom" else if lt = "internetip" then "externalip" else "custom"

/-- the right side's local type describes the left side's remote type (`modeconfig` falls back to `nic`) -/
def counterLocal (lt rt : String) : String :=
  if rt = "custom" then (if lt = "custom" then "custom" else "nic")
  else if rt = "externalip" then "internetip" else "nic"

theorem variantRemote_spec {ll rr : SDict} {lt : String} (h : variantRemote ll lt = .ok rr) :
    rr.get? "type" = some (counterRemote lt) ∧ (lt = "nic" → rr.get? "nic" = ll.get? "nic") := by
  revert h
  fun_cases variantRemote ll lt <;> simp only [bind_ok, pure_ok, SDict.getItem_ok]
  · rintro ⟨nic, hnic, rfl⟩; simp_all [SDict.get?_set, counterRemote]
  · rintro rfl; simp_all [SDict.get?_set, counterRemote]
  · rintro rfl; simp_all +zetaDelta [SDict.get?, counterRemote]

theorem variantLocal_spec {lr rl : SDict} {lt rt : String} (h : variantLocal lr lt rt = .ok rl) :
    rl.get? "type" = some (counterLocal lt rt) ∧
    (rt = "custom" → lt ≠ "custom" → rl.get? "nic" = lr.get? "nic") := by
  revert h
  fun_cases variantLocal lr lt rt <;> simp only [bind_ok, pure_ok, SDict.getItem_ok]
  · rintro rfl; simp_all [SDict.get?_set, counterLocal]
  · rintro ⟨nic, hnic, rfl⟩; simp_all [SDict.get?_set, counterLocal]
  · rintro rfl; simp_all [SDict.get?_set, counterLocal]
  · rintro rfl; simp_all +zetaDelta [SDict.get?, counterLocal]

theorem variantPeer_spec {lp rp : SDict} {pt : String} (h : variantPeer lp pt = .ok rp) :
    rp.get? "type" = some "ip" ∧ (pt = "dynip" ∨ pt = "ip" → rp.get? "nic" = lp.get? "nic") := by
  revert h
  fun_cases variantPeer lp pt <;> simp only [bind_ok, pure_ok, SDict.getItem_ok]
  · rintro ⟨nic, hnic, rfl⟩; simp_all [SDict.get?_set]
  · rintro ⟨nic, hnic, rfl⟩; simp_all [SDict.get?_set]
  · rintro rfl; simp_all +zetaDelta [SDict.get?]

/-- what `_get_peer_variant` hands to the right side: the counterpart types of the docstring's table, and the nic
roles: the right remote takes the left local's, the right local the left remote's (between two sites), the right peer
the left peer's -/
theorem peerVariant_spec {ll lr lp rl rr rp : SDict} (hv : peerVariant ll lr lp = .ok (rl, rr, rp)) :
    ∃ lt rt pt, ll.get? "type" = some lt ∧ lr.get? "type" = some rt ∧ lp.get? "type" = some pt ∧
      rl.get? "type" = some (counterLocal lt rt) ∧ rr.get? "type" = some (counterRemote lt) ∧
      rp.get? "type" = some "ip" ∧
      (lt = "nic" → rr.get? "nic" = ll.get? "nic") ∧
      (rt = "custom" → lt ≠ "custom" → rl.get? "nic" = lr.get? "nic") ∧
      (pt = "dynip" ∨ pt = "ip" → rp.get? "nic" = lp.get? "nic") := by
  unfold peerVariant at hv
  simp only [bind_ok, pure_ok, Prod.mk.injEq, SDict.getItem_ok] at hv
  obtain ⟨lt, hlt, _, hrr, rt, hrt, _, hrl, pt, hpt, _, hrp, rfl, rfl, rfl⟩ := hv
  exact ⟨lt, rt, pt, hlt, hrt, hpt, (variantLocal_spec hrl).1, (variantRemote_spec hrr).1, (variantPeer_spec hrp).1,
    (variantRemote_spec hrr).2, (variantLocal_spec hrl).2, (variantPeer_spec hrp).2⟩

theorem mainPart_total {name n1 n2 : String} {l1 r1 l2 r2 : SDict} {a b c d : String}
    (h1 : l1.get? "type" = some a) (h2 : l2.get? "type" = some b) (h3 : r1.get? "type" = some c)
    (h4 : r2.get? "type" = some d) : ∃ x, mainPart name n1 n2 l1 r1 l2 r2 = .ok x := by
  simp [mainPart, SDict.getItem, h1, h2, h3, h4, bind, Except.bind, pure, Except.pure]

theorem localPart_unsupported {lt : String} (h : local1.get? "type" = some lt)
    (hbad : lt ∉ ["nic", "internetip", "custom"]) : localPart name node1 node2 local1 = .error .valueError := by
  simp only [List.mem_cons, List.not_mem_nil, or_false, not_or] at hbad
  simp [localPart, SDict.getItem, h, hbad, bind, Except.bind, throw, throwThe, MonadExceptOf.throw]

theorem remotePart_unsupported {rt : String} (h : remote1.get? "type" = some rt)
    (hbad : rt ∉ ["custom", "externalip", "modeconfig"]) :
    remotePart name node1 node2 local1 remote1 = .error .valueError := by
  simp only [List.mem_cons, List.not_mem_nil, or_false, not_or] at hbad
  simp [remotePart, SDict.getItem, h, hbad, bind, Except.bind, throw, throwThe, MonadExceptOf.throw]

theorem peerPart_unsupported {peer2 : SDict} {pt : String} (h : peer1.get? "type" = some pt)
    (hbad : pt ∉ ["ip", "dynip"]) : peerPart name node1 node2 peer1 peer2 = .error .valueError := by
  simp only [List.mem_cons, List.not_mem_nil, or_false, not_or] at hbad
  simp [peerPart, SDict.getItem, h, hbad, bind, Except.bind, throw, throwThe, MonadExceptOf.throw]

theorem authPart_unsupported {n1 n2 : String} {a : SDict} {ty : String} (h : a.get? "type" = some ty)
    (hbad : ty ∉ ["pubkey", "psk"]) : authPart name n1 n2 (some a) = .error .valueError := by
  simp only [List.mem_cons, List.not_mem_nil, or_false, not_or] at hbad
  simp [authPart, SDict.getItem, h, hbad, bind, Except.bind, throw, throwThe, MonadExceptOf.throw]

def isOk {α : Type} : Except Err α → Bool
  | .ok _ => true
  | .error _ => false

/-- a side test on a non-`CUSTOM` side never raises -/
theorem onSide_ok_of_not_custom (endNode : Node) (net : Option Netconfig) (sp : Dict) (node : Node) (x : String)
    (h : sp.get? ⟨"vpnconn_lan_type", []⟩ = some x) (hx : x ≠ "CUSTOM") :
    isOk (onSide endNode net sp node) = true := by
  unfold onSide
  by_cases h1 : node.id = endNode.id
  · simp [h1, isOk, pure, Except.pure]
  · cases net with
    | none => simp [h1, Dict.getItem, h, hx, isOk, bind, Except.bind, pure, Except.pure]
    | some nc =>
      by_cases h2 : (node.ifaces.any fun p => nc.hasInterface p.2) = true
      · simp [h1, h2, isOk, pure, Except.pure]
      · simp [h1, h2, Dict.getItem, h, hx, isOk, bind, Except.bind, pure, Except.pure]

end I2N.Tunnel
