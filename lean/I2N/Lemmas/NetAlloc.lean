import I2N.Lemmas.NetArith
/-! Helper lemmas for C18: range allocation. -/
namespace I2N.Net

/-- offsets of the range map that were not handed out yet, in insertion order -/
def freeOffsets (r : List (Nat × Bool)) : List Nat := (r.filter (fun p => !p.2)).map (·.1)

theorem allocRange_none (r : List (Nat × Bool)) : allocRange r = none ↔ freeOffsets r = [] := by
  fun_induction allocRange r with
  | case1 => simp [freeOffsets]
  | case2 o r ih => simpa [freeOffsets] using ih
  | case3 o t r ht => simp [freeOffsets, ht]

theorem allocRange_some (r : List (Nat × Bool)) (o : Nat) (r' : List (Nat × Bool)) (h : allocRange r = some (o, r')) :
    freeOffsets r = o :: freeOffsets r' ∧ r'.map (·.1) = r.map (·.1) := by
  revert h
  fun_induction allocRange r generalizing r' with
  | case1 => nofun
  | case2 o1 r ih =>
    intro h
    obtain ⟨⟨a, q⟩, hq, heq⟩ := Option.map_eq_some_iff.1 h
    cases heq
    have := ih q hq
    simp_all [freeOffsets]
  | case3 o1 t r ht =>
    intro h
    cases h
    simp [freeOffsets, ht]

theorem allocate_error (c : Netconfig) (h : freeOffsets c.range = []) : allocate c = .error .indexError := by
  unfold allocate
  rw [(allocRange_none c.range).2 h]

/-- any successful allocation hands out the first free offset -/
theorem allocate_inv (c c' : Netconfig) (a : Nat) (h : allocate c = .ok (a, c')) :
    ∃ o l, freeOffsets c.range = o :: l ∧ a = c.netIp + o ∧ freeOffsets c'.range = l ∧ c'.netIp = c.netIp ∧
      c'.netmask = c.netmask ∧ c'.ifs = c.ifs ∧ c'.host = c.host ∧ a < ipSpace := by
  revert h
  fun_cases allocate c with
  | case3 o r hr hlt =>
    intro h
    cases h
    exact ⟨o, _, (allocRange_some c.range o r hr).1, rfl, rfl, rfl, rfl, rfl, rfl, by omega⟩
  | _ => nofun

/-- allocation marks an entry of the range map and keeps its keys -/
theorem allocate_keys {c c' : Netconfig} {a : Nat} (h : allocate c = .ok (a, c')) :
    c'.range.map (·.1) = c.range.map (·.1) := by
  revert h
  fun_cases allocate c with
  | case3 o r hr _ => intro h; cases h; exact (allocRange_some c.range o r hr).2
  | _ => nofun

theorem allocate_ok (c : Netconfig) (o : Nat) (l : List Nat) (h : freeOffsets c.range = o :: l)
    (hb : c.netIp + o < ipSpace) :
    ∃ c', allocate c = .ok (c.netIp + o, c') ∧ freeOffsets c'.range = l ∧ c'.netIp = c.netIp ∧
      c'.netmask = c.netmask ∧ c'.ifs = c.ifs ∧ c'.host = c.host ∧ c'.range.map (·.1) = c.range.map (·.1) := by
  fun_cases allocate c with
  | case1 hr => rw [(allocRange_none c.range).1 hr] at h; cases h
  | case2 o' r hr hge =>
    rw [(allocRange_some c.range o' r hr).1] at h
    cases h
    omega
  | case3 o' r hr _ =>
    have ⟨h1, h2⟩ := allocRange_some c.range o' r hr
    rw [h] at h1
    cases h1
    exact ⟨_, rfl, rfl, rfl, rfl, rfl, rfl, h2⟩

theorem allocateN_all (l : List Nat) : ∀ (c : Netconfig), freeOffsets c.range = l →
    (∀ o ∈ l, c.netIp + o < ipSpace) →
    (allocateN c l.length).1 = l.map (c.netIp + ·) ∧ freeOffsets (allocateN c l.length).2.range = [] := by
  induction l with
  | nil => intro c h _; simp [allocateN, h]
  | cons o l ih =>
    intro c h hb
    obtain ⟨c', hc, hfree, hip, _⟩ := allocate_ok c o l h (hb o (by simp))
    have := ih c' hfree (by intro o' ho'; rw [hip]; exact hb o' (by simp [ho']))
    simp only [List.length_cons, allocateN, hc, List.map_cons, List.cons.injEq, true_and]
    rw [hip] at this
    exact this

theorem freeOffsets_mkRange (lo hi : Nat) : freeOffsets (mkRange lo hi) = List.range' lo (hi + 1 - lo) := by
  unfold freeOffsets mkRange
  rw [List.filter_map]
  simp [Function.comp_def]

end I2N.Net
