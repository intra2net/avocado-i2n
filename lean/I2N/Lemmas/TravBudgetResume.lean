import I2N.Lemmas.TravBudget
/-!
The retry budget of stateful classes, second part: the end of the awaited test (`Ended`: the report, the found result)
leaves `BInv` where the step goes on (`binv_of_ended`), hence every step preserves it (`binv_of_resumed`) and every
reachable state satisfies it (`ReachableR.binv`); the decidable forms of the hypotheses on the class and the run-level
bounds of C03.
-/
namespace I2N.Trav

section
variable {g : Graph} {c : Nat} {M : Option Int} {sh : Shape}

/-- what the invariant reads of a worker record: the path, the results of the creation pre-step and the pc up to the
number of result waits -/
def WdSame (d d' : WorkerD) : Prop :=
  d'.path = d.path ∧ d'.preResults = d.preResults ∧
    ∀ n ph dir uid tag, (∃ wt, d'.pc = .test n ph dir uid tag wt) ↔ ∃ wt, d.pc = .test n ph dir uid tag wt

theorem WdSame.refl (d : WorkerD) : WdSame d d := ⟨rfl, rfl, fun _ _ _ _ _ => Iff.rfl⟩

/-- … and of the nodes everything -/
theorem BInv.congr {s s' : State} {L : Nat → Prop} (b : BInv g c M sh s L) (hn : s'.nodes = s.nodes)
    (hwl : s'.workers.length = s.workers.length) (hwd : ∀ v, WdSame (s.wd v) (s'.wd v)) : BInv g c M sh s' L := by
  -- with the node lists identified every clause about node records unfolds to the same statement
  obtain ⟨nodes', _, _, _, _, _, _, _⟩ := s'
  dsimp only at hn
  subst hn
  refine ⟨b.nodesLen, hwl.trans b.workersLen, fun v => by unfold PathC; rw [(hwd v).1]; exact b.path v, b.finOwn,
    fun u hu n ph dir uid tag wt hpc' hnc => ?_, b.resOwn, fun j hj hjc hne => ?_, fun v hv P hP hPm => ?_⟩
  · obtain ⟨wt0, h0⟩ := ((hwd u).2.2 n ph dir uid tag).mp ⟨wt, hpc'⟩
    rw [(hwd u).2.1]
    exact b.infl u hu n ph dir uid tag wt0 h0 hnc
  · rcases b.p1 j hj hjc hne with ⟨u, tg, hu, ⟨ph, dir, uid, wt, hpc0, hph⟩, hres⟩ | h
    · obtain ⟨wt', h'⟩ := ((hwd u).2.2 j ph dir uid tg).mpr ⟨wt, hpc0⟩
      exact Or.inl ⟨u, tg, hu, ⟨ph, dir, uid, wt', h', hph⟩, hres⟩
    · exact Or.inr h
  · refine b.budget v hv P hP (fun u hu => ⟨(hPm u hu).1, ?_⟩)
    obtain ⟨j, dir, uid, tag, wt, h1, h2, h3⟩ := (hPm u hu).2
    obtain ⟨wt0, h0⟩ := ((hwd u).2.2 j .pre dir uid tag).mp ⟨wt, h1⟩
    exact ⟨j, dir, uid, tag, wt0, h0, h2, h3⟩

theorem BInv.quiet {s s' : State} {L : Nat → Prop}
    (b : BInv g c M sh s L) (hn : s'.nodes = s.nodes) (hw : s'.workers = s.workers) : BInv g c M sh s' L :=
  b.congr hn (by rw [hw]) (fun v => wd_of_workers_eq hw v ▸ WdSame.refl _)

theorem BInv.rewait {s : State} (b : BInv g c M sh s All)
    {w n : Nat} {ph : Phase} {dir : Dir} {uid : String} {tag wait : Nat} (hpc : (s.wd w).pc = .test n ph dir uid tag wait)
    (wait' : Nat) : BInv g c M sh (s.setWd w (fun d => { d with pc := .test n ph dir uid tag wait' })) All := by
  refine b.congr rfl (workers_length_setWd s w _) (fun v => ?_)
  by_cases hv : v = w
  · subst hv
    rw [wd_setWd_eq s v _ (lt_of_isTest s v (by rw [hpc]; rfl))]
    refine ⟨rfl, rfl, fun _ _ _ _ _ => ?_⟩
    rw [hpc]
    exact ⟨fun ⟨_, e⟩ => by cases e; exact ⟨_, rfl⟩, fun ⟨_, e⟩ => by cases e; exact ⟨_, rfl⟩⟩
  · rw [wd_setWd_ne s w v _ hv]
    exact .refl _

/-- how the state `sc`, in which the awaited test on node `n` has been accounted for, may differ from the state `s` the
step of worker `w` began in: in `w`'s record off the path, and in the record of `n` off the `finished` mark and the bump -/
structure Settled (s sc : State) (w n : Nat) : Prop where
  wl : sc.workers.length = s.workers.length
  wo : ∀ v, v ≠ w → sc.wd v = s.wd v
  pa : (sc.wd w).path = (s.wd w).path
  nl : sc.nodes.length = s.nodes.length
  no : ∀ j, j ≠ n → sc.nd j = s.nd j
  fi : (sc.nd n).finished = (s.nd n).finished
  bu : (sc.nd n).bump = (s.nd n).bump

theorem Settled.of_eq {s sc : State} {w n : Nat} (hn : sc.nodes = s.nodes) (hw : sc.workers = s.workers) : Settled s sc w n :=
  ⟨by rw [hw], fun v _ => wd_of_workers_eq hw v, by rw [wd_of_workers_eq hw], by rw [hn], fun j _ => nd_of_nodes_eq hn j,
    by rw [nd_of_nodes_eq hn], by rw [nd_of_nodes_eq hn]⟩

theorem Settled.setNd {s sc : State} {w n : Nat} (a : Settled s sc w n) (G : NodeD → NodeD)
    (hfi : ∀ d, (G d).finished = d.finished) (hbu : ∀ d, (G d).bump = d.bump) : Settled s (sc.setNd n G) w n :=
  ⟨a.wl, a.wo, a.pa, (nodes_length_setNd sc n G).trans a.nl, fun j hj => (nd_setNd_ne sc n j G hj).trans (a.no j hj),
    (nd_setNd_proj (·.finished) sc n G hfi n).trans a.fi, (nd_setNd_proj (·.bump) sc n G hbu n).trans a.bu⟩

theorem Settled.setWd {s sc : State} {w n : Nat} (a : Settled s sc w n) (F : WorkerD → WorkerD)
    (hpa : ∀ d, (F d).path = d.path) : Settled s (sc.setWd w F) w n := by
  refine ⟨(workers_length_setWd sc w F).trans a.wl, fun v hv => (wd_setWd_ne sc w v F hv).trans (a.wo v hv), ?_, a.nl, a.no,
    a.fi, a.bu⟩
  rcases wd_setWd_cases sc w F with ⟨h, _⟩ | ⟨_, h⟩
  · rw [h]; exact a.pa
  · rw [h, hpa]; exact a.pa

/-- The end of an execution of a copy of the class (test proper, or a failed creation pre-step): the result list of
the copy has not grown (test proper: the placeholder is replaced) or has grown by what the creation in flight stood for
(failed pre-step), and the copy gets the `finished` mark of its worker.  From here on the worker's scope is past the
scan path. -/
theorem finish_b (hc : BClass g c M sh) {s sc : State} {w n : Nat}
    {ph : Phase} {dir : Dir} {uid : String} {tag wait : Nat} (hw : w < g.workers.length) (b : BInv g c M sh s All)
    (hpc : (s.wd w).pc = .test n ph dir uid tag wait) (hnc : (g.node n).cls = c) (a : Settled s sc w n)
    (hlen : (sc.nd n).results.length ≤ (s.nd n).results.length + (if ph = .pre then 1 else 0))
    (hname : ∀ r ∈ (sc.nd n).results, NameOK g sh n r.name) :
    BInv g c M sh (finishTraverse sc n w) (Ex w) := by
  obtain ⟨hn, _, hid, _⟩ := b.infl w trivial n ph dir uid tag wait hpc hnc
  have hnsc : n < sc.nodes.length := by rw [a.nl, b.nodesLen]; exact hn
  have hndn : (finishTraverse sc n w).nd n = { sc.nd n with finished := some w, started := none } :=
    nd_setNd_eq sc n _ hnsc
  have hndo : ∀ j, j ≠ n → (finishTraverse sc n w).nd j = s.nd j := by
    intro j hj
    unfold finishTraverse
    rw [nd_setNd_ne sc n j _ hj, a.no j hj]
  have hwd : ∀ v, v ≠ w → (finishTraverse sc n w).wd v = s.wd v := fun v hv => a.wo v hv
  have hfin : ∀ u, FinIn g s c sh u → FinIn g (finishTraverse sc n w) c sh u := by
    rintro u ⟨j, u', h1, h2, h3, h4⟩
    refine ⟨j, u', h1, h2, ?_, h4⟩
    by_cases hj : j = n
    · subst hj
      obtain ⟨hu', hidu'⟩ := b.finOwn j u' h1 h2 h3
      rw [hndn, hc.uniq j h1 h2 u' w hu' hw hidu' hid]
    · rw [hndo j hj]; exact h3
  -- another worker in flight is on another copy
  have hother : ∀ u, u ≠ w → ∀ n' ph' dir' uid' tag' wt, (s.wd u).pc = .test n' ph' dir' uid' tag' wt →
      (g.node n').cls = c → n' ≠ n := by
    intro u hu n' ph' dir' uid' tag' wt hpc' hnc' e
    subst e
    exact hu (b.executor hc trivial hpc' hnc' hw hid)
  refine ⟨?_, by rw [← b.workersLen, ← a.wl]; rfl, fun v => ?_, fun j u hj hjc h => ?_,
    fun u hu n' ph' dir' uid' tag' wt hpc' hnc' => ?_, fun j hj hjc r hr => ?_, fun j hj hjc hne => ?_,
    fun v hv P hP hPm => ?_⟩
  · unfold finishTraverse; rw [nodes_length_setNd, a.nl]; exact b.nodesLen
  · exact pathC_of b.path hwd a.pa v
  · by_cases hjn : j = n
    · subst hjn
      rw [hndn] at h
      cases h
      exact ⟨hw, hid⟩
    · rw [hndo j hjn] at h; exact b.finOwn j u hj hjc h
  · rw [hwd u hu] at hpc' ⊢
    obtain ⟨h1, h2, h3, h4⟩ := b.infl u trivial n' ph' dir' uid' tag' wt hpc' hnc'
    have hn' : n' ≠ n := hother u hu n' ph' dir' uid' tag' wt hpc' hnc'
    rw [hndo n' hn']
    exact ⟨h1, h2, h3, h4⟩
  · by_cases hjn : j = n
    · subst hjn
      rw [hndn] at hr
      exact hname r hr
    · rw [hndo j hjn] at hr; exact b.resOwn j hj hjc r hr
  · by_cases hjn : j = n
    · subst hjn
      exact Or.inr ⟨w, hw, hid, j, w, hj, hjc, by rw [hndn], inScopeOf_self sh g w⟩
    · rw [hndo j hjn] at hne ⊢
      rcases b.p1 j hj hjc hne with ⟨u, tg, _, ⟨ph', dir', uid', wt, hpc', hph'⟩, hres⟩ | ⟨u, hu, hidu, hf⟩
      · have huw : u ≠ w := by
          intro hu; subst hu
          rw [hpc] at hpc'
          cases hpc'
          exact hjn rfl
        exact Or.inl ⟨u, tg, huw, ⟨ph', dir', uid', wt, by rw [hwd u huw]; exact hpc', hph'⟩, hres⟩
      · exact Or.inr ⟨u, hu, hidu, hfin u hf⟩
  · have h2 : classLimit g s c ≤ classLimit g (finishTraverse sc n w) c := by
      apply classLimit_mono
      intro j
      by_cases hjn : j = n
      · subst hjn; rw [hndn]; show (s.nd j).bump ≤ (sc.nd j).bump; rw [a.bu]; exact Nat.le_refl _
      · rw [hndo j hjn]; exact Nat.le_refl _
    have hPs : ∀ u ∈ P, All u ∧ InCre g s c sh v u :=
      fun u hu => ⟨trivial, (hPm u hu).2.of_wd_eq (hwd u (hPm u hu).1)⟩
    have h1 : scopedLen g (finishTraverse sc n w) c sh v ≤
        scopedLen g s c sh v + (if ph = .pre ∧ seen g sh v n = true then 1 else 0) := by
      unfold scopedLen
      apply sum_map_le_add _ (nodup_classNodes g c) n ((mem_classNodes g c n).mpr ⟨hn, hnc⟩)
      · rw [hndn]
        by_cases hseen : seen g sh v n = true
        · simpa only [hseen, if_true, and_true] using hlen
        · simp only [hseen, Bool.false_eq_true, if_false, and_false]; exact Nat.le_refl _
      · intro j _ hjn
        rw [hndo j hjn]; exact Nat.le_refl _
    by_cases hcre : ph = .pre ∧ seen g sh v n = true
    · -- the creation in flight that failed was counted as a result-to-be
      rw [if_pos hcre] at h1
      obtain ⟨hph, hseen⟩ := hcre
      subst hph
      refine cap_mono ?_ h2 (b.budget v hv (w :: P) (List.nodup_cons.mpr ⟨fun h => (hPm w h).1 rfl, hP⟩) (fun u hu => by
        rcases List.mem_cons.mp hu with e | hu
        · rw [e]; exact ⟨trivial, n, dir, uid, tag, wait, hpc, hnc, hseen⟩
        · exact hPs u hu))
      exact Nat.le_trans (Nat.add_le_add_right h1 _) (Nat.le_of_eq (Nat.add_right_comm _ 1 _))
    · rw [if_neg hcre] at h1
      exact cap_mono (Nat.add_le_add_right h1 _) h2 (b.budget v hv P hP hPs)

/-- A successful creation pre-step: the test proper starts at once on the object root, without a decision; the creation
in flight turns into the placeholder it stood for. -/
theorem main_start_b (hc : BClass g c M sh) {s sc : State} {w n : Nat}
    {dir : Dir} {uid : String} {tag wait : Nat} (hw : w < g.workers.length) (b : BInv g c M sh s All)
    (hpc : (s.wd w).pc = .test n .pre dir uid tag wait) (hnc : (g.node n).cls = c) (a : Settled s sc w n)
    (hnd : sc.nd n = s.nd n) : BInv g c M sh (startTest g sc n w .main dir).1 All := by
  obtain ⟨hn, _, hid, hstn⟩ := b.infl w trivial n .pre dir uid tag wait hpc hnc
  obtain ⟨r1, r2, r3, r4, r5, r6, r7⟩ := startTest_nonpre_records g sc n w .main dir (by decide)
    (by rw [a.nl, b.nodesLen]; exact hn) (by rw [a.wl, b.workersLen]; exact hw)
  rw [hnd] at r3
  refine start_b hc (by decide) hw (b.openPre w (fun _ _ _ _ _ _ h _ => by rw [hpc] at h; cases h; rfl)) hn hnc hid hstn
    (r1.trans a.nl) (r2.trans a.wl) r3 (fun j hj => (r4 j hj).trans (a.no j hj))
    (fun v hv => (r5 v hv).trans (a.wo v hv)) r6 (r7.trans a.pa) (fun v hv P hP hPw => ?_)
  -- the budget: one creation in flight less, one placeholder more
  have hPs : ∀ u ∈ P, All u ∧ InCre g s c sh v u := fun u hu => ⟨trivial, (hPw u hu).2⟩
  by_cases hseen : seen g sh v n = true
  · simp only [hseen, if_true]
    refine cap_mono ?_ (Nat.le_refl _) (b.budget v hv (w :: P) (List.nodup_cons.mpr ⟨fun h => (hPw w h).1 rfl, hP⟩)
      (fun u hu => by
        rcases List.mem_cons.mp hu with e | hu
        · rw [e]; exact ⟨trivial, n, dir, uid, tag, wait, hpc, hnc, hseen⟩
        · exact hPs u hu))
    exact Nat.le_refl _
  · simp only [hseen, Bool.false_eq_true, if_false]
    exact b.budget v hv P hP hPs

theorem settle_le (l : List Result) (res : Result) {tag : Nat} (hres : res.tag = 0) (ht : 1 ≤ tag) {nm : String}
    (hmem : phOf nm tag ∈ l) : ((l ++ [res]).filter (fun r => !isPh tag r)).length ≤ l.length := by
  have h1 := settle_len l res tag (isPh_res_false res tag hres ht)
  have h2 : 0 < (l.filter (isPh tag)).length :=
    List.length_pos_of_mem (List.mem_filter.mpr ⟨hmem, by rw [isPh_phOf]; simp⟩)
  omega

/-- filing the found result: job records aside, the placeholder is replaced — on the worker's copy of the results for a
creation pre-step (`F`), on the copy of the class for a test proper (`G`) -/
theorem recordResult_fst (s : State) (w n : Nat) (phase : Phase) (name uid : String) (tag : Nat) (st0 : String) (dur : Nat) :
    ∃ (sJ : State) (st : String) (F : WorkerD → WorkerD) (G : NodeD → NodeD), sJ.nodes = s.nodes ∧ sJ.workers = s.workers ∧
      (∀ d, F d = { d with preResults :=
        (d.preResults ++ [({ name := name, status := st, uid := uid, dur := dur } : Result)]).filter (fun r => !isPh tag r) }) ∧
      (∀ d, G d = { d with results :=
        (d.results ++ [({ name := name, status := st, uid := uid, dur := dur } : Result)]).filter (fun r => !isPh tag r) }) ∧
      (recordResult s w n phase name uid tag st0 dur).1 = if (phase == .pre) = true then sJ.setWd w F else sJ.setNd n G := by
  have hX : ∀ (b : Bool) (jr : List (String × String × String × Nat)),
      (if b = true then { s with jobResults := jr } else s).nodes = s.nodes ∧
      (if b = true then { s with jobResults := jr } else s).workers = s.workers := by
    intro b jr
    cases b <;> exact ⟨rfl, rfl⟩
  unfold recordResult
  dsimp only
  exact ⟨_, _, _, _, (hX _ _).1, (hX _ _).2, fun _ => rfl, fun _ => rfl, rfl⟩

theorem fr_recordResult_other (g : Graph) (c : Nat) (s : State) (w n : Nat) (phase : Phase) (name uid : String) (tag : Nat)
    (st0 : String) (dur : Nat) (hne : (g.node n).cls ≠ c) : Fr g c w s (recordResult s w n phase name uid tag st0 dur).1 := by
  obtain ⟨sJ, st, F, G, hJn, hJw, hF, hG, e⟩ := recordResult_fst s w n phase name uid tag st0 dur
  rw [e]
  refine (Fr.quiet hJn hJw).trans ?_
  split
  · exact fr_setWd g c w _ F (fun d h => by rw [hF]; exact h) (fun d h => by rw [hF]; exact h)
  · exact fr_setNd g c w _ n G (fun h => absurd h hne) (fun d => by rw [hG]; exact Nat.le_refl _) (fun h => absurd h hne)
      (fun h => absurd h hne)

/-- A failed creation pre-step (result found and bad, or never found): what the worker's copy of the results has gained
is filed at the object root — at most the one result the creation in flight stood for — and the root is finished. -/
theorem pre_fail_b (hc : BClass g c M sh) {s sc : State} {w n : Nat}
    {dir : Dir} {uid : String} {tag wait : Nat} (hw : w < g.workers.length) (b : BInv g c M sh s All)
    (hpc : (s.wd w).pc = .test n .pre dir uid tag wait) (hnc : (g.node n).cls = c) (a : Settled s sc w n)
    (hnd : sc.nd n = s.nd n) (hplen : (sc.wd w).preResults.length ≤ (s.nd n).results.length + 1)
    (hpname : ∀ r ∈ (sc.wd w).preResults, NameOK g sh n r.name) :
    BInv g c M sh (finishTraverse (appendPre sc n w) n w) (Ex w) := by
  obtain ⟨hn, _, _, _⟩ := b.infl w trivial n .pre dir uid tag wait hpc hnc
  have hndn : (appendPre sc n w).nd n =
      { s.nd n with results := (s.nd n).results ++ (sc.wd w).preResults.drop (s.nd n).results.length } := by
    unfold appendPre
    rw [nd_setNd_eq sc n _ (by rw [a.nl, b.nodesLen]; exact hn), hnd]
  refine finish_b hc hw b hpc hnc (a.setNd _ (fun _ => rfl) (fun _ => rfl)) ?_ ?_
  · rw [hndn]
    simp only [List.length_append, List.length_drop, if_true]
    omega
  · intro r hr
    rw [hndn] at hr
    rcases List.mem_append.mp hr with h | h
    · exact b.resOwn n hn hnc r h
    · exact hpname r (List.mem_of_mem_drop h)

/-- The awaited test on `w`'s copy `n` of the class has been reported and recorded: job records aside, the found result has
replaced the placeholder — on the worker's copy of the results for a creation pre-step, on the copy of the class for a test
proper — or, the result never having come, nothing has changed. -/
theorem settled_of_ended (hc : BClass g c M sh) {s sc : State} {w n : Nat} {ph : Phase} {dir : Dir} {uid : String}
    {tag wait : Nat} {out : Outcome} {ok : Bool} (hw : w < g.workers.length) (b : BInv g c M sh s All) (bas : Basic g s All)
    (hpc : (s.wd w).pc = .test n ph dir uid tag wait) (hnc : (g.node n).cls = c)
    (h : Ended g w n ph uid tag wait out s sc ok) :
    Settled s sc w n ∧
      (ph = .pre → sc.nd n = s.nd n ∧ (sc.wd w).preResults.length ≤ (s.nd n).results.length + 1 ∧
        ∀ r ∈ (sc.wd w).preResults, NameOK g sh n r.name) ∧
      (ph ≠ .pre → (sc.nd n).results.length ≤ (s.nd n).results.length ∧ ∀ r ∈ (sc.nd n).results, NameOK g sh n r.name) := by
  obtain ⟨hrn, hrw, _⟩ := reportOutcome_frame g s w n ph uid wait out
  obtain ⟨hn, hpre, hid, _⟩ := b.infl w trivial n ph dir uid tag wait hpc hnc
  have hok := bas.pcOK w n ph dir uid tag wait trivial hpc
  have hplace := bas.placeholder w n ph dir uid tag wait trivial hpc
  cases h with
  | lost =>
    refine ⟨.of_eq hrn hrw, fun hph => ?_, fun _ => ?_⟩
    · rw [nd_of_nodes_eq hrn, wd_of_workers_eq hrw]; exact ⟨rfl, (hpre hph).2⟩
    · rw [nd_of_nodes_eq hrn]; exact ⟨Nat.le_refl _, b.resOwn n hn hnc⟩
  | found nm u st0 dur =>
    obtain ⟨sJ, st, F, G, hJn, hJw, hF, hG, hrec⟩ := recordResult_fst (reportOutcome g s w n ph uid wait out).1 w n ph
      (testName g s w n ph) uid tag st0 dur
    rw [hrec]
    have a : Settled s sJ w n := .of_eq (hJn.trans hrn) (hJw.trans hrw)
    by_cases hph : ph = .pre
    · -- the creation pre-step: on the worker's copy
      subst hph
      obtain ⟨hroot, hplen, hpname⟩ := hpre rfl
      rw [if_pos (show (Phase.pre == Phase.pre) = true from rfl)]
      have hpr : ((sJ.setWd w F).wd w).preResults = ((s.wd w).preResults ++
          [({ name := (s.wd w).preName, status := st, uid := uid, dur := dur } : Result)]).filter (fun r => !isPh tag r) := by
        rw [wd_setWd_eq sJ w F (by rw [hJw, hrw, b.workersLen]; exact hw), hF, wd_of_workers_eq (hJw.trans hrw)]
        rfl
      refine ⟨a.setWd F (fun d => by rw [hF]), fun _ => ⟨nd_of_nodes_eq (hJn.trans hrn) n, ?_, fun r hr => ?_⟩,
        fun h => absurd rfl h⟩
      · rw [hpr]
        exact Nat.le_trans (settle_le _ _ rfl hok.2.1 (hplace.2 rfl)) hplen
      · rw [hpr] at hr
        rcases List.mem_append.mp (List.mem_filter.mp hr).1 with h' | h'
        · exact hpname r h'
        · rw [List.mem_singleton.mp h', hok.2.2.2.2 rfl]
          exact hc.nameOK_pre hn hnc hroot hw hid
    · -- a test proper: on the copy
      rw [if_neg (fun h => hph ((phase_beq_pre ph).mp h))]
      have hscn : (sJ.setNd n G).nd n = { s.nd n with results := ((s.nd n).results ++
          [({ name := testName g s w n ph, status := st, uid := uid, dur := dur } : Result)]).filter (fun r => !isPh tag r) } := by
        rw [nd_setNd_eq sJ n G (by rw [hJn, hrn, b.nodesLen]; exact hn), hG, nd_of_nodes_eq (hJn.trans hrn) n]
      refine ⟨a.setNd G (fun d => by rw [hG]) (fun d => by rw [hG]), fun h => absurd h hph, fun _ => ?_⟩
      rw [hscn]
      refine ⟨settle_le _ _ rfl hok.2.1 (hplace.1 hph), fun r hr => ?_⟩
      rcases List.mem_append.mp (List.mem_filter.mp hr).1 with h' | h'
      · exact b.resOwn n hn hnc r h'
      · rw [List.mem_singleton.mp h']
        exact Or.inl (if_neg (fun h => hph ((phase_beq_pre ph).mp h)))

/-- After the awaited test (`Ended`) the invariant holds where the step goes on: after the start of the test proper, which
follows a creation pre-step without a decision, and after the end of the traversal of the node (what a failed creation
pre-step has gained filed first). -/
theorem binv_of_ended (hc : BClass g c M sh) {s sc : State} {w n : Nat} {ph : Phase} {dir : Dir} {uid : String}
    {tag wait : Nat} {out : Outcome} {ok : Bool} (hw : w < g.workers.length) (b : BInv g c M sh s All) (bas : Basic g s All)
    (hpc : (s.wd w).pc = .test n ph dir uid tag wait) (h : Ended g w n ph uid tag wait out s sc ok) :
    (ph = .pre → BInv g c M sh (startTest g sc n w .main dir).1 All) ∧
      BInv g c M sh (finishTraverse (accounted sc w n ph) n w) (Ex w) := by
  by_cases hnc : (g.node n).cls = c
  · obtain ⟨a, h1, h2⟩ := settled_of_ended hc hw b bas hpc hnc h
    by_cases hph : ph = .pre
    · subst hph
      obtain ⟨hnd, hplen, hpname⟩ := h1 rfl
      exact ⟨fun _ => main_start_b hc hw b hpc hnc a hnd, pre_fail_b hc hw b hpc hnc a hnd hplen hpname⟩
    · obtain ⟨hlen, hname⟩ := h2 hph
      refine ⟨fun h => absurd h hph, ?_⟩
      rw [accounted, if_neg (fun h => hph ((phase_beq_pre ph).mp h))]
      exact finish_b hc hw b hpc hnc a (by rw [if_neg hph]; exact hlen) hname
  · -- a test of another class
    have fr : Fr g c w s sc := by
      obtain ⟨hrn, hrw, _⟩ := reportOutcome_frame g s w n ph uid wait out
      cases h with
      | found nm u st0 dur => exact (Fr.quiet hrn hrw).trans (fr_recordResult_other g c _ w n ph _ uid tag st0 dur hnc)
      | lost => exact Fr.quiet hrn hrw
    have bc := (b.open w (by rw [hpc]; exact notInC_test hnc _ _ _ _ _)).fr hc hw fr
    refine ⟨fun _ => ?_, bc.fr hc hw (Fr.trans ?_ (fr_finishTraverse g c w _ n (fun h => absurd h hnc)))⟩
    · have hfr := fr_startOther g c w g sc n .main dir hnc
      refine (bc.fr hc hw hfr).close ?_
      by_cases hws : w < sc.workers.length
      · rw [startTest_pc g sc n w .main dir hws]; exact notInC_test hnc _ _ _ _ _
      · have hge : ¬ w < (startTest g sc n w .main dir).1.workers.length := by rw [hfr.workersLen]; exact hws
        rw [wd_default_of_ge _ w hge]; exact notInC_of_nonTest rfl
    · unfold accounted
      split
      · exact fr_setNd g c w sc n _ (fun h => absurd h hnc) (fun _ => Nat.le_refl _) (fun h => absurd h hnc)
          (fun h => absurd h hnc)
      · exact Fr.refl g c w sc

theorem binv_of_resumed (hc : BClass g c M sh) (hwf : GraphWF g) {s : State} {w : Nat} {out : Outcome} {fuel : Nat}
    {r : State × List Event} (hw : w < g.workers.length) (hf : 0 < fuel) (b : BInv g c M sh s All) (bas : Basic g s All)
    (h : Resumed g w out fuel s r) : BInv g c M sh r.1 All := by
  -- the traversal of the node of the finished test ends, and the loop body goes on
  have back : ∀ {n ph dir uid tag wait sc ok prev r}, (s.wd w).pc = .test n ph dir uid tag wait →
      Ended g w n ph uid tag wait out s sc ok →
      After (vis g (finishTraverse (accounted sc w n ph) n w)) w n prev dir (finishTraverse (accounted sc w n ph) n w) r →
      BInv g c M sh r.1 (Ex w) := by
    intro n ph dir uid tag wait sc ok prev r hpc hs ha
    refine (binv_of_ended hc hw b bas hpc hs).2.fr hc hw
      (walk_of_after (fr_walk hc (sameNodes_vis g _) (hwf.vis _) w) ⟨(bas.pcOK w n ph dir uid tag wait trivial hpc).1, ?_⟩ ha)
    exact fun hnc => (b.infl w trivial n ph dir uid tag wait hpc hnc).2.2.1
  cases h with
  | over => exact b
  | loop r hpc hr =>
    exact binv_of_ran hc hwf hw (b.open w (by rcases hpc with e | e <;> rw [e] <;> exact notInC_of_nonTest rfl)) (Or.inr hf) hr
  | wait n ph dir uid tag wait hpc =>
    obtain ⟨hrn, hrw, _⟩ := reportOutcome_frame g s w n ph uid wait out
    exact (b.quiet hrn hrw).rewait (by rw [wd_of_workers_eq hrw]; exact hpc) (wait + 1)
  | created n dir uid tag wait sc hpc hs => exact (binv_of_ended hc hw b bas hpc hs).1 rfl
  | stuck n ph dir uid tag wait sc ok s1 e what hpc hs _ ha =>
    obtain ⟨h2, hpc2⟩ := fr_setPc g c w s1 (pc := .failed) rfl
    exact ((back hpc hs ha).fr hc hw h2).close hpc2
  | back n ph dir uid tag wait sc ok s1 e f r hpc hs _ ha _ hr => exact binv_of_ran hc hwf hw (back hpc hs ha) (Or.inr hf) hr

theorem binv_init (hc : BClass g c M sh) (hwf : GraphWF g) (ncls : Nat)
    (store : List (String × List (String × String))) (hidden : List Nat) :
    BInv g c M sh (initState g ncls store hidden) All := by
  have hnd := initState_nd g ncls store hidden
  refine ⟨by simp [initState], by simp [initState], fun v x hx => ?_, fun j u _ _ h => ?_,
    fun u _ n ph dir uid tag wait hpc _ => absurd hpc (initState_not_test g ncls store hidden u), fun j _ _ r hr => ?_,
    fun j _ _ hne => ?_, fun v _ P _ hPm => ?_⟩
  · rcases initState_wd g ncls store hidden v with h | h
    · rw [h, List.mem_singleton] at hx
      rw [hx]
      exact ⟨hwf.root_lt, fun h => absurd h hc.rootNot⟩
    · rw [h] at hx; cases hx
  · rw [hnd] at h; cases h
  · rw [hnd] at hr; cases hr
  · rw [hnd] at hne; exact absurd rfl hne
  · have : scopedLen g (initState g ncls store hidden) c sh v = 0 := by
      simp only [scopedLen, hnd, List.length_nil, ite_self]
      induction g.classNodes c <;> simp_all
    have hP : P = [] := by
      cases P with
      | nil => rfl
      | cons u r =>
        obtain ⟨_, j, dir, uid, tag, wait, hpc, _⟩ := hPm u List.mem_cons_self
        exact absurd hpc (initState_not_test g ncls store hidden u)
    rw [this, hP]
    exact le_cap (Nat.zero_le _)

theorem ReachableR.binv (hwf : graphWF g = true) (hc : BClass g c M sh)
    {ncls : Nat} {store : List (String × List (String × String))} {s : State} (h : ReachableR g ncls store s) :
    BInv g c M sh s All := by
  induction h with
  | init hidden => exact binv_init hc (GraphWF.of_bool hwf) ncls store hidden
  | step w out fuel hr hw hf ih =>
    exact binv_of_resumed hc (GraphWF.of_bool hwf) hw hf ih (hr.basic hwf) (resume_resumed g _ w out fuel)

end

theorem bclass_of {g : Graph} {c : Nat} {M : Option Int} {sh : Shape} (hroot : (g.node g.root).cls ≠ c)
    (hnode : ∀ j, j < g.nodes.length → (g.node j).cls = c →
      (g.node j).flat = false ∧ ((g.node j).objectRoot = false ∨ M.getD 1 ≤ 1) ∧ (g.node j).sets.isEmpty = false ∧
      (g.node j).maxTries = M ∧ (g.node j).shape = sh)
    (hw : ∀ j, j < g.nodes.length → (g.node j).cls = c → ∀ u, u < g.workers.length → g.idIn u j = false ∨
      ∀ v, v < g.workers.length → (g.idIn v j = false ∨ u = v) ∧ seen g sh v j = inScopeOf sh g v u ∧
        ((g.node j).objectRoot = false ∨ seen g sh v j = true ∨ strIn (scopeFilter g sh v) (preNameOf g j u) = false)) :
    BClass g c M sh := by
  have hv : ∀ j, j < g.nodes.length → (g.node j).cls = c → ∀ u v, u < g.workers.length → v < g.workers.length →
      g.idIn u j = true → _ := fun j h1 h2 u v hu hv hiu => ((hw j h1 h2 u hu).resolve_left (by rw [hiu]; exact Bool.noConfusion)) v hv
  refine ⟨hroot, hnode, fun j h1 h2 u v hu hv' hiu hiv => ?_, fun j h1 h2 u v hu hv' hiu => (hv j h1 h2 u v hu hv' hiu).2.1,
    fun j h1 h2 hr u v hu hv' hiu hin => ?_⟩
  · exact (hv j h1 h2 u v hu hv' hiu).1.resolve_left (by rw [hiv]; exact Bool.noConfusion)
  · rcases (hv j h1 h2 u v hu hv' hiu).2.2 with h | h | h
    · rw [hr] at h; cases h
    · exact h
    · rw [hin] at h; cases h

/-- decidable form of `BClass` for classes without object roots (any `max_tries`) -/
def statefulClass (g : Graph) (c : Nat) (M : Option Int) (sh : Shape) : Bool :=
  !((g.node g.root).cls == c) &&
  (g.classNodes c).all (fun j =>
    !(g.node j).flat && !(g.node j).objectRoot && !(g.node j).sets.isEmpty && decide ((g.node j).maxTries = M) &&
    decide ((g.node j).shape = sh) &&
    (List.range g.workers.length).all (fun u => !g.idIn u j ||
      (List.range g.workers.length).all (fun v => (!g.idIn v j || u == v) && (seen g sh v j == inScopeOf sh g v u))))

theorem statefulClass_spec {g : Graph} {c : Nat} {M : Option Int} {sh : Shape} (h : statefulClass g c M sh = true) :
    BClass g c M sh := by
  unfold statefulClass at h
  simp only [Bool.and_eq_true, Bool.not_eq_true', beq_eq_false_iff_ne, ne_eq, List.all_eq_true, decide_eq_true_eq,
    List.mem_range, Bool.or_eq_true, beq_iff_eq] at h
  obtain ⟨hroot, hall⟩ := h
  have hj : ∀ j, j < g.nodes.length → (g.node j).cls = c → _ := fun j h1 h2 => hall j ((mem_classNodes g c j).mpr ⟨h1, h2⟩)
  refine bclass_of hroot (fun j h1 h2 => ?_) (fun j h1 h2 u hu => ?_)
  · obtain ⟨⟨⟨⟨⟨a1, a2⟩, a3⟩, a4⟩, a5⟩, _⟩ := hj j h1 h2
    exact ⟨a1, Or.inl a2, a3, a4, a5⟩
  · obtain ⟨⟨⟨⟨⟨_, a2⟩, _⟩, _⟩, _⟩, a6⟩ := hj j h1 h2
    exact (a6 u hu).imp id (fun h' v hv => ⟨(h' v hv).1, (h' v hv).2, Or.inl a2⟩)

/-- decidable form of `BClass` for classes that may contain object roots: `max_tries` is unset or at most 1 (so that
the rerun rule never fires — with `max_tries ≥ 2` the bound is false for object roots, `root_creation_hidden`), and an
observer whose filter matches the name of the creation pre-step of a root also sees the root (a failed pre-step files
its result, named like the pre-step, at the root).  The last clause is evaluated only for object roots the observer does
not see anyway. -/
def statefulClassRoots (g : Graph) (c : Nat) (M : Option Int) (sh : Shape) : Bool :=
  decide (M.getD 1 ≤ 1) && !((g.node g.root).cls == c) &&
  (g.classNodes c).all (fun j =>
    !(g.node j).flat && !(g.node j).sets.isEmpty && decide ((g.node j).maxTries = M) &&
    decide ((g.node j).shape = sh) &&
    (List.range g.workers.length).all (fun u => !g.idIn u j ||
      (List.range g.workers.length).all (fun v => (!g.idIn v j || u == v) && (seen g sh v j == inScopeOf sh g v u) &&
        (!(g.node j).objectRoot || seen g sh v j || !strIn (scopeFilter g sh v) (preNameOf g j u)))))

theorem statefulClassRoots_spec {g : Graph} {c : Nat} {M : Option Int} {sh : Shape} (h : statefulClassRoots g c M sh = true) :
    BClass g c M sh ∧ M.getD 1 ≤ 1 := by
  unfold statefulClassRoots at h
  simp only [Bool.and_eq_true, Bool.not_eq_true', beq_eq_false_iff_ne, ne_eq, List.all_eq_true, decide_eq_true_eq,
    List.mem_range, Bool.or_eq_true, beq_iff_eq] at h
  obtain ⟨⟨hM, hroot⟩, hall⟩ := h
  have hj : ∀ j, j < g.nodes.length → (g.node j).cls = c → _ := fun j h1 h2 => hall j ((mem_classNodes g c j).mpr ⟨h1, h2⟩)
  refine ⟨bclass_of hroot (fun j h1 h2 => ?_) (fun j h1 h2 u hu => ?_), hM⟩
  · obtain ⟨⟨⟨⟨a1, a3⟩, a4⟩, a5⟩, _⟩ := hj j h1 h2
    exact ⟨a1, Or.inr hM, a3, a4, a5⟩
  · exact ((hj j h1 h2).2 u hu).imp id (fun h' v hv => ⟨(h' v hv).1.1, (h' v hv).1.2, or_assoc.mp (h' v hv).2⟩)

/-- `max_concurrent_tries` is unset or at most `max(max_tries, 1)` on every copy of the class -/
def mctWithin (g : Graph) (c : Nat) (M : Option Int) : Bool :=
  (g.classNodes c).all (fun j => match (g.node j).mct with | none => true | some k => decide (k ≤ max (M.getD 1) 1))

theorem classLimit_le_of_mctWithin {g : Graph} {c : Nat} {M : Option Int} {sh : Shape} (hc : BClass g c M sh)
    (hm : mctWithin g c M = true) (s : State) (hb : NoBump s) : (classLimit g s c : Int) ≤ max (M.getD 1) 1 := by
  have h := classLimit_noBump_le g s c (max (M.getD 1) 1).toNat hb (fun m hm1 hm2 => by
    unfold mctWithin at hm
    rw [List.all_eq_true] at hm
    have hm' := hm m ((mem_classNodes g c m).mpr ⟨hm1, hm2⟩)
    unfold limit0
    rw [(hc.node m hm1 hm2).2.2.2.1]
    cases hk : (g.node m).mct with
    | none => simp only [Option.getD_none]; exact Nat.le_refl _
    | some k =>
      rw [hk] at hm'
      simp only [decide_eq_true_eq] at hm'
      exact Int.toNat_le_toNat (Int.max_le.mpr ⟨hm', Int.le_max_right _ _⟩))
  exact Int.le_trans (Int.ofNat_le.mpr h) (Int.le_of_eq (Int.toNat_of_nonneg (Int.le_trans (by decide) (Int.le_max_right _ 1))))

/-- the workers inside the creation pre-step of a copy of class `c` that observer `v` sees: results-to-be -/
def creationsInFlight (g : Graph) (s : State) (c : Nat) (sh : Shape) (v : Nat) : List Nat :=
  (List.range g.workers.length).filter (fun u =>
    match (s.wd u).pc with
    | .test j .pre _ _ _ _ => (g.node j).cls == c && seen g sh v j
    | _ => false)

theorem inCre_of_mem_creationsInFlight {g : Graph} {s : State} {c : Nat} {sh : Shape} {v u : Nat}
    (h : u ∈ creationsInFlight g s c sh v) : InCre g s c sh v u := by
  unfold creationsInFlight at h
  have h2 := (List.mem_filter.mp h).2
  split at h2
  · next j dir uid tag wait hpc =>
    rw [Bool.and_eq_true, beq_iff_eq] at h2
    exact ⟨j, dir, uid, tag, wait, hpc, h2.1, h2.2⟩
  · cases h2

/-- **The budget of a stateful class along every run**, creations in flight counted as results-to-be. -/
theorem ReachableR.budgetB {g : Graph} (hwf : graphWF g = true) {c : Nat} {M : Option Int} {sh : Shape}
    (hC : BClass g c M sh) {ncls : Nat} {store : List (String × List (String × String))} {s : State}
    (h : ReachableR g ncls store s) (n : Nat) (hn : n < g.nodes.length) (hnc : (g.node n).cls = c) (v : Nat)
    (hv : v < g.workers.length) :
    (((sharedFilteredResults g s n (some v)).length + (creationsInFlight g s c sh v).length : Nat) : Int) ≤
      max (max (M.getD 1) 1) (classLimit g s c) := by
  have b := h.binv hwf hC
  have hnode := hC.node n hn hnc
  have h1 := sfr_length_le g s c sh n v hn hnode.1 hnc hnode.2.2.2.2 hv b.resOwn
  exact cap_mono (Nat.add_le_add_right h1 _) (Nat.le_refl _) (b.budget v hv (creationsInFlight g s c sh v)
    (List.Nodup.sublist List.filter_sublist List.nodup_range) (fun u hu => ⟨trivial, inCre_of_mem_creationsInFlight hu⟩))

/-- … for classes without object roots (no creations) -/
theorem ReachableR.budgetStateful {g : Graph} (hwf : graphWF g = true) {c : Nat} {M : Option Int} {sh : Shape}
    (hc : statefulClass g c M sh = true) {ncls : Nat} {store : List (String × List (String × String))} {s : State}
    (h : ReachableR g ncls store s) (n : Nat) (hn : n < g.nodes.length) (hnc : (g.node n).cls = c) (v : Nat)
    (hv : v < g.workers.length) :
    ((sharedFilteredResults g s n (some v)).length : Int) ≤ max (max (M.getD 1) 1) (classLimit g s c) := by
  exact cap_mono (Nat.le_add_right _ _) (Nat.le_refl _) (h.budgetB hwf (statefulClass_spec hc) n hn hnc v hv)

/-- … for classes with object roots and `max_tries ≤ 1` -/
theorem ReachableR.budgetStatefulRoots {g : Graph} (hwf : graphWF g = true) {c : Nat} {M : Option Int} {sh : Shape}
    (hc : statefulClassRoots g c M sh = true) {ncls : Nat} {store : List (String × List (String × String))} {s : State}
    (h : ReachableR g ncls store s) (n : Nat) (hn : n < g.nodes.length) (hnc : (g.node n).cls = c) (v : Nat)
    (hv : v < g.workers.length) :
    (((sharedFilteredResults g s n (some v)).length + (creationsInFlight g s c sh v).length : Nat) : Int) ≤
      max 1 (classLimit g s c) := by
  obtain ⟨hC, hM⟩ := statefulClassRoots_spec hc
  exact Int.le_trans (h.budgetB hwf hC n hn hnc v hv) (Int.max_le.mpr
    ⟨Int.max_le.mpr ⟨Int.le_trans hM (Int.ofNat_le.mpr (Nat.le_max_left 1 _)), Int.ofNat_le.mpr (Nat.le_max_left 1 _)⟩,
      Int.ofNat_le.mpr (Nat.le_max_right 1 _)⟩)

end I2N.Trav
