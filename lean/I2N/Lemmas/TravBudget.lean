import I2N.Lemmas.TravExcl
import I2N.Lemmas.TravResults
import I2N.Lemmas.TravWalk
/-!
The retry budget of STATEFUL (setup) classes of the traversal model (property C03): in every reachable state the
number of results — placeholders of executions in flight included — a class has within one reuse scope is at most
`max(max_tries, 1, largest threshold of is_occupied the class has had)`.

Why it holds.  A stateful test is started (a) on the scan path — nobody of the scope has finished the class — or
(b) by the rerun rule, which counts the results in scope.  While nobody of the scope has finished the class, every
result in scope is the placeholder of an execution in flight whose worker still holds the `started` mark of its
copy (`BInv.p1`); the worker that starts on the scan path has just been let in by `is_occupied`, so the marks in
its scope numbered less than the threshold (`room_of_not_occupied`).  Once somebody of the scope has finished, the
scan path is closed for the whole scope (`finished` marks are never taken back) and (b) alone adds results.

Object roots (classes whose copies are created in two phases) are covered when `max_tries ≤ 1`: the creation pre-step
keeps its placeholder on a copy of the results private to the worker, so a creation in flight is counted as a
result-to-be (`InCre`, the list `P` in `BInv.budget`); its success turns it into the placeholder of the test proper
(`main_start_b`), its failure into the one result filed at the root (`pre_fail_b`).  With `max_tries ≤ 1` the rerun rule
(b) never fires; with `max_tries ≥ 2` the bound is false for object roots (Props/C03 `root_creation_hidden`).

Technique: a reflexive-transitive frame relation `Fr` for the pieces of a step that do not start a test of the class,
along which the invariant `BInv` is preserved.  The walk through the loop body, an iteration and the loop is done once
for every such relation (`Walk` in `TravWalk.lean`, also used for `Calm` in `TravPatient.lean`); what remains per invariant
is the start of a test (`enter_start`, `binv_of_paused`) and the loop (`binv_of_ran`) in this file, the end of an execution
(`finish_b`, `binv_of_ended`), the step as a whole (`binv_of_resumed`) and the run-level bounds in `TravBudgetResume.lean`.
-/
namespace I2N.Trav

/-- the filter string of `shared_filtered_results` for observer `v` -/
def scopeFilter (g : Graph) (sh : Shape) (v : Nat) : String :=
  match sh with
  | .own => (g.worker v).swarm ++ "." ++ (g.worker v).id
  | .swarm => (g.worker v).swarm
  | .global => ""

/-- does observer `v` count the results of copy `j` -/
def seen (g : Graph) (sh : Shape) (v j : Nat) : Bool := strIn (scopeFilter g sh v) (g.node j).name

theorem sharedFilteredResults_eq (g : Graph) (s : State) (n v : Nat) :
    sharedFilteredResults g s n (some v) =
      (sharedResults g s n).filter (fun r => strIn (scopeFilter g (g.node n).shape v) r.name) := by
  unfold sharedFilteredResults scopeFilter
  cases (g.node n).shape <;> rfl

/-- number of results of class `c` observer `v` counts (when results carry the names of their copies) -/
def scopedLen (g : Graph) (s : State) (c : Nat) (sh : Shape) (v : Nat) : Nat :=
  ((g.classNodes c).map (fun j => if seen g sh v j then (s.nd j).results.length else 0)).sum

/-- somebody within `v`'s scope has finished (traversed) a copy of class `c` -/
def FinIn (g : Graph) (s : State) (c : Nat) (sh : Shape) (v : Nat) : Prop :=
  ∃ j u, j < g.nodes.length ∧ (g.node j).cls = c ∧ (s.nd j).finished = some u ∧ inScopeOf sh g v u = true

/-- Static hypotheses on a class `c` of stateful tests proper (all decidable, see `statefulClass` and
`statefulClassRoots`): the copies are parsed, are no object roots unless `max_tries ≤ 1`, have set states, agree on
`max_tries = M` and on the scope shape `sh`; the root is not of
the class; every copy is cared for by at most one worker; and the scope filter on result names agrees with the
scope of `is_started` / `is_finished`: observer `v` counts the results of `u`'s copy iff `u` is in `v`'s scope. -/
structure BClass (g : Graph) (c : Nat) (M : Option Int) (sh : Shape) : Prop where
  rootNot : (g.node g.root).cls ≠ c
  node : ∀ j, j < g.nodes.length → (g.node j).cls = c →
    (g.node j).flat = false ∧ ((g.node j).objectRoot = false ∨ M.getD 1 ≤ 1) ∧ (g.node j).sets.isEmpty = false ∧
    (g.node j).maxTries = M ∧ (g.node j).shape = sh
  uniq : ∀ j, j < g.nodes.length → (g.node j).cls = c → ∀ u v, u < g.workers.length → v < g.workers.length →
    g.idIn u j = true → g.idIn v j = true → u = v
  scope : ∀ j, j < g.nodes.length → (g.node j).cls = c → ∀ u v, u < g.workers.length → v < g.workers.length →
    g.idIn u j = true → seen g sh v j = inScopeOf sh g v u
  /-- the results a failed creation pre-step files at an object root carry the name of the pre-step: an observer
  whose filter matches that name also sees the copy -/
  preScope : ∀ j, j < g.nodes.length → (g.node j).cls = c → (g.node j).objectRoot = true → ∀ u v, u < g.workers.length →
    v < g.workers.length → g.idIn u j = true → strIn (scopeFilter g sh v) (preNameOf g j u) = true → seen g sh v j = true

/-- a result name that the scope filter of no observer treats differently from the name of copy `j`: the name of the
copy itself, or (object roots) a name that only observers of the copy count -/
def NameOK (g : Graph) (sh : Shape) (j : Nat) (nm : String) : Prop :=
  nm = (g.node j).name ∨
  ((g.node j).objectRoot = true ∧
    ∀ v, v < g.workers.length → strIn (scopeFilter g sh v) nm = true → seen g sh v j = true)

/-- worker `u` is inside the creation pre-step of a copy of class `c` that observer `v` sees: a result-to-be -/
def InCre (g : Graph) (s : State) (c : Nat) (sh : Shape) (v u : Nat) : Prop :=
  ∃ j dir uid tag wait, (s.wd u).pc = .test j .pre dir uid tag wait ∧ (g.node j).cls = c ∧ seen g sh v j = true

/-- results named like the creation pre-step of an object root may be filed at the root -/
theorem BClass.nameOK_pre {g : Graph} {c : Nat} {M : Option Int} {sh : Shape} (hc : BClass g c M sh) {n w : Nat}
    (hn : n < g.nodes.length) (hnc : (g.node n).cls = c) (hroot : (g.node n).objectRoot = true) (hw : w < g.workers.length)
    (hid : g.idIn w n = true) : NameOK g sh n (preNameOf g n w) :=
  Or.inr ⟨hroot, fun v hv hin => hc.preScope n hn hnc hroot w v hw hv hid hin⟩

theorem InCre.of_wd_eq {g : Graph} {s s' : State} {c : Nat} {sh : Shape} {v u : Nat} (h : s'.wd u = s.wd u)
    (a : InCre g s' c sh v u) : InCre g s c sh v u := by
  obtain ⟨j, dir, uid, tag, wait, h1, h2, h3⟩ := a
  exact ⟨j, dir, uid, tag, wait, by rw [← h]; exact h1, h2, h3⟩

theorem sum_map_le_add (l : List Nat) (hl : l.Nodup) (n : Nat) (hn : n ∈ l) (f f' : Nat → Nat) (k : Nat) (h1 : f' n ≤ f n + k)
    (h2 : ∀ j ∈ l, j ≠ n → f' j ≤ f j) : (l.map f').sum ≤ (l.map f).sum + k := by
  rw [← sum_map_split l hl n hn f', ← sum_map_split l hl n hn f]
  have := sum_map_le (l.filter (· != n)) f' f (fun j hj => h2 j (List.mem_filter.mp hj).1 (by simpa using (List.mem_filter.mp hj).2))
  omega

theorem sum_le_count (l : List Nat) (f : Nat → Nat) (h : ∀ j ∈ l, f j ≤ 1) :
    (l.map f).sum ≤ (l.filter (fun j => f j != 0)).length := by
  induction l with
  | nil => simp
  | cons a r ih =>
    have h1 := h a List.mem_cons_self
    have ih' := ih (fun j hj => h j (List.mem_cons_of_mem _ hj))
    simp only [List.map_cons, List.sum_cons, List.filter_cons]
    by_cases ha : f a = 0
    · simp [ha]; exact ih'
    · have : (f a != 0) = true := by simpa using ha
      simp only [this, if_true, List.length_cons]
      omega

theorem nodup_map_on {α β} (l : List α) (f : α → β) (hl : l.Nodup)
    (hinj : ∀ x ∈ l, ∀ y ∈ l, f x = f y → x = y) : (l.map f).Nodup :=
  List.pairwise_map.mpr (List.Pairwise.imp_of_mem (fun hx hy hne he => hne (hinj _ hx _ hy he)) hl)

theorem cap_mono {a b L L' : Nat} {m : Int} (hab : a ≤ b) (hL : L ≤ L') (h : (b : Int) ≤ max (max m 1) L) :
    (a : Int) ≤ max (max m 1) L' :=
  Int.le_trans (Int.ofNat_le.mpr hab) (Int.le_trans h (Int.max_le.mpr
    ⟨Int.le_max_left _ _, Int.le_trans (Int.ofNat_le.mpr hL) (Int.le_max_right _ _)⟩))

theorem le_cap {a L : Nat} {m : Int} (h : a ≤ L) : (a : Int) ≤ max (max m 1) L :=
  Int.le_trans (Int.ofNat_le.mpr h) (Int.le_max_right _ _)

theorem inScopeOf_symm (sh : Shape) (g : Graph) (v w : Nat) : inScopeOf sh g v w = inScopeOf sh g w v := by
  cases sh
  · simp only [inScopeOf]; rw [Bool.eq_iff_iff]; simp only [beq_iff_eq]; exact eq_comm
  · simp only [inScopeOf]; rw [Bool.eq_iff_iff]; simp only [beq_iff_eq]; exact eq_comm
  · rfl

theorem filter_all_or_nothing (l : List Result) (flt nm : String) (h : ∀ r ∈ l, r.name = nm) :
    (l.filter (fun r => strIn flt r.name)).length = if strIn flt nm then l.length else 0 := by
  by_cases hs : strIn flt nm = true
  · rw [if_pos hs, List.filter_eq_self.mpr]
    intro r hr; rw [h r hr]; exact hs
  · rw [if_neg hs, List.filter_eq_nil_iff.mpr]
    · rfl
    · intro r hr; rw [h r hr]; exact hs

/-- the results `should_rerun` counts for observer `v`, copy by copy -/
theorem sfr_length_sum (g : Graph) (s : State) (n v : Nat) (hn : n < g.nodes.length) (hflat : (g.node n).flat = false) :
    (sharedFilteredResults g s n (some v)).length = ((g.classNodes (g.node n).cls).map (fun j =>
      ((s.nd j).results.filter (fun r => strIn (scopeFilter g (g.node n).shape v) r.name)).length)).sum := by
  rw [sharedFilteredResults_eq]
  unfold sharedResults Graph.copies
  simp only [hflat, Bool.false_eq_true, if_false, List.filter_flatMap, List.length_flatMap, List.map_cons, List.sum_cons]
  rw [sum_map_split _ (nodup_classNodes g _) n ((mem_classNodes g _ n).mpr ⟨hn, rfl⟩)
    (fun j => ((s.nd j).results.filter (fun r => strIn (scopeFilter g (g.node n).shape v) r.name)).length)]

/-- when the results of the copies of the class carry the names of their copies, they number `scopedLen` -/
theorem sfr_length (g : Graph) (s : State) (c : Nat) (sh : Shape) (n v : Nat) (hn : n < g.nodes.length)
    (hflat : (g.node n).flat = false) (hc : (g.node n).cls = c) (hsh : (g.node n).shape = sh)
    (hres : ∀ j, j < g.nodes.length → (g.node j).cls = c → ∀ r ∈ (s.nd j).results, r.name = (g.node j).name) :
    (sharedFilteredResults g s n (some v)).length = scopedLen g s c sh v := by
  rw [sfr_length_sum g s n v hn hflat, hc, hsh]
  apply sum_map_congr
  intro j hj
  obtain ⟨hj1, hj2⟩ := (mem_classNodes g c j).mp hj
  exact filter_all_or_nothing _ _ _ (hres j hj1 hj2)

/-- … and when they carry names no observer's filter tells from the names of their copies, at most `scopedLen` -/
theorem sfr_length_le (g : Graph) (s : State) (c : Nat) (sh : Shape) (n v : Nat) (hn : n < g.nodes.length)
    (hflat : (g.node n).flat = false) (hc : (g.node n).cls = c) (hsh : (g.node n).shape = sh) (hv : v < g.workers.length)
    (hres : ∀ j, j < g.nodes.length → (g.node j).cls = c → ∀ r ∈ (s.nd j).results, NameOK g sh j r.name) :
    (sharedFilteredResults g s n (some v)).length ≤ scopedLen g s c sh v := by
  rw [sfr_length_sum g s n v hn hflat, hc, hsh]
  apply sum_map_le
  intro j hj
  obtain ⟨hj1, hj2⟩ := (mem_classNodes g c j).mp hj
  by_cases hs : seen g sh v j = true
  · rw [if_pos hs]; exact List.length_filter_le _ _
  · rw [if_neg hs, List.filter_eq_nil_iff.mpr]
    · exact Nat.le_refl _
    · intro r hr hin
      rcases hres j hj1 hj2 r hr with h | ⟨_, h⟩
      · rw [h] at hin; exact hs hin
      · exact hs (h v hv hin)

/-- a scan (`is_finished(worker, 1)` false) means nobody within the worker's scope has finished the class -/
theorem not_finIn_of_not_finished (g : Graph) (s : State) (n w : Nat) (hn : n < g.nodes.length)
    (hflat : (g.node n).flat = false) (h : isFinished g s n w 1 = false) :
    ¬ FinIn g s (g.node n).cls (g.node n).shape w := by
  rintro ⟨j, u, hj, hjc, hfin, hsc⟩
  have hmem : u ∈ sharedFinished g s n :=
    (mem_sharedFinished g s n u).mpr ⟨j, (mem_copies g n j hn hflat).mpr ⟨hj, hjc⟩, hfin⟩
  unfold isFinished scopeCount at h
  simp only [hflat, Bool.false_eq_true, if_false] at h
  cases hsh : (g.node n).shape
  · simp only [hsh, inScopeOf, beq_iff_eq] at h hsc
    rw [hsc] at hmem
    have : (sharedFinished g s n).contains w = true := by simpa using hmem
    rw [this] at h; cases h
  · simp only [hsh, inScopeOf] at h hsc
    have h1 : ((1 : Int) == -1) = false := by decide
    simp only [h1, Bool.false_eq_true, if_false, decide_eq_false_iff_not, Int.not_le] at h
    have : u ∈ (sharedFinished g s n).filter (fun v => (g.worker v).swarm == (g.worker w).swarm) :=
      List.mem_filter.mpr ⟨hmem, hsc⟩
    have := List.length_pos_of_mem this
    omega
  · simp only [hsh] at h
    have h1 : ((1 : Int) == -1) = false := by decide
    simp only [h1, Bool.false_eq_true, if_false, decide_eq_false_iff_not, Int.not_le] at h
    have := List.length_pos_of_mem hmem
    omega

/-- the path of worker `v` consists of nodes of the graph, and the copies of class `c` on it are `v`'s own -/
def PathC (g : Graph) (c v : Nat) (s : State) : Prop :=
  ∀ x ∈ (s.wd v).path, x < g.nodes.length ∧ ((g.node x).cls = c → g.idIn v x = true)

/-- the program counter is not inside a test of class `c` -/
def NotInC (g : Graph) (c : Nat) (pc : Pc) : Prop :=
  ∀ n ph dir uid tag wait, pc = .test n ph dir uid tag wait → (g.node n).cls ≠ c

/-- The budget invariant of class `c`; the clauses about a worker's pc are required for the workers in `L` only
(inside a step the stepping worker is exempt). -/
structure BInv (g : Graph) (c : Nat) (M : Option Int) (sh : Shape) (s : State) (L : Nat → Prop) : Prop where
  nodesLen : s.nodes.length = g.nodes.length
  workersLen : s.workers.length = g.workers.length
  path : ∀ v, PathC g c v s
  /-- `finished` of a copy is only ever written with the worker that cares for the copy -/
  finOwn : ∀ j u, j < g.nodes.length → (g.node j).cls = c → (s.nd j).finished = some u →
    u < g.workers.length ∧ g.idIn u j = true
  /-- a worker executing a copy of the class executes its own copy and holds its `started` mark -/
  infl : ∀ u, L u → ∀ n ph dir uid tag wait, (s.wd u).pc = .test n ph dir uid tag wait → (g.node n).cls = c →
    n < g.nodes.length ∧
    (ph = .pre → (g.node n).objectRoot = true ∧ (s.wd u).preResults.length ≤ (s.nd n).results.length + 1 ∧
      ∀ r ∈ (s.wd u).preResults, NameOK g sh n r.name) ∧
    g.idIn u n = true ∧ (s.nd n).started = some u
  /-- results carry the name of the copy they are filed at (or, at an object root, the name of its creation pre-step) -/
  resOwn : ∀ j, j < g.nodes.length → (g.node j).cls = c → ∀ r ∈ (s.nd j).results, NameOK g sh j r.name
  /-- until somebody of the owner's scope has finished the class, a copy has no result but the placeholder of the
  execution (test proper) in flight on it -/
  p1 : ∀ j, j < g.nodes.length → (g.node j).cls = c → (s.nd j).results ≠ [] →
    (∃ u tag, L u ∧ (∃ ph dir uid wait, (s.wd u).pc = .test j ph dir uid tag wait ∧ ph ≠ .pre) ∧
      (s.nd j).results = [phOf (g.node j).name tag]) ∨
    (∃ u, u < g.workers.length ∧ g.idIn u j = true ∧ FinIn g s c sh u)
  /-- the results observer `v` counts, together with the creations in flight (of workers in `L`) on copies it sees -/
  budget : ∀ v, v < g.workers.length → ∀ P : List Nat, P.Nodup → (∀ u ∈ P, L u ∧ InCre g s c sh v u) →
    ((scopedLen g s c sh v + P.length : Nat) : Int) ≤ max (max (M.getD 1) 1) (classLimit g s c)

/-- the frame of a piece of a step of worker `w` that starts no test of class `c` -/
structure Fr (g : Graph) (c w : Nat) (s s' : State) : Prop where
  nodesLen : s'.nodes.length = s.nodes.length
  workersLen : s'.workers.length = s.workers.length
  others : ∀ v, v ≠ w → s'.wd v = s.wd v
  results : ∀ m, (g.node m).cls = c → (s'.nd m).results = (s.nd m).results
  bump : ∀ m, (s.nd m).bump ≤ (s'.nd m).bump
  started : ∀ m, (g.node m).cls = c → (s'.nd m).started = (s.nd m).started ∨ g.idIn w m = true
  finished : ∀ m, (g.node m).cls = c →
    (s'.nd m).finished = (s.nd m).finished ∨ (g.idIn w m = true ∧ (s'.nd m).finished = some w)
  path : PathC g c w s → PathC g c w s'
  pc : NotInC g c (s.wd w).pc → NotInC g c (s'.wd w).pc

theorem Fr.refl (g : Graph) (c w : Nat) (s : State) : Fr g c w s s :=
  ⟨rfl, rfl, fun _ _ => rfl, fun _ _ => rfl, fun _ => Nat.le_refl _, fun _ _ => Or.inl rfl, fun _ _ => Or.inl rfl,
    fun h => h, fun h => h⟩

theorem Fr.trans {g : Graph} {c w : Nat} {s s1 s2 : State} (a : Fr g c w s s1) (b : Fr g c w s1 s2) : Fr g c w s s2 where
  nodesLen := b.nodesLen.trans a.nodesLen
  workersLen := b.workersLen.trans a.workersLen
  others := fun v hv => (b.others v hv).trans (a.others v hv)
  results := fun m hm => (b.results m hm).trans (a.results m hm)
  bump := fun m => Nat.le_trans (a.bump m) (b.bump m)
  started := fun m hm => by
    rcases b.started m hm with h | h
    · rcases a.started m hm with h' | h'
      · exact Or.inl (h.trans h')
      · exact Or.inr h'
    · exact Or.inr h
  finished := fun m hm => by
    rcases b.finished m hm with h | h
    · rcases a.finished m hm with h' | ⟨h1, h2⟩
      · exact Or.inl (h.trans h')
      · exact Or.inr ⟨h1, h.trans h2⟩
    · exact Or.inr h
  path := fun h => b.path (a.path h)
  pc := fun h => b.pc (a.pc h)

theorem nd_of_nodes_eq' {s s' : State} (h : s'.nodes = s.nodes) (m : Nat) : s'.nd m = s.nd m := nd_of_nodes_eq h m

theorem wd_of_workers_eq {s s' : State} (h : s'.workers = s.workers) (v : Nat) : s'.wd v = s.wd v := by
  unfold State.wd; rw [h]

theorem Fr.quiet {g : Graph} {c w : Nat} {s s' : State} (hn : s'.nodes = s.nodes) (hw : s'.workers = s.workers) :
    Fr g c w s s' := by
  have hnd := nd_of_nodes_eq hn
  have hwd := wd_of_workers_eq hw
  refine ⟨by rw [hn], by rw [hw], fun v _ => hwd v, fun m _ => by rw [hnd], fun m => by rw [hnd]; exact Nat.le_refl _,
    fun m _ => Or.inl (by rw [hnd]), fun m _ => Or.inl (by rw [hnd]), fun h => ?_, fun h => by rw [hwd]; exact h⟩
  unfold PathC; rw [hwd]; exact h

theorem fr_setNd (g : Graph) (c w : Nat) (s : State) (m : Nat) (f : NodeD → NodeD)
    (hres : (g.node m).cls = c → ∀ d, (f d).results = d.results) (hb : ∀ d, d.bump ≤ (f d).bump)
    (hst : (g.node m).cls = c → (∀ d, (f d).started = d.started) ∨ g.idIn w m = true)
    (hfin : (g.node m).cls = c → (∀ d, (f d).finished = d.finished) ∨ (g.idIn w m = true ∧ ∀ d, (f d).finished = some w)) :
    Fr g c w s (s.setNd m f) := by
  refine ⟨nodes_length_setNd s m f, rfl, fun _ _ => rfl, fun i hi => ?_, fun i => ?_, fun i hi => ?_, fun i hi => ?_,
    fun h => h, fun h => h⟩
  · rcases nd_setNd_cases s m f i with h | ⟨h1, _, h⟩
    · rw [h]
    · rw [h, hres (h1 ▸ hi)]
  · rcases nd_setNd_cases s m f i with h | ⟨h1, _, h⟩
    · rw [h]; exact Nat.le_refl _
    · rw [h]; exact hb _
  · rcases nd_setNd_cases s m f i with h | ⟨h1, _, h⟩
    · rw [h]; exact Or.inl rfl
    · rcases hst (h1 ▸ hi) with h' | h'
      · rw [h, h']; exact Or.inl rfl
      · exact Or.inr (h1 ▸ h')
  · rcases nd_setNd_cases s m f i with h | ⟨h1, _, h⟩
    · rw [h]; exact Or.inl rfl
    · rcases hfin (h1 ▸ hi) with h' | ⟨h', h''⟩
      · rw [h, h']; exact Or.inl rfl
      · exact Or.inr ⟨h1 ▸ h', by rw [h, h'']⟩

theorem fr_setWd (g : Graph) (c w : Nat) (s : State) (f : WorkerD → WorkerD)
    (hpath : ∀ d, (∀ x ∈ d.path, x < g.nodes.length ∧ ((g.node x).cls = c → g.idIn w x = true)) →
      ∀ x ∈ (f d).path, x < g.nodes.length ∧ ((g.node x).cls = c → g.idIn w x = true))
    (hpc : ∀ d, NotInC g c d.pc → NotInC g c (f d).pc) : Fr g c w s (s.setWd w f) := by
  refine ⟨rfl, workers_length_setWd s w f, fun v hv => wd_setWd_ne s w v f hv, fun _ _ => rfl, fun _ => Nat.le_refl _,
    fun _ _ => Or.inl rfl, fun _ _ => Or.inl rfl, fun h => ?_, fun h => ?_⟩
  · unfold PathC
    rcases wd_setWd_cases s w f with ⟨h', _⟩ | ⟨_, h'⟩
    · rw [h']; exact h
    · rw [h']; exact hpath _ h
  · rcases wd_setWd_cases s w f with ⟨h', _⟩ | ⟨_, h'⟩
    · rw [h']; exact h
    · rw [h']; exact hpc _ h

theorem notInC_test {g : Graph} {c n : Nat} (h : (g.node n).cls ≠ c) (ph : Phase) (dir : Dir) (uid : String) (tag wait : Nat) :
    NotInC g c (.test n ph dir uid tag wait) := by
  intro n' ph' dir' uid' tag' wait' e
  cases e; exact h

theorem notInC_of_nonTest {g : Graph} {c : Nat} {pc : Pc} (h : pc.isTest = false) : NotInC g c pc := by
  intro n ph dir uid tag wait e
  rw [e] at h; cases h

section
variable {g : Graph} {c : Nat} {M : Option Int} {sh : Shape}

theorem scopedLen_congr (g : Graph) (s s' : State) (c : Nat) (sh : Shape) (v : Nat)
    (h : ∀ m, (g.node m).cls = c → (s'.nd m).results = (s.nd m).results) : scopedLen g s' c sh v = scopedLen g s c sh v := by
  unfold scopedLen
  apply sum_map_congr
  intro j hj
  rw [h j ((mem_classNodes g c j).mp hj).2]

theorem pathC_of {s s' : State} {w : Nat} (p : ∀ v, PathC g c v s) (hwdo : ∀ v, v ≠ w → s'.wd v = s.wd v)
    (hpaw : (s'.wd w).path = (s.wd w).path) (v : Nat) : PathC g c v s' := by
  unfold PathC
  by_cases hvw : v = w
  · subst hvw; rw [hpaw]; exact p v
  · rw [hwdo v hvw]; exact p v

/-- a worker executing a copy of the class is the one worker that cares for the copy -/
theorem BInv.executor {s : State} {L : Nat → Prop} (hc : BClass g c M sh) (b : BInv g c M sh s L) {u w n : Nat} (hu : L u)
    {ph : Phase} {dir : Dir} {uid : String} {tag wait : Nat} (hpc : (s.wd u).pc = .test n ph dir uid tag wait)
    (hnc : (g.node n).cls = c) (hw : w < g.workers.length) (hid : g.idIn w n = true) : u = w := by
  obtain ⟨hn, _, hidu, _⟩ := b.infl u hu n ph dir uid tag wait hpc hnc
  exact hc.uniq n hn hnc u w (by rw [← b.workersLen]; exact lt_of_isTest s u (by rw [hpc]; rfl)) hw hidu hid

theorem FinIn.fr {w : Nat} {s s' : State} {L : Nat → Prop} {u : Nat}
    (hc : BClass g c M sh) (hw : w < g.workers.length) (b : BInv g c M sh s L) (a : Fr g c w s s')
    (h : FinIn g s c sh u) : FinIn g s' c sh u := by
  obtain ⟨j, u', hj, hjc, hfin, hsc⟩ := h
  refine ⟨j, u', hj, hjc, ?_, hsc⟩
  rcases a.finished j hjc with h' | ⟨h1, h2⟩
  · rw [h', hfin]
  · obtain ⟨hu', hid⟩ := b.finOwn j u' hj hjc hfin
    rw [h2, hc.uniq j hj hjc u' w hu' hw hid h1]

theorem BInv.fr {w : Nat} {s s' : State}
    (hc : BClass g c M sh) (hw : w < g.workers.length) (b : BInv g c M sh s (Ex w)) (a : Fr g c w s s') :
    BInv g c M sh s' (Ex w) where
  nodesLen := a.nodesLen.trans b.nodesLen
  workersLen := a.workersLen.trans b.workersLen
  path := fun v => by
    by_cases hv : v = w
    · subst hv; exact a.path (b.path v)
    · unfold PathC; rw [a.others v hv]; exact b.path v
  finOwn := fun j u hj hjc h => by
    rcases a.finished j hjc with h' | ⟨h1, h2⟩
    · rw [h'] at h; exact b.finOwn j u hj hjc h
    · rw [h2] at h; cases h; exact ⟨hw, h1⟩
  infl := fun u hu n ph dir uid tag wait hpc hn => by
    rw [a.others u hu] at hpc
    obtain ⟨h1, h2, h3, h4⟩ := b.infl u hu n ph dir uid tag wait hpc hn
    refine ⟨h1, ?_, h3, ?_⟩
    · rw [a.others u hu, a.results n hn]; exact h2
    rcases a.started n hn with h' | h'
    · rw [h', h4]
    · exact absurd (b.executor hc hu hpc hn hw h') hu
  resOwn := fun j hj hjc r hr => by rw [a.results j hjc] at hr; exact b.resOwn j hj hjc r hr
  p1 := fun j hj hjc hne => by
    rw [a.results j hjc] at hne ⊢
    rcases b.p1 j hj hjc hne with ⟨u, tag, hu, ⟨ph, dir, uid, wait, hpc⟩, hres⟩ | ⟨u, hu, hid, hf⟩
    · exact Or.inl ⟨u, tag, hu, ⟨ph, dir, uid, wait, by rw [a.others u hu]; exact hpc⟩, hres⟩
    · exact Or.inr ⟨u, hu, hid, hf.fr hc hw b a⟩
  budget := fun v hv P hP hPm => by
    rw [scopedLen_congr g s s' c sh v a.results]
    exact cap_mono (Nat.le_refl _) (classLimit_mono g s s' c a.bump)
      (b.budget v hv P hP (fun u hu => ⟨(hPm u hu).1, (hPm u hu).2.of_wd_eq (a.others u (hPm u hu).1)⟩))

theorem SameNodes.mct' {gv g : Graph} (h : SameNodes gv g) (n : Nat) : (gv.node n).mct = (g.node n).mct :=
  h.proj Node.mct (fun _ => rfl) n

theorem SameNodes.sameStatic {gv g : Graph} (h : SameNodes gv g) : SameStatic g gv :=
  ⟨h.len, h.workers, h.cls, h.shape, h.flat, h.mct', h.maxTries⟩

/-- a class-`c` node the walk may step on is the worker's own copy -/
theorem rel_of_relevant {gv : Graph} (hc : BClass g c M sh) (hgv : SameNodes gv g)
    {w x : Nat} (hx : x < g.nodes.length) (h : relevant gv w x = true) : (g.node x).cls = c → g.idIn w x = true := by
  intro hxc
  unfold relevant at h
  rw [hgv.flat, (hc.node x hx hxc).1, idIn_sameNodes hgv] at h
  simpa using h

/-- a node worker `w` may stand on, as far as class `c` is concerned: a node of the graph, its own copy if of the class -/
def Own (g : Graph) (c w x : Nat) : Prop := x < g.nodes.length ∧ ((g.node x).cls = c → g.idIn w x = true)

theorem fr_finishTraverse (g : Graph) (c w : Nat) (s : State) (n : Nat) (hrel : (g.node n).cls = c → g.idIn w n = true) :
    Fr g c w s (finishTraverse s n w) :=
  fr_setNd g c w s n _ (fun _ _ => rfl) (fun _ => Nat.le_refl _) (fun h => Or.inr (hrel h))
    (fun h => Or.inr ⟨hrel h, fun _ => rfl⟩)

theorem fr_walk {gv : Graph} (hc : BClass g c M sh) (hgv : SameNodes gv g)
    (hwf : GraphWF gv) (w : Nat) : Walk gv (Own g c w) w (Fr g c w) where
  refl := Fr.refl g c w
  trans := Fr.trans
  quiet := Fr.quiet
  inert := fun s n f h => fr_setNd g c w s n f (fun _ d => (h d).1) (fun d => Nat.le_of_eq (h d).2.1.symm)
    (fun _ => Or.inl (fun d => (h d).2.2.1)) (fun _ => Or.inl (fun d => (h d).2.2.2))
  mark := fun s n o hn => fr_setNd g c w s n _ (fun _ _ => rfl) (fun _ => Nat.le_refl _) (fun h => Or.inr (hn.2 h))
    (fun _ => Or.inl (fun _ => rfl))
  finish := fun s n hn => fr_finishTraverse g c w s n hn.2
  worker := fun s f h => fr_setWd g c w s f (fun d hd x hx => ((h d).1 x hx).elim (hd x) id)
    (fun d hd => (h d).2.1.elim (fun e => e ▸ hd) (fun h' n ph dir uid tag wait e => absurd e (h' n ph dir uid tag wait)))
  path := fun a h => a.path h
  root := ⟨hgv.len ▸ hwf.root_lt, fun h => absurd (hgv.root ▸ h) hc.rootNot⟩
  adj := fun n x hx hrel => by
    have hlt : x < g.nodes.length := by
      rw [← hgv.len]
      rcases hx with hx | hx <;> obtain ⟨p, hp, rfl⟩ := List.mem_map.mp hx
      · exact hwf.cleanup_lt n p hp
      · exact hwf.setup_lt n p hp
    exact ⟨hlt, rel_of_relevant hc hgv hlt hrel⟩

/-- the back-off raises a threshold at most -/
theorem fr_bounced (g : Graph) (c w : Nat) (gv : Graph) (s : State) (next : Nat) (hroot : Own g c w gv.root) :
    Fr g c w s (bounced gv s w next) := by
  unfold bounced
  dsimp only
  refine Fr.trans ?_ (fr_setWd g c w _ _ (fun _ _ x hx => by rw [List.mem_singleton.mp hx]; exact hroot)
    (fun _ _ => notInC_of_nonTest rfl))
  split
  · refine Fr.trans ?_ (fr_setWd g c w _ _ (fun _ h => h) (fun _ h => h))
    split
    · exact fr_setNd g c w s next _ (fun _ _ => rfl) (fun _ => Nat.le_succ _) (fun _ => Or.inl (fun _ => rfl))
        (fun _ => Or.inl (fun _ => rfl))
    · exact Fr.refl g c w s
  · exact fr_setWd g c w _ _ (fun _ h => h) (fun _ h => h)

theorem BInv.owner {s : State} {L : Nat → Prop}
    (b : BInv g c M sh s L) (j : Nat) (hj : j < g.nodes.length) (hjc : (g.node j).cls = c) (hne : (s.nd j).results ≠ []) :
    ∃ u, u < g.workers.length ∧ g.idIn u j = true := by
  rcases b.p1 j hj hjc hne with ⟨u, tag, hu, ⟨ph, dir, uid, wait, hpc, _⟩, _⟩ | ⟨u, hu, hid, _⟩
  · have hul : u < g.workers.length := by rw [← b.workersLen]; exact lt_of_isTest s u (by rw [hpc]; rfl)
    exact ⟨u, hul, (b.infl u hu j ph dir uid tag wait hpc hjc).2.2.1⟩
  · exact ⟨u, hu, hid⟩

/-- two observers in one scope count the same results -/
theorem scopedLen_scope_eq {s : State} {L : Nat → Prop}
    (hc : BClass g c M sh) (b : BInv g c M sh s L) (v w : Nat) (hv : v < g.workers.length) (hw : w < g.workers.length)
    (hvw : inScopeOf sh g v w = true) : scopedLen g s c sh v = scopedLen g s c sh w := by
  unfold scopedLen
  apply sum_map_congr
  intro j hj
  obtain ⟨hj1, hj2⟩ := (mem_classNodes g c j).mp hj
  by_cases hne : (s.nd j).results = []
  · simp [hne]
  · obtain ⟨u, hu, hid⟩ := b.owner j hj1 hj2 hne
    rw [hc.scope j hj1 hj2 u v hu hv hid, hc.scope j hj1 hj2 u w hu hw hid, inScopeOf_trans sh g v w u hvw]

/-- While nobody of `w`'s scope has finished the class, the results an observer `v` that sees `w`'s copy `n` counts
are placeholders of executions (tests proper) in flight of distinct workers of `w`'s scope, each holding the `started`
mark of its copy; the creations in flight `P` on copies `v` sees belong to further distinct workers of the scope holding
marks: together they number at most `scopedCount`. (`s0`: the state in which `w` asked `is_occupied`; `s1`: with `w`'s
own mark on `n`.) -/
theorem scan_count (hc : BClass g c M sh) {s0 s1 : State} {w n v : Nat}
    (hw : w < g.workers.length) (hv : v < g.workers.length) (b : BInv g c M sh s1 (Ex w))
    (hn : n < g.nodes.length) (hnc : (g.node n).cls = c) (hid : g.idIn w n = true)
    (hmarks : ∀ j, j ≠ n → (s1.nd j).started = (s0.nd j).started)
    (hnf : ¬ FinIn g s1 c sh w) (hseen : seen g sh v n = true)
    (P : List Nat) (hP : P.Nodup) (hPm : ∀ u ∈ P, Ex w u ∧ InCre g s1 c sh v u) :
    scopedLen g s1 c sh v + P.length ≤ scopedCount g s0 n w := by
  have hvw : inScopeOf sh g v w = true := by rw [← hc.scope n hn hnc w v hw hv hid]; exact hseen
  have hnode := hc.node n hn hnc
  -- a worker other than `w` executing a copy `v` sees is of `w`'s scope and held the mark of the copy when `w` asked
  have holder : ∀ u, Ex w u → ∀ j ph dir uid tag wait, (s1.wd u).pc = .test j ph dir uid tag wait → (g.node j).cls = c →
      seen g sh v j = true → j ∈ g.copies n ∧ (s0.nd j).started = some u ∧ inScopeOf sh g w u = true := by
    intro u hu j ph dir uid tag wait hpc hjc hs
    obtain ⟨hj1, _, hidu, hst⟩ := b.infl u hu j ph dir uid tag wait hpc hjc
    have hul : u < g.workers.length := by rw [← b.workersLen]; exact lt_of_isTest s1 u (by rw [hpc]; rfl)
    have hjn : j ≠ n := fun e => hu (b.executor hc hu hpc hjc hw (e ▸ hid))
    refine ⟨(mem_copies g n j hn hnode.1).mpr ⟨hj1, by rw [hjc, hnc]⟩, by rw [← hmarks j hjn]; exact hst, ?_⟩
    rw [← inScopeOf_trans sh g v w u hvw, ← hc.scope j hj1 hjc u v hul hv hidu]; exact hs
  -- every counted copy is being executed by such a worker
  have hA : ∀ j ∈ g.classNodes c, (if seen g sh v j then (s1.nd j).results.length else 0) ≠ 0 →
      ∃ u, (∃ ph dir uid tag wait, (s1.wd u).pc = .test j ph dir uid tag wait ∧ ph ≠ .pre) ∧ (s1.nd j).results.length = 1 ∧
        j ∈ g.copies n ∧ (s0.nd j).started = some u ∧ inScopeOf sh g w u = true := by
    intro j hj hne
    obtain ⟨hj1, hj2⟩ := (mem_classNodes g c j).mp hj
    have hs : seen g sh v j = true := by
      by_cases h : seen g sh v j = true
      · exact h
      · simp [h] at hne
    have hr : (s1.nd j).results ≠ [] := by
      intro h; simp [h] at hne
    rcases b.p1 j hj1 hj2 hr with ⟨u, tag, hu, ⟨ph, dir, uid, wait, hpc, hph⟩, hres⟩ | ⟨u, hu, hidu, hf⟩
    · exact ⟨u, ⟨ph, dir, uid, tag, wait, hpc, hph⟩, by rw [hres]; rfl, holder u hu j ph dir uid tag wait hpc hj2 hs⟩
    · exfalso
      apply hnf
      obtain ⟨j', u', h1, h2, h3, h4⟩ := hf
      refine ⟨j', u', h1, h2, h3, ?_⟩
      have hwu : inScopeOf sh g w u = true := by
        rw [← inScopeOf_trans sh g v w u hvw, ← hc.scope j hj1 hj2 u v hu hv hidu]; exact hs
      rw [inScopeOf_trans sh g w u u' hwu]; exact h4
  -- so is every creation in flight
  have hB : ∀ u ∈ P, (∃ j dir uid tag wait, (s1.wd u).pc = .test j .pre dir uid tag wait ∧ j ∈ g.copies n ∧
      (s0.nd j).started = some u) ∧ inScopeOf sh g w u = true := by
    intro u hu
    obtain ⟨huw, j, dir, uid, tag, wait, hpc, hjc, hs⟩ := hPm u hu
    obtain ⟨h1, h2, h3⟩ := holder u huw j .pre dir uid tag wait hpc hjc hs
    exact ⟨⟨j, dir, uid, tag, wait, hpc, h1, h2⟩, h3⟩
  unfold scopedLen
  refine Nat.le_trans (Nat.add_le_add_right (sum_le_count _ _ (fun j hj => ?_)) _) ?_
  · by_cases h0 : (if seen g sh v j then (s1.nd j).results.length else 0) = 0
    · omega
    · obtain ⟨u, _, h1, _⟩ := hA j hj h0
      split <;> omega
  · -- the counted copies, mapped to the holders of their marks, and the creating workers
    let A := (g.classNodes c).filter (fun j => (if seen g sh v j then (s1.nd j).results.length else 0) != 0)
    have hAmem : ∀ j ∈ A, j ∈ g.classNodes c ∧ (if seen g sh v j then (s1.nd j).results.length else 0) ≠ 0 := by
      intro j hj
      have := List.mem_filter.mp hj
      exact ⟨this.1, by simpa using this.2⟩
    have hnd : (A.map (fun j => ((s0.nd j).started).getD 0)).Nodup := by
      apply nodup_map_on
      · exact List.Nodup.sublist List.filter_sublist (nodup_classNodes g c)
      · intro x hx y hy hxy
        obtain ⟨ux, ⟨ph, dir, uid, tag, wait, hpx, _⟩, _, _, hsx, _⟩ := hA x (hAmem x hx).1 (hAmem x hx).2
        obtain ⟨uy, ⟨ph', dir', uid', tag', wait', hpy, _⟩, _, _, hsy, _⟩ := hA y (hAmem y hy).1 (hAmem y hy).2
        simp only [hsx, hsy, Option.getD_some] at hxy
        subst hxy
        rw [hpx] at hpy
        cases hpy; rfl
    have hnd2 : (A.map (fun j => ((s0.nd j).started).getD 0) ++ P).Nodup := by
      rw [List.nodup_append]
      refine ⟨hnd, hP, fun a ha b hb hab => ?_⟩
      subst hab
      obtain ⟨j, hj, hju⟩ := List.mem_map.mp ha
      obtain ⟨u', ⟨ph, dir, uid, tag, wait, hpc, hph⟩, _, _, hs, _⟩ := hA j (hAmem j hj).1 (hAmem j hj).2
      rw [hs] at hju
      simp only [Option.getD_some] at hju
      subst hju
      obtain ⟨⟨j', dir', uid', tag', wait', hpc', _⟩, _⟩ := hB u' hb
      rw [hpc] at hpc'
      cases hpc'
      exact hph rfl
    have hsub : ∀ u ∈ A.map (fun j => ((s0.nd j).started).getD 0) ++ P,
        u ∈ (sharedStarted g s0 n).filter (inScopeOf (g.node n).shape g w) := by
      intro u hu
      rcases List.mem_append.mp hu with hu | hu
      · obtain ⟨j, hj, hju⟩ := List.mem_map.mp hu
        obtain ⟨u', _, _, hjc, hs, hsc⟩ := hA j (hAmem j hj).1 (hAmem j hj).2
        rw [hs] at hju
        simp only [Option.getD_some] at hju
        subst hju
        exact List.mem_filter.mpr ⟨(mem_sharedStarted g s0 n u').mpr ⟨j, hjc, hs⟩, by rw [hnode.2.2.2.2]; exact hsc⟩
      · obtain ⟨⟨j, _, _, _, _, _, hjc, hs⟩, hsc⟩ := hB u hu
        exact List.mem_filter.mpr ⟨(mem_sharedStarted g s0 n u).mpr ⟨j, hjc, hs⟩, by rw [hnode.2.2.2.2]; exact hsc⟩
    have := length_le_of_nodup_subset hnd2 hsub
    rw [List.length_append, List.length_map] at this
    exact this

theorem FinIn.of_finished_eq {g : Graph} {c : Nat} {sh : Shape} {s s' : State} {u : Nat}
    (h : ∀ j, (s'.nd j).finished = (s.nd j).finished) (hf : FinIn g s c sh u) : FinIn g s' c sh u := by
  obtain ⟨j, u', h1, h2, h3, h4⟩ := hf
  exact ⟨j, u', h1, h2, by rw [h j]; exact h3, h4⟩

theorem scopedLen_start {g : Graph} {c : Nat} {sh : Shape} {s s' : State} {n : Nat} (hn : n < g.nodes.length)
    (hnc : (g.node n).cls = c) (h1 : (s'.nd n).results.length = (s.nd n).results.length + 1)
    (h2 : ∀ j, j ≠ n → (s'.nd j).results = (s.nd j).results) (v : Nat) :
    scopedLen g s' c sh v = scopedLen g s c sh v + (if seen g sh v n then 1 else 0) := by
  unfold scopedLen
  by_cases hs : seen g sh v n = true
  · simp only [hs, if_true]
    apply sum_map_succ _ (nodup_classNodes g c) n ((mem_classNodes g c n).mpr ⟨hn, hnc⟩)
    · simp only [hs, if_true]; exact h1
    · intro j _ hj; rw [h2 j hj]
  · simp only [hs, Bool.false_eq_true, if_false, Nat.add_zero]
    apply sum_map_congr
    intro j _
    by_cases hj : j = n
    · subst hj; simp [hs]
    · rw [h2 j hj]

/-- with retries configured (`max_tries ≥ 2`) the class has no object roots: results carry the names of their copies -/
theorem BInv.noRoots_names {s : State} {L : Nat → Prop}
    (hc : BClass g c M sh) (b : BInv g c M sh s L) (hM : 2 ≤ M.getD 1) :
    ∀ j, j < g.nodes.length → (g.node j).cls = c → ∀ r ∈ (s.nd j).results, r.name = (g.node j).name := by
  intro j hj hjc r hr
  rcases b.resOwn j hj hjc r hr with h | ⟨h, _⟩
  · exact h
  · rcases (hc.node j hj hjc).2.1 with h' | h'
    · rw [h] at h'; cases h'
    · omega

/-- … and nobody is inside a creation -/
theorem BInv.noRoots_P {s : State} {L : Nat → Prop}
    (hc : BClass g c M sh) (b : BInv g c M sh s L) (hM : 2 ≤ M.getD 1) {v : Nat} (P : List Nat)
    (hPm : ∀ u ∈ P, L u ∧ InCre g s c sh v u) : P = [] := by
  cases P with
  | nil => rfl
  | cons u r =>
    exfalso
    obtain ⟨hu, j, dir, uid, tag, wait, hpc, hjc, _⟩ := hPm u List.mem_cons_self
    obtain ⟨hj, h2, _, _⟩ := b.infl u hu j .pre dir uid tag wait hpc hjc
    rcases (hc.node j hj hjc).2.1 with h' | h'
    · rw [(h2 rfl).1] at h'; cases h'
    · omega

theorem startTest_pre_records (g : Graph) (s : State) (n w : Nat) (dir : Dir) (hw : w < s.workers.length) :
    (startTest g s n w .pre dir).1.nodes = s.nodes ∧ (startTest g s n w .pre dir).1.workers.length = s.workers.length ∧
    (∀ v, v ≠ w → (startTest g s n w .pre dir).1.wd v = s.wd v) ∧
    (startTest g s n w .pre dir).1.wd w = { s.wd w with
      preResults := (s.wd w).preResults ++ [phOf (s.wd w).preName s.nextTag],
      pc := .test n .pre dir (uidOf "0" (s.wd w).preResults.length) s.nextTag 0 } := by
  rw [startTest_pre_fst]
  exact ⟨rfl, workers_length_setWd _ _ _, fun v hv => wd_setWd_ne _ w v _ hv, wd_setWd_eq _ w _ (by exact hw)⟩

theorem startTest_nonpre_records (g : Graph) (s : State) (n w : Nat) (ph : Phase) (dir : Dir) (hph : ph ≠ .pre)
    (hn : n < s.nodes.length) (hw : w < s.workers.length) :
    (startTest g s n w ph dir).1.nodes.length = s.nodes.length ∧
    (startTest g s n w ph dir).1.workers.length = s.workers.length ∧
    (startTest g s n w ph dir).1.nd n = { s.nd n with results := (s.nd n).results ++ [phOf (g.node n).name s.nextTag] } ∧
    (∀ j, j ≠ n → (startTest g s n w ph dir).1.nd j = s.nd j) ∧ (∀ v, v ≠ w → (startTest g s n w ph dir).1.wd v = s.wd v) ∧
    ((startTest g s n w ph dir).1.wd w).pc = .test n ph dir (uidOf (g.node n).pfx (sharedResults g s n).length) s.nextTag 0 ∧
    ((startTest g s n w ph dir).1.wd w).path = (s.wd w).path := by
  rw [startTest_nonpre_fst g s n w ph dir hph]
  refine ⟨?_, ?_, ?_, fun j hj => ?_, fun v hv => wd_setWd_ne _ w v _ hv, ?_, ?_⟩
  · simp only [State.setWd, State.setNd, List.length_modify]
  · simp only [State.setWd, State.setNd, List.length_modify]
  · rw [nd_setWd]; exact nd_setNd_eq ({ s with nextTag := s.nextTag + 1 }) n _ hn
  · rw [nd_setWd]; exact nd_setNd_ne ({ s with nextTag := s.nextTag + 1 }) n j _ hj
  · rw [wd_setWd_eq _ w _ (by exact hw)]
  · rw [wd_setWd_eq _ w _ (by exact hw)]; rfl

/-- The start of a test proper on `w`'s own marked copy `n` of the class, as an update of records: a placeholder is
appended at `n` and `w` is suspended in the execution.  All clauses but the budget follow from the invariant before. -/
theorem start_b (hc : BClass g c M sh) {s s' : State} {w n : Nat}
    {ph : Phase} {dir : Dir} {uid : String} {tag : Nat} (hph : ph ≠ .pre) (hw : w < g.workers.length)
    (b : BInv g c M sh s (Ex w)) (hn : n < g.nodes.length) (hnc : (g.node n).cls = c) (hid : g.idIn w n = true)
    (hstn : (s.nd n).started = some w) (hnl : s'.nodes.length = s.nodes.length) (hwl : s'.workers.length = s.workers.length)
    (hndn : s'.nd n = { s.nd n with results := (s.nd n).results ++ [phOf (g.node n).name tag] })
    (hndo : ∀ j, j ≠ n → s'.nd j = s.nd j) (hwdo : ∀ v, v ≠ w → s'.wd v = s.wd v)
    (hpcw : (s'.wd w).pc = .test n ph dir uid tag 0) (hpaw : (s'.wd w).path = (s.wd w).path)
    (hbud : ∀ v, v < g.workers.length → ∀ P : List Nat, P.Nodup → (∀ u ∈ P, Ex w u ∧ InCre g s c sh v u) →
      ((scopedLen g s c sh v + P.length + (if seen g sh v n then 1 else 0) : Nat) : Int) ≤
        max (max (M.getD 1) 1) (classLimit g s c)) :
    BInv g c M sh s' All := by
  have hproj : ∀ {α} (P : NodeD → α), (∀ d r, P { d with results := r } = P d) → ∀ j, P (s'.nd j) = P (s.nd j) := by
    intro α P hP j
    by_cases hj : j = n
    · subst hj; rw [hndn]; exact hP _ _
    · rw [hndo j hj]
  have hfin : ∀ j, (s'.nd j).finished = (s.nd j).finished := hproj (·.finished) (fun _ _ => rfl)
  have hsta : ∀ j, (s'.nd j).started = (s.nd j).started := hproj (·.started) (fun _ _ => rfl)
  have hgrow : ∀ j, (s.nd j).results.length ≤ (s'.nd j).results.length := by
    intro j
    by_cases hj : j = n
    · subst hj; rw [hndn]; simp
    · rw [hndo j hj]; exact Nat.le_refl _
  refine ⟨hnl.trans b.nodesLen, hwl.trans b.workersLen, fun v => ?_, fun j u hj hjc h => ?_,
    fun u _ n' ph' dir' uid' tag' wt hpc' hn' => ?_, fun j hj hjc r hr => ?_, fun j hj hjc hne => ?_,
    fun v hv P hP hPm => ?_⟩
  · exact pathC_of b.path hwdo hpaw v
  · rw [hfin] at h; exact b.finOwn j u hj hjc h
  · by_cases huw : u = w
    · subst huw
      rw [hpcw] at hpc'
      cases hpc'
      exact ⟨hn, (fun h => absurd h hph), hid, by rw [hsta]; exact hstn⟩
    · rw [hwdo u huw] at hpc' ⊢
      obtain ⟨h1, h2, h3, h4⟩ := b.infl u huw n' ph' dir' uid' tag' wt hpc' hn'
      refine ⟨h1, fun hp => ?_, h3, by rw [hsta]; exact h4⟩
      obtain ⟨a1, a2, a3⟩ := h2 hp
      exact ⟨a1, Nat.le_trans a2 (Nat.add_le_add_right (hgrow n') 1), a3⟩
  · by_cases hjn : j = n
    · subst hjn
      rw [hndn] at hr
      rcases List.mem_append.mp hr with hr | hr
      · exact b.resOwn j hj hjc r hr
      · rw [List.mem_singleton.mp hr]; exact Or.inl rfl
    · rw [hndo j hjn] at hr; exact b.resOwn j hj hjc r hr
  · by_cases hjn : j = n
    · subst hjn
      by_cases hres : (s.nd j).results = []
      · exact Or.inl ⟨w, tag, trivial, ⟨ph, dir, uid, 0, hpcw, hph⟩, by rw [hndn, hres]; rfl⟩
      · right
        rcases b.p1 j hj hjc hres with ⟨u, tg, hu, ⟨ph', dir', uid', wt, hpc', _⟩, _⟩ | ⟨u, hu, hidu, hf⟩
        · exact absurd (b.executor hc hu hpc' hjc hw hid) hu
        · exact ⟨u, hu, hidu, hf.of_finished_eq hfin⟩
    · rw [hndo j hjn] at hne ⊢
      rcases b.p1 j hj hjc hne with ⟨u, tg, hu, ⟨ph', dir', uid', wt, hpc', hph'⟩, hres⟩ | ⟨u, hu, hidu, hf⟩
      · exact Or.inl ⟨u, tg, trivial, ⟨ph', dir', uid', wt, by rw [hwdo u hu]; exact hpc', hph'⟩, hres⟩
      · exact Or.inr ⟨u, hu, hidu, hf.of_finished_eq hfin⟩
  · have hlen : (s'.nd n).results.length = (s.nd n).results.length + 1 := by rw [hndn]; simp
    rw [scopedLen_start hn hnc hlen (fun j hj => by rw [hndo j hj]) v]
    refine cap_mono (Nat.le_of_eq (Nat.add_right_comm _ _ _))
      (classLimit_mono g _ _ c (fun i => Nat.le_of_eq (hproj (·.bump) (fun _ _ => rfl) i).symm)) (hbud v hv P hP (fun u hu => ?_))
    have huw : u ≠ w := by
      intro e; subst e
      obtain ⟨_, j, dir', uid', tag', wt, hpc', _⟩ := hPm u hu
      rw [hpcw] at hpc'; cases hpc'; exact hph rfl
    exact ⟨huw, (hPm u hu).2.of_wd_eq (hwdo u huw)⟩

/-- The common prefix of a guarded start: worker `w` has found its copy `n` of the class not occupied (state `s0`),
marked it, pulled the locations and decided to run (state `s1`).  Either nobody of `w`'s scope has finished the class
and the marks in scope numbered less than the threshold (scan path), or the rerun rule counted the results in scope. -/
theorem enter_prefix {gv : Graph} (hc : BClass g c M sh) (hgv : SameNodes gv g)
    (hwf : GraphWF gv) {s0 s1 : State} {w n : Nat} (hw : w < g.workers.length)
    (b0 : BInv g c M sh s0 (Ex w)) (hn : n < g.nodes.length) (hnc : (g.node n).cls = c) (hid : g.idIn w n = true)
    (hocc : isOccupied gv s0 n w = false) {evs : List Event}
    (hdec : runDecision gv (entered gv s0 w n) n w = .ok (true, s1, evs)) :
    BInv g c M sh s1 (Ex w) ∧ (s1.nd n).started = some w ∧ (∀ j, j ≠ n → (s1.nd j).started = (s0.nd j).started) ∧
    classLimit g s0 c ≤ classLimit g s1 c ∧
    ((¬ FinIn g s1 c sh w ∧ scopedCount g s0 n w < classLimit g s0 c) ∨
     (((sharedFilteredResults g s1 n (some w)).length : Int) < M.getD 1 ∧ M.getD 1 ≠ 1)) := by
  have hnode := hc.node n hn hnc
  have fr1 : Fr g c w s0 s1 := walk_decided (fr_walk hc hgv hwf w) ⟨hn, fun _ => hid⟩ hdec
  have b1 : BInv g c M sh s1 (Ex w) := b0.fr hc hw fr1
  have hns0 : n < s0.nodes.length := by rw [b0.nodesLen]; exact hn
  -- node records of `s1` against `s0`
  have hnd1 : ∀ {α} (P : NodeD → α), (∀ d, P { d with rerunDisabled := true } = P d) → ∀ j,
      P (s1.nd j) = P ((entered gv s0 w n).nd j) := by
    intro α P hP j
    rcases runDecision_state gv _ n w true s1 evs hdec with h | h
    · rw [h]
    · rw [h]; exact nd_disableRerun_proj P hP _ n j
  have hst1 : ∀ j, (s1.nd j).started = ((s0.setNd n (fun d => { d with started := some w })).nd j).started := by
    intro j; rw [hnd1 (·.started) (fun _ => rfl) j, entered, started_pullLocations]
  have hstn : (s1.nd n).started = some w := by rw [hst1 n, nd_setNd_eq s0 n _ hns0]
  have hsto : ∀ j, j ≠ n → (s1.nd j).started = (s0.nd j).started := by
    intro j hj; rw [hst1 j, nd_setNd_ne s0 n j _ hj]
  -- the decision
  have hsets : (gv.node n).sets.isEmpty = false := by rw [hgv.sets]; exact hnode.2.2.1
  have hdecide := runDecision_true_stateful gv _ n w s1 evs hsets hdec
  refine ⟨b1, hstn, hsto, classLimit_mono g _ _ c fr1.bump, ?_⟩
  rcases hdecide with ⟨hnotfin, _⟩ | ⟨hcount, hne1⟩
  · -- scan path: fewer marks in scope than the threshold
    left
    have hnf : ¬ FinIn g s1 c sh w := by
      intro hf
      have hflat : (gv.node n).flat = false := by rw [hgv.flat]; exact hnode.1
      apply not_finIn_of_not_finished gv _ n w (by rw [hgv.len]; exact hn) hflat hnotfin
      obtain ⟨j, u', h1, h2, h3, h4⟩ := hf
      refine ⟨j, u', by rw [hgv.len]; exact h1, by rw [hgv.cls, hgv.cls, h2, hnc], ?_, ?_⟩
      · rw [← hnd1 (·.finished) (fun _ => rfl) j]; exact h3
      · rw [hgv.shape, hnode.2.2.2.2, ← (hgv.sameStatic).inScopeOf_eq] at *; exact h4
    have h2 := room_of_not_occupied gv s0 n w (by rw [hgv.flat]; exact hnode.1) hocc
    rw [(hgv.sameStatic).scopedCount_eq, (hgv.sameStatic).limit_eq] at h2
    have h3 := Nat.le_trans (limit_le_peakLimit g s0 n) (peakLimit_le_classLimit g s0 n hn)
    rw [hnc] at h3
    exact ⟨hnf, Nat.lt_of_lt_of_le h2 h3⟩
  · -- rerun rule: the results in scope number less than `max_tries`
    right
    have hcr : countedResults gv s1 n w = sharedFilteredResults g s1 n (some w) := by
      unfold countedResults scopeWorker
      rw [hsets, hstn]
      simp only [Bool.false_eq_true, if_false]
      exact sharedFilteredResults_sameNodes hgv s1 n _
    rw [hcr, hgv.maxTries, hnode.2.2.2.1] at hcount
    rw [hgv.maxTries, hnode.2.2.2.1] at hne1
    exact ⟨hcount, hne1⟩

/-- THE step: worker `w` has found its copy `n` of the class not occupied (state `s0`), marked it, pulled the
locations, decided to run, and starts the test.  The invariant holds afterwards, for all workers. -/
theorem enter_start {gv : Graph} (hc : BClass g c M sh) (hgv : SameNodes gv g)
    (hwf : GraphWF gv) {s0 s1 : State} {w n : Nat} (dir : Dir) (hw : w < g.workers.length)
    (b0 : BInv g c M sh s0 (Ex w)) (hn : n < g.nodes.length) (hnc : (g.node n).cls = c) (hid : g.idIn w n = true)
    (hocc : isOccupied gv s0 n w = false) {evs : List Event}
    (hdec : runDecision gv (entered gv s0 w n) n w = .ok (true, s1, evs)) :
    BInv g c M sh (startTest gv s1 n w .plain dir).1 All := by
  have hnode := hc.node n hn hnc
  obtain ⟨b1, hstn, hsto, hlim01, hpath⟩ := enter_prefix hc hgv hwf hw b0 hn hnc hid hocc hdec
  obtain ⟨r1, r2, r3, r4, r5, r6, r7⟩ := startTest_nonpre_records gv s1 n w .plain dir (by decide)
    (by rw [b1.nodesLen]; exact hn) (by rw [b1.workersLen]; exact hw)
  rw [hgv.name] at r3
  refine start_b hc (by decide) hw b1 hn hnc hid hstn r1 r2 r3 r4 r5 r6 r7 (fun v hv P hP hPw => ?_)
  by_cases hseen : seen g sh v n = true
  · simp only [hseen, if_true]
    rcases hpath with ⟨hnf, hroom⟩ | ⟨hcount, hne1⟩
    · exact le_cap (Nat.le_trans (Nat.lt_of_le_of_lt (scan_count hc hw hv b1 hn hnc hid hsto hnf hseen P hP hPw) hroom) hlim01)
    · have hM : 2 ≤ M.getD 1 := Int.add_one_le_of_lt (Int.lt_iff_le_and_ne.mpr
        ⟨Int.add_one_le_of_lt (Int.lt_of_le_of_lt (Int.natCast_nonneg _) hcount), Ne.symm hne1⟩)
      have hvw : inScopeOf sh g v w = true := by rw [← hc.scope n hn hnc w v hw hv hid]; exact hseen
      have heq := scopedLen_scope_eq hc b1 v w hv hw hvw
      rw [sfr_length g s1 c sh n w hn hnode.1 hnc hnode.2.2.2.2 (b1.noRoots_names hc hM)] at hcount
      rw [b1.noRoots_P hc hM P hPw]
      exact Int.le_trans (by simp only [List.length_nil]; omega) (Int.le_trans (Int.le_max_left (M.getD 1) 1) (Int.le_max_left _ _))
  · simp only [hseen, Bool.false_eq_true, if_false]
    exact b1.budget v hv P hP hPw

/-- … the same step at an object root: the creation pre-step starts on a copy of the results kept by the worker.
No result is filed yet; the creation is counted as a result-to-be. -/
theorem enter_start_pre {gv : Graph} (hc : BClass g c M sh) (hgv : SameNodes gv g)
    (hwf : GraphWF gv) {s0 s1 : State} {w n : Nat} (dir : Dir) (hw : w < g.workers.length)
    (b0 : BInv g c M sh s0 (Ex w)) (hn : n < g.nodes.length) (hnc : (g.node n).cls = c) (hid : g.idIn w n = true)
    (hroot : (g.node n).objectRoot = true) (hocc : isOccupied gv s0 n w = false) {evs : List Event}
    (hdec : runDecision gv (entered gv s0 w n) n w = .ok (true, s1, evs)) :
    BInv g c M sh (startTest gv (preset gv s1 w n) n w .pre dir).1 All := by
  unfold preset
  have hnode := hc.node n hn hnc
  obtain ⟨b1, hstn, hsto, hlim01, hpath⟩ := enter_prefix hc hgv hwf hw b0 hn hnc hid hocc hdec
  have hM : M.getD 1 ≤ 1 := by
    rcases hnode.2.1 with h | h
    · rw [hroot] at h; cases h
    · exact h
  have hws1 : w < s1.workers.length := by rw [b1.workersLen]; exact hw
  obtain ⟨r1, r2, r3, r4⟩ := startTest_pre_records gv
    (s1.setWd w (fun d => { d with preResults := (s1.nd n).results, preName := preNameOf gv n w })) n w dir
    (by rw [workers_length_setWd]; exact hws1)
  rw [wd_setWd_eq s1 w _ hws1] at r4
  generalize (startTest gv (s1.setWd w (fun d => { d with preResults := (s1.nd n).results, preName := preNameOf gv n w }))
    n w .pre dir).1 = F at r1 r2 r3 r4 ⊢
  have hnd : ∀ j, F.nd j = s1.nd j := nd_of_nodes_eq' r1
  have hwdo : ∀ v, v ≠ w → F.wd v = s1.wd v := fun v hv => (r3 v hv).trans (wd_setWd_ne s1 w v _ hv)
  have hpcw : (F.wd w).pc = .test n .pre dir (uidOf "0" (s1.nd n).results.length) s1.nextTag 0 := r4 ▸ rfl
  have hprw : (F.wd w).preResults = (s1.nd n).results ++ [phOf (preNameOf gv n w) s1.nextTag] := r4 ▸ rfl
  have hpaw : (F.wd w).path = (s1.wd w).path := r4 ▸ rfl
  have hfin : ∀ u, FinIn g s1 c sh u → FinIn g F c sh u := fun u hf => hf.of_finished_eq (fun j => by rw [hnd])
  -- on the scan path
  have hscan : ¬ FinIn g s1 c sh w ∧ scopedCount g s0 n w < classLimit g s0 c := by
    rcases hpath with h | ⟨h1, h2⟩
    · exact h
    · exact absurd (Int.le_antisymm hM (Int.add_one_le_of_lt (Int.lt_of_le_of_lt (Int.natCast_nonneg _) h1))) h2
  refine ⟨?_, ?_, fun v => ?_, fun j u hj hjc h => ?_, fun u _ n' ph dir' uid tag wait hpc hn' => ?_,
    fun j hj hjc r hr => ?_, fun j hj hjc hne => ?_, fun v hv P hP hPm => ?_⟩
  · rw [r1]; exact b1.nodesLen
  · exact r2.trans ((workers_length_setWd _ _ _).trans b1.workersLen)
  · exact pathC_of b1.path hwdo hpaw v
  · rw [hnd] at h; exact b1.finOwn j u hj hjc h
  · by_cases huw : u = w
    · subst huw
      rw [hpcw] at hpc
      cases hpc
      refine ⟨hn, fun _ => ⟨hroot, ?_, ?_⟩, hid, by rw [hnd]; exact hstn⟩
      · rw [hprw, hnd]; simp
      · intro r hr
        rw [hprw] at hr
        rcases List.mem_append.mp hr with hr | hr
        · exact b1.resOwn n hn hnc r hr
        · rw [List.mem_singleton.mp hr]
          rw [preNameOf_sameNodes hgv]
          exact hc.nameOK_pre hn hnc hroot hw hid
    · rw [hwdo u huw] at hpc ⊢
      rw [hnd]
      exact b1.infl u huw n' ph dir' uid tag wait hpc hn'
  · rw [hnd] at hr; exact b1.resOwn j hj hjc r hr
  · rw [hnd] at hne ⊢
    rcases b1.p1 j hj hjc hne with ⟨u, tag, hu, ⟨ph, dir', uid, wait, hpc, hph⟩, hres⟩ | ⟨u, hu, hidu, hf⟩
    · exact Or.inl ⟨u, tag, trivial, ⟨ph, dir', uid, wait, by rw [hwdo u hu]; exact hpc, hph⟩, hres⟩
    · exact Or.inr ⟨u, hu, hidu, hfin u hf⟩
  · -- the budget: the new creation is one more result-to-be
    have hsl : scopedLen g F c sh v = scopedLen g s1 c sh v := scopedLen_congr g s1 F c sh v (fun m _ => by rw [hnd])
    have hlim1 : classLimit g s1 c ≤ classLimit g F c := classLimit_mono g _ _ c (fun i => by rw [hnd]; exact Nat.le_refl _)
    rw [hsl]
    have hPe : ∀ u ∈ P.erase w, Ex w u ∧ InCre g s1 c sh v u := by
      intro u hu
      have huw : u ≠ w := ((List.Nodup.mem_erase_iff hP).mp hu).1
      have hup : u ∈ P := List.mem_of_mem_erase hu
      exact ⟨huw, (hPm u hup).2.of_wd_eq (hwdo u huw)⟩
    have hPn : (P.erase w).Nodup := hP.erase w
    by_cases hwP : w ∈ P
    · have hlen : (P.erase w).length + 1 = P.length := by
        rw [List.length_erase_of_mem hwP]
        exact Nat.sub_add_cancel (List.length_pos_of_mem hwP)
      have hseen : seen g sh v n = true := by
        obtain ⟨_, j, dir', uid, tag, wait, hpc, _, hs⟩ := hPm w hwP
        rw [hpcw] at hpc; cases hpc; exact hs
      have h1 := scan_count hc hw hv b1 hn hnc hid hsto hscan.1 hseen (P.erase w) hPn hPe
      rw [← hlen]
      exact le_cap (Nat.le_trans (Nat.succ_le_succ h1) (Nat.le_trans hscan.2 (Nat.le_trans hlim01 hlim1)))
    · exact cap_mono (Nat.le_refl _) hlim1 (b1.budget v hv P hP (fun u hu => by
        have huw : u ≠ w := fun e => hwP (e ▸ hu)
        exact ⟨huw, (hPm u hu).2.of_wd_eq (hwdo u huw)⟩))

/-- the start of a test of another class is invisible to the invariant of class `c` -/
theorem fr_startOther (g : Graph) (c w : Nat) (gv : Graph) (s : State) (n : Nat) (ph : Phase) (dir : Dir)
    (hne : (g.node n).cls ≠ c) : Fr g c w s (startTest gv s n w ph dir).1 := by
  refine Fr.trans (s1 := { s with nextTag := s.nextTag + 1 }) (Fr.quiet rfl rfl) ?_
  by_cases hph : ph = .pre
  · subst hph
    rw [startTest_pre_fst]
    apply fr_setWd
    · exact fun _ h => h
    · exact fun _ _ => notInC_test hne _ _ _ _ _
  · rw [startTest_nonpre_fst gv s n w ph dir hph]
    refine (fr_setNd g c w _ n (fun d => { d with results := d.results ++ [phOf (gv.node n).name s.nextTag] })
      (fun h => absurd h hne) (fun _ => Nat.le_refl _) (fun h => absurd h hne) (fun h => absurd h hne)).trans ?_
    apply fr_setWd
    · exact fun _ h => h
    · exact fun _ _ => notInC_test hne _ _ _ _ _

/-- an iteration that ends suspended: in the back-off or in the start of a test of another class (frame), or in THE step -/
theorem binv_of_paused {gv : Graph} (hc : BClass g c M sh) (hgv : SameNodes gv g)
    (hwf : GraphWF gv) {s s' : State} {w : Nat} (hw : w < g.workers.length) (b : BInv g c M sh s (Ex w))
    (h : Paused gv w s s') : Fr g c w s s' ∨ BInv g c M sh s' All := by
  have hR := fr_walk hc hgv hwf w
  have hlast : ∀ {n prev dir}, Visit gv s w n prev dir → Own g c w n := fun hv => b.path w _ (List.mem_of_getLast? hv.last)
  cases h with
  | start n _ dir s1 _ hv hd =>
    by_cases hcls : (g.node n).cls = c
    · exact Or.inr (enter_start hc hgv hwf dir hw b (hlast hv).1 hcls ((hlast hv).2 hcls) hv.free hd)
    · exact Or.inl ((walk_decided hR (hlast hv) hd).trans (fr_startOther g c w gv s1 n .plain dir hcls))
  | create n _ dir s1 _ hv hd hroot =>
    by_cases hcls : (g.node n).cls = c
    · exact Or.inr (enter_start_pre hc hgv hwf dir hw b (hlast hv).1 hcls ((hlast hv).2 hcls) (hgv.objectRoot n ▸ hroot)
        hv.free hd)
    · exact Or.inl ((walk_decided hR (hlast hv) hd).trans (Fr.trans (s1 := preset gv s1 w n)
        (fr_setWd g c w s1 _ (fun _ h => h) (fun _ h => h)) (fr_startOther g c w gv _ n .pre dir hcls)))
  | bounce n => exact Or.inl (fr_bounced g c w gv s n hR.root)

/-- moving the exemption: a worker outside the tests of the class needs none, a worker inside a creation pre-step or
outside the tests of the class can get it -/
theorem BInv.relabel {s : State} {L L' : Nat → Prop} (b : BInv g c M sh s L)
    (h1 : ∀ u, L' u → L u ∨ NotInC g c (s.wd u).pc)
    (h2 : ∀ u, L u → L' u ∨
      ∀ n ph dir uid tag wait, (s.wd u).pc = .test n ph dir uid tag wait → (g.node n).cls = c → ph = .pre) :
    BInv g c M sh s L' where
  nodesLen := b.nodesLen
  workersLen := b.workersLen
  path := b.path
  finOwn := b.finOwn
  infl := fun u hu n ph dir uid tag wait hpc hn =>
    (h1 u hu).elim (fun hl => b.infl u hl n ph dir uid tag wait hpc hn) (fun h => absurd hn (h n ph dir uid tag wait hpc))
  resOwn := b.resOwn
  p1 := fun j hj hjc hne =>
    (b.p1 j hj hjc hne).imp (fun ⟨u, tag, hu, ⟨ph, dir, uid, wait, hpc, hph⟩, hres⟩ =>
      ⟨u, tag, (h2 u hu).elim id (fun h => absurd (h j ph dir uid tag wait hpc hjc) hph), ⟨ph, dir, uid, wait, hpc, hph⟩, hres⟩) id
  budget := fun v hv P hP hPm => b.budget v hv P hP (fun u hu =>
    ⟨(h1 u (hPm u hu).1).elim id (fun h => by
      obtain ⟨j, dir, uid, tag, wait, hpc, hjc, _⟩ := (hPm u hu).2
      exact absurd hjc (h j .pre dir uid tag wait hpc)), (hPm u hu).2⟩)

theorem BInv.close {w : Nat} {s : State} (b : BInv g c M sh s (Ex w))
    (h : NotInC g c (s.wd w).pc) : BInv g c M sh s All :=
  b.relabel (fun u _ => if hu : u = w then Or.inr (hu ▸ h) else Or.inl hu) (fun _ _ => Or.inl trivial)

theorem BInv.openPre {s : State} (b : BInv g c M sh s All) (w : Nat)
    (h : ∀ n ph dir uid tag wait, (s.wd w).pc = .test n ph dir uid tag wait → (g.node n).cls = c → ph = .pre) :
    BInv g c M sh s (Ex w) :=
  b.relabel (fun _ _ => Or.inl trivial) (fun u _ => if hu : u = w then Or.inr (hu ▸ h) else Or.inl hu)

theorem BInv.open {s : State} (b : BInv g c M sh s All) (w : Nat)
    (h : NotInC g c (s.wd w).pc) : BInv g c M sh s (Ex w) :=
  b.openPre w (fun n ph dir uid tag wait hpc hcls => absurd hcls (h n ph dir uid tag wait hpc))

theorem fr_setPc (g : Graph) (c w : Nat) (s : State) {pc : Pc} (h : pc.isTest = false) :
    Fr g c w s (s.setWd w (fun d => { d with pc := pc })) ∧
      NotInC g c ((s.setWd w (fun d => { d with pc := pc })).wd w).pc := by
  refine ⟨fr_setWd g c w s _ (fun _ h => h) (fun _ _ => notInC_of_nonTest h), ?_⟩
  rcases wd_setWd_cases s w (fun d => { d with pc := pc }) with ⟨h', hl⟩ | ⟨_, h'⟩
  · rw [h', wd_default_of_ge s w hl]; exact notInC_of_nonTest rfl
  · rw [h']; exact notInC_of_nonTest h

theorem binv_of_ran (hc : BClass g c M sh) (hwf : GraphWF g) {w : Nat} (hw : w < g.workers.length) {fuel : Nat}
    {s : State} {evs : List Event} {r : State × List Event} (b : BInv g c M sh s (Ex w))
    (h0 : NotInC g c (s.wd w).pc ∨ 0 < fuel) (h : Ran g w fuel s evs r) : BInv g c M sh r.1 All := by
  obtain ⟨f0, hpc0⟩ := fr_setPc g c w s (pc := .loop) rfl
  rcases walk_of_ran (fun s => fr_walk hc (sameNodes_vis g s) (hwf.vis s) w) (b.path w) h with ⟨hf, e⟩ | h1 | ⟨s1, h1, hp⟩
  · rw [e]; exact b.close (h0.resolve_right (hf ▸ Nat.lt_irrefl 0))
  · exact ((b.fr hc hw f0).fr hc hw h1).close (h1.pc hpc0)
  · rcases binv_of_paused hc (sameNodes_vis g s1) (hwf.vis s1) hw ((b.fr hc hw f0).fr hc hw h1) hp with h2 | h2
    · exact (((b.fr hc hw f0).fr hc hw h1).fr hc hw h2).close (h2.pc (h1.pc hpc0))
    · exact h2

end

end I2N.Trav
