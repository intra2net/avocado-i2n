import I2N.Lemmas.TravTerm
/-!
Termination of the worker loop between two suspension points on lazily expanded graphs (property C02), where flat nodes
may still be unexplored and the "postpone the cleanup" jump to the root is a `.cont` iteration that drops nothing.

The measure `mu` puts in front of the measure `phi` of `Lemmas/TravTerm.lean` the number of unexplored flat nodes, the room
left in the pick counters of the flat children of the root (a jump is followed by the pick of a flat child that was picked
least often) and a flag for "not at the root".  The state hypotheses (`LState`) are shown to hold in every reachable state.
-/
namespace I2N.Trav.Term
open I2N.Trav

/-! ## lazily expanded graphs: the postponement phase -/

/-! ### the pick takes a least key -/

theorem pickChild_min (gv : Graph) (s : State) (n w c : Nat) (s' : State) (h : pickChild gv s n w = some (c, s'))
    (f : Nat) (hf : f ∈ (gv.node n).cleanup.map (·.1)) (hrel : relevant gv w f = true)
    (hnd : (regWorkers (s.cr (gv.node n).cls).droppedCleanup (some (gv.node f).cls)).contains w = false) :
    keyLe (pickKey gv s false c) (pickKey gv s false f) = true :=
  (pick_spec gv s n w false c s' h).2.2.2.2 f hf hrel hnd

/-- among flat candidates: the picked child is flat and was picked no more often -/
theorem pickKey_flat_le (gv : Graph) (s : State) (c f : Nat) (hf : (gv.node f).flat = true)
    (h : keyLe (pickKey gv s false c) (pickKey gv s false f) = true) :
    (gv.node c).flat = true ∧ picks s (gv.node c).cls ≤ picks s (gv.node f).cls := by
  unfold pickKey at h
  simp only [hf, if_true, Bool.false_eq_true, if_false] at h
  unfold picks
  cases hc : (gv.node c).flat
  · simp [keyLe, hc] at h
  · simp only [keyLe, hc, if_true, Bool.or_eq_true, Bool.and_eq_true, decide_eq_true_eq, beq_iff_eq] at h
    refine ⟨rfl, ?_⟩
    omega


/-! ### the expansion step unrolls the node at hand -/

/-- the children of a flat node are the composite tests it stands for (`self.setless_form in node.id`) -/
def FlatKidsOK (g : Graph) : Prop :=
  ∀ f c, (g.node f).flat = true → c ∈ (g.node f).cleanup.map (·.1) → strIn (g.node f).setless (g.nodeId c) = true

theorem closeUp_sub (g : Graph) (fuel : Nat) (acc : List Nat) (x : Nat) (h : x ∈ acc) : x ∈ closeUp g fuel acc := by
  induction fuel generalizing acc with
  | zero => exact h
  | succ k ih =>
    unfold closeUp
    dsimp only
    split
    · exact h
    · exact ih _ (List.mem_append_left _ h)

theorem vis_nodeId (g : Graph) (s : State) (c : Nat) : (vis g s).nodeId c = g.nodeId c := by
  obtain ⟨a, b, h1, _⟩ := vis_node g s c
  unfold Graph.nodeId; rw [h1]

theorem contains_false_of_sub {l l' : List Nat} (hh : ∀ x, x ∈ l' → x ∈ l) {x : Nat} (h : l.contains x = false) :
    l'.contains x = false := by
  cases hc : l'.contains x
  · rfl
  · rw [List.contains_iff_mem.mpr (hh x (List.contains_iff_mem.mp hc))] at h; cases h

theorem contains_filter_of_neg (l : List Nat) (P : Nat → Bool) (x : Nat) (h : P x = false) :
    (l.filter P).contains x = false := by
  cases hx : (l.filter P).contains x
  · rfl
  · rw [List.contains_iff_mem, List.mem_filter] at hx
    rw [h] at hx; cases hx.2

/-- unrolled for some worker: the node is known to be incompatible with a worker, or one of its composite tests is parsed -/
theorem isUnrolled_none_of (gv : Graph) (s : State) (f : Nat)
    (h : (∃ p ∈ s.incompatible, p.1 = f) ∨
      ∃ c ∈ (gv.node f).cleanup.map (·.1), strIn (gv.node f).setless (gv.nodeId c) = true) :
    isUnrolled gv s f none = true := by
  unfold isUnrolled
  split
  · rfl
  · simp only [Bool.or_eq_true, List.any_eq_true, Bool.not_eq_true', List.isEmpty_eq_false_iff_exists_mem, beq_iff_eq,
      List.mem_filter]
    exact h

theorem isUnrolled_some_none (gv : Graph) (s : State) (f w : Nat) (h : isUnrolled gv s f (some w) = true) :
    isUnrolled gv s f none = true := by
  unfold isUnrolled at h
  split at h
  · rename_i hr
    unfold isUnrolled
    rw [if_pos hr]
  · simp only [Bool.or_eq_true, List.contains_iff_mem, List.any_eq_true, List.mem_filter] at h
    rcases h with h | ⟨c, hc, _⟩
    · exact isUnrolled_none_of gv s f (Or.inl ⟨(f, w), h, rfl⟩)
    · exact isUnrolled_none_of gv s f (Or.inr ⟨c, hc⟩)

theorem reveal_explores (g : Graph) (hk : FlatKidsOK g) (s : State) (f w : Nat) (hf : (g.node f).flat = true)
    (hfh : s.hidden.contains f = false) :
    isUnrolled (vis g (reveal g s f w)) (reveal g s f w) f none = true := by
  apply isUnrolled_none_of
  obtain ⟨su, cl, hv, _⟩ := vis_node g (reveal g s f w) f
  have hsl : ((vis g (reveal g s f w)).node f).setless = (g.node f).setless := by rw [hv]
  rw [hsl]
  fun_cases reveal g s f w with
  | case1 leaves hl => exact Or.inl ⟨(f, w), List.mem_append_right _ List.mem_cons_self, rfl⟩
  | case2 leaves hl all =>
    right
    obtain ⟨c, hc⟩ := List.isEmpty_eq_false_iff_exists_mem.mp (Bool.not_eq_true _ ▸ hl)
    have hcm : c ∈ (g.node f).cleanup.map (·.1) := (List.mem_filter.mp hc).1
    obtain ⟨e, he, hec⟩ := List.mem_map.mp hcm
    refine ⟨c, List.mem_map.mpr ⟨e, ((mem_vis_edges g _ f e).2).mpr ⟨he, ?_, ?_, ?_⟩, hec⟩,
      by rw [vis_nodeId]; exact hk f c hf hcm⟩
    · exact contains_false_of_sub (fun _ hx => (List.mem_filter.mp hx).1) hfh
    · apply contains_filter_of_neg
      have h4 : all.contains c = true := List.contains_iff_mem.mpr (closeUp_sub g g.nodes.length _ c hc)
      rw [hec, h4]
      rfl
    · -- the edge from the flat node to the leaf appears with the expansion
      apply contains_filter_of_neg
      have h4 : (leaves.map (edgeCode g f)).contains (edgeCode g f c) = true :=
        List.contains_iff_mem.mpr (List.mem_map.mpr ⟨c, hc, rfl⟩)
      rw [hec, h4, Bool.not_true, Bool.and_false]

/-- is the flat node `f` unexplored (not unrolled for any worker, not known to be incompatible) -/
def unexpl (g : Graph) (s : State) (f : Nat) : Bool := (g.node f).flat && !isUnrolled (vis g s) s f none

theorem unexploredNodes_eq (g : Graph) (s : State) :
    unexploredNodes (vis g s) s = (List.range g.nodes.length).filter (unexpl g s) := by
  unfold unexploredNodes
  rw [(sameStatic_vis g s).len]
  congr 1
  funext n
  unfold unexpl
  rw [vis_flat]

/-- the number of unexplored flat nodes -/
def nU (g : Graph) (s : State) : Nat := (unexploredNodes (vis g s) s).length

theorem unexpl_mono (g : Graph) (s s' : State) (hh : ∀ x, x ∈ s'.hidden → x ∈ s.hidden)
    (hi : ∀ x, x ∈ s.incompatible → x ∈ s'.incompatible) (f : Nat) (h : unexpl g s' f = true) : unexpl g s f = true := by
  unfold unexpl at h ⊢
  simp only [Bool.and_eq_true, Bool.not_eq_true'] at h ⊢
  refine ⟨h.1, ?_⟩
  cases hu : isUnrolled (vis g s) s f none
  · rfl
  · rw [isUnrolled_none_mono g s s' hh hi f hu] at h
    cases h.2

theorem filter_length_le (l : List Nat) (p q : Nat → Bool) (h : ∀ x, x ∈ l → p x = true → q x = true) :
    (l.filter p).length ≤ (l.filter q).length := by
  rw [← List.countP_eq_length_filter, ← List.countP_eq_length_filter]
  exact List.countP_mono_left h

theorem filter_length_lt (l : List Nat) (p q : Nat → Bool) (h : ∀ x, x ∈ l → p x = true → q x = true)
    (a : Nat) (ha : a ∈ l) (hq : q a = true) (hp : p a = false) : (l.filter p).length < (l.filter q).length := by
  have e : l.filter p = (l.filter q).filter p := by
    rw [List.filter_filter]
    exact List.filter_congr (fun x hx => by cases hpx : p x <;> simp [h x hx, hpx])
  rw [e]
  exact List.length_filter_lt_length_iff_exists.mpr ⟨a, List.mem_filter.mpr ⟨ha, hq⟩, by simp [hp]⟩

theorem nU_eq (g : Graph) (s : State) : nU g s = ((List.range g.nodes.length).filter (unexpl g s)).length := by
  unfold nU; rw [unexploredNodes_eq]

theorem nU_mono (g : Graph) (s s' : State) (hh : ∀ x, x ∈ s'.hidden → x ∈ s.hidden)
    (hi : ∀ x, x ∈ s.incompatible → x ∈ s'.incompatible) : nU g s' ≤ nU g s := by
  rw [nU_eq, nU_eq]
  exact filter_length_le _ _ _ (fun x _ => unexpl_mono g s s' hh hi x)

theorem nU_lt (g : Graph) (s s' : State) (hh : ∀ x, x ∈ s'.hidden → x ∈ s.hidden)
    (hi : ∀ x, x ∈ s.incompatible → x ∈ s'.incompatible) (f : Nat) (hf : f < g.nodes.length)
    (h1 : unexpl g s f = true) (h2 : unexpl g s' f = false) : nU g s' < nU g s := by
  rw [nU_eq, nU_eq]
  exact filter_length_lt _ _ _ (fun x _ => unexpl_mono g s s' hh hi x) f (List.mem_range.mpr hf) h1 h2

theorem nU_pos_iff (g : Graph) (s : State) : 0 < nU g s ↔ ∃ f, f < g.nodes.length ∧ unexpl g s f = true := by
  rw [nU_eq, List.length_pos_iff_exists_mem]
  simp only [List.mem_filter, List.mem_range]

theorem nU_pos_flag (g : Graph) (s : State) : (!(unexploredNodes (vis g s) s).isEmpty) = true ↔ 0 < nU g s := by
  unfold nU
  cases unexploredNodes (vis g s) s <;> simp

theorem nU_le (g : Graph) (s : State) : nU g s ≤ g.nodes.length := by
  rw [nU_eq]
  have := List.length_filter_le (unexpl g s) (List.range g.nodes.length)
  simpa using this

theorem nU_congr (g : Graph) (s s' : State) (hh : s'.hidden = s.hidden) (hi : s'.incompatible = s.incompatible) :
    nU g s' = nU g s := by
  unfold nU unexploredNodes isUnrolled
  rw [vis_congr g s s' hh, hi]

theorem unexpl_congr (g : Graph) (s s' : State) (hh : s'.hidden = s.hidden) (hi : s'.incompatible = s.incompatible) (f : Nat) :
    unexpl g s' f = unexpl g s f := by
  unfold unexpl isUnrolled
  rw [vis_congr g s s' hh, hi]

theorem prepare_lazy (g : Graph) (hk : FlatKidsOK g) (s : State) (w : Nat) (hw : w < s.workers.length)
    (hne : (s.wd w).path ≠ []) :
    (prepare g s w).regs = s.regs ∧ (prepare g s w).nodes = s.nodes ∧
    (prepare g s w).workers.length = s.workers.length ∧
    (∀ v, ((prepare g s w).wd v).path = (s.wd v).path) ∧
    ((prepare g s w).wd w).unexplored = !(unexploredNodes (vis g s) s).isEmpty ∧
    (∀ x, x ∈ (prepare g s w).hidden → x ∈ s.hidden) ∧
    (∀ x, x ∈ s.incompatible → x ∈ (prepare g s w).incompatible) ∧
    (∀ f, (s.wd w).path.getLast? = some f → f < g.nodes.length → unexpl g s f = true → s.hidden.contains f = false →
      unexpl g (prepare g s w) f = false) := by
  obtain ⟨h1, h2, h3, h4, h5, h6, h7⟩ := prepare_spec g s w
  refine ⟨h1, h2, h3, fun v => (h4 v).1, h5 hw hne, h6, h7, ?_⟩
  · intro f hl hfN hun hfh
    have hun' := hun
    unfold unexpl at hun'
    simp only [Bool.and_eq_true, Bool.not_eq_true'] at hun'
    obtain ⟨hflat, hnone⟩ := hun'
    have hunexp := (nU_pos_flag g s).mpr ((nU_pos_iff g s).mpr ⟨f, hfN, hun⟩)
    fun_cases prepare g s w with
    | case1 h0 => rw [hl] at h0; cases h0
    | case2 gv f' hl' unexp s1 _ =>
      rw [hl] at hl'; cases hl'
      unfold unexpl
      rw [reveal_explores g hk s1 f w hflat hfh]
      simp
    | case3 gv f' hl' unexp s1 hcond =>
      -- the condition of the expansion holds: the node is flat, not unrolled, and something is unexplored
      exfalso
      rw [hl] at hl'; cases hl'
      apply hcond
      have hsome : isUnrolled gv s1 f (some w) = false := by
        cases hx : isUnrolled gv s1 f (some w)
        · rfl
        · have h2 : isUnrolled gv s1 f none = isUnrolled (vis g s) s f none := rfl
          rw [← h2, isUnrolled_some_none _ _ f w hx] at hnone
          cases hnone
      have hu : unexp = true := hunexp
      rw [hsome, hu]
      unfold gv
      rw [vis_flat, hflat]
      rfl


/-! ### the measure for lazily expanded graphs -/

/-- static well-formedness of a lazily expanded graph: the children of a flat node are its composite tests, every
flat node hangs below the shared root, no other node shares the class of a flat node -/
structure LazyOK (g : Graph) : Prop where
  kids : FlatKidsOK g
  underRoot : ∀ f, f < g.nodes.length → (g.node f).flat = true → (g.node f).sharedRoot = false →
    f ∈ (g.node g.root).cleanup.map (·.1)
  clsUniq : ∀ f m, f < g.nodes.length → m < g.nodes.length → (g.node f).flat = true →
    (g.node m).cls = (g.node f).cls → m = f

theorem unexpl_flat (g : Graph) (s : State) (f : Nat) (h : unexpl g s f = true) :
    (g.node f).flat = true ∧ (g.node f).sharedRoot = false := by
  unfold unexpl at h
  simp only [Bool.and_eq_true, Bool.not_eq_true'] at h
  refine ⟨h.1, ?_⟩
  cases hr : (g.node f).sharedRoot
  · rfl
  · have h2 := h.2
    unfold isUnrolled at h2
    obtain ⟨su, cl, hv, _⟩ := vis_node g s f
    rw [hv] at h2
    simp [hr] at h2

/-- the last node of the path -/
def top (s : State) (w : Nat) : Nat := ((s.wd w).path.getLast?).getD 0

/-- the last node of the path is an unexplored flat node that the next expansion step will unroll -/
def pendB (g : Graph) (s : State) (w : Nat) : Bool :=
  decide (2 ≤ (s.wd w).path.length) && (decide (top s w < g.nodes.length) && unexpl g s (top s w))

def pend (g : Graph) (s : State) (w : Nat) : Nat := if pendB g s w then 1 else 0

def rootKids (g : Graph) : List Nat := (g.node g.root).cleanup.map (·.1)

/-- room left in the pick counters of the flat children of the root below the level `P` -/
def psi (g : Graph) (s : State) (P : Nat) : Nat :=
  ((rootKids g).map (fun c => if (g.node c).flat then P - picks s (g.node c).cls else 0)).sum

def chi (g : Graph) (s : State) (w : Nat) : Nat := if 0 < nU g s ∧ (s.wd w).path ≠ [g.root] then 1 else 0

/-- the measure: unexplored nodes (counted twice, minus one when the exploration is imminent), room in the pick
counters, "not at the root", and the measure `phi` of the eager case -/
def mu (g : Graph) (s : State) (w P : Nat) : Nat :=
  (((2 * nU g s - pend g s w) * ((rootKids g).length * P + 1) + psi g s P) * 2 + chi g s w) * bound g + phi g s w

theorem radix_lt (Q a a' b b' : Nat) (hb' : b' < Q) (h : a' < a ∨ (a' = a ∧ b' < b)) : a' * Q + b' < a * Q + b := by
  rcases h with h | ⟨h1, h2⟩
  · exact Nat.lt_of_lt_of_le (Nat.lt_of_lt_of_le (Nat.add_lt_add_left hb' _)
      (Nat.le_of_eq (Nat.succ_mul a' Q).symm)) (Nat.le_trans (Nat.mul_le_mul_right Q h) (Nat.le_add_right _ _))
  · rw [h1]; exact Nat.add_lt_add_left h2 _

/-- lexicographic decrease of the four components lowers the measure -/
theorem lex4_lt (Q B A A' p p' c c' f f' : Nat) (hp' : p' < Q) (hc' : c' < 2) (hf' : f' < B)
    (hA : A' ≤ A) (hp : A' = A → p' ≤ p) (hc : A' = A → p' = p → c' ≤ c) (hf : A' = A → p' = p → c' = c → f' < f) :
    ((A' * Q + p') * 2 + c') * B + f' < ((A * Q + p) * 2 + c) * B + f := by
  -- a strict decrease at one level carries through the levels above it
  have l2 : (A' * Q + p') * 2 + c' < (A * Q + p) * 2 + c →
      ((A' * Q + p') * 2 + c') * B + f' < ((A * Q + p) * 2 + c) * B + f := fun h => radix_lt B _ _ f f' hf' (Or.inl h)
  have l1 : A' * Q + p' < A * Q + p → _ := fun h => l2 (radix_lt 2 _ _ c c' hc' (Or.inl h))
  rcases Nat.lt_or_eq_of_le hA with h | e
  · exact l1 (radix_lt Q A A' p p' hp' (Or.inl h))
  rcases Nat.lt_or_eq_of_le (hp e) with h | e2
  · exact l1 (radix_lt Q A A' p p' hp' (Or.inr ⟨e, h⟩))
  rcases Nat.lt_or_eq_of_le (hc e e2) with h | e3
  · exact l2 (radix_lt 2 _ _ c c' hc' (Or.inr ⟨by rw [e, e2], h⟩))
  · exact radix_lt B _ _ f f' hf' (Or.inr ⟨by rw [e, e2, e3], hf e e2 e3⟩)

theorem sum_map_le (l : List Nat) (F G : Nat → Nat) (h : ∀ x, x ∈ l → F x ≤ G x) : (l.map F).sum ≤ (l.map G).sum := by
  induction l with
  | nil => simp
  | cons a r ih =>
    simp only [List.map_cons, List.sum_cons]
    have := h a List.mem_cons_self
    have := ih (fun x hx => h x (List.mem_cons_of_mem _ hx))
    omega

theorem sum_map_lt (l : List Nat) (F G : Nat → Nat) (h : ∀ x, x ∈ l → F x ≤ G x) (a : Nat) (ha : a ∈ l)
    (hlt : F a < G a) : (l.map F).sum < (l.map G).sum := by
  induction l with
  | nil => simp at ha
  | cons b r ih =>
    simp only [List.map_cons, List.sum_cons]
    rcases List.mem_cons.mp ha with hab | har
    · subst hab
      have := sum_map_le r F G (fun x hx => h x (List.mem_cons_of_mem _ hx))
      omega
    · have := h b List.mem_cons_self
      have := ih (fun x hx => h x (List.mem_cons_of_mem _ hx)) har
      omega

theorem psi_le (g : Graph) (s : State) (P : Nat) : psi g s P ≤ (rootKids g).length * P := by
  unfold psi
  induction rootKids g with
  | nil => simp
  | cons a r ih =>
    simp only [List.map_cons, List.sum_cons, List.length_cons, Nat.add_mul, Nat.one_mul]
    split <;> omega

theorem psi_mono (g : Graph) (s s' : State) (P : Nat) (h : ∀ c, picks s c ≤ picks s' c) : psi g s' P ≤ psi g s P := by
  unfold psi
  apply sum_map_le
  intro x _
  split
  · exact Nat.sub_le_sub_left (h (g.node x).cls) P
  · exact Nat.le_refl _

theorem psi_congr (g : Graph) (s s' : State) (P : Nat) (h : ∀ c, picks s' c = picks s c) : psi g s' P = psi g s P := by
  unfold psi
  congr 1
  apply List.map_congr_left
  intro x _
  rw [h]

/-- a pick of a flat child of the root below the level takes room away -/
theorem psi_pick (g : Graph) (s s' : State) (P c : Nat) (hc : c ∈ rootKids g) (hf : (g.node c).flat = true)
    (hlow : picks s (g.node c).cls < P)
    (h : ∀ c', picks s' c' = picks s c' + (if c' = (g.node c).cls then 1 else 0)) : psi g s' P < psi g s P := by
  unfold psi
  apply sum_map_lt _ _ _ _ c hc
  · rw [if_pos hf, if_pos hf, h, if_pos rfl]
    exact Nat.sub_lt_sub_left hlow (Nat.lt_succ_self _)
  · intro x _
    split
    · rw [h]; exact Nat.sub_le_sub_left (Nat.le_add_right _ _) P
    · exact Nat.le_refl _

theorem chi_le (g : Graph) (s : State) (w : Nat) : chi g s w < 2 := by
  unfold chi; split <;> omega


/-- the root and the flat nodes are parsed, and the flat nodes hang below the root -/
def HidOK (g : Graph) (s : State) : Prop :=
  s.hidden.contains g.root = false ∧ (∀ f, (g.node f).flat = true → s.hidden.contains f = false) ∧
  ∀ f, (g.node f).flat = true → s.hidden.contains (edgeCode g g.root f) = false

theorem HidOK.mono {g : Graph} {s s' : State} (h : HidOK g s) (hh : ∀ x, x ∈ s'.hidden → x ∈ s.hidden) : HidOK g s' :=
  ⟨contains_false_of_sub hh h.1, fun f hf => contains_false_of_sub hh (h.2.1 f hf),
    fun f hf => contains_false_of_sub hh (h.2.2 f hf)⟩

/-! ### the invariant of the postponement phase -/

/-- the state hypotheses for lazily expanded graphs; `P` is a level above the pick counters of all unexplored nodes
at the start of the block -/
structure LInv (g : Graph) (d : Nat → Nat) (w P : Nat) (s : State) : Prop where
  nodesLen : s.nodes.length = g.nodes.length
  cls : ClsOK g s
  walk : Walk g d (s.wd w).path
  head : (s.wd w).path.head? = some g.root
  vroot : s.hidden.contains g.root = false
  vflat : ∀ f, (g.node f).flat = true → s.hidden.contains f = false
  vedge : ∀ f, (g.node f).flat = true → s.hidden.contains (edgeCode g g.root f) = false
  avail : ∀ f, f < g.nodes.length → unexpl g s f = true →
    dropped s w (false, (g.node g.root).cls, (g.node f).cls) = false
  low : ∀ f, f < g.nodes.length → unexpl g s f = true →
    picks s (g.node f).cls < P ∨ (2 ≤ (s.wd w).path.length ∧ top s w = f)

theorem top_of_last (s : State) (w next : Nat) (hl : (s.wd w).path.getLast? = some next) : top s w = next := by
  unfold top; rw [hl]; rfl

theorem last_of_top (s : State) (w : Nat) (hne : (s.wd w).path ≠ []) : (s.wd w).path.getLast? = some (top s w) := by
  unfold top
  cases hl : (s.wd w).path.getLast? with
  | none => rw [List.getLast?_eq_none_iff] at hl; exact absurd hl hne
  | some x => rfl

theorem pendB_iff (g : Graph) (s : State) (w : Nat) :
    pendB g s w = true ↔ 2 ≤ (s.wd w).path.length ∧ top s w < g.nodes.length ∧ unexpl g s (top s w) = true := by
  unfold pendB
  simp only [Bool.and_eq_true, decide_eq_true_eq]

theorem pendB_false_of_len (g : Graph) (s : State) (w : Nat) (h : (s.wd w).path.length < 2) : pendB g s w = false := by
  cases hb : pendB g s w
  · rfl
  · have := ((pendB_iff g s w).mp hb).1
    omega

theorem nU_pos_of_pend (g : Graph) (s : State) (w : Nat) (h : pendB g s w = true) : 0 < nU g s :=
  (nU_pos_iff g s).mpr ⟨_, ((pendB_iff g s w).mp h).2⟩

theorem rootpick_of_iter {gv : Graph} {s : State} {w next : Nat} {r : Step} (hl : (s.wd w).path.getLast? = some next)
    (hlen : (s.wd w).path.length = 1) (hc : r.2.2 = .cont) (h : Iter gv w s r) :
    ∃ c s3, pickChild gv s next w = some (c, s3) ∧ r.1 = pushPath s3 w c := by
  cases h with
  | fromRoot n c s1 _ hl' _ hp => cases hl.symm.trans hl'; exact ⟨c, s1, hp, rfl⟩
  | toParent _ _ _ _ ha => exact absurd hlen ha.long
  | skip _ _ _ _ _ _ hv => exact absurd hlen hv.long
  | exit | lost | bounce | undecided | start | create => cases hc

theorem unexpl_available (g : Graph) (d : Nat → Nat) (w P : Nat) (hz : LazyOK g) (s : State) (h : LInv g d w P s)
    (f : Nat) (hf : f < g.nodes.length) (hu : unexpl g s f = true) :
    f ∈ ((vis g s).node g.root).cleanup.map (·.1) ∧ relevant (vis g s) w f = true ∧
    (regWorkers (s.cr ((vis g s).node g.root).cls).droppedCleanup (some ((vis g s).node f).cls)).contains w = false := by
  obtain ⟨hflat, hsr⟩ := unexpl_flat g s f hu
  refine ⟨?_, ?_, ?_⟩
  · obtain ⟨e, he, hef⟩ := List.mem_map.mp (hz.underRoot f hf hflat hsr)
    exact List.mem_map.mpr ⟨e, ((mem_vis_edges g s g.root e).2).mpr ⟨he, h.vroot, by rw [hef]; exact h.vflat f hflat,
      by rw [hef]; exact h.vedge f hflat⟩, hef⟩
  · rw [vis_relevant]; unfold relevant; rw [hflat]; rfl
  · have := h.avail f hf hu
    unfold dropped at this
    simp only [Bool.false_eq_true, if_false] at this
    rw [vis_cls, vis_cls]; exact this


/-- one iteration proper of the postponement phase, from a state in which no exploration is imminent -/
theorem lazy_of_iter (g : Graph) (d : Nat → Nat) (hr : Ranked g d) (hsym : EdgeSym g) (hz : LazyOK g) (w P : Nat)
    (s : State) (h : LInv g d w P s) (hpend : pendB g s w = false) {r : Step} (hc : r.2.2 = .cont)
    (hi : Iter (vis g s) w s r) :
    Keep s r.1 ∧ LInv g d w P r.1 ∧ psi g r.1 P ≤ psi g s P ∧
    (((s.wd w).unexplored = true ∧ 2 ≤ (s.wd w).path.length ∧ (r.1.wd w).path = [g.root] ∧ psi g r.1 P = psi g s P) ∨
     (phi g r.1 w < phi g s w ∧ ((s.wd w).path.length = 1 → 0 < nU g s → psi g r.1 P < psi g s P))) := by
  obtain ⟨mj, k⟩ := cont2_of_iter g d hr hsym s w h.nodesLen h.cls hc hi
  have hne : (s.wd w).path ≠ [] := by intro h0; have := h.head; rw [h0] at this; simp at this
  have hw : w < s.workers.length := lt_of_path_ne_nil s w hne
  -- the root pick
  have rootpick : (s.wd w).path.length = 1 → 0 < nU g s → psi g r.1 P < psi g s P := by
    intro hlen1 hpos
    obtain ⟨f, hfN, hfu⟩ := (nU_pos_iff g s).mp hpos
    have hl := last_of_top s w hne
    have hp := rev_one _ hlen1 _ hl
    have hroot : top s w = g.root := by
      have := h.head; rw [hp] at this; simpa using this
    rw [hroot] at hl
    obtain ⟨c, s3, hpk, hs2⟩ := rootpick_of_iter hl hlen1 hc hi
    obtain ⟨ha1, ha2, ha3⟩ := unexpl_available g d w P hz s h f hfN hfu
    have hmin := pickChild_min (vis g s) s g.root w c s3 hpk f ha1 ha2 ha3
    obtain ⟨hflat, _⟩ := unexpl_flat g s f hfu
    obtain ⟨hcf, hcp⟩ := pickKey_flat_le (vis g s) s c f (by rw [vis_flat]; exact hflat) hmin
    rw [vis_flat] at hcf
    rw [vis_cls, vis_cls] at hcp
    obtain ⟨hcm, _, _, hs3, _⟩ := pick_spec _ s g.root w false c s3 hpk
    have hcg := vis_nbrs_sub g s false g.root c hcm
    have hcN : c < g.nodes.length := lt_of_nbrs_mem g true c g.root ((hsym g.root c).mpr hcg)
    have hlowf : picks s (g.node f).cls < P := by
      rcases h.low f hfN hfu with h1 | h1
      · exact h1
      · omega
    rw [hs2]
    apply psi_pick g s _ P c hcg hcf (by omega)
    intro c'
    unfold pushPath
    rw [picks_setWd, hs3, picks_addPick s _ false _ (by rw [vis_cls]; exact h.cls c hcN), vis_cls]
    simp only [true_and]
  generalize r.1 = s' at mj k rootpick ⊢
  have hun : ∀ f, unexpl g s' f = unexpl g s f := fun f => unexpl_congr g s _ k.hidden k.incompatible f
  -- no exploration is imminent: the pick counter of every unexplored node is below the level
  have np : ∀ f, f < g.nodes.length → unexpl g s f = true → ¬ (2 ≤ (s.wd w).path.length ∧ top s w = f) := by
    intro f hfN hfu ⟨h1, h2⟩
    rw [(pendB_iff g s w).mpr ⟨h1, by rw [h2]; exact hfN, by rw [h2]; exact hfu⟩] at hpend
    cases hpend
  have hlow0 : ∀ f, f < g.nodes.length → unexpl g s f = true → picks s (g.node f).cls < P :=
    fun f hfN hfu => (h.low f hfN hfu).resolve_right (np f hfN hfu)
  have base : ∀ (hwalk : Walk g d (s'.wd w).path) (hhead : (s'.wd w).path.head? = some g.root)
      (havail : ∀ f, f < g.nodes.length → unexpl g s f = true →
        dropped s' w (false, (g.node g.root).cls, (g.node f).cls) = false)
      (hlow : ∀ f, f < g.nodes.length → unexpl g s f = true →
        picks s' (g.node f).cls < P ∨ (2 ≤ (s'.wd w).path.length ∧ top s' w = f)),
      LInv g d w P s' := by
    intro hwalk hhead havail hlow
    exact ⟨k.nodesLen.trans h.nodesLen, fun n hn => by rw [k.regsLen]; exact h.cls n hn, hwalk, hhead,
      by rw [k.hidden]; exact h.vroot, fun f hf => by rw [k.hidden]; exact h.vflat f hf,
      fun f hf => by rw [k.hidden]; exact h.vedge f hf,
      fun f hfN hfu => havail f hfN (by rw [← hun]; exact hfu), fun f hfN hfu => hlow f hfN (by rw [← hun]; exact hfu)⟩
  rcases mj with m | j
  · -- a move
    obtain ⟨hphi, hwalk2⟩ := move_dec g d hr hsym w s _ h.walk m
    cases m with
    | push up last c hl hp hcm hnd hmode hD hrel hpk =>
      have hcN : c < g.nodes.length := lt_of_nbrs_mem g (!up) c last ((nbrs_sym hsym up last c).mp hcm)
      refine ⟨k, base hwalk2 (by rw [hp, head?_push _ c hne]; exact h.head) (fun f hfN hfu => by rw [hD]; exact h.avail f hfN hfu) ?_,
        psi_mono g s _ P (fun c' => by rw [hpk]; omega), Or.inr ⟨hphi, rootpick⟩⟩
      intro f hfN hfu
      by_cases hcf : (g.node f).cls = (g.node c).cls
      · -- the pushed node is the unexplored one: it is on top of the path now
        right
        have : c = f := hz.clsUniq f c hfN hcN (unexpl_flat g s f hfu).1 hcf.symm
        refine ⟨?_, ?_⟩
        · rw [hp]; simp only [List.length_append, List.length_singleton]
          have := List.length_pos_iff.mpr hne; omega
        · rw [← this]
          exact top_of_last _ w c (by rw [hp]; simp)
      · left; rw [hpk]; simp only [hcf, and_false, if_false, Nat.add_zero]; exact hlow0 f hfN hfu
    | pop next hl hlen hp hD hk hnew hpk =>
      refine ⟨k, base hwalk2 (by rw [hp, head?_dropLast' _ hlen]; exact h.head) ?_
          (fun f hfN hfu => Or.inl (by rw [hpk]; exact hlow0 f hfN hfu)),
        by rw [psi_congr g s _ P hpk]; exact Nat.le_refl _, Or.inr ⟨hphi, rootpick⟩⟩
      intro f hfN hfu
      cases hdx : dropped s' w (false, (g.node g.root).cls, (g.node f).cls)
      · rfl
      · -- a newly dropped key is of the class of the popped node, which is not an unexplored one
        exfalso
        rcases hnew _ hdx with h0 | ⟨_, hcls⟩
        · rw [h.avail f hfN hfu] at h0; cases h0
        · have hnN : next < g.nodes.length := walk_top_lt g d _ next h.walk hl hlen
          have : next = f := hz.clsUniq f next hfN hnN (unexpl_flat g s f hfu).1 hcls.symm
          exact np f hfN hfu ⟨hlen, by rw [← this]; exact top_of_last s w next hl⟩
  · -- the postponement jump
    exact ⟨k, base (by rw [j.path]; exact walk_root g d g.root) (by rw [j.path]; rfl)
        (fun f hfN hfu => by rw [j.dropped]; exact h.avail f hfN hfu)
        (fun f hfN hfu => Or.inl (by rw [j.picks]; exact hlow0 f hfN hfu)),
      by rw [psi_congr g s _ P j.picks]; exact Nat.le_refl _, Or.inl ⟨j.flag, j.len, j.path, psi_congr g s _ P j.picks⟩⟩

theorem chi_root (g : Graph) (s : State) (w : Nat) (h : (s.wd w).path = [g.root]) : chi g s w = 0 := by
  unfold chi; simp [h]

theorem chi_zero (g : Graph) (s : State) (w : Nat) (h : nU g s = 0) : chi g s w = 0 := by
  unfold chi; simp [h]

theorem chi_one (g : Graph) (s : State) (w : Nat) (h1 : 0 < nU g s) (h2 : (s.wd w).path ≠ [g.root]) : chi g s w = 1 := by
  unfold chi; simp [h1, h2]

/-- the first component `2·nU - pend` over the expansion step (`n0 → n1`) and the iteration proper (`n1 → n2`): it does
not grow, and stays only if no node got explored -/
theorem twice_sub_flag (n0 n1 n2 e0 e2 : Nat) (h01 : n1 ≤ n0) (h12 : n2 = n1) (he0 : e0 ≤ 1) (he2 : e2 ≤ 1)
    (h0 : e0 = 1 → n1 < n0) (h2 : e2 = 1 → 0 < n2) :
    2 * n2 - e2 ≤ 2 * n0 - e0 ∧ (2 * n2 - e2 = 2 * n0 - e0 → n1 = n0) := by
  omega

theorem mu_step (g : Graph) (d : Nat → Nat) (hr : Ranked g d) (w P : Nat) (s0 s1 s2 : State)
    (hpath01 : (s1.wd w).path = (s0.wd w).path) (hregs01 : s1.regs = s0.regs)
    (hnU01 : nU g s1 ≤ nU g s0) (hpend0 : pendB g s0 w = true → nU g s1 < nU g s0)
    (hnU12 : nU g s2 = nU g s1) (hwalk2 : Walk g d (s2.wd w).path)
    (hpsi : psi g s2 P ≤ psi g s1 P)
    (hflag : (s1.wd w).unexplored = true → 2 ≤ (s1.wd w).path.length → 0 < nU g s0)
    (hout : ((s1.wd w).unexplored = true ∧ 2 ≤ (s1.wd w).path.length ∧ (s2.wd w).path = [g.root] ∧
        psi g s2 P = psi g s1 P) ∨
      (phi g s2 w < phi g s1 w ∧ ((s1.wd w).path.length = 1 → 0 < nU g s1 → psi g s2 P < psi g s1 P))) :
    mu g s2 w P < mu g s0 w P := by
  have hpsi01 : psi g s1 P = psi g s0 P := psi_congr g s0 s1 P (fun c => picks_of_regs s0 s1 hregs01 c)
  have hphi01 : phi g s1 w = phi g s0 w := phi_congr g s0 s1 w hregs01 hpath01
  have hpb : ∀ s, pend g s w ≤ 1 ∧ (pend g s w = 1 → pendB g s w = true) := by
    intro s; unfold pend; cases pendB g s w <;> simp
  obtain ⟨hA, hAeq⟩ := twice_sub_flag (nU g s0) (nU g s1) (nU g s2) (pend g s0 w) (pend g s2 w) hnU01 hnU12 (hpb s0).1
    (hpb s2).1 (fun h => hpend0 ((hpb s0).2 h)) (fun h => nU_pos_of_pend g s2 w ((hpb s2).2 h))
  rw [hpsi01] at hpsi hout
  rw [hphi01] at hout
  unfold mu
  apply lex4_lt _ _ _ _ _ _ _ _ _ _ (Nat.lt_succ_of_le (psi_le g s2 P)) (chi_le g s2 w)
    (phi_lt_bound g d hr s2 w hwalk2) hA (fun _ => hpsi)
  · intro he hpe
    have hn10 := hAeq he
    rcases hout with ⟨_, _, hp2r, _⟩ | ⟨_, hrp⟩
    · rw [chi_root g s2 w hp2r]; exact Nat.zero_le _
    · by_cases hz0 : nU g s0 = 0
      · rw [chi_zero g s2 w (by rw [hnU12, hn10, hz0])]; exact Nat.zero_le _
      · by_cases hroot : (s0.wd w).path = [g.root]
        · -- at the root with something unexplored the pick takes room away
          have := hrp (by rw [hpath01, hroot]; rfl) (by rw [hn10]; exact Nat.pos_of_ne_zero hz0)
          rw [hpe] at this
          exact absurd this (Nat.lt_irrefl _)
        · rw [chi_one g s0 w (Nat.pos_of_ne_zero hz0) hroot]
          exact Nat.le_of_lt_succ (chi_le g s2 w)
  · intro he hpe hce
    rcases hout with ⟨hfl, hlen, hp2r, _⟩ | ⟨hphi, _⟩
    · exfalso
      have hroot : (s0.wd w).path ≠ [g.root] := by
        intro hx; rw [hpath01, hx] at hlen; simp at hlen
      rw [chi_root g s2 w hp2r, chi_one g s0 w (hflag hfl hlen) hroot] at hce
      cases hce
    · exact hphi

theorem linv_prepare (g : Graph) (d : Nat → Nat) (hz : LazyOK g) (w P : Nat) (s : State) (h : LInv g d w P s)
    (hw : w < s.workers.length) (hne : (s.wd w).path ≠ []) :
    LInv g d w P (prepare g s w) ∧ pendB g (prepare g s w) w = false ∧ nU g (prepare g s w) ≤ nU g s ∧
    (pendB g s w = true → nU g (prepare g s w) < nU g s) ∧
    (((prepare g s w).wd w).unexplored = true → 0 < nU g s) := by
  obtain ⟨p1, p2, p3, p4, p5, p6, p7, p8⟩ := prepare_lazy g hz.kids s w hw hne
  have htop : top (prepare g s w) w = top s w := by unfold top; rw [p4]
  obtain ⟨v1, v2, v3⟩ := HidOK.mono (s' := prepare g s w) ⟨h.vroot, h.vflat, h.vedge⟩ p6
  have hmono : ∀ f, unexpl g (prepare g s w) f = true → unexpl g s f = true := unexpl_mono g s _ p6 p7
  have hexp : pendB g s w = true → unexpl g (prepare g s w) (top s w) = false := by
    intro hb
    obtain ⟨_, hb2, hb3⟩ := (pendB_iff g s w).mp hb
    exact p8 (top s w) (last_of_top s w hne) hb2 hb3 (h.vflat _ (unexpl_flat g s _ hb3).1)
  refine ⟨⟨by rw [p2]; exact h.nodesLen, fun n hn => by rw [p1]; exact h.cls n hn, by rw [p4]; exact h.walk,
    by rw [p4]; exact h.head, v1, v2, v3, ?_, ?_⟩, ?_, nU_mono g s _ p6 p7, ?_, ?_⟩
  · intro f hfN hfu
    rw [dropped_of_regs s _ p1]
    exact h.avail f hfN (hmono f hfu)
  · intro f hfN hfu
    rw [picks_of_regs s _ p1, p4, htop]
    exact h.low f hfN (hmono f hfu)
  · -- nothing is pending after the step
    cases hb : pendB g (prepare g s w) w
    · rfl
    · exfalso
      obtain ⟨hb1, hb2, hb3⟩ := (pendB_iff g _ w).mp hb
      rw [htop] at hb2 hb3
      rw [p4] at hb1
      rw [hexp ((pendB_iff g s w).mpr ⟨hb1, hb2, hmono _ hb3⟩)] at hb3
      cases hb3
  · intro hb
    obtain ⟨_, hb2, hb3⟩ := (pendB_iff g s w).mp hb
    exact nU_lt g s _ p6 p7 (top s w) hb2 hb3 (hexp hb)
  · intro hfl
    rw [p5] at hfl
    exact (nU_pos_flag g s).mp hfl

theorem lazy_of_iterL (g : Graph) (d : Nat → Nat) (hr : Ranked g d) (hsym : EdgeSym g) (hz : LazyOK g) (w P : Nat)
    (s : State) (h : LInv g d w P s) {r : Step} (hc : r.2.2 = .cont) (hi : IterL g w s r) :
    mu g r.1 w P < mu g s w P ∧ LInv g d w P r.1 := by
  have hne : (s.wd w).path ≠ [] := by intro h0; have := h.head; rw [h0] at this; simp at this
  have hw : w < s.workers.length := lt_of_path_ne_nil s w hne
  rcases cont_cases_of_iterL hc hi with ⟨hlen, hi⟩ | ⟨_, hi⟩
  · have hnp := pendB_false_of_len g s w (by omega)
    obtain ⟨k, hl2, hpsi, hout⟩ := lazy_of_iter g d hr hsym hz w P s h hnp hc hi
    exact ⟨mu_step g d hr w P s s _ rfl rfl (Nat.le_refl _) (fun hb => by rw [hnp] at hb; cases hb)
      (nU_congr g s _ k.hidden k.incompatible) hl2.walk hpsi (fun _ h2 => by omega) hout, hl2⟩
  · obtain ⟨l1, q1, q2, q3, q4⟩ := linv_prepare g d hz w P s h hw hne
    obtain ⟨p1, _, _, p4, _⟩ := prepare_spec g s w
    obtain ⟨k, hl2, hpsi, hout⟩ := lazy_of_iter g d hr hsym hz w P (prepare g s w) l1 q1 hc hi
    exact ⟨mu_step g d hr w P s (prepare g s w) _ (p4 w).1 p1 q2 q3
      (nU_congr g (prepare g s w) _ k.hidden k.incompatible) hl2.walk hpsi (fun hfl _ => q4 hfl) hout, hl2⟩

/-- **one `.cont` iteration on a lazily expanded graph** lowers the measure `mu` and keeps the invariant -/
theorem iterL_lazy (g : Graph) (d : Nat → Nat) (hr : Ranked g d) (hsym : EdgeSym g) (hz : LazyOK g) (w P : Nat)
    (s : State) (h : LInv g d w P s) (hc : (iterL g s w).2.2 = .cont) :
    mu g (iterL g s w).1 w P < mu g s w P ∧ LInv g d w P (iterL g s w).1 :=
  lazy_of_iterL g d hr hsym hz w P s h hc (iterL_iterL ..)

/-! ### the loop on lazily expanded graphs -/

/-- the invariant and the measure read the registers, the size of the node table, what is parsed and the own path only -/
theorem linv_congr {g : Graph} {d : Nat → Nat} {w P : Nat} {s s' : State} (h : LInv g d w P s)
    (hn : s'.nodes.length = s.nodes.length) (hr : s'.regs = s.regs) (hh : s'.hidden = s.hidden)
    (hi : s'.incompatible = s.incompatible) (hp : (s'.wd w).path = (s.wd w).path) :
    LInv g d w P s' ∧ mu g s' w P = mu g s w P := by
  have htop : top s' w = top s w := by unfold top; rw [hp]
  have hun : ∀ f, unexpl g s' f = unexpl g s f := unexpl_congr g s s' hh hi
  have hnU : nU g s' = nU g s := nU_congr g s s' hh hi
  have hpk : ∀ c, picks s' c = picks s c := picks_of_regs s s' hr
  refine ⟨⟨hn.trans h.nodesLen, fun n hn' => by rw [hr]; exact h.cls n hn', by rw [hp]; exact h.walk,
    by rw [hp]; exact h.head, by rw [hh]; exact h.vroot, fun f hf => by rw [hh]; exact h.vflat f hf,
    fun f hf => by rw [hh]; exact h.vedge f hf, ?_, ?_⟩, ?_⟩
  · intro f hfN hfu
    rw [dropped_of_regs s s' hr]; exact h.avail f hfN (by rw [← hun]; exact hfu)
  · intro f hfN hfu
    rw [hpk, hp, htop]; exact h.low f hfN (by rw [← hun]; exact hfu)
  · have hpend : pend g s' w = pend g s w := by unfold pend pendB; rw [hp, htop, hun]
    have hchi : chi g s' w = chi g s w := by unfold chi; rw [hnU, hp]
    unfold mu
    rw [hnU, hpend, psi_congr g s s' P hpk, hchi, phi_congr g s s' w hr hp]

theorem runLoopO_lazy (g : Graph) (d : Nat → Nat) (hr : Ranked g d) (hsym : EdgeSym g) (hz : LazyOK g) (w P : Nat)
    (fuel : Nat) (s : State) (evs : List Event) (h : LInv g d w P s) (hf : mu g s w P < fuel) :
    (runLoopO g w fuel s evs).isSome = true :=
  runLoopO_isSome_of g w (LInv g d w P) (mu g · w P) (fun s h => linv_congr h rfl rfl rfl rfl (path_setPc s w .loop w))
    (fun s h hc => iterL_lazy g d hr hsym hz w P s h hc) fuel s evs h hf

/-- explicit bound for a level `P` of the pick counters -/
def lazyBound (g : Graph) (P : Nat) : Nat :=
  ((2 * g.nodes.length * ((rootKids g).length * P + 1) + (rootKids g).length * P) * 2 + 2) * bound g

/-- the largest value of the four-component measure -/
theorem lex4_bound (Q B A Amax p pmax c f : Nat) (hA : A ≤ Amax) (hp : p ≤ pmax) (hc : c < 2) (hf : f < B) :
    ((A * Q + p) * 2 + c) * B + f < ((Amax * Q + pmax) * 2 + 2) * B := by
  have hX : (A * Q + p) * 2 + c + 1 ≤ (Amax * Q + pmax) * 2 + 2 := by
    have := Nat.mul_le_mul_right Q hA
    omega
  refine Nat.lt_of_lt_of_le ?_ (Nat.mul_le_mul_right B hX)
  rw [Nat.add_mul _ 1, Nat.one_mul]
  exact Nat.add_lt_add_left hf _

theorem mu_lt_lazyBound (g : Graph) (d : Nat → Nat) (hr : Ranked g d) (w P : Nat) (s : State)
    (hwalk : Walk g d (s.wd w).path) : mu g s w P < lazyBound g P :=
  lex4_bound _ _ _ _ _ _ _ _ (Nat.le_trans (Nat.sub_le _ _) (Nat.mul_le_mul_left 2 (nU_le g s))) (psi_le g s P)
    (chi_le g s w) (phi_lt_bound g d hr s w hwalk)

/-- a level above all pick counters -/
def pickLevel (g : Graph) (s : State) : Nat := 1 + ((List.range g.nodes.length).map (fun f => picks s (g.node f).cls)).sum

/-- the state hypotheses for lazily expanded graphs (everything in `LInv` but the level, which can always be chosen) -/
structure LState (g : Graph) (d : Nat → Nat) (w : Nat) (s : State) : Prop where
  nodesLen : s.nodes.length = g.nodes.length
  cls : ClsOK g s
  walk : Walk g d (s.wd w).path
  head : (s.wd w).path.head? = some g.root
  vroot : s.hidden.contains g.root = false
  vflat : ∀ f, (g.node f).flat = true → s.hidden.contains f = false
  vedge : ∀ f, (g.node f).flat = true → s.hidden.contains (edgeCode g g.root f) = false
  avail : ∀ f, f < g.nodes.length → unexpl g s f = true →
    dropped s w (false, (g.node g.root).cls, (g.node f).cls) = false

theorem LState.linv {g : Graph} {d : Nat → Nat} {w : Nat} {s : State} (h : LState g d w s) :
    LInv g d w (pickLevel g s) s :=
  ⟨h.nodesLen, h.cls, h.walk, h.head, h.vroot, h.vflat, h.vedge, h.avail, fun f hfN _ => Or.inl (by
    unfold pickLevel
    have := le_sum_of_mem (List.range g.nodes.length) (fun f => picks s (g.node f).cls) f (List.mem_range.mpr hfN)
    omega)⟩

/-- **Termination between two suspension points on lazily expanded graphs** (no `Explored` hypothesis): the loop ends
by itself within `lazyBound g (pickLevel g s)` iterations -/
theorem runLoop_terminates_lazy (g : Graph) (d : Nat → Nat) (hr : Ranked g d) (hsym : EdgeSym g) (hz : LazyOK g) (w : Nat)
    (s : State) (evs : List Event) (h : LState g d w s) (fuel : Nat) (hf : lazyBound g (pickLevel g s) ≤ fuel) :
    ∃ r, runLoopO g w (lazyBound g (pickLevel g s)) s evs = some r ∧ runLoop g w fuel s evs = r := by
  have hs := runLoopO_lazy g d hr hsym hz w (pickLevel g s) (lazyBound g (pickLevel g s)) s evs h.linv
    (mu_lt_lazyBound g d hr w _ s h.walk)
  obtain ⟨r, hr'⟩ := Option.isSome_iff_exists.mp hs
  exact ⟨r, hr', runLoop_of_runLoopO g w _ s evs r hr' fuel hf⟩

theorem lstate_init (g : Graph) (d : Nat → Nat) (ncls : Nat) (store : List (String × List (String × String)))
    (hidden : List Nat) (hcls : ∀ n, n < g.nodes.length → (g.node n).cls < ncls)
    (hroot : hidden.contains g.root = false) (hflat : ∀ f, (g.node f).flat = true → hidden.contains f = false)
    (hedge : ∀ f, (g.node f).flat = true → hidden.contains (edgeCode g g.root f) = false)
    (w : Nat) (hw : w < g.workers.length) : LState g d w (initState g ncls store hidden) := by
  have hwd : (initState g ncls store hidden).wd w = { path := [g.root] } := wd_init g ncls store hidden w hw
  refine ⟨by simp [initState], clsOK_init g ncls store hidden hcls, by rw [hwd]; exact walk_root g d g.root,
    by rw [hwd]; rfl, hroot, hflat, hedge, fun f _ _ => dropped_init g ncls store hidden w _⟩



def lazyOKB (g : Graph) : Bool :=
  (List.range g.nodes.length).all (fun f =>
    (!(g.node f).flat || (g.node f).cleanup.all (fun e => strIn (g.node f).setless (g.nodeId e.1))) &&
    (!((g.node f).flat && !(g.node f).sharedRoot) || (rootKids g).contains f) &&
    (!(g.node f).flat || (List.range g.nodes.length).all (fun m => !((g.node m).cls == (g.node f).cls) || m == f)))

theorem node_flat_of_ge (g : Graph) (f : Nat) (h : ¬ f < g.nodes.length) : (g.node f).flat = false := by
  unfold Graph.node
  rw [List.getD_eq_getElem?_getD, List.getElem?_eq_none (by omega)]
  rfl

theorem lazyOKB_sound {g : Graph} (h : lazyOKB g = true) : LazyOK g := by
  unfold lazyOKB at h
  rw [List.all_eq_true] at h
  -- the three clauses of the check, for a flat node in range
  have key : ∀ f, f < g.nodes.length → (g.node f).flat = true →
      (∀ e ∈ (g.node f).cleanup, strIn (g.node f).setless (g.nodeId e.1) = true) ∧
      ((g.node f).sharedRoot = false → f ∈ rootKids g) ∧
      ∀ m, m < g.nodes.length → (g.node m).cls = (g.node f).cls → m = f := by
    intro f hfN hf
    have h1 := h f (List.mem_range.mpr hfN)
    simp only [hf, Bool.not_true, Bool.false_or, Bool.true_and, Bool.and_eq_true, Bool.or_eq_true, Bool.not_eq_true',
      List.all_eq_true, List.contains_iff_mem, List.mem_range, beq_eq_false_iff_ne, beq_iff_eq] at h1
    exact ⟨h1.1.1, fun hsr => h1.1.2.resolve_left (by rw [hsr]; simp),
      fun m hm hc => (h1.2 m hm).resolve_left (fun hne => hne hc)⟩
  refine ⟨fun f c hf hc => ?_, fun f hfN hf hsr => (key f hfN hf).2.1 hsr, fun f m hfN hmN hf => (key f hfN hf).2.2 m hmN⟩
  have hfN : f < g.nodes.length := by
    by_cases hx : f < g.nodes.length
    · exact hx
    · rw [node_flat_of_ge g f hx] at hf; cases hf
  obtain ⟨e, he, hec⟩ := List.mem_map.mp hc
  rw [← hec]
  exact (key f hfN hf).1 e he

theorem picks_init (g : Graph) (ncls : Nat) (store : List (String × List (String × String))) (hidden : List Nat) (c : Nat) :
    picks (initState g ncls store hidden) c = 0 := by
  unfold picks State.cr initState
  simp only [List.getD_eq_getElem?_getD, List.getElem?_map]
  cases (List.range ncls)[c]? <;> rfl

theorem pickLevel_init (g : Graph) (ncls : Nat) (store : List (String × List (String × String))) (hidden : List Nat) :
    pickLevel g (initState g ncls store hidden) = 1 := by
  unfold pickLevel
  simp only [picks_init, List.map_const', List.sum_replicate_nat, Nat.mul_zero]



/-- the paths after each of the first `k` `.cont` iterations (for the examples) -/
def tracePaths (g : Graph) (w : Nat) : Nat → State → List (List Nat)
  | 0, _ => []
  | k + 1, s =>
    match iterL g (s.setWd w (fun d => { d with pc := .loop })) w with
    | (s1, _, .cont) => (s1.wd w).path :: tracePaths g w k s1
    | _ => []


/-! ## lazily expanded graphs: the state hypotheses hold in every reachable state -/

/-- worker `w` has not dropped an unexplored flat node from the root -/
def AvW (g : Graph) (w : Nat) (s : State) : Prop :=
  ∀ f, f < g.nodes.length → unexpl g s f = true → dropped s w (false, (g.node g.root).cls, (g.node f).cls) = false

/-- a piece of a step of `w` keeps `AvW` for `u` unless `u = w` and a new drop is the key of a flat node that is
unexplored afterwards -/
theorem AvW.loc {g : Graph} {u w : Nat} {D : Key → Prop} {s s' : State} (hav : AvW g u s) (a : Loc w D s s')
    (hD : ∀ f, f < g.nodes.length → unexpl g s' f = true → u = w → ¬ D (false, (g.node g.root).cls, (g.node f).cls)) :
    AvW g u s' := by
  intro f hfN hfu
  cases hd : dropped s' u (false, (g.node g.root).cls, (g.node f).cls)
  · rfl
  · rcases a.drops u _ hd with h1 | ⟨h1, h2⟩
    · rw [hav f hfN (unexpl_mono g s s' a.hiddenSub a.incSub f hfu)] at h1; cases h1
    · exact absurd h2 (hD f hfN hfu h1)

/-- the new drops of `w` concern the class of a node that is not an unexplored flat node afterwards -/
theorem avW_of_loc {g : Graph} (hz : LazyOK g) {w : Nat} {s s' : State} (n : Nat) (hn : n < g.nodes.length)
    (a : Loc w (fun k => k.2.2 = (g.node n).cls) s s') (hav : AvW g w s) (hnot : unexpl g s' n = false) : AvW g w s' :=
  hav.loc a (fun f hfN hfu _ h1 => by
    rw [← hz.clsUniq f n hfN hn (unexpl_flat g s' f hfu).1 (Eq.symm h1), hnot] at hfu
    cases hfu)

theorem avW_of_same {g : Graph} {w : Nat} {s s' : State} (hh : ∀ x, x ∈ s'.hidden → x ∈ s.hidden)
    (hi : ∀ x, x ∈ s.incompatible → x ∈ s'.incompatible) (hd : ∀ k, dropped s' w k = dropped s w k)
    (hav : AvW g w s) : AvW g w s' := by
  intro f hfN hfu
  rw [hd]
  exact hav f hfN (unexpl_mono g s s' hh hi f hfu)

theorem avW_of_noDrops {g : Graph} {w : Nat} {s s' : State} (a : Loc w (fun _ => False) s s') (hav : AvW g w s) : AvW g w s' :=
  hav.loc a (fun _ _ _ _ h => h)

theorem av_of_iterL (g : Graph) (d : Nat → Nat) (hr : Ranked g d) (hsym : EdgeSym g) (hz : LazyOK g) (s : State) (w : Nat)
    (hwalk : Walk g d (s.wd w).path) (hpc : (s.wd w).pc = .loop) (hhid : HidOK g s) (hav : AvW g w s) {r : Step}
    (h : IterL g w s r) : AvW g w r.1 := by
  obtain ⟨s1, hp, hi⟩ := h
  cases hp with
  | stay hcond =>
    -- the root is ready or the path has at most one entry: no node is entered, nothing is dropped
    refine avW_of_noDrops (any_of_iter (D := fun _ => False) g d hr hsym s w hwalk hpc (fun next hl h2 hroot => ?_) hi).loc hav
    rw [vis_root] at hroot
    rcases hcond with h | h
    · rw [h] at hroot; cases hroot
    · omega
  | expand _ hlen2 =>
    have hne : (s.wd w).path ≠ [] := by intro h0; rw [h0] at hlen2; simp at hlen2
    have hl := last_of_top s w hne
    have htN : top s w < g.nodes.length := walk_top_lt g d _ _ hwalk hl hlen2
    obtain ⟨p1, _, _, p4, _, p6, p7, p8⟩ := prepare_lazy g hz.kids s w (lt_of_path_ne_nil s w hne) hne
    -- after the expansion step the last node of the path is not unexplored
    have hnot1 : unexpl g (prepare g s w) (top s w) = false := by
      cases hu : unexpl g (prepare g s w) (top s w)
      · rfl
      · have hu0 := unexpl_mono g s _ p6 p7 _ hu
        rw [p8 (top s w) hl htN hu0 (hhid.2.1 _ (unexpl_flat g s _ hu0).1)] at hu
        cases hu
    have hav1 : AvW g w (prepare g s w) := avW_of_same p6 p7 (fun k => dropped_of_regs s _ p1 w k) hav
    obtain ⟨_, pb, pc⟩ := prepare_loc (D := DT) g s w
    have a := (any_of_iter (D := fun k => k.2.2 = (g.node (top s w)).cls) g d hr hsym (prepare g s w) w
      (by rw [pb]; exact hwalk) (by rw [pc]; exact hpc)
      (fun next hln _ _ k hk => by
        rw [pb, hl] at hln
        cases hln
        exact hk) hi).loc
    refine avW_of_loc hz (top s w) htN a hav1 ?_
    cases hu : unexpl g r.1 (top s w)
    · rfl
    · rw [unexpl_mono g _ _ a.hiddenSub a.incSub _ hu] at hnot1; cases hnot1

theorem avW_setWd {g : Graph} {w : Nat} {s : State} (f : WorkerD → WorkerD) (hav : AvW g w s) : AvW g w (s.setWd w f) :=
  avW_of_same (fun _ h => h) (fun _ h => h) (fun k => dropped_setWd s w f w k) hav

theorem av_of_ran (g : Graph) (d : Nat → Nat) (hr : Ranked g d) (hsym : EdgeSym g) (hz : LazyOK g) (w : Nat) (fuel : Nat)
    (s : State) (evs : List Event) (hwalk : Walk g d (s.wd w).path) (hhid : HidOK g s) (hav : AvW g w s)
    {r : State × List Event} (h : Ran g w fuel s evs r) : AvW g w r.1 := by
  refine inv_of_ran g w (fun s' => Walk g d (s'.wd w).path ∧ HidOK g s' ∧ AvW g w s') (AvW g w) ?_
    (fun s' h => avW_setWd _ h) ⟨hwalk, hhid, hav⟩ (fun _ => hav) h
  intro s' s1 e f ⟨hw', hh', ha'⟩ hi
  have hw0 : Walk g d ((s'.setWd w (fun d => { d with pc := .loop })).wd w).path := by rw [path_setPc]; exact hw'
  obtain ⟨a, h2, _⟩ := any_of_iterL (D := DT) g d hr hsym _ w hw0 (pc_setLoop s' w) (fun _ _ _ _ => trivial) hi
  have h1 := av_of_iterL g d hr hsym hz _ w hw0 (pc_setLoop s' w) hh' (avW_setWd _ ha') hi
  exact ⟨h1, fun _ => ⟨h2, HidOK.mono hh' a.hiddenSub, h1⟩⟩

theorem unexpl_of_not_flat (g : Graph) (s : State) (n : Nat) (h : (g.node n).flat = false) : unexpl g s n = false := by
  unfold unexpl; rw [h]; rfl

/-- the invariant of lazily expanded graphs -/
structure ZInv (g : Graph) (d : Nat → Nat) (s : State) : Prop where
  tinv : TInv g d s
  hid : HidOK g s
  av : ∀ u, AvW g u s

theorem av_of_resumed (g : Graph) (d : Nat → Nat) (hr : Ranked g d) (hsym : EdgeSym g) (hz : LazyOK g) (s : State) (w : Nat)
    (out : Outcome) (fuel : Nat) (hp : PInv g s) (h : ZInv g d s) {r : State × List Event}
    (hres : Resumed g w out fuel s r) : AvW g w r.1 := by
  -- the traversal of the node of the finished test ends: the state the loop goes on from
  have back : ∀ {n ph dir uid tag wait sc ok r'}, (s.wd w).pc = .test n ph dir uid tag wait →
      Ended g w n ph uid tag wait out s sc ok →
      After (vis g (finishTraverse (accounted sc w n ph) n w)) w n ((sc.wd w).path.getD ((sc.wd w).path.length - 2) 0)
        dir (finishTraverse (accounted sc w n ph) n w) r' →
      Walk g d (r'.1.wd w).path ∧ HidOK g r'.1 ∧ AvW g w r'.1 := by
    intro n ph dir uid tag wait sc ok r' hpc hs ha
    obtain ⟨hA, hlen, hnf⟩ := atTest_of_test hp h.tinv hpc
    obtain ⟨h1, h2⟩ := afterFinish_of_after (D := fun k => k.2.2 = (g.node n).cls) g d hr hsym hA (fun _ hk => hk) hs ha
    exact ⟨h2, HidOK.mono h.hid h1.hiddenSub,
      avW_of_loc hz n (walk_top_lt g d _ n hA.walk hA.last hlen) h1 (h.av w) (unexpl_of_not_flat g r'.1 n hnf)⟩
  cases hres with
  | over => exact h.av w
  | loop r _ hr' => exact av_of_ran g d hr hsym hz w fuel s [] (h.tinv.walk w) h.hid (h.av w) hr'
  | wait n ph dir uid tag wait =>
    exact avW_setWd _ (avW_of_noDrops (reportOutcome_lw (D := fun _ => False) g s w n ph uid wait out).toLoc (h.av w))
  | created n dir uid tag wait sc hpc hs =>
    obtain ⟨a, _⟩ := loc_of_ended (D := fun _ => False) hs
    obtain ⟨h1, _, _⟩ := startTest_own (D := fun _ => False) g sc n w .main dir
      (by rw [a.workersLen]; exact (atTest_of_test hp h.tinv hpc).1.lt)
    exact avW_of_noDrops h1 (avW_of_noDrops a (h.av w))
  | stuck n ph dir uid tag wait sc ok s1 e what hpc hs _ ha => exact avW_setWd _ (back hpc hs ha).2.2
  | back n ph dir uid tag wait sc ok s1 e f r hpc hs _ ha _ hr' =>
    obtain ⟨h1, h2, h3⟩ := back hpc hs ha
    exact av_of_ran g d hr hsym hz w fuel s1 _ h1 h2 h3 hr'

theorem resume_zinv (g : Graph) (d : Nat → Nat) (hr : Ranked g d) (hsym : EdgeSym g) (hz : LazyOK g) (s : State) (w : Nat)
    (out : Outcome) (fuel : Nat) (hf : 0 < fuel) (hw : w < g.workers.length) (hp : PInv g s) (h : ZInv g d s) :
    ZInv g d (resume g s w out fuel).1 := by
  have a := resume_loc g d hr hsym s w out fuel hf hw hp h.tinv
  refine ⟨resume_tinv g d hr hsym s w out fuel hf hw hp h.tinv, HidOK.mono h.hid a.hiddenSub, fun u => ?_⟩
  by_cases hu : u = w
  · subst hu
    exact av_of_resumed g d hr hsym hz s u out fuel hp h (resume_resumed ..)
  · exact (h.av u).loc a (fun _ _ _ e _ => hu e)

/-- the states reachable from the initial state with the given set of hidden nodes -/
inductive ReachableL (g : Graph) (ncls : Nat) (store : List (String × List (String × String))) (hidden : List Nat) : State → Prop
  | init : ReachableL g ncls store hidden (initState g ncls store hidden)
  | step (s : State) (w : Nat) (out : Outcome) (fuel : Nat) :
      ReachableL g ncls store hidden s → w < g.workers.length → 0 < fuel →
      ReachableL g ncls store hidden (resume g s w out fuel).1

theorem ReachableL.reachableF {g : Graph} {ncls : Nat} {store : List (String × List (String × String))} {hidden : List Nat}
    {s : State} (h : ReachableL g ncls store hidden s) : ReachableF g ncls store s := by
  induction h with
  | init => exact .init hidden
  | step s w out fuel _ hw hf ih => exact .step s w out fuel ih hw hf

theorem reachable_zinv {g : Graph} {d : Nat → Nat} (hr : Ranked g d) (hsym : EdgeSym g) (hz : LazyOK g) {ncls : Nat}
    {store : List (String × List (String × String))} {hidden : List Nat}
    (hcls : ∀ n, n < g.nodes.length → (g.node n).cls < ncls) (hh : HidOK g (initState g ncls store hidden))
    {s : State} (h : ReachableL g ncls store hidden s) : ZInv g d s := by
  induction h with
  | init => exact ⟨tinv_init g d ncls store hidden hcls, hh, fun u f _ _ => dropped_init g ncls store hidden u _⟩
  | step s w out fuel hs hw hf ih =>
    exact resume_zinv g d hr hsym hz s w out fuel hf hw (hs.reachableF.pinv hsym) ih

/-- in every reachable state of a lazily expanded graph the state hypotheses of `runLoop_terminates_lazy` hold for
every worker that has not left the loop -/
theorem reachable_lstate {g : Graph} {d : Nat → Nat} (hr : Ranked g d) (hsym : EdgeSym g) (hz : LazyOK g) {ncls : Nat}
    {store : List (String × List (String × String))} {hidden : List Nat}
    (hcls : ∀ n, n < g.nodes.length → (g.node n).cls < ncls)
    (hroot : hidden.contains g.root = false) (hflat : ∀ f, (g.node f).flat = true → hidden.contains f = false)
    (hedge : ∀ f, (g.node f).flat = true → hidden.contains (edgeCode g g.root f) = false)
    {s : State} (h : ReachableL g ncls store hidden s) (w : Nat) (hw : w < g.workers.length)
    (hnd : (s.wd w).pc ≠ .done) : LState g d w s := by
  have hzi := reachable_zinv (d := d) hr hsym hz hcls ⟨hroot, hflat, hedge⟩ h
  have hp := h.reachableF.pinv hsym
  have hhead : (s.wd w).path.head? = some g.root := by
    rcases hp.path w (by rw [hp.wlen]; exact hw) with h1 | h1
    · exact absurd h1.2 hnd
    · exact h1.head
  exact ⟨hzi.tinv.nodesLen, hzi.tinv.cls, hzi.tinv.walk w, hhead, hzi.hid.1, hzi.hid.2.1, hzi.hid.2.2, hzi.av w⟩


end I2N.Trav.Term
