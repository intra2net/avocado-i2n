import I2N.Model.Tunnel
/-! Helper lemmas for C19: dictionaries, sequences of assignments, `object_params`, and the shape of the
results of the parts of `VMTunnel.__init__`. -/
namespace I2N.Tunnel

theorem bind_ok {α β : Type} (e : Except Err α) (f : α → Except Err β) (b : β) :
    (e >>= f) = .ok b ↔ ∃ a, e = .ok a ∧ f a = .ok b := by
  cases e with
  | error e => simp [bind, Except.bind]
  | ok a => simp [bind, Except.bind]

theorem bind_error {α β : Type} (e : Except Err α) (f : α → Except Err β) (x : Err) (h : e = .error x) :
    (e >>= f) = .error x := by
  subst h; rfl

theorem bind_ok' {α β : Type} (e : Except Err α) (f : α → Except Err β) (a : α) (h : e = .ok a) :
    (e >>= f) = f a := by
  subst h; rfl

theorem pure_ok {α : Type} (a b : α) : (pure a : Except Err α) = .ok b ↔ a = b := by
  simp [pure, Except.pure]

theorem throw_ne_ok {α : Type} (e : Err) (b : α) : (throw e : Except Err α) = .ok b ↔ False := by
  simp [throw, throwThe, MonadExceptOf.throw]

theorem SDict.get?_set (d : SDict) (k v k' : String) :
    (d.set k v).get? k' = if k = k' then some v else d.get? k' := by
  induction d with
  | nil => simp [SDict.set, SDict.get?]
  | cons p r ih =>
    obtain ⟨a, b⟩ := p
    by_cases h : a = k
    · subst h
      by_cases h2 : a = k' <;> simp [SDict.set, SDict.get?, h2]
    · simp only [SDict.set, h, if_false, SDict.get?, ih]
      by_cases h2 : a = k'
      · subst h2; simp [Ne.symm h]
      · simp [h2]

theorem SDict.getItem_ok (d : SDict) (k v : String) : d.getItem k = .ok v ↔ d.get? k = some v := by
  unfold SDict.getItem; cases d.get? k <;> simp

theorem Dict.get?_set (d : Dict) (k : Key) (v : String) (k' : Key) :
    (d.set k v).get? k' = if k = k' then some v else d.get? k' := by
  induction d with
  | nil => simp [Dict.set, Dict.get?]
  | cons p r ih =>
    obtain ⟨a, b⟩ := p
    by_cases h : a = k
    · subst h
      by_cases h2 : a = k' <;> simp [Dict.set, Dict.get?, h2]
    · simp only [Dict.set, h, if_false, Dict.get?, ih]
      by_cases h2 : a = k'
      · subst h2; simp [Ne.symm h]
      · simp [h2]

theorem Dict.get?_eq_none (d : Dict) (k : Key) : d.get? k = none ↔ ∀ p ∈ d, p.1 ≠ k := by
  fun_induction Dict.get? d k with
  | case1 => simp
  | case2 v r => simp
  | case3 k' v r h ih => rw [ih, List.forall_mem_cons]; exact (and_iff_right h).symm

theorem Dict.mem_of_get?_some (d : Dict) (k : Key) (v : String) (h : d.get? k = some v) :
    ∃ p ∈ d, p.1 = k :=
  Decidable.byContradiction fun hn => by
    rw [(Dict.get?_eq_none d k).2 fun p hp he => hn ⟨p, hp, he⟩] at h
    cases h

theorem Dict.getItem_ok (d : Dict) (k : Key) (v : String) : d.getItem k = .ok v ↔ d.get? k = some v := by
  unfold Dict.getItem; cases d.get? k <;> simp

/-- the value of the last assignment to `k` in a sequence of assignments -/
def lastVal : Assignments → Key → Option String
  | [], _ => none
  | (k', v) :: r, k => (lastVal r k).or (if k' = k then some v else none)

theorem lastVal_append (a b : Assignments) (k : Key) :
    lastVal (a ++ b) k = (lastVal b k).or (lastVal a k) := by
  induction a with
  | nil => simp [lastVal]
  | cons p r ih => obtain ⟨k', v⟩ := p; simp [lastVal, ih, Option.or_assoc]

theorem lastVal_eq_none (a : Assignments) (k : Key) : lastVal a k = none ↔ ∀ p ∈ a, p.1 ≠ k := by
  fun_induction lastVal a k with
  | case1 => simp
  | case2 k' v r k ih =>
    rw [Option.or_eq_none_iff, ih, List.forall_mem_cons, and_comm]
    simp
theorem get?_assign (d : Dict) (l : Assignments) (k : Key) :
    (assign d l).get? k = (lastVal l k).or (d.get? k) := by
  induction l generalizing d with
  | nil => simp [assign, lastVal]
  | cons p r ih =>
    obtain ⟨k', v⟩ := p
    have : assign d ((k', v) :: r) = assign (d.set k' v) r := rfl
    rw [this, ih, Dict.get?_set, lastVal]
    by_cases h : k' = k <;> simp [h]

theorem get?_assign_nil (l : Assignments) (k : Key) : (assign [] l).get? k = lastVal l k := by
  rw [get?_assign]; simp [Dict.get?]

theorem get?_update_of_not_mem (d e : Dict) (k : Key) (h : ∀ p ∈ e, p.1 ≠ k) :
    (d.update e).get? k = d.get? k := by
  unfold Dict.update
  rw [get?_assign, (lastVal_eq_none e k).2 h]; rfl

theorem dropLast_append_of_getLast? : ∀ (l : List String) (a : String), l.getLast? = some a → l.dropLast ++ [a] = l
  | [], a, h => by simp at h
  | [x], a, h => by simp at h; simp [h]
  | x :: y :: r, a, h => by
    have := dropLast_append_of_getLast? (y :: r) a (by simpa [List.getLast?_cons_cons] using h)
    simp only [List.dropLast_cons_cons, List.cons_append, this]

theorem Key.eq_of_endsWith_dropLast {k : Key} {obj : String} {t : Key}
    (h : k.endsWith obj = true) (hd : k.dropLast = t) : k = ⟨t.stem, t.quals ++ [obj]⟩ := by
  obtain ⟨s, q⟩ := k
  subst hd
  simp only [Key.endsWith, beq_iff_eq] at h
  simp only [Key.dropLast, Key.mk.injEq, true_and]
  exact (dropLast_append_of_getLast? q obj h).symm

/-- keys that nothing is copied onto keep their value -/
theorem foldl_objStep_frame (obj : String) (t : Key) (l : List (Key × String)) (acc : Dict)
    (h : ∀ p ∈ l, p.1.endsWith obj = true → p.1.dropLast ≠ t) :
    (l.foldl (objStep obj) acc).get? t = acc.get? t := by
  induction l generalizing acc with
  | nil => rfl
  | cons p r ih =>
    rw [List.foldl_cons, ih _ (fun q hq => h q (List.mem_cons_of_mem _ hq))]
    unfold objStep
    by_cases he : p.1.endsWith obj = true
    · have := h p (List.mem_cons_self ..) he
      simp [he, Dict.get?_set, this]
    · simp [he]

/-- a key whose suffixed variant exists receives the value of the suffixed variant (unless the suffixed
variant is itself overwritten from a doubly suffixed one) -/
theorem foldl_objStep_hit (obj : String) (t : Key) (v : String) (l : List (Key × String)) (acc : Dict)
    (hsrc : acc.get? ⟨t.stem, t.quals ++ [obj]⟩ = some v)
    (h2 : ∀ p ∈ l, p.1 ≠ ⟨t.stem, t.quals ++ [obj, obj]⟩)
    (h : acc.get? t = some v ∨ ∃ p ∈ l, p.1 = ⟨t.stem, t.quals ++ [obj]⟩) :
    (l.foldl (objStep obj) acc).get? t = some v := by
  induction l generalizing acc with
  | nil => simpa using h
  | cons p r ih =>
    rw [List.foldl_cons]
    have h2r : ∀ q ∈ r, q.1 ≠ ⟨t.stem, t.quals ++ [obj, obj]⟩ := fun q hq => h2 q (List.mem_cons_of_mem _ hq)
    by_cases he : p.1.endsWith obj = true
    · -- the step writes `p.1.dropLast`
      have hstep : objStep obj acc p = acc.set p.1.dropLast ((acc.get? p.1).getD p.2) := by
        simp [objStep, he]
      have hne : p.1.dropLast ≠ ⟨t.stem, t.quals ++ [obj]⟩ := by
        intro hd
        have := Key.eq_of_endsWith_dropLast he hd
        simp only [List.append_assoc, List.cons_append, List.nil_append] at this
        exact h2 p (List.mem_cons_self ..) this
      have hsrc' : (objStep obj acc p).get? ⟨t.stem, t.quals ++ [obj]⟩ = some v := by
        rw [hstep, Dict.get?_set]; simp [hne, hsrc]
      apply ih _ hsrc' h2r
      by_cases hd : p.1.dropLast = t
      · left
        have hp := Key.eq_of_endsWith_dropLast he hd
        rw [hstep, Dict.get?_set, hd]; simp [hp, hsrc]
      · rcases h with h | ⟨q, hq, hqe⟩
        · left; rw [hstep, Dict.get?_set]; simp [hd, h]
        · rcases List.mem_cons.1 hq with rfl | hq
          · exfalso; apply hd; rw [hqe]; simp [Key.dropLast]
          · right; exact ⟨q, hq, hqe⟩
    · have hstep : objStep obj acc p = acc := by simp [objStep, he]
      rw [hstep]
      apply ih _ hsrc h2r
      rcases h with h | ⟨q, hq, hqe⟩
      · left; exact h
      · rcases List.mem_cons.1 hq with rfl | hq
        · exfalso; apply he; rw [hqe]; simp [Key.endsWith]
        · right; exact ⟨q, hq, hqe⟩

/-- `object_params(obj)[t]`: the value of `t_obj` when there is one, else the value of `t` -/
theorem objectParams_get? (d : Dict) (obj : String) (t : Key)
    (h2 : d.get? ⟨t.stem, t.quals ++ [obj, obj]⟩ = none) :
    (objectParams d obj).get? t = (d.get? ⟨t.stem, t.quals ++ [obj]⟩).or (d.get? t) := by
  unfold objectParams
  have h2' := (Dict.get?_eq_none d _).1 h2
  cases hs : d.get? ⟨t.stem, t.quals ++ [obj]⟩ with
  | some v =>
    rw [foldl_objStep_hit obj t v d d hs h2']
    · rfl
    · right
      exact Dict.mem_of_get?_some d _ v hs
  | none =>
    have hs' := (Dict.get?_eq_none d _).1 hs
    rw [foldl_objStep_frame obj t d d]
    · rfl
    · intro p hp he hd
      exact hs' p hp (Key.eq_of_endsWith_dropLast he hd)

end I2N.Tunnel
