import I2N.Lemmas.TravReady
/-!
The "dropped means done" invariant of the traversal model behind the run-level statement of C05
(`Props/C05.lean: unset_after_dependants`): on a pre-parsed graph, a node a worker has dropped as a cleanup child
is never on that worker's path again, hence never executed by it again; so at the moment a state is removed no
execution of a dependant is in flight on any worker the clean decision waited for.

The moves of a step (`TravMoves.lean`) are gone through once with a frame relation (`Fr`: what a piece of a step of
worker `w` may do to the `droppedCleanup` registers and to the other workers; operations that touch none of it are
`Passive` as in `TravReady.lean`) and two predicates on the acting worker (`Loc`: robust, `Walk`: the shape of the path,
valid unless the worker died with an exception).

Everything lives in the namespace `I2N.Trav.Clean` (no clash with the other lemma families).
-/
namespace I2N.Trav.Clean
open I2N.Trav

/-! ## hypotheses on the static graph (all decidable) -/

/-- the edges are recorded on both ends (`setup_nodes` of the child, `cleanup_nodes` of the parent) -/
def EdgeSym (g : Graph) : Prop :=
  ∀ a, a < g.nodes.length → ∀ b, b < g.nodes.length →
    (a ∈ (g.node b).setup.map (·.1) ↔ b ∈ (g.node a).cleanup.map (·.1))

instance (g : Graph) : Decidable (EdgeSym g) := by unfold EdgeSym; infer_instance

/-- a class has one flat node or one parsed copy per worker -/
def CopyUniq (g : Graph) : Prop :=
  ∀ x, x < g.nodes.length → ∀ y, y < g.nodes.length → (g.node x).cls = (g.node y).cls →
    ((g.node x).flat = true ∨ (g.node x).owner = (g.node y).owner) → x = y

instance (g : Graph) : Decidable (CopyUniq g) := by unfold CopyUniq; infer_instance

/-- the root is flat and has no parents -/
def RootTop (g : Graph) : Prop := (g.node g.root).flat = true ∧ (g.node g.root).setup = []

instance (g : Graph) : Decidable (RootTop g) := by unfold RootTop; infer_instance

/-- every class has its registers (`ncls` of `initState`) -/
def ClsOk (g : Graph) (ncls : Nat) : Prop := ∀ n, n < g.nodes.length → (g.node n).cls < ncls

instance (g : Graph) (ncls : Nat) : Decidable (ClsOk g ncls) := by unfold ClsOk; infer_instance

/-- a worker cares for at most one node of a class -/
def RelUniq (g : Graph) : Prop :=
  ∀ w x y, x < g.nodes.length → y < g.nodes.length → (g.node x).cls = (g.node y).cls →
    relevant g w x = true → relevant g w y = true → x = y

theorem relUniq_of {g : Graph} (hO : OwnerNames g) (hF : FlatClass g) (hC : CopyUniq g) : RelUniq g := by
  intro w x y hx hy hc rx ry
  have hfl := hF x hx y hy hc
  cases hf : (g.node x).flat with
  | true => exact hC x hx y hy hc (Or.inl hf)
  | false =>
    have hfy : (g.node y).flat = false := by rw [← hfl]; exact hf
    have ox := (hO w x hx hf).mp (relevant_nonflat rx hf)
    have oy := (hO w y hy hfy).mp (relevant_nonflat ry hfy)
    exact hC x hx y hy hc (Or.inr (by rw [ox, oy]))

/-- what the walk assumes of the graph; it follows from the decidable `WellFormed` (`WellFormed.hyp`) -/
structure Hyp (g : Graph) : Prop where
  wf : GraphWF g
  sym : EdgeSym g
  uniq : RelUniq g
  top : RootTop g

/-! ## the registers of a class -/

/-- the registers of every class exist in the state -/
def ClsIn (g : Graph) (s : State) : Prop := ∀ n, n < g.nodes.length → (g.node n).cls < s.regs.length

theorem vis_of_nil (g : Graph) (s : State) (h : s.hidden = []) : vis g s = g := vis_eq_of_hidden_nil h

/-! ## the invariant of one worker: `Loc`, `Walk`, `PcC` -/

/-- worker `w` has dropped class `c` as a cleanup child of some class -/
def Dr (s : State) (w c : Nat) : Prop := ∃ cp, w ∈ regWorkers (s.cr cp).droppedCleanup (some c)

/-- a registered drop is complete: the node of the class the worker cares for has parents, is dropped from all of
them, and is cleanup-ready for the worker -/
def DropOk (g : Graph) (s : State) (w c : Nat) : Prop :=
  ∃ x, x < g.nodes.length ∧ (g.node x).cls = c ∧ relevant g w x = true ∧ (g.node x).setup ≠ [] ∧
    (∀ q ∈ (g.node x).setup, w ∈ regWorkers (s.cr (g.node q.1).cls).droppedCleanup (some c)) ∧
    isCleanupReady g s x w = true

/-- the robust part of the invariant of worker `w` -/
structure Loc (g : Graph) (w : Nat) (s : State) : Prop where
  pathOk : ∀ x ∈ (s.wd w).path, x < g.nodes.length ∧ relevant g w x = true
  drop : ∀ c, Dr s w c → DropOk g s w c

/-- the shape of a path: it goes down from its first node (children picked) and then up (parents picked); the flag
says that it only goes down -/
inductive PShape (g : Graph) : List Nat → Bool → Prop
  | one (r : Nat) : PShape g [r] true
  | down (p : List Nat) (last c : Nat) : PShape g p true → p.getLast? = some last →
      last ∈ (g.node c).setup.map (·.1) → PShape g (p ++ [c]) true
  | up (p : List Nat) (d : Bool) (last c : Nat) : PShape g p d → p.getLast? = some last →
      last ∈ (g.node c).cleanup.map (·.1) → PShape g (p ++ [c]) false

/-- the part of the invariant of worker `w` that holds unless `w` died with an exception: no node on its path is
dropped -/
structure Walk (g : Graph) (w : Nat) (s : State) : Prop where
  sh : (s.wd w).path = [] ∨ ∃ d, PShape g (s.wd w).path d
  a : ∀ x ∈ (s.wd w).path, ¬ Dr s w (g.node x).cls

/-- a worker awaiting a test awaits it on the last node of its path, reached downwards if the direction says so -/
def PcC (g : Graph) (w : Nat) (s : State) : Prop :=
  ∀ n ph dir uid tag wait, (s.wd w).pc = .test n ph dir uid tag wait →
    (s.wd w).path.getLast? = some n ∧ (dir = .down → PShape g (s.wd w).path true)

theorem PShape.ne_nil {g : Graph} {p : List Nat} {d : Bool} (h : PShape g p d) : p ≠ [] := by
  cases h <;> simp

theorem PShape.dropLast {g : Graph} {p : List Nat} {d : Bool} (h : PShape g p d) :
    p.dropLast = [] ∨ ∃ d', PShape g p.dropLast d' := by
  cases h with
  | one r => left; rfl
  | down p last c hp _ _ => right; rw [List.dropLast_concat]; exact ⟨_, hp⟩
  | up p d last c hp _ _ => right; rw [List.dropLast_concat]; exact ⟨_, hp⟩

/-- on a path that only goes down every node but the last is followed by one of its children -/
theorem PShape.succ {g : Graph} {p : List Nat} {d : Bool} (h : PShape g p d) (hd : d = true) :
    ∀ x ∈ p.dropLast, ∃ y ∈ p, x ∈ (g.node y).setup.map (·.1) := by
  induction h with
  | one r => intro x hx; simp at hx
  | down p last c hp hl hs ih =>
    intro x hx
    rw [List.dropLast_concat] at hx
    have hne := hp.ne_nil
    have hsplit : p = p.dropLast ++ [last] := by
      have h2 := List.dropLast_concat_getLast hne
      have hl' := hl
      rw [List.getLast?_eq_some_getLast hne] at hl'
      rw [Option.some.inj hl'] at h2
      exact h2.symm
    rw [hsplit] at hx
    rcases List.mem_append.mp hx with hx | hx
    · obtain ⟨y, hy, hxy⟩ := ih rfl x hx
      exact ⟨y, List.mem_append_left _ hy, hxy⟩
    · rw [List.mem_singleton.mp hx]
      exact ⟨c, List.mem_append_right _ List.mem_cons_self, hs⟩
  | up p d last c _ _ _ _ => cases hd

theorem getD_pred_concat (p : List Nat) (last c : Nat) (hl : p.getLast? = some last) :
    (p ++ [c]).getD ((p ++ [c]).length - 2) 0 = last := by
  have hne : p ≠ [] := by intro h; rw [h] at hl; simp at hl
  have hlen : 0 < p.length := List.length_pos_iff.mpr hne
  rw [List.getD_eq_getElem?_getD]
  simp only [List.length_append, List.length_singleton]
  have h1 : p.length + 1 - 2 = p.length - 1 := by omega
  rw [h1, List.getElem?_append_left (by omega)]
  rw [List.getLast?_eq_getElem?] at hl
  rw [hl]; rfl

/-- a path whose last step is not an upward step only goes down -/
theorem PShape.allDown {g : Graph} {p : List Nat} {d : Bool} (h : PShape g p d) (next : Nat)
    (hn : p.getLast? = some next)
    (hnot : ¬ p.getD (p.length - 2) 0 ∈ (g.node next).cleanup.map (·.1)) : PShape g p true := by
  cases h with
  | one r => exact .one r
  | down p last c hp hl hs => exact .down p last c hp hl hs
  | up p d last c hp hl hs =>
    exfalso
    rw [List.getLast?_concat] at hn
    have hcn : c = next := Option.some.inj hn
    subst hcn
    rw [getD_pred_concat p last c hl] at hnot
    exact hnot hs

/-! ## frame relations: `Quiet`, `Same`, `Fr` -/

/-- nothing the invariant reads changes (the pc of `w` aside) -/
structure Quiet (w : Nat) (s s' : State) : Prop where
  dc : ∀ c, (s'.cr c).droppedCleanup = (s.cr c).droppedCleanup
  path : (s'.wd w).path = (s.wd w).path
  others : ∀ v, v ≠ w → s'.wd v = s.wd v
  hid : s.hidden = [] → s'.hidden = []
  wl : s'.workers.length = s.workers.length
  rl : s'.regs.length = s.regs.length

theorem Quiet.refl (w : Nat) (s : State) : Quiet w s s := ⟨fun _ => rfl, rfl, fun _ _ => rfl, fun h => h, rfl, rfl⟩

theorem Quiet.trans {w : Nat} {s s1 s2 : State} (a : Quiet w s s1) (b : Quiet w s1 s2) : Quiet w s s2 :=
  ⟨fun c => (b.dc c).trans (a.dc c), b.path.trans a.path, fun v hv => (b.others v hv).trans (a.others v hv),
    fun h => b.hid (a.hid h), b.wl.trans a.wl, b.rl.trans a.rl⟩

/-- … and the pc of `w` stays -/
def Same (w : Nat) (s s' : State) : Prop := Quiet w s s' ∧ (s'.wd w).pc = (s.wd w).pc

theorem Same.refl (w : Nat) (s : State) : Same w s s := ⟨Quiet.refl w s, rfl⟩
theorem Same.trans {w : Nat} {s s1 s2 : State} (a : Same w s s1) (b : Same w s1 s2) : Same w s s2 :=
  ⟨a.1.trans b.1, b.2.trans a.2⟩

/-- what a piece of a step of worker `w` may do to the `droppedCleanup` registers and to the other workers -/
structure Fr (w : Nat) (s s' : State) : Prop where
  monoC : ∀ cp c u, u ∈ regWorkers (s.cr cp).droppedCleanup (some c) → u ∈ regWorkers (s'.cr cp).droppedCleanup (some c)
  newC : ∀ cp c u, u ∈ regWorkers (s'.cr cp).droppedCleanup (some c) →
    u ∈ regWorkers (s.cr cp).droppedCleanup (some c) ∨ u = w
  others : ∀ v, v ≠ w → s'.wd v = s.wd v
  hid : s.hidden = [] → s'.hidden = []
  wl : s'.workers.length = s.workers.length
  rl : s'.regs.length = s.regs.length

theorem Fr.refl (w : Nat) (s : State) : Fr w s s :=
  ⟨fun _ _ _ h => h, fun _ _ _ h => Or.inl h, fun _ _ => rfl, fun h => h, rfl, rfl⟩

theorem Fr.trans {w : Nat} {s s1 s2 : State} (a : Fr w s s1) (b : Fr w s1 s2) : Fr w s s2 where
  monoC := fun cp c u h => b.monoC cp c u (a.monoC cp c u h)
  newC := fun cp c u h => by
    rcases b.newC cp c u h with h | h
    · exact a.newC cp c u h
    · exact Or.inr h
  others := fun v hv => (b.others v hv).trans (a.others v hv)
  hid := fun h => b.hid (a.hid h)
  wl := b.wl.trans a.wl
  rl := b.rl.trans a.rl

theorem Quiet.fr {w : Nat} {s s' : State} (a : Quiet w s s') : Fr w s s' :=
  ⟨fun cp c u h => by rw [a.dc cp]; exact h, fun cp c u h => Or.inl (by rw [← a.dc cp]; exact h), a.others, a.hid, a.wl, a.rl⟩

theorem isCleanupReady_mono (g : Graph) (s s' : State) (n v : Nat)
    (hm : ∀ cp c, v ∈ regWorkers (s.cr cp).droppedCleanup (some c) → v ∈ regWorkers (s'.cr cp).droppedCleanup (some c))
    (h : isCleanupReady g s n v = true) : isCleanupReady g s' n v = true := by
  rw [cleanup_ready_iff] at h ⊢
  intro c hc hrel
  exact hm _ _ (h c hc hrel)

theorem DropOk.mono {g : Graph} {s s' : State} {v c : Nat} (h : DropOk g s v c)
    (hm : ∀ cp c, v ∈ regWorkers (s.cr cp).droppedCleanup (some c) → v ∈ regWorkers (s'.cr cp).droppedCleanup (some c)) :
    DropOk g s' v c := by
  obtain ⟨x, h1, h2, h3, h4, h5, h6⟩ := h
  exact ⟨x, h1, h2, h3, h4, fun q hq => hm _ _ (h5 q hq), isCleanupReady_mono g s s' x v hm h6⟩

theorem Quiet.dr {w : Nat} {s s' : State} (a : Quiet w s s') (v c : Nat) : Dr s' v c ↔ Dr s v c := by
  unfold Dr
  constructor
  · rintro ⟨cp, h⟩; exact ⟨cp, by rw [← a.dc cp]; exact h⟩
  · rintro ⟨cp, h⟩; exact ⟨cp, by rw [a.dc cp]; exact h⟩

theorem Quiet.loc {g : Graph} {w : Nat} {s s' : State} (a : Quiet w s s') (l : Loc g w s) : Loc g w s' where
  pathOk := by rw [a.path]; exact l.pathOk
  drop := fun c h => (l.drop c ((a.dr w c).mp h)).mono (fun cp c h => by rw [a.dc cp]; exact h)

theorem Quiet.walk {g : Graph} {w : Nat} {s s' : State} (a : Quiet w s s') (k : Walk g w s) : Walk g w s' where
  sh := by rw [a.path]; exact k.sh
  a := by
    rw [a.path]
    intro x hx h
    exact k.a x hx ((a.dr w _).mp h)

/-- the invariant of another worker survives a piece of a step of `w` -/
theorem Fr.loc_other {g : Graph} {w v : Nat} {s s' : State} (a : Fr w s s') (hv : v ≠ w) (l : Loc g v s) : Loc g v s' where
  pathOk := by rw [a.others v hv]; exact l.pathOk
  drop := fun c ⟨cp, h⟩ => by
    rcases a.newC cp c v h with h' | h'
    · exact (l.drop c ⟨cp, h'⟩).mono (fun cp c h => a.monoC cp c v h)
    · exact absurd h' hv

theorem Fr.walk_other {g : Graph} {w v : Nat} {s s' : State} (a : Fr w s s') (hv : v ≠ w) (k : Walk g v s) : Walk g v s' where
  sh := by rw [a.others v hv]; exact k.sh
  a := by
    rw [a.others v hv]
    rintro x hx ⟨cp, h⟩
    rcases a.newC cp _ v h with h' | h'
    · exact k.a x hx ⟨cp, h'⟩
    · exact hv h'

theorem Fr.pcC_other {g : Graph} {w v : Nat} {s s' : State} (a : Fr w s s') (hv : v ≠ w) (k : PcC g v s) : PcC g v s' := by
  unfold PcC; rw [a.others v hv]; exact k

theorem _root_.I2N.Trav.Passive.same {w : Nat} {s s' : State} (a : Passive w s s') : Same w s s' :=
  ⟨⟨fun c => by rw [a.cr], a.path, a.others,
    fun h => List.eq_nil_iff_forall_not_mem.mpr fun x hx => List.not_mem_nil (h ▸ a.hidden x hx), a.workersLen, by rw [a.regs]⟩,
    a.pc⟩

theorem quiet_setNd (w : Nat) (s : State) (m : Nat) (f : NodeD → NodeD) : Same w s (s.setNd m f) :=
  ⟨⟨fun _ => rfl, rfl, fun _ _ => rfl, fun h => h, rfl, rfl⟩, rfl⟩

theorem quiet_setCr (w : Nat) (s : State) (c : Nat) (f : ClassRegs → ClassRegs)
    (hc : ∀ r, (f r).droppedCleanup = r.droppedCleanup) : Same w s (s.setCr c f) := by
  refine ⟨⟨fun c' => ?_, rfl, fun _ _ => rfl, fun h => h, rfl, regs_length_setCr s c f⟩, rfl⟩
  rcases cr_setCr_cases s c f c' with h | ⟨_, h⟩
  · rw [h]
  · rw [h, hc]

theorem quiet_setWd (w : Nat) (s : State) (f : WorkerD → WorkerD) (hp : ∀ d, (f d).path = d.path) :
    Quiet w s (s.setWd w f) := by
  refine ⟨fun _ => rfl, ?_, fun v hv => wd_setWd_ne s w v f hv, fun h => h, workers_length_setWd s w f, rfl⟩
  rcases wd_setWd_cases s w f with ⟨h, _⟩ | ⟨_, h⟩
  · rw [h]
  · rw [h, hp]

theorem same_runDecision (w : Nat) (g : Graph) (s : State) (n v : Nat) (b : Bool) (s1 : State) (e1 : List Event)
    (h : runDecision g s n v = .ok (b, s1, e1)) : Same w s s1 :=
  (passive_runDecision w g s n v b s1 e1 h).same

theorem same_pullLocations (w : Nat) (g : Graph) (s : State) (n : Nat) : Same w s (pullLocations g s n) :=
  (passive_pullLocations w g s n).same

theorem same_finishTraverse (w : Nat) (s : State) (n v : Nat) : Same w s (finishTraverse s n v) := quiet_setNd w s n _

theorem fr_setWd (w : Nat) (s : State) (f : WorkerD → WorkerD) : Fr w s (s.setWd w f) :=
  ⟨fun _ _ _ h => h, fun _ _ _ h => Or.inl h, fun v hv => wd_setWd_ne s w v f hv, fun h => h,
    workers_length_setWd s w f, rfl⟩

theorem loc_setWd {g : Graph} {w : Nat} {s : State} (f : WorkerD → WorkerD) (hw : w < s.workers.length) (l : Loc g w s)
    (hp : ∀ x ∈ (f (s.wd w)).path, x < g.nodes.length ∧ relevant g w x = true) : Loc g w (s.setWd w f) where
  pathOk := by rw [wd_setWd_eq s w f hw]; exact hp
  drop := fun c h => l.drop c h

theorem walk_setWd {g : Graph} {w : Nat} {s : State} (f : WorkerD → WorkerD) (hw : w < s.workers.length)
    (hsh : (f (s.wd w)).path = [] ∨ ∃ d, PShape g (f (s.wd w)).path d)
    (ha : ∀ x ∈ (f (s.wd w)).path, ¬ Dr s w (g.node x).cls) : Walk g w (s.setWd w f) where
  sh := by rw [wd_setWd_eq s w f hw]; exact hsh
  a := by rw [wd_setWd_eq s w f hw]; exact ha

/-! ## what a piece of the loop body guarantees: `Post` -/

def raises : Flow → Bool
  | .raise _ => true
  | _ => false

def Post (g : Graph) (w : Nat) (s : State) (r : Step) : Prop :=
  Fr w s r.1 ∧ Loc g w r.1 ∧ (raises r.2.2 = false → Walk g w r.1) ∧ (PcC g w r.1 ∨ (r.1.wd w).pc = (s.wd w).pc)

theorem Post.of_same {g : Graph} {w : Nat} {s s1 : State} {r : Step} (a : Same w s s1) (p : Post g w s1 r) : Post g w s r :=
  ⟨a.1.fr.trans p.1, p.2.1, p.2.2.1, p.2.2.2.imp id (fun h => h.trans a.2)⟩

theorem Post.raise {g : Graph} {w : Nat} {s : State} (l : Loc g w s) (evs : List Event) (e : String) :
    Post g w s (s, evs, .raise e) :=
  ⟨Fr.refl w s, l, fun h => by simp [raises] at h, Or.inr rfl⟩

theorem pc_setWd_path (s : State) (w : Nat) (p : WorkerD → List Nat) :
    ((s.setWd w (fun d => { d with path := p d })).wd w).pc = (s.wd w).pc := by
  rcases wd_setWd_cases s w (fun d => { d with path := p d }) with ⟨h, _⟩ | ⟨_, h⟩
  · rw [h]
  · rw [h]

theorem post_pop {g : Graph} {w : Nat} {s : State} (hw : w < s.workers.length) (l : Loc g w s) (k : Walk g w s)
    (evs : List Event) : Post g w s (popPath s w, evs, .cont) := by
  refine ⟨fr_setWd w s _, loc_setWd _ hw l ?_, fun _ => walk_setWd _ hw ?_ ?_, Or.inr (pc_setWd_path s w _)⟩
  · intro x hx; exact l.pathOk x (List.dropLast_subset _ hx)
  · rcases k.sh with h | ⟨d, h⟩
    · left; show (s.wd w).path.dropLast = []; rw [h]; rfl
    · exact h.dropLast
  · intro x hx; exact k.a x (List.dropLast_subset _ hx)

theorem Walk.shape {g : Graph} {w : Nat} {s : State} (k : Walk g w s) {next : Nat}
    (hl : (s.wd w).path.getLast? = some next) : ∃ d, PShape g (s.wd w).path d := by
  rcases k.sh with h | h
  · rw [h] at hl; cases hl
  · exact h

theorem Loc.dropAt {g : Graph} (H : Hyp g) {w : Nat} {s : State} (l : Loc g w s) {x : Nat} (hx : x < g.nodes.length)
    (hrel : relevant g w x = true) (hdr : Dr s w (g.node x).cls) :
    (g.node x).setup ≠ [] ∧
      (∀ q ∈ (g.node x).setup, w ∈ regWorkers (s.cr (g.node q.1).cls).droppedCleanup (some (g.node x).cls)) ∧
      isCleanupReady g s x w = true := by
  obtain ⟨x', a1, a2, a3, a4⟩ := l.drop _ hdr
  rw [H.uniq w x' x a1 hx a2 a3 hrel] at a4
  exact a4

theorem root_not_dropped {g : Graph} (H : Hyp g) {w : Nat} {s : State} (l : Loc g w s) : ¬ Dr s w (g.node g.root).cls :=
  fun h => (l.dropAt H H.wf.root_lt (relevant_of_flat H.top.1) h).1 H.top.2

theorem post_push {g : Graph} {w : Nat} {s s2 : State} {m : Nat} (hw : w < s.workers.length) (l : Loc g w s)
    (k : Walk g w s) (a : Same w s s2) (hm : m < g.nodes.length) (hrel : relevant g w m = true)
    (hsh : ∃ d, PShape g ((s.wd w).path ++ [m]) d) (hnd : ¬ Dr s w (g.node m).cls) (evs : List Event) :
    Post g w s (pushPath s2 w m, evs, .cont) := by
  have l2 := a.1.loc l
  have hw2 : w < s2.workers.length := by rw [a.1.wl]; exact hw
  refine Post.of_same a ⟨fr_setWd w s2 _, loc_setWd _ hw2 l2 ?_, fun _ => walk_setWd _ hw2 (Or.inr ?_) ?_,
    Or.inr (pc_setWd_path s2 w _)⟩
  · intro x hx
    rcases List.mem_append.mp hx with hx | hx
    · exact l2.pathOk x hx
    · rw [List.mem_singleton.mp hx]; exact ⟨hm, hrel⟩
  · show ∃ d, PShape g ((s2.wd w).path ++ [m]) d
    rw [a.1.path]; exact hsh
  · intro x hx
    rcases List.mem_append.mp hx with hx | hx
    · exact (a.1.walk k).a x hx
    · rw [List.mem_singleton.mp hx]
      exact fun hdr => hnd ((a.1.dr w _).mp hdr)

theorem post_pushChild {g : Graph} (H : Hyp g) {w : Nat} {s s2 : State} {next c : Nat} (hw : w < s.workers.length)
    (l : Loc g w s) (k : Walk g w s) (hlast : (s.wd w).path.getLast? = some next) (hdn : PShape g (s.wd w).path true)
    (hp : pickChild g s next w = some (c, s2)) (evs : List Event) : Post g w s (pushPath s2 w c, evs, .cont) := by
  obtain ⟨hc, hrel, hnd, hs2⟩ := pickChild_eq_some hp
  obtain ⟨hnext, _⟩ := l.pathOk next (List.mem_of_getLast? hlast)
  obtain ⟨q, hq, hqc⟩ := List.mem_map.mp hc
  have hclt : c < g.nodes.length := by rw [← hqc]; exact H.wf.cleanup_lt next q hq
  have hsym : next ∈ (g.node c).setup.map (·.1) := (H.sym next hnext c hclt).mpr hc
  refine post_push hw l k (by rw [hs2]; exact quiet_setCr w s _ _ (fun _ => rfl)) hclt hrel
    ⟨true, .down _ next c hdn hlast hsym⟩ (fun hdr => ?_) evs
  obtain ⟨q', hq', hq'n⟩ := List.mem_map.mp hsym
  have hin := (l.dropAt H hclt hrel hdr).2.1 q' hq'
  rw [hq'n, ← List.contains_iff_mem, hnd] at hin
  cases hin

theorem post_pushParent {g : Graph} (H : Hyp g) {w : Nat} {s s2 : State} {next p : Nat} (hw : w < s.workers.length)
    (l : Loc g w s) (k : Walk g w s) (hlast : (s.wd w).path.getLast? = some next)
    (hp : pickParent g s next w = some (p, s2)) (evs : List Event) : Post g w s (pushPath s2 w p, evs, .cont) := by
  obtain ⟨hc, hrel, hs2⟩ := pickParent_rel g s next w p s2 hp
  obtain ⟨hnext, hnrel⟩ := l.pathOk next (List.mem_of_getLast? hlast)
  obtain ⟨q, hq, hqc⟩ := List.mem_map.mp hc
  have hplt : p < g.nodes.length := by rw [← hqc]; exact H.wf.setup_lt next q hq
  have hsym : next ∈ (g.node p).cleanup.map (·.1) := (H.sym p hplt next hnext).mp hc
  obtain ⟨d, hd⟩ := k.shape hlast
  refine post_push hw l k (by rw [hs2]; exact quiet_setCr w s _ _ (fun _ => rfl)) hplt hrel
    ⟨false, .up _ d next p hd hlast hsym⟩ (fun hdr => ?_) evs
  obtain ⟨q', hq', hq'n⟩ := List.mem_map.mp hsym
  have := (cleanup_ready_iff g s p w).mp (l.dropAt H hplt hrel hdr).2.2 q' hq' (by rw [hq'n]; exact hnrel)
  rw [hq'n] at this
  exact k.a next (List.mem_of_getLast? hlast) ⟨_, this⟩

theorem mem_dropAll (g : Graph) (next w : Nat) (l : List (Nat × List String)) (s : State)
    (hl : ∀ q ∈ l, (g.node q.1).cls < s.regs.length) (cp c u : Nat) :
    u ∈ regWorkers ((l.foldl (fun s x => dropChild g s x.1 next w) s).cr cp).droppedCleanup (some c) ↔
      u ∈ regWorkers (s.cr cp).droppedCleanup (some c) ∨
        (u = w ∧ c = (g.node next).cls ∧ ∃ q ∈ l, (g.node q.1).cls = cp) := by
  induction l generalizing s with
  | nil => simp
  | cons a r ih =>
    have hstep : u ∈ regWorkers ((dropChild g s a.1 next w).cr cp).droppedCleanup (some c) ↔
        u ∈ regWorkers (s.cr cp).droppedCleanup (some c) ∨ (u = w ∧ c = (g.node next).cls ∧ (g.node a.1).cls = cp) := by
      unfold dropChild
      by_cases hcp : cp = (g.node a.1).cls
      · subst hcp
        rw [cr_setCr_eq s _ _ (hl a List.mem_cons_self), mem_regWorkers_regAdd]
        simp only [and_true]
      · rw [cr_setCr_ne s _ _ _ hcp]
        simp only [Ne.symm hcp, and_false, or_false]
    rw [List.foldl_cons, ih _ (fun q hq => (regs_length_setCr s _ _).symm ▸ hl q (List.mem_cons_of_mem _ hq)), hstep]
    simp only [List.mem_cons, or_and_right, exists_or, exists_eq_left, and_or_left, or_assoc]

theorem dropAll_frame (g : Graph) (next w : Nat) (l : List (Nat × List String)) (s : State) :
    (∀ v, (l.foldl (fun s x => dropChild g s x.1 next w) s).wd v = s.wd v) ∧
    (l.foldl (fun s x => dropChild g s x.1 next w) s).hidden = s.hidden ∧
    (l.foldl (fun s x => dropChild g s x.1 next w) s).workers.length = s.workers.length ∧
    (l.foldl (fun s x => dropChild g s x.1 next w) s).regs.length = s.regs.length := by
  induction l generalizing s with
  | nil => exact ⟨fun _ => rfl, rfl, rfl, rfl⟩
  | cons a r ih =>
    obtain ⟨h1, h2, h3, h4⟩ := ih (dropChild g s a.1 next w)
    exact ⟨h1, h2, h3, h4.trans (regs_length_setCr s _ _)⟩

/-- the effect of `for p in next.setup_nodes: p.drop_child(next, w)` on a cleanup-ready node at the end of a path -/
theorem drop_step {g : Graph} (H : Hyp g) {w : Nat} {s : State} {next : Nat} (hcls : ClsIn g s) (l : Loc g w s)
    (hlast : (s.wd w).path.getLast? = some next) (hc : isCleanupReady g s next w = true) :
    Fr w s (dropChildren g s next w) ∧ Loc g w (dropChildren g s next w) ∧ (dropChildren g s next w).wd w = s.wd w ∧
      (∀ c, Dr (dropChildren g s next w) w c → Dr s w c ∨ c = (g.node next).cls) := by
  rw [show dropChildren g s next w = (g.node next).setup.foldl (fun s x => dropChild g s x.1 next w) s from rfl]
  obtain ⟨hnext, hnrel⟩ := l.pathOk next (List.mem_of_getLast? hlast)
  have hm := mem_dropAll g next w (g.node next).setup s (fun q hq => hcls _ (H.wf.setup_lt next q hq))
  obtain ⟨f1, f2, f3, f4⟩ := dropAll_frame g next w (g.node next).setup s
  have hmono : ∀ cp c u, u ∈ regWorkers (s.cr cp).droppedCleanup (some c) →
      u ∈ regWorkers (((g.node next).setup.foldl (fun s x => dropChild g s x.1 next w) s).cr cp).droppedCleanup (some c) :=
    fun cp c u h => (hm cp c u).mpr (Or.inl h)
  refine ⟨⟨hmono, fun cp c u h => ((hm cp c u).mp h).imp id And.left, fun v _ => f1 v, fun h => by rw [f2]; exact h, f3, f4⟩,
    ⟨by rw [f1 w]; exact l.pathOk, fun c hdr => ?_⟩, f1 w, fun c hdr => ?_⟩
  · obtain ⟨cp, h⟩ := hdr
    rcases (hm cp c w).mp h with h | ⟨_, h2, q, hq, _⟩
    · exact (l.drop c ⟨cp, h⟩).mono (fun cp c h => hmono cp c w h)
    · exact ⟨next, hnext, h2.symm, hnrel, List.ne_nil_of_mem hq, fun q' hq' => (hm _ c w).mpr (Or.inr ⟨rfl, h2, q', hq', rfl⟩),
        isCleanupReady_mono g s _ next w (fun cp c h => hmono cp c w h) hc⟩
  · obtain ⟨cp, h⟩ := hdr
    exact ((hm cp c w).mp h).imp (fun h => ⟨cp, h⟩) (fun h => h.2.1)

/-- … after which the node is popped: nothing left on the path is dropped -/
theorem walk_pop_after_drop {g : Graph} (H : Hyp g) {w : Nat} {s s3 : State} {next : Nat} (hw : w < s3.workers.length)
    (l : Loc g w s) (k : Walk g w s) (hlast : (s.wd w).path.getLast? = some next) (hdn : PShape g (s.wd w).path true)
    (hc : isCleanupReady g s next w = true) (hpath : (s3.wd w).path = (s.wd w).path)
    (hdr : ∀ c, Dr s3 w c → Dr s w c ∨ c = (g.node next).cls) : Walk g w (popPath s3 w) := by
  obtain ⟨hnext, hnrel⟩ := l.pathOk next (List.mem_of_getLast? hlast)
  refine walk_setWd _ hw ?_ ?_
  · show (s3.wd w).path.dropLast = [] ∨ ∃ d, PShape g (s3.wd w).path.dropLast d
    rw [hpath]; exact hdn.dropLast
  · show ∀ x ∈ (s3.wd w).path.dropLast, ¬ Dr s3 w (g.node x).cls
    rw [hpath]
    intro x hx hd
    have hxp : x ∈ (s.wd w).path := List.dropLast_subset _ hx
    rcases hdr _ hd with h | h
    · exact k.a x hxp h
    · obtain ⟨hxl, hxr⟩ := l.pathOk x hxp
      have hxn : x = next := H.uniq w x next hxl hnext h hxr hnrel
      rw [hxn] at hx
      obtain ⟨y, hy, hny⟩ := hdn.succ rfl next hx
      obtain ⟨hyl, hyr⟩ := l.pathOk y hy
      have hyc : y ∈ (g.node next).cleanup.map (·.1) := (H.sym next hnext y hyl).mp hny
      obtain ⟨q, hq, hqy⟩ := List.mem_map.mp hyc
      have := (cleanup_ready_iff g s next w).mp hc q hq (by rw [hqy]; exact hyr)
      rw [hqy] at this
      exact k.a y hy ⟨_, this⟩

theorem pcC_of_nonTest {g : Graph} {w : Nat} {s : State} (h : (s.wd w).pc.isTest = false) : PcC g w s := by
  intro n ph dir uid tag wait hh
  rw [hh] at h; simp [Pc.isTest] at h

theorem post_reset {g : Graph} (H : Hyp g) {w : Nat} {s s0 : State} (f : WorkerD → WorkerD) (hw : w < s.workers.length)
    (a : Same w s s0) (l : Loc g w s) (hp : ∀ d, (f d).path = [g.root])
    (hpc : ∀ d, (f d).pc = d.pc ∨ (f d).pc.isTest = false) (evs : List Event) (fl : Flow) :
    Post g w s (s0.setWd w f, evs, fl) := by
  have hr : relevant g w g.root = true := relevant_of_flat H.top.1
  have l0 := a.1.loc l
  have hw0 : w < s0.workers.length := by rw [a.1.wl]; exact hw
  refine ⟨a.1.fr.trans (fr_setWd w s0 _), loc_setWd _ hw0 l0 ?_, fun _ => walk_setWd _ hw0 ?_ ?_, ?_⟩
  · intro x hx
    rw [hp, List.mem_singleton] at hx
    rw [hx]; exact ⟨H.wf.root_lt, hr⟩
  · rw [hp]; exact Or.inr ⟨true, .one g.root⟩
  · intro x hx
    rw [hp, List.mem_singleton] at hx
    rw [hx]; exact root_not_dropped H l0
  · rcases hpc (s0.wd w) with h | h
    · right; show ((s0.setWd w f).wd w).pc = _; rw [wd_setWd_eq s0 w f hw0, h, a.2]
    · left
      apply pcC_of_nonTest
      rw [wd_setWd_eq s0 w f hw0]; exact h

theorem post_root {g : Graph} (H : Hyp g) {w : Nat} {s : State} (hw : w < s.workers.length) (l : Loc g w s)
    (evs : List Event) : Post g w s (s.setWd w (fun d => { d with path := [g.root] }), evs, .cont) :=
  post_reset H (fun d => { d with path := [g.root] }) hw (Same.refl w s) l (fun _ => rfl) (fun _ => Or.inl rfl) evs .cont

/-! ## the walk through the loop -/

/-- the strong form of `Post`: the walk part and the pc part hold -/
def Strong (g : Graph) (w : Nat) (s s' : State) : Prop := Fr w s s' ∧ Loc g w s' ∧ Walk g w s' ∧ PcC g w s'

theorem Strong.post {g : Graph} {w : Nat} {s : State} {r : Step} (h : Strong g w s r.1) : Post g w s r :=
  ⟨h.1, h.2.1, fun _ => h.2.2.1, Or.inl h.2.2.2⟩

/-- `w` is a real worker whose invariant holds, and every class has its registers -/
structure Live (g : Graph) (w : Nat) (s : State) : Prop where
  hw : w < s.workers.length
  cls : ClsIn g s
  loc : Loc g w s
  walk : Walk g w s

theorem Fr.live {g : Graph} {w : Nat} {s s' : State} (a : Fr w s s') (h : Live g w s) (l : Loc g w s') (k : Walk g w s') :
    Live g w s' :=
  ⟨by rw [a.wl]; exact h.hw, fun n hn => by rw [a.rl]; exact h.cls n hn, l, k⟩

theorem Quiet.live {g : Graph} {w : Nat} {s s' : State} (a : Quiet w s s') (h : Live g w s) : Live g w s' :=
  a.fr.live h (a.loc h.loc) (a.walk h.walk)

/-- … and its path ends at node `n`, which it reached downwards if `dir` says so -/
structure At (g : Graph) (w : Nat) (s : State) (n : Nat) (dir : Dir) : Prop extends Live g w s where
  last : (s.wd w).path.getLast? = some n
  down : dir = .down → PShape g (s.wd w).path true

theorem Quiet.at {g : Graph} {w : Nat} {s s' : State} {n : Nat} {dir : Dir} (a : Quiet w s s') (h : At g w s n dir) :
    At g w s' n dir :=
  ⟨a.live h.toLive, by rw [a.path]; exact h.last, by rw [a.path]; exact h.down⟩

theorem post_test {g : Graph} {w : Nat} {s s0 : State} (f : WorkerD → WorkerD) (n : Nat) (ph : Phase) (dir : Dir)
    (uid : String) (tag wt : Nat) (q : Quiet w s s0) (h : At g w s n dir)
    (hp : ∀ d, (f d).path = d.path) (hpc : ∀ d, (f d).pc = .test n ph dir uid tag wt) : Strong g w s (s0.setWd w f) := by
  have q2 : Quiet w s (s0.setWd w f) := q.trans (quiet_setWd w s0 f hp)
  refine ⟨q2.fr, q2.loc h.loc, q2.walk h.walk, ?_⟩
  intro n' ph' dir' uid' tag' wait' hh
  have h' : ((s0.setWd w f).wd w).pc = .test n' ph' dir' uid' tag' wait' := hh
  rw [wd_setWd_eq s0 w f (by rw [q.wl]; exact h.hw), hpc] at h'
  cases h'
  exact ⟨(q2.at h).last, (q2.at h).down⟩

theorem post_of_after {g : Graph} (H : Hyp g) {w : Nat} {s : State} {next prev : Nat} {dir : Dir} {r : Step}
    (h : At g w s next dir) (ha : After g w next prev dir s r) : Post g w s r := by
  have hdec : ∀ {run s1 evs}, runDecision g s next w = .ok (run, s1, evs) → Same w s s1 :=
    fun hd => same_runDecision w g s next w _ _ _ hd
  cases ha with
  | undecided => exact Post.raise h.loc [] _
  | up run s1 evs _ hd =>
    have a2 : Same w s1 (if !run then dropParent g s1 prev next w else s1) := by
      split
      · exact quiet_setCr w s1 _ _ (fun _ => rfl)
      · exact Same.refl w s1
    have h2 := ((hdec hd).trans a2).1.live h.toLive
    exact Post.of_same ((hdec hd).trans a2) (post_pop h2.hw h2.loc h2.walk evs)
  | again s1 evs _ hd =>
    have h1 := (hdec hd).1.live h.toLive
    exact Post.of_same (hdec hd) (post_pop h1.hw h1.loc h1.walk evs)
  | postponed s1 evs _ hd =>
    have h1 := (hdec hd).1.live h.toLive
    exact Post.of_same (hdec hd) (post_root H h1.hw h1.loc evs)
  | cleaned s1 evs s3 evs2 hdir hd hc _ hr =>
    have h1 := (hdec hd).1.at h
    obtain ⟨f1, f2, g1, f3⟩ := drop_step H h1.cls h1.loc h1.last hc
    have a3 : Same w _ s3 := (reverseNode_spec g _ next w s3 evs2 hr).1.same
    have hw3 : w < s3.workers.length := by rw [a3.1.wl, f1.wl]; exact h1.hw
    have l3 := a3.1.loc f2
    have hpath : (s3.wd w).path = (s1.wd w).path := a3.1.path.trans (congrArg WorkerD.path g1)
    refine Post.of_same (hdec hd) ⟨f1.trans (a3.1.fr.trans (fr_setWd w s3 _)), loc_setWd _ hw3 l3 ?_, fun _ => ?_, Or.inr ?_⟩
    · intro x hx; exact l3.pathOk x (List.dropLast_subset _ hx)
    · exact walk_pop_after_drop H hw3 h1.loc h1.walk h1.last (h1.down hdir) hc hpath
        (fun c hdr => f3 c ((a3.1.dr w c).mp hdr))
    · unfold popPath
      rw [pc_setWd_path, a3.2]
      exact congrArg WorkerD.pc g1
  | uncleaned s1 evs e _ hd hc =>
    have h1 := (hdec hd).1.at h
    obtain ⟨f1, f2, g1, _⟩ := drop_step H h1.cls h1.loc h1.last hc
    exact Post.of_same (hdec hd) ⟨f1, f2, fun hn => (nomatch hn), Or.inr (congrArg WorkerD.pc g1)⟩
  | descend s1 evs c s2 hdir hd _ hp =>
    have h1 := (hdec hd).1.at h
    exact Post.of_same (hdec hd) (post_pushChild H h1.hw h1.loc h1.walk h1.last (h1.down hdir) hp evs)
  | childless s1 evs _ hd => exact Post.of_same (hdec hd) (Post.raise ((hdec hd).1.loc h.loc) evs _)

theorem startTest_cl {g : Graph} (w : Nat) (s : State) (n : Nat) (ph : Phase) (dir : Dir) (h : At g w s n dir) :
    Strong g w s (startTest g s n w ph dir).1 := by
  have htag : Same w s { s with nextTag := s.nextTag + 1 } := Passive.same (.of_eq rfl rfl rfl rfl)
  fun_cases startTest g s n w ph dir with
  | case1 => exact post_test _ n ph dir _ _ 0 htag.1 h (by intro _; rfl) (by intro _; rfl)
  | case2 =>
    exact post_test _ n ph dir _ _ 0 (htag.trans (quiet_setNd w _ n _)).1 h (by intro _; rfl) (by intro _; rfl)

def pcFailed : Pc → Bool
  | .failed => true
  | _ => false

theorem post_of_iter {g : Graph} (H : Hyp g) {w : Nat} {s : State} {r : Step} (h : Live g w s) (hi : Iter g w s r) :
    Post g w s r := by
  -- a visit from a parent ends a path that only goes down: its last step is not an upward one
  have hat : ∀ {n prev dir}, Visit g s w n prev dir → At g w s n dir := fun {n} _ _ hv =>
    ⟨h, hv.last, fun hdir => by
      subst hdir
      obtain ⟨d, hd⟩ := h.walk.shape hv.last
      exact hd.allDown n hv.last (hv.before ▸ hv.from_.1)⟩
  have hA : ∀ n, Same w s (entered g s w n) := fun n => (quiet_setNd w s n _).trans (same_pullLocations w g _ n)
  have hdec : ∀ {n run s1 evs}, runDecision g (entered g s w n) n w = .ok (run, s1, evs) → Same w s s1 := fun {n} _ _ _ hd =>
    (hA n).trans (same_runDecision w g _ n w _ _ _ hd)
  cases hi with
  | exit =>
    refine ⟨fr_setWd w s _, loc_setWd _ h.hw h.loc ?_, fun _ => walk_setWd _ h.hw (Or.inl rfl) ?_, Or.inl ?_⟩
    · intro x hx; simp at hx
    · intro x hx; simp at hx
    · apply pcC_of_nonTest
      rw [wd_setWd_eq s w _ h.hw]; rfl
  | lost => exact Post.raise h.loc [] _
  | fromRoot n c s1 _ hl h1 hp =>
    obtain ⟨a, ha⟩ := List.length_eq_one_iff.mp h1
    exact post_pushChild H h.hw h.loc h.walk hl (by rw [ha]; exact .one a) hp []
  | bounce n =>
    obtain ⟨s1, f, hb, he, hp, hpc⟩ := bounced_eq g s w n
    rw [he]
    exact post_reset H f h.hw hb.same h.loc hp (fun d => Or.inr (by rw [hpc]; rfl)) _ _
  | toParent n _ p s1 ha _ _ hp => exact post_pushParent H h.hw h.loc h.walk ha.last hp []
  | undecided n => exact Post.of_same (hA n) (Post.raise ((hA n).1.loc h.loc) [] _)
  | start n _ dir s1 evs hv hd =>
    exact Post.of_same (hdec hd) (startTest_cl w s1 n .plain dir ((hdec hd).1.at (hat hv))).post
  | create n _ dir s1 evs hv hd =>
    have h2 : Passive w s1 (preset g s1 w n) := passive_setWd w s1 _ (fun _ => rfl) (fun _ => rfl)
    have a2 := (hdec hd).trans h2.same
    exact Post.of_same a2 (startTest_cl w _ n .pre dir (a2.1.at (hat hv))).post
  | skip n _ _ s1 evs r hv hd ha =>
    have a2 : Same w s (finishTraverse s1 n w) := (hdec hd).trans (same_finishTraverse w s1 n w)
    have h3 := post_of_after H (a2.1.at (hat hv)) ha
    exact Post.of_same a2 h3

theorem same_prepare (w : Nat) (g : Graph) (s : State) : Same w s (prepare g s w) := (passive_prepare g s w).same

theorem post_of_iterL {g : Graph} (H : Hyp g) {w : Nat} {s : State} {r : Step} (h : Live g w s) (hh : s.hidden = [])
    (hi : IterL g w s r) : Post g w s r := by
  obtain ⟨s1, hp, hi⟩ := hi
  have h0 : Same w s s1 := by
    cases hp with
    | stay => exact Same.refl w s
    | expand => exact same_prepare w g s
  rw [vis_of_nil g _ (h0.1.hid hh)] at hi
  exact Post.of_same h0 (post_of_iter H (h0.1.live h) hi)

theorem pc_setWd_pc (s : State) (w : Nat) (pc : Pc) (hw : w < s.workers.length) :
    ((s.setWd w (fun d => { d with pc := pc })).wd w).pc = pc := by
  rw [wd_setWd_eq s w _ hw]

def Done (g : Graph) (w : Nat) (s s' : State) : Prop :=
  Fr w s s' ∧ Loc g w s' ∧ (Walk g w s' ∨ pcFailed (s'.wd w).pc = true) ∧ PcC g w s'

theorem Strong.done {g : Graph} {w : Nat} {s s' : State} (h : Strong g w s s') : Done g w s s' :=
  ⟨h.1, h.2.1, Or.inl h.2.2.1, h.2.2.2⟩

theorem Done.of_fr {g : Graph} {w : Nat} {s s1 s2 : State} (a : Fr w s s1) (h : Done g w s1 s2) : Done g w s s2 :=
  ⟨a.trans h.1, h.2.1, h.2.2.1, h.2.2.2⟩

theorem done_failed {g : Graph} {w : Nat} {s s1 : State} (a : Fr w s s1) (hw : w < s1.workers.length) (l : Loc g w s1) :
    Done g w s (s1.setWd w (fun d => { d with pc := .failed })) := by
  have h2 : Quiet w s1 (s1.setWd w (fun d => { d with pc := .failed })) := quiet_setWd w s1 _ (fun _ => rfl)
  have hpf := pc_setWd_pc s1 w .failed hw
  exact ⟨a.trans h2.fr, h2.loc l, Or.inr (by rw [hpf]; rfl), pcC_of_nonTest (by rw [hpf]; rfl)⟩

theorem done_of_ran {g : Graph} (H : Hyp g) {w fuel : Nat} {s : State} {evs : List Event} {r : State × List Event}
    (h : Live g w s) (hh : s.hidden = []) (hpc : PcC g w s ∨ 0 < fuel) (hr : Ran g w fuel s evs r) : Done g w s r.1 := by
  have body : ∀ {s s1 e f}, Live g w s → s.hidden = [] →
      IterL g w (s.setWd w (fun d => { d with pc := .loop })) (s1, e, f) →
      Fr w s s1 ∧ Loc g w s1 ∧ (raises f = false → Walk g w s1) ∧ PcC g w s1 := by
    intro s s1 e f h hh hi
    have h0 : Quiet w s (s.setWd w (fun d => { d with pc := .loop })) := quiet_setWd w s _ (fun _ => rfl)
    obtain ⟨p1, p2, p3, p4⟩ := post_of_iterL H (h0.live h) (h0.hid hh) hi
    refine ⟨h0.fr.trans p1, p2, p3, p4.elim id (fun hpc => pcC_of_nonTest ?_)⟩
    rw [hpc, pc_setWd_pc s w .loop h.hw]; rfl
  induction hr with
  | dry s evs => exact ⟨Fr.refl w s, h.loc, Or.inl h.walk, hpc.resolve_right (by omega)⟩
  | cont hi _ ih =>
    obtain ⟨p1, p2, p3, p4⟩ := body h hh hi
    exact Done.of_fr p1 (ih (p1.live h p2 (p3 rfl)) (p1.hid hh) (Or.inl p4))
  | stop hi hf =>
    obtain ⟨p1, p2, p3, p4⟩ := body h hh hi
    exact ⟨p1, p2, Or.inl (p3 (by rcases hf with rfl | rfl <;> rfl)), p4⟩
  | fail hi =>
    obtain ⟨p1, p2, _, _⟩ := body h hh hi
    exact done_failed p1 (by rw [p1.wl]; exact h.hw) p2

/-! ## the end of a test, and the whole step -/

theorem same_reportOutcomeR (g : Graph) (s : State) (w n : Nat) (phase : Phase) (uid : String) (wait : Nat) (out : Outcome) :
    Same w s (reportOutcome g s w n phase uid wait out).1 :=
  (reportOutcome_spec g s w n phase uid wait out).1.same

theorem same_recordResultR (s : State) (w n : Nat) (phase : Phase) (name uid : String) (tag : Nat) (st0 : String) (dur : Nat) :
    Same w s (recordResult s w n phase name uid tag st0 dur).1 :=
  (passive_recordResult s w n phase name uid tag st0 dur).same

theorem done_of_resumed {g : Graph} (H : Hyp g) {s : State} {w : Nat} {out : Outcome} {fuel : Nat} {r : State × List Event}
    (hf : 0 < fuel) (hw : w < s.workers.length) (hcls : ClsIn g s) (hh : s.hidden = []) (l : Loc g w s)
    (k : Walk g w s ∨ pcFailed (s.wd w).pc = true) (c : PcC g w s) (h : Resumed g w out fuel s r) : Done g w s r.1 := by
  have hlive : pcFailed (s.wd w).pc = false → Live g w s := fun hnf =>
    ⟨hw, hcls, l, k.resolve_right (by rw [hnf]; simp)⟩
  have hat : ∀ {n ph dir uid tag wait}, (s.wd w).pc = .test n ph dir uid tag wait → At g w s n dir := fun hpc =>
    ⟨hlive (by rw [hpc]; rfl), (c _ _ _ _ _ _ hpc).1, (c _ _ _ _ _ _ hpc).2⟩
  -- report and record, then the end of the traversal of the node of the finished test
  have back : ∀ {n ph dir uid tag wait sc ok prev r}, (s.wd w).pc = .test n ph dir uid tag wait →
      Ended g w n ph uid tag wait out s sc ok →
      After (vis g (finishTraverse (accounted sc w n ph) n w)) w n prev dir (finishTraverse (accounted sc w n ph) n w) r →
      Post g w s r := by
    intro n ph dir uid tag wait sc ok prev r hpc hs ha
    have aF : Same w s (finishTraverse (accounted sc w n ph) n w) :=
      (hs.passive.trans (passive_accounted sc w n ph)).same.trans (same_finishTraverse w _ n w)
    rw [vis_of_nil g _ (aF.1.hid hh)] at ha
    exact Post.of_same aF (post_of_after H (aF.1.at (hat hpc)) ha)
  cases h with
  | over => exact ⟨Fr.refl w s, l, k, c⟩
  | loop r hpc hr => exact done_of_ran H (hlive (by rcases hpc with h | h <;> rw [h] <;> rfl)) hh (Or.inr hf) hr
  | wait n ph dir uid tag wait hpc =>
    exact (post_test (fun d => { d with pc := .test n ph dir uid tag (wait + 1) }) n ph dir uid tag (wait + 1)
      (same_reportOutcomeR g s w n ph uid wait out).1 (hat hpc) (fun _ => rfl) (fun _ => rfl)).done
  | created n dir uid tag wait sc hpc hs =>
    exact Done.of_fr hs.passive.same.1.fr (startTest_cl w sc n .main dir (hs.passive.same.1.at (hat hpc))).done
  | stuck n ph dir uid tag wait sc ok s1 e what hpc hs _ ha =>
    obtain ⟨p1, p2, _, _⟩ := back hpc hs ha
    exact done_failed p1 (by rw [p1.wl]; exact hw) p2
  | back n ph dir uid tag wait sc ok s1 e f r hpc hs _ ha hnr hr =>
    obtain ⟨p1, p2, p3, _⟩ := back hpc hs ha
    have hf' : raises f = false := by
      cases f with
      | raise what => exact (hnr what rfl).elim
      | _ => rfl
    exact Done.of_fr p1 (done_of_ran H (p1.live (hlive (by rw [hpc]; rfl)) p2 (p3 hf')) (p1.hid hh) (Or.inr hf) hr)

/-! ## the invariant `CInv`, reachable states -/

/-- the invariant of the states of a pre-parsed graph: nothing is hidden, every worker and every class has its record, and
for every worker `Loc`, `PcC`, and — unless it died with an exception — `Walk` -/
structure CInv (g : Graph) (s : State) : Prop where
  hid : s.hidden = []
  wl : s.workers.length = g.workers.length
  cls : ClsIn g s
  loc : ∀ v, Loc g v s
  walk : ∀ v, Walk g v s ∨ pcFailed (s.wd v).pc = true
  pc : ∀ v, PcC g v s

theorem CInv.step {g : Graph} (H : Hyp g) {s : State} (ci : CInv g s) (w : Nat) (out : Outcome) (fuel : Nat)
    (hw : w < g.workers.length) (hf : 0 < fuel) : CInv g (resume g s w out fuel).1 := by
  obtain ⟨d1, d2, d3, d4⟩ := done_of_resumed H hf (by rw [ci.wl]; exact hw) ci.cls ci.hid (ci.loc w) (ci.walk w) (ci.pc w)
    (resume_resumed g s w out fuel)
  refine ⟨d1.hid ci.hid, d1.wl.trans ci.wl, fun n hn => by rw [d1.rl]; exact ci.cls n hn, fun v => ?_, fun v => ?_, fun v => ?_⟩
  · by_cases hv : v = w
    · subst hv; exact d2
    · exact d1.loc_other hv (ci.loc v)
  · by_cases hv : v = w
    · subst hv; exact d3
    · rcases ci.walk v with h | h
      · exact Or.inl (d1.walk_other hv h)
      · right; rw [d1.others v hv]; exact h
  · by_cases hv : v = w
    · subst hv; exact d4
    · exact d1.pcC_other hv (ci.pc v)

theorem CInv.init (g : Graph) (H : Hyp g) (ncls : Nat) (hK : ClsOk g ncls) (store : List (String × List (String × String))) :
    CInv g (initState g ncls store []) := by
  have hnd : ∀ v c, ¬ Dr (initState g ncls store []) v c := by
    rintro v c ⟨cp, h⟩
    rw [initState_cr] at h; simp [regWorkers] at h
  refine ⟨rfl, by simp [initState], fun n hn => by simp only [initState, List.length_map, List.length_range]; exact hK n hn,
    fun v => ⟨(Trv.init g H.wf H.top.1 ncls store []).path v, fun c h => absurd h (hnd v c)⟩,
    fun v => Or.inl ⟨?_, fun x _ => hnd v _⟩, fun v => ?_⟩
  · rcases initState_wd g ncls store [] v with h | h
    · rw [h]; exact Or.inr ⟨true, .one g.root⟩
    · rw [h]; exact Or.inl rfl
  · apply pcC_of_nonTest
    rcases initState_wd g ncls store [] v with h | h <;> rw [h] <;> rfl

/-- the states the scheduler can produce on a pre-parsed graph: any finite sequence of `resume` steps of real workers
with any outcomes and any positive fuel (the fuel only bounds the number of loop iterations of one step in the driver; with
fuel 0 a step may stop before the pc is reset) -/
inductive ReachC (g : Graph) (ncls : Nat) (store : List (String × List (String × String))) : State → Prop
  | init : ReachC g ncls store (initState g ncls store [])
  | step (s : State) (w : Nat) (out : Outcome) (fuel : Nat) :
      ReachC g ncls store s → w < g.workers.length → 0 < fuel → ReachC g ncls store (resume g s w out fuel).1

theorem ReachC.reachH {g : Graph} {ncls : Nat} {store : List (String × List (String × String))} {s : State}
    (h : ReachC g ncls store s) : ReachH g ncls store [] s := by
  induction h with
  | init => exact .init
  | step s w out fuel _ _ _ ih => exact .step s w out fuel ih

theorem ReachC.cinv {g : Graph} (H : Hyp g) {ncls : Nat} (hK : ClsOk g ncls) {store : List (String × List (String × String))}
    {s : State} (h : ReachC g ncls store s) : CInv g s := by
  induction h with
  | init => exact CInv.init g H ncls hK store
  | step s w out fuel _ hw hf ih => exact ih.step H w out fuel hw hf

theorem reachC_runSched (g : Graph) (ncls : Nat) (store : List (String × List (String × String))) (fuel : Nat) (hf : 0 < fuel)
    (l : List (Nat × Outcome)) (hl : ∀ p ∈ l, p.1 < g.workers.length) (s : State) (h : ReachC g ncls store s) :
    ReachC g ncls store (runSched g fuel s l) := by
  induction l generalizing s with
  | nil => exact h
  | cons p l ih =>
    exact ih (fun q hq => hl q (List.mem_cons_of_mem _ hq)) _ (ReachC.step s p.1 p.2 fuel h (hl p List.mem_cons_self) hf)

/-- "dropped means done": a worker awaiting a test awaits it on a node it has not dropped as a cleanup child -/
theorem CInv.not_dropped_in_flight {g : Graph} {s : State} (ci : CInv g s) (v n : Nat) (ph : Phase) (dir : Dir) (uid : String)
    (tag wait : Nat) (hpc : (s.wd v).pc = .test n ph dir uid tag wait) : ¬ Dr s v (g.node n).cls := by
  have hk : Walk g v s := (ci.walk v).resolve_right (by rw [hpc]; simp [pcFailed])
  exact hk.a n (List.mem_of_getLast? (ci.pc v n ph dir uid tag wait hpc).1)

/-! ## what the run-level statement of C05 needs besides the invariant -/

/-- worker `v` lies within the scope the clean decision of worker `w` waits for (`default_clean_decision`: the
cleaning worker's swarm id occurs in the id of the involved worker, or the cleaning worker is a `localhost` one) -/
def InScope (g : Graph) (w v : Nat) : Bool :=
  (g.worker w).swarm == "localhost" || strIn (g.worker w).swarm (g.worker v).id

/-- all workers wait for each other: one swarm (or `localhost` workers) -/
def OneScope (g : Graph) : Prop :=
  ∀ w, w < g.workers.length → ∀ v, v < g.workers.length → InScope g w v = true

instance (g : Graph) : Decidable (OneScope g) := by unfold OneScope; infer_instance

/-- a node sets states of its own objects only -/
def SetsInObjs (g : Graph) : Prop :=
  ∀ n, n < g.nodes.length → ∀ vs ∈ (g.node n).sets, vs.1 ∈ (g.node n).objs

instance (g : Graph) : Decidable (SetsInObjs g) := by unfold SetsInObjs; infer_instance

/-- the (decidable) well-formedness of the static description that the run-level theorems assume -/
def WellFormed (g : Graph) (ncls : Nat) : Prop :=
  graphWF g = true ∧ ownerNamesB g = true ∧ FlatClass g ∧ EdgeSym g ∧ CopyUniq g ∧ RootTop g ∧ ClsOk g ncls ∧ SetsInObjs g

instance (g : Graph) (ncls : Nat) : Decidable (WellFormed g ncls) := by unfold WellFormed; infer_instance

theorem WellFormed.hyp {g : Graph} {ncls : Nat} (h : WellFormed g ncls) : Hyp g :=
  ⟨GraphWF.of_bool h.1, h.2.2.2.1, relUniq_of (ownerNamesB_sound h.2.1) h.2.2.1 h.2.2.2.2.1, h.2.2.2.2.2.1⟩

/-- the node a worker is executing -/
def pcNode : Pc → Option Nat
  | .test n .. => some n
  | _ => none

/-- an `unset` request of `sync_states` is restricted to the acting worker's own pool -/
theorem syncStates_unset_own (g : Graph) (s : State) (n v : Nat) (rv : Option (List String)) (wid : String)
    (reqs : List (String × String)) (sc : List String) (ok : Bool)
    (h : Event.door wid "unset" reqs sc ok ∈ (syncStates g s n v rv).2) : sc = ["own"] ∧ ok = true := by
  obtain ⟨_, ⟨_, he⟩ | ⟨_, he⟩⟩ := (syncStates_spec g s n v rv).2 _ h
  · cases he; exact ⟨rfl, rfl⟩
  · simp at he

/-- a positive clean decision is about the worker's own parsed copy, not a clone source, not a dry run -/
theorem cleanDecision_true (g : Graph) (s : State) (n w : Nat) (h : cleanDecision g s n w = .ok true) :
    (g.node n).flat = false ∧ (g.node n).cloneSource = false ∧ (g.node n).dryRun = false ∧ g.idIn w n = true := by
  revert h
  fun_cases cleanDecision g s n w with
  | case1 | case2 | case3 | case4 | case6 | case7 => intro h; cases h
  | case5 nd h1 h2 h3 h4 | case8 nd h1 h2 h3 h4 =>
    intro _
    exact ⟨by simpa using h2, by simpa using h3, by simpa using h1, by simpa using h4⟩

theorem sameNodes_cloneSource {gv g : Graph} (h : SameNodes gv g) (n : Nat) : (gv.node n).cloneSource = (g.node n).cloneSource :=
  h.cloneSource n

theorem sameNodes_dryRun {gv g : Graph} (h : SameNodes gv g) (n : Nat) : (gv.node n).dryRun = (g.node n).dryRun :=
  h.dryRun n

/-- the default reuse scope: results and `finished` marks of all copies of a class count for every worker (all four
pool scopes enabled) -/
def GlobalShape (g : Graph) : Prop := ∀ n, n < g.nodes.length → (g.node n).shape = .global

instance (g : Graph) : Decidable (GlobalShape g) := by unfold GlobalShape; infer_instance

/-- `is_finished(worker, -1)` with the global shape: whoever left a `finished` mark on a copy is involved -/
theorem involved_of_finished (g : Graph) (s : State) (p w m u : Nat) (hp : p < g.nodes.length)
    (hpf : (g.node p).flat = false) (hsh : (g.node p).shape = .global) (hfin : isFinished g s p w (-1) = true)
    (hm : m < g.nodes.length) (hmc : (g.node m).cls = (g.node p).cls) (hmf : (s.nd m).finished = some u) :
    u ∈ involved g s p := by
  unfold isFinished scopeCount at hfin
  simp only [hpf, hsh, Bool.false_eq_true, if_false, beq_self_eq_true, if_true] at hfin
  unfold sameList at hfin
  rw [Bool.and_eq_true, List.all_eq_true] at hfin
  have hu : u ∈ sharedFinished g s p := by
    unfold sharedFinished
    rw [mem_dedupNat, List.mem_filterMap]
    exact ⟨m, (mem_copies g p m hp hpf).mpr ⟨hm, hmc⟩, hmf⟩
  have := hfin.1 u hu
  simpa using this

/-- the copy of `p` the clean decision looks at for worker `v` -/
theorem pickedOf_spec (g : Graph) (p v m : Nat) (hp : p < g.nodes.length) (hpf : (g.node p).flat = false)
    (h : (if g.idIn v p then some p else (g.copies p).tail.find? (fun m => g.idIn v m)) = some m) :
    m < g.nodes.length ∧ (g.node m).cls = (g.node p).cls ∧ g.idIn v m = true := by
  split at h
  · next hi => cases h; exact ⟨hp, rfl, hi⟩
  · have hpred := List.find?_some h
    have hmem := List.mem_of_mem_tail (List.mem_of_find?_eq_some h)
    have := (mem_copies g p m hp hpf).mp hmem
    exact ⟨this.1, this.2, hpred⟩

/-- "dropped means done" across a piece of a step of `w`: a node that worker `u ≠ w` is registered to have dropped is
not being executed by anybody but (possibly) `w` -/
theorem not_in_flight_of_dropped {g : Graph} {s sd : State} (ci : CInv g s) (t : Trv g [] s) (hO : OwnerNames g) {w : Nat}
    (a : Upd g [] w s sd) {v cp c : Nat} (hfc : (g.node c).flat = false) (hrel : relevant g v c = true)
    (hd : v ∈ regWorkers (sd.cr cp).droppedCleanup (some (g.node c).cls))
    (u : Nat) (hu : u ≠ w) (ph : Phase) (dir : Dir) (uid : String) (tag wait : Nat)
    (hpc : (s.wd u).pc = .test c ph dir uid tag wait) : False := by
  obtain ⟨hcl, hidu, _, _⟩ := t.pc u c ph dir uid tag wait hpc
  have huv : u = v := hO.uniq c hcl hfc u v hidu (relevant_nonflat hrel hfc)
  subst huv
  have hnd := ci.not_dropped_in_flight u c ph dir uid tag wait hpc
  rcases a.dropC _ _ u hd with h | ⟨h, _⟩
  · exact hnd ⟨_, h⟩
  · exact hu h

/-! ## instances for the witnesses of `Props/C05.lean` -/

/-- two workers of DIFFERENT swarms; `p` (nodes 0, 1) sets the removable state `vm1/p` (`unset_mode=fi`); its dependants
`c` (nodes 2, 3) and `d` (nodes 4, 5; two concurrent tries allowed); node 6 is the shared root -/
def exCross : Graph :=
  { workers := [{ id := "c1.net1", swarm := "c1" }, { id := "c2.net2", swarm := "c2" }],
    nodes := [
      { cls := 0, owner := some 0, name := "p.c1.net1", pfx := "1a1", objs := ["vm1"],
        sets := [("vm1", "p")], unsetMode := [("vm1", "fi")], setup := [(6, ["vm1"])], cleanup := [(2, ["vm1"]), (4, ["vm1"])] },
      { cls := 0, owner := some 1, name := "p.c2.net2", pfx := "1a1", objs := ["vm1"],
        sets := [("vm1", "p")], unsetMode := [("vm1", "fi")], setup := [(6, ["vm1"])], cleanup := [(3, ["vm1"]), (5, ["vm1"])] },
      { cls := 1, owner := some 0, name := "c.c1.net1", pfx := "2a1", objs := ["vm1"],
        gets := [("vm1", "p")], setup := [(0, ["vm1"])] },
      { cls := 1, owner := some 1, name := "c.c2.net2", pfx := "2a1", objs := ["vm1"],
        gets := [("vm1", "p")], setup := [(1, ["vm1"])] },
      { cls := 2, owner := some 0, name := "d.c1.net1", pfx := "3a1", objs := ["vm1"], mct := some 2,
        gets := [("vm1", "p")], setup := [(0, ["vm1"])] },
      { cls := 2, owner := some 1, name := "d.c2.net2", pfx := "3a1", objs := ["vm1"], mct := some 2,
        gets := [("vm1", "p")], setup := [(1, ["vm1"])] },
      { cls := 3, owner := none, name := "noop", pfx := "1", flat := true, sharedRoot := true,
        cleanup := [(0, ["vm1"]), (1, ["vm1"])] }],
    root := 6 }

/-- `c1.net1` produced `p` and runs `c`; `c2.net2` reused `p` (told to fetch it from `c1.net1`'s pool) and runs `d` -/
def exX3 : State := runSched exCross 100 (initState exCross 4 [] []) [(0, exNoOut), (0, exPass), (1, exNoOut)]

/-- `c1.net1` alone: `p` passed, the result of `c` (node 2) was never reported (ten result waits, default ERROR, the
placeholder stays), `d` is running -/
def exX13 : State :=
  runSched exCross 100 (initState exCross 4 [] []) ([(0, exNoOut), (0, exPass)] ++ List.replicate 11 (0, exNoOut))

/-- two workers of one swarm and a suite that is expanded lazily: the tests `p` (removable state; nodes 0, 1; the composite of
the flat test 7) and `e` (nodes 2, 3; needs `p` and the plain setup `q`, nodes 4, 5; the composite of the flat test 8);
initially only the shared root (6) and the two flat tests exist -/
def exLazyB : Graph :=
  { workers := [{ id := "net1", swarm := "localhost" }, { id := "net2", swarm := "localhost" }],
    nodes := [
      { cls := 0, owner := some 0, name := "p.net1", pfx := "1a1", objs := ["vm1"],
        sets := [("vm1", "p")], unsetMode := [("vm1", "fi")], setup := [(6, ["vm1"]), (7, [])], cleanup := [(2, ["vm1"])] },
      { cls := 0, owner := some 1, name := "p.net2", pfx := "1a1", objs := ["vm1"],
        sets := [("vm1", "p")], unsetMode := [("vm1", "fi")], setup := [(6, ["vm1"]), (7, [])], cleanup := [(3, ["vm1"])] },
      { cls := 1, owner := some 0, name := "e.net1", pfx := "2a1", objs := ["vm1"],
        gets := [("vm1", "p")], setup := [(4, ["vm1"]), (0, ["vm1"]), (8, [])] },
      { cls := 1, owner := some 1, name := "e.net2", pfx := "2a1", objs := ["vm1"],
        gets := [("vm1", "p")], setup := [(5, ["vm1"]), (1, ["vm1"]), (8, [])] },
      { cls := 2, owner := some 0, name := "q.net1", pfx := "3a1", objs := ["vm1"],
        setup := [(6, ["vm1"])], cleanup := [(2, ["vm1"])] },
      { cls := 2, owner := some 1, name := "q.net2", pfx := "3a1", objs := ["vm1"],
        setup := [(6, ["vm1"])], cleanup := [(3, ["vm1"])] },
      { cls := 3, owner := none, name := "noop", pfx := "1", flat := true, sharedRoot := true,
        cleanup := [(7, []), (8, []), (0, ["vm1"]), (1, ["vm1"]), (4, ["vm1"]), (5, ["vm1"])] },
      { cls := 4, owner := none, name := "p", pfx := "1a", flat := true, setless := "p",
        setup := [(6, [])], cleanup := [(0, []), (1, [])] },
      { cls := 5, owner := none, name := "e", pfx := "2a", flat := true, setless := "e",
        setup := [(6, [])], cleanup := [(2, []), (3, [])] }],
    root := 6 }

/-- net1 expanded the flat test `p` for itself and runs its copy of `p`; net2 expanded the flat test `e` for itself
(which revealed its copies of `e`, `p`, `q`) and runs `q` first: it has not picked its copy of `p` yet -/
def exB2 : State := runSched exLazyB 100 (initState exLazyB 6 [] [0, 1, 2, 3, 4, 5]) [(0, exNoOut), (1, exNoOut)]
/-- … `p` passed on net1 -/
def exB3 : State := (resume exLazyB exB2 0 exPass 100).1

/-- the static hypotheses of the run-level theorems of `Props/C01.lean` and `Props/C05.lean` (`WellFormed` includes
`graphWF`, `ownerNamesB` and `FlatClass`) -/
theorem exGraph_wellFormed : WellFormed exGraph 3 ∧ OneScope exGraph ∧ GlobalShape exGraph := by
  decide +kernel

end I2N.Trav.Clean
