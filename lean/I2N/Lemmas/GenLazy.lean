import I2N.Extracted.GenLazy
import I2N.Extracted.GenInvolved
import I2N.Lemmas.PyGenList

/-! Closed forms of the definitions `harness/pygen_pxloc.py` generates from `TestNode.is_unrolled`, `should_parse`,
`is_flat`, `is_shared_root`, `is_object_root`, `get_stateful_objects`, `shared_involved_workers`
(`Extracted/GenLazy.lean`, `Extracted/GenInvolved.lean`).  The equalities with the hand written model are in
`Props/C02.lean` and `Props/C05.lean`. -/
namespace I2N.GenLazy
open I2N.Trav
open I2N.Extracted.GenLazy
open I2N.Extracted.GenInvolved

/-- a search loop whose every `return` gives the same value -/
theorem findSome_const {α β : Type} (l : List α) (p : α → Bool) (v : β) :
    l.findSome? (fun x => if p x then some v else none) = if l.any p then some v else none := by
  induction l with
  | nil => rfl
  | cons a l ih =>
    by_cases h : p a = true
    · simp [h]
    · simp [h, ih]

/-- the workers recorded as incompatible for the flat node `f` -/
def incompatOf (s : State) (f : Nat) : List Nat := (s.incompatible.filter (·.1 == f)).map (·.2)

theorem incompatOf_contains (s : State) (f w : Nat) :
    (incompatOf s f).contains w = s.incompatible.contains (f, w) := by
  rw [Bool.eq_iff_iff]
  simp only [incompatOf, List.contains_iff_mem, List.mem_map, List.mem_filter, beq_iff_eq]
  constructor
  · rintro ⟨⟨a1, a2⟩, ⟨hm, rfl⟩, rfl⟩; exact hm
  · intro h; exact ⟨(f, w), ⟨h, rfl⟩, rfl⟩

theorem incompatOf_isEmpty (s : State) (f : Nat) :
    (!(incompatOf s f).isEmpty) = s.incompatible.any (·.1 == f) := by
  rw [incompatOf, List.isEmpty_map, I2N.PyGen.filter_isEmpty, Bool.not_not]

/-- the search loop of `is_unrolled` for a given worker (normal form of the generated lambda) -/
theorem findSome_worker {α : Type} (l : List α) (p q : α → Bool) :
    l.findSome? (fun x => if p x = true then if q x = true then some true else if false = true then some true else none
      else none) = if l.any (fun x => p x && q x) then some true else none := by
  have h : (fun x => if p x = true then if q x = true then some true else if false = true then some true else none
      else none) = (fun x => if (p x && q x) then some true else none) := by
    funext x; cases p x <;> cases q x <;> simp
  rw [h, findSome_const]

/-- the search loop of `is_unrolled` without a worker -/
theorem findSome_any {α : Type} (l : List α) (p : α → Bool) :
    l.findSome? (fun x => if p x = true then if false = true then some true else if True then some true else none
      else none) = if l.any p then some true else none := by
  have h : (fun x => if p x = true then if false = true then some true else if True then some true else none
      else none) = (fun x => if p x then some true else none) := by
    funext x; cases p x <;> simp
  rw [h, findSome_const]

/-- closed form of the generated `is_unrolled` -/
theorem genIsUnrolled_eq (sharedRoot flat : Bool) (worker : Option Nat) (incompat cleanup : List Nat) (setless : String)
    (nodeId workerId : Nat → String) :
    genIsUnrolled sharedRoot flat worker incompat cleanup setless nodeId workerId =
      if sharedRoot then .ok true else if !flat then .error "RuntimeError" else
      .ok (match worker with
        | some w => incompat.contains w ||
            (cleanup.filter (fun c => strIn setless (nodeId c))).any (fun c => strIn (workerId w) (nodeId c))
        | none => !incompat.isEmpty || !(cleanup.filter (fun c => strIn setless (nodeId c))).isEmpty) := by
  cases sharedRoot
  · cases flat
    · rfl
    · cases worker with
      | none =>
        simp only [genIsUnrolled, Option.isSome_none, Option.isNone_none, Bool.true_and, Bool.false_and, findSome_any,
          I2N.PyGen.filter_isEmpty]
        generalize incompat.isEmpty = b1
        generalize cleanup.any _ = b2
        cases b1 <;> cases b2 <;> rfl
      | some w =>
        simp only [genIsUnrolled, Option.isSome_some, Option.getD_some, Option.isNone_some, Bool.true_and,
          Bool.false_and, findSome_worker, List.any_filter]
        generalize incompat.contains w = b1
        generalize cleanup.any _ = b2
        cases b1 <;> cases b2 <;> rfl
  · rfl

theorem len_eq_zero {α : Type} (l : List α) : ((Int.ofNat l.length) == (0 : Int)) = l.isEmpty := by
  cases l with
  | nil => rfl
  | cons a l =>
    simp only [List.length_cons, List.isEmpty_cons, beq_eq_false_iff_ne, ne_eq]
    intro h
    have h' : ((l.length + 1 : Nat) : Int) = 0 := h
    omega

/-- closed form of the generated `should_parse` -/
theorem genShouldParse_eq (involved : List Nat) (unrolled cleanupReady : Nat → Bool) (restrs : Nat → List String) :
    genShouldParse involved unrolled cleanupReady restrs =
      !involved.any (fun v => unrolled v && cleanupReady v && (restrs v).isEmpty) := by
  simp only [genShouldParse, findSome_const, len_eq_zero]
  generalize involved.any _ = b
  cases b <;> rfl

/-- closed forms of the generated one-liners -/
theorem genIsFlat_eq (objects : List String) : genIsFlat objects = objects.isEmpty := by
  simp only [genIsFlat, len_eq_zero]; rfl

theorem genIsSharedRoot_eq (getBoolean : String → Bool → Bool) :
    genIsSharedRoot getBoolean = getBoolean "shared_root" false := rfl

theorem genIsObjectRoot_eq (paramKeys : List String) : genIsObjectRoot paramKeys = paramKeys.contains "object_root" := rfl

/-- closed form of the generated `get_stateful_objects`: the objects with a state of kind `do`, in object order -/
theorem genGetStatefulObjects_eq (kind : String) (objects : List Nat) (hasState : String → Nat → Bool) :
    genGetStatefulObjects kind objects hasState = objects.filter (hasState kind) := by
  simp only [genGetStatefulObjects]
  exact (I2N.PyGen.foldl_append_if (hasState kind) objects []).trans (List.nil_append _)

theorem flatMap_filter {α : Type} (ls : List (List α)) (p : α → Bool) :
    ls.flatMap (fun s => (s.filter p).map (fun w => w)) = ls.flatten.filter p := by
  induction ls with
  | nil => rfl
  | cons a l ih =>
    rw [List.flatMap_cons, ih, List.flatten_cons, List.filter_append, List.map_id']

/-- closed form of the generated `shared_involved_workers` -/
theorem genSharedInvolvedWorkers_eq (bySetup byCleanup : List Nat) (swarms : List (List Nat)) :
    genSharedInvolvedWorkers bySetup byCleanup swarms =
      swarms.flatten.filter (fun w => (bySetup ++ byCleanup).contains w) := by
  simp only [genSharedInvolvedWorkers]
  exact flatMap_filter swarms _

end I2N.GenLazy
