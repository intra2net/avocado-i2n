import I2N.Model.Index
/-! Helper lemmas for C16 (engine E1). -/
namespace I2N.Index

def paths (t : Trie) : List (List String) := t.map (·.path)

/-- the trie has a node with path `p` whose end marker is `id` -/
def HasFin (t : Trie) (p : List String) (id : Nat) : Prop := ∃ e ∈ t, e.path = p ∧ e.fin = some id

theorem hasPath_iff (t : Trie) (p : List String) : hasPath t p = true ↔ p ∈ paths t := by
  simp [hasPath, paths, List.any_eq_true]

theorem mem_labelled (t : Trie) (v : String) (p : List String) :
    p ∈ labelled t v ↔ p ∈ paths t ∧ p.getLast? = some v := by
  simp [labelled, paths, endsWith]

theorem paths_append (t : Trie) (e : Entry) : paths (t ++ [e]) = paths t ++ [e.path] := by
  simp [paths]

theorem paths_setEnd (t : Trie) (p : List String) (id : Nat) : paths (setEnd t p id) = paths t := by
  unfold paths setEnd
  rw [List.map_map]
  apply List.map_congr_left
  intro e _
  simp only [Function.comp]
  split <;> rfl

theorem hasFin_setEnd (t : Trie) (p q : List String) (id id' : Nat) :
    HasFin (setEnd t p id) q id' ↔ (q = p ∧ id' = id ∧ p ∈ paths t) ∨ (q ≠ p ∧ HasFin t q id') := by
  unfold HasFin setEnd paths
  simp only [List.mem_map]
  constructor
  · rintro ⟨_, ⟨e, he, rfl⟩, hq, hf⟩
    by_cases h : e.path = p
    · rw [if_pos (beq_iff_eq.mpr h)] at hq hf
      exact Or.inl ⟨hq.symm.trans h, (Option.some.inj hf).symm, e, he, h⟩
    · rw [if_neg (mt beq_iff_eq.mp h)] at hq hf
      exact Or.inr ⟨hq ▸ h, e, he, hq, hf⟩
  · rintro (⟨rfl, rfl, e, he, h⟩ | ⟨hne, e, he, hq, hf⟩)
    · refine ⟨_, ⟨e, he, rfl⟩, ?_⟩
      rw [if_pos (beq_iff_eq.mpr h)]
      exact ⟨h, rfl⟩
    · refine ⟨_, ⟨e, he, rfl⟩, ?_⟩
      rw [if_neg (mt beq_iff_eq.mp (hq ▸ hne))]
      exact ⟨hq, hf⟩

theorem hasFin_append_none (t : Trie) (p q : List String) (id : Nat) :
    HasFin (t ++ [⟨p, none⟩]) q id ↔ HasFin t q id := by
  simp only [HasFin, List.mem_append, List.mem_singleton, or_and_right, exists_or, exists_eq_left, reduceCtorEq,
    and_false, or_false]

/-- one step of `walk` (and the first step of `insert`): create the node `p` unless it is there -/
def ensure (t : Trie) (p : List String) : Trie := if hasPath t p then t else t ++ [⟨p, none⟩]

theorem walk_cons (t : Trie) (p : List String) (v : String) (rs : List String) (id : Nat) :
    walk t p (v :: rs) id = walk (ensure t (p ++ [v])) (p ++ [v]) rs id := rfl

theorem mem_paths_ensure (t : Trie) (p q : List String) : q ∈ paths (ensure t p) ↔ q ∈ paths t ∨ q = p := by
  unfold ensure
  split
  · rename_i h
    exact ⟨Or.inl, fun h' => h'.elim id fun e => e ▸ (hasPath_iff t p).mp h⟩
  · rw [paths_append, List.mem_append, List.mem_singleton]

theorem nodup_ensure (t : Trie) (p : List String) (h : (paths t).Nodup) : (paths (ensure t p)).Nodup := by
  unfold ensure
  split
  · exact h
  · rename_i hp
    rw [paths_append, List.nodup_append]
    refine ⟨h, by simp, fun a ha b hb hab => hp ((hasPath_iff t p).mpr ?_)⟩
    have hb' : b = p := List.mem_singleton.mp hb
    exact hb' ▸ hab ▸ ha

theorem hasFin_ensure (t : Trie) (p q : List String) (id : Nat) : HasFin (ensure t p) q id ↔ HasFin t q id := by
  unfold ensure
  split
  · rfl
  · exact hasFin_append_none t p q id

theorem exists_prefix_cons (v : String) (rs : List String) (P : List String → Prop) :
    (∃ r, r ≠ [] ∧ r <+: v :: rs ∧ P r) ↔ P [v] ∨ ∃ r, r ≠ [] ∧ r <+: rs ∧ P (v :: r) := by
  constructor
  · rintro ⟨r, hne, hpre, hP⟩
    match r, hne, hpre with
    | a :: r', _, hpre =>
      obtain ⟨rfl, hpre'⟩ := List.cons_prefix_cons.mp hpre
      by_cases hr' : r' = []
      · exact Or.inl (hr' ▸ hP)
      · exact Or.inr ⟨r', hr', hpre', hP⟩
  · rintro (hP | ⟨r, _, hpre, hP⟩)
    · exact ⟨[v], List.cons_ne_nil _ _, List.cons_prefix_cons.mpr ⟨rfl, List.nil_prefix⟩, hP⟩
    · exact ⟨v :: r, List.cons_ne_nil _ _, List.cons_prefix_cons.mpr ⟨rfl, hpre⟩, hP⟩

theorem walk_paths (t : Trie) (p rest : List String) (id : Nat) (q : List String) :
    q ∈ paths (walk t p rest id) ↔ q ∈ paths t ∨ ∃ r, r ≠ [] ∧ r <+: rest ∧ q = p ++ r := by
  induction rest generalizing t p with
  | nil =>
    rw [walk, paths_setEnd]
    exact ⟨Or.inl, fun h => h.elim (fun h => h) fun ⟨r, hr, hpre, _⟩ => absurd (List.prefix_nil.mp hpre) hr⟩
  | cons v rs ih =>
    rw [walk_cons, ih, mem_paths_ensure, exists_prefix_cons, or_assoc]
    simp only [List.append_assoc, List.singleton_append]

theorem walk_nodup (t : Trie) (p rest : List String) (id : Nat) (h : (paths t).Nodup) :
    (paths (walk t p rest id)).Nodup := by
  induction rest generalizing t p with
  | nil => rwa [walk, paths_setEnd]
  | cons v rs ih => exact ih _ _ (nodup_ensure t _ h)

theorem walk_hasFin (t : Trie) (p rest : List String) (id : Nat) (hp : p ∈ paths t) (q : List String) (id' : Nat) :
    HasFin (walk t p rest id) q id' ↔ (q = p ++ rest ∧ id' = id) ∨ (q ≠ p ++ rest ∧ HasFin t q id') := by
  induction rest generalizing t p with
  | nil => rw [walk, List.append_nil, hasFin_setEnd]; simp only [hp, and_true]
  | cons v rs ih =>
    rw [walk_cons, ih _ _ ((mem_paths_ensure t _ _).mpr (Or.inr rfl)), hasFin_ensure, List.append_assoc,
      List.singleton_append]

/-! ### well-formed (parser-shaped) name sets and the trie invariant -/

/-- the part of parser-shapedness the lookup *membership* needs: names pairwise distinct, non-empty, and the
    first (set) variant of a name occurs in no name at a later position.  (Really parsed multi-vm names repeat
    inner variants — e.g. the `nets.<swarm>.<net>` block once per vm — and still satisfy this.) -/
structure WFb (ns : List (List String × Nat)) : Prop where
  names_nodup : (ns.map (·.1)).Nodup
  nonempty : ∀ n ∈ ns, n.1 ≠ []
  head_not_later : ∀ n ∈ ns, ∀ m ∈ ns, ∀ h, n.1.head? = some h → h ∉ m.1.tail

/-- parser-shaped names as the property quantifies them: `WFb` and no variant repeated within a name -/
structure WF (ns : List (List String × Nat)) : Prop extends WFb ns where
  var_nodup : ∀ n ∈ ns, n.1.Nodup

/-- decidable form of `WF` (used for the non-vacuity examples and by monitors) -/
def wfCheck (ns : List (List String × Nat)) : Bool :=
  decide ((ns.map (·.1)).Nodup) &&
  ns.all (fun n => decide (n.1 ≠ []) && decide (n.1.Nodup)) &&
  ns.all (fun n => ns.all (fun m => match n.1.head? with | none => true | some h => !(m.1.tail.contains h)))

theorem wfCheck_sound (ns : List (List String × Nat)) (h : wfCheck ns = true) : WF ns := by
  simp only [wfCheck, Bool.and_eq_true, decide_eq_true_eq, List.all_eq_true] at h
  obtain ⟨⟨h1, h2⟩, h3⟩ := h
  refine ⟨⟨h1, fun n hn => (h2 n hn).1, ?_⟩, fun n hn => (h2 n hn).2⟩
  intro n hn m hm hd hhd
  have := h3 n hn m hm
  rw [hhd] at this
  simpa using this

structure Inv (t : Trie) (ns : List (List String × Nat)) : Prop where
  nodup : (paths t).Nodup
  paths_iff : ∀ p, p ∈ paths t ↔ p ≠ [] ∧ ∃ n ∈ ns, p <+: n.1
  fin_iff : ∀ p id, HasFin t p id ↔ (p, id) ∈ ns

theorem inv_nil : Inv [] [] := by
  refine ⟨by simp [paths], ?_, ?_⟩
  · intro p; simp [paths]
  · intro p id; simp [HasFin]

theorem wf_prefix {ns r : List (List String × Nat)} (h : WFb (ns ++ r)) : WFb ns := by
  refine ⟨?_, ?_, ?_⟩
  · have := h.names_nodup
    rw [List.map_append, List.nodup_append] at this
    exact this.1
  · intro m hm; exact h.nonempty m (List.mem_append_left _ hm)
  · intro a ha b hb; exact h.head_not_later a (List.mem_append_left _ ha) b (List.mem_append_left _ hb)

/-- a list without duplicates, all of whose elements equal `a`, and which contains `a`, is `[a]` -/
theorem eq_singleton_of_nodup {α} (l : List α) (a : α) (hn : l.Nodup) (hall : ∀ x ∈ l, x = a) (hne : l ≠ []) :
    l = [a] := by
  match l, hn, hall, hne with
  | [x], _, hall, _ => rw [hall x (by simp)]
  | x :: y :: r, hn, hall, _ =>
    have hx := hall x (by simp)
    have hy := hall y (by simp)
    rw [List.nodup_cons] at hn
    exact absurd (by rw [hx, hy]; simp) hn.1

/-- under WF, the only trie node labelled with a name's first variant is the root of that variant -/
theorem labelled_head {t : Trie} {ns : List (List String × Nat)} (hinv : Inv t ns)
    (v0 : String) (hv0 : ∀ m ∈ ns, v0 ∉ m.1.tail) (p : List String) (hp : p ∈ labelled t v0) : p = [v0] := by
  rw [mem_labelled] at hp
  obtain ⟨hp1, hlast⟩ := hp
  obtain ⟨hne, m, hm, hpre⟩ := (hinv.paths_iff p).1 hp1
  match p, hne, hlast, hpre with
  | [a], _, hlast, _ => simp at hlast; rw [hlast]
  | a :: b :: r, _, hlast, hpre =>
    exfalso
    apply hv0 m hm
    obtain ⟨s, hs⟩ := hpre
    rw [← hs]
    have : v0 ∈ b :: r := by
      have := List.mem_of_getLast? (l := b :: r) (a := v0) (by simpa using hlast)
      exact this
    simp only [List.cons_append, List.tail_cons]
    exact List.mem_append_left _ this

/-- under WF the first step of `insert` is a step of `walk`, and then the loop over the nodes labelled with the
first variant runs once, from the root of that variant -/
theorem insert_eq_walk {t : Trie} {ns : List (List String × Nat)} (hinv : Inv t ns)
    (v0 : String) (rest : List String) (id : Nat) (hv0 : ∀ m ∈ ns, v0 ∉ m.1.tail) :
    insert t (v0 :: rest) id = walk (ensure t [v0]) [v0] rest id := by
  have hhead : ∀ p ∈ labelled (ensure t [v0]) v0, p = [v0] := fun p hp => by
    obtain ⟨hp1, hlast⟩ := (mem_labelled _ _ _).mp hp
    exact ((mem_paths_ensure t _ p).mp hp1).elim
      (fun h => labelled_head hinv v0 hv0 p ((mem_labelled _ _ _).mpr ⟨h, hlast⟩)) fun h => h
  have hlab : labelled (ensure t [v0]) v0 = [[v0]] :=
    eq_singleton_of_nodup _ _ (List.Nodup.sublist List.filter_sublist (nodup_ensure t _ hinv.nodup)) hhead
      (List.ne_nil_of_mem ((mem_labelled _ _ _).mpr ⟨(mem_paths_ensure t _ _).mpr (Or.inr rfl), rfl⟩))
  have ht1 : (if (labelled t v0).isEmpty then t ++ [⟨[v0], none⟩] else t) = ensure t [v0] := by
    unfold ensure
    by_cases h : hasPath t [v0] = true
    · have : [v0] ∈ labelled t v0 := (mem_labelled _ _ _).mpr ⟨(hasPath_iff _ _).mp h, rfl⟩
      rw [if_pos h, if_neg fun hemp => List.ne_nil_of_mem this (List.isEmpty_iff.mp hemp)]
    · have : labelled t v0 = [] := List.eq_nil_iff_forall_not_mem.mpr fun p hp =>
        h ((hasPath_iff _ _).mpr (labelled_head hinv v0 hv0 p hp ▸ ((mem_labelled _ _ _).mp hp).1))
      rw [if_neg h, this]; rfl
  simp only [insert, ht1, hlab, List.foldl_cons, List.foldl_nil]

theorem prefix_cons_iff (q : List String) (v0 : String) (rest : List String) :
    (q ≠ [] ∧ q <+: v0 :: rest) ↔ (q = [v0] ∨ ∃ r, r ≠ [] ∧ r <+: rest ∧ q = [v0] ++ r) :=
  Iff.trans ⟨fun ⟨a, b⟩ => ⟨q, a, b, rfl⟩, fun ⟨_, a, b, e⟩ => e ▸ ⟨a, b⟩⟩ (exists_prefix_cons v0 rest (q = ·))

theorem inv_insert {t : Trie} {ns : List (List String × Nat)} (hinv : Inv t ns) (name : List String) (id : Nat)
    (hwf : WFb (ns ++ [(name, id)])) : Inv (insert t name id) (ns ++ [(name, id)]) := by
  have hmem : (name, id) ∈ ns ++ [(name, id)] := by simp
  have hne := hwf.nonempty _ hmem
  match name, hne with
  | v0 :: rest, _ =>
    have hv0 : ∀ m ∈ ns, v0 ∉ m.1.tail := fun m hm =>
      hwf.head_not_later _ hmem m (List.mem_append_left _ hm) v0 rfl
    rw [insert_eq_walk hinv v0 rest id hv0]
    have hroot : [v0] ∈ paths (ensure t [v0]) := (mem_paths_ensure t _ _).mpr (Or.inr rfl)
    refine ⟨walk_nodup _ _ _ _ (nodup_ensure t _ hinv.nodup), ?_, ?_⟩
    · intro p
      rw [walk_paths, mem_paths_ensure, hinv.paths_iff, or_assoc, ← prefix_cons_iff p v0 rest]
      simp only [List.mem_append, List.mem_singleton, or_and_right, exists_or, exists_eq_left, and_or_left]
    · intro p id'
      rw [walk_hasFin _ _ _ _ hroot, hasFin_ensure, hinv.fin_iff]
      have hnew : (p, id') ∈ ns → p ≠ [v0] ++ rest := fun h e =>
        (List.nodup_append.mp (List.map_append ▸ hwf.names_nodup)).2.2 p (List.mem_map.2 ⟨_, h, rfl⟩) _
          (List.mem_singleton.mpr rfl) e
      rw [List.mem_append, List.mem_singleton, Prod.mk.injEq, and_iff_right_of_imp hnew, or_comm]
      rfl

theorem inv_foldl (done rest : List (List String × Nat)) (t : Trie) (hinv : Inv t done) (hwf : WFb (done ++ rest)) :
    Inv (rest.foldl (fun t n => insert t n.1 n.2) t) (done ++ rest) := by
  induction rest generalizing done t with
  | nil => simpa using hinv
  | cons n rs ih =>
    simp only [List.foldl_cons]
    have hassoc : done ++ n :: rs = (done ++ [n]) ++ rs := by simp
    rw [hassoc] at hwf ⊢
    apply ih
    · have hw : WFb (done ++ [n]) := wf_prefix hwf
      obtain ⟨a, b⟩ := n
      exact inv_insert hinv a b hw
    · exact hwf

theorem inv_insertAll (ns : List (List String × Nat)) (hwf : WFb ns) : Inv (insertAll ns) ns := by
  have := inv_foldl [] ns [] inv_nil (by simpa using hwf)
  simpa [insertAll] using this

theorem follow_some (t : Trie) (p qs p' : List String) (h : follow t p qs = some p') :
    p' = p ++ qs ∧ (qs ≠ [] → p ++ qs ∈ paths t) := by
  fun_induction follow t p qs with
  | case1 p => cases h; exact ⟨(List.append_nil _).symm, fun h => absurd rfl h⟩
  | case2 p v rs hh ih =>
    obtain ⟨h1, h2⟩ := ih h
    rw [List.append_assoc] at h1 h2
    refine ⟨h1, fun _ => ?_⟩
    by_cases hrs : rs = []
    · subst hrs; exact (hasPath_iff _ _).mp hh
    · exact h2 hrs
  | case3 p v rs hh => cases h

theorem follow_of_prefixes (t : Trie) (p qs : List String)
    (h : ∀ r, r ≠ [] → r <+: qs → p ++ r ∈ paths t) : follow t p qs = some (p ++ qs) := by
  fun_induction follow t p qs with
  | case1 p => rw [List.append_nil]
  | case2 p v rs hh ih =>
    rw [ih fun r hr hpre => ?_, List.append_assoc]; rfl
    rw [List.append_assoc]
    exact h (v :: r) (List.cons_ne_nil _ _) (List.cons_prefix_cons.mpr ⟨rfl, hpre⟩)
  | case3 p v rs hh =>
    exact absurd ((hasPath_iff _ _).mpr (h [v] (List.cons_ne_nil _ _) (List.cons_prefix_cons.mpr ⟨rfl, List.nil_prefix⟩))) hh

theorem mem_below (t : Trie) (p : List String) (id : Nat) :
    id ∈ below t p ↔ ∃ q, p <+: q ∧ HasFin t q id := by
  simp only [below, HasFin, List.mem_filterMap, Option.ite_none_right_eq_some, List.isPrefixOf_iff_prefix]
  constructor
  · rintro ⟨e, he, hpre, hf⟩; exact ⟨e.path, hpre, e, he, rfl, hf⟩
  · rintro ⟨q, hpre, e, he, rfl, hf⟩; exact ⟨e, he, hpre, hf⟩

theorem mem_get (t : Trie) (q0 : String) (qs : List String) (id : Nat) :
    id ∈ get t (q0 :: qs) ↔ ∃ p ∈ labelled t q0, ∃ p', follow t p qs = some p' ∧ id ∈ below t p' := by
  simp only [get, List.mem_flatMap]
  constructor
  · rintro ⟨p, hp, h⟩
    split at h
    · rename_i p' hf; exact ⟨p, hp, p', hf, h⟩
    · simp at h
  · rintro ⟨p, hp, p', hf, h⟩
    refine ⟨p, hp, ?_⟩
    rw [hf]; exact h

/-- a nonempty prefix of a path of the trie is a path of the trie -/
theorem Inv.prefix_closed {t : Trie} {ns} (hinv : Inv t ns) (p q : List String) (hq : q ∈ paths t)
    (hne : p ≠ []) (hpre : p <+: q) : p ∈ paths t := by
  obtain ⟨_, n, hn, hqn⟩ := (hinv.paths_iff q).1 hq
  exact (hinv.paths_iff p).2 ⟨hne, n, hn, List.IsPrefix.trans hpre hqn⟩

theorem follow_mem_paths {t : Trie} {p qs p' : List String} (hp : p ∈ paths t) (h : follow t p qs = some p') :
    p' ∈ paths t := by
  obtain ⟨rfl, h2⟩ := follow_some t p qs p' h
  by_cases hqs : qs = []
  · rwa [hqs, List.append_nil]
  · exact h2 hqs

/-- every node of the trie has the end of an inserted name below it -/
theorem Inv.exists_mem_below {t : Trie} {ns} (hinv : Inv t ns) {p : List String} (hp : p ∈ paths t) :
    ∃ id, id ∈ below t p := by
  obtain ⟨_, n, hn, hpre⟩ := (hinv.paths_iff p).1 hp
  exact ⟨n.2, (mem_below t p n.2).2 ⟨n.1, hpre, (hinv.fin_iff _ _).2 hn⟩⟩

theorem mem_get_iff {t : Trie} {ns : List (List String × Nat)} (hinv : Inv t ns) (q0 : String) (qs : List String)
    (id : Nat) : id ∈ get t (q0 :: qs) ↔ ∃ name, (name, id) ∈ ns ∧ (q0 :: qs) <:+: name := by
  rw [mem_get]
  constructor
  · rintro ⟨p, hp, p', hf, hb⟩
    obtain ⟨hp1, hlast⟩ := (mem_labelled _ _ _).1 hp
    obtain ⟨rfl, _⟩ := follow_some _ _ _ _ hf
    obtain ⟨name, hpre, hfin⟩ := (mem_below _ _ _).1 hb
    refine ⟨name, (hinv.fin_iff _ _).1 hfin, ?_⟩
    obtain ⟨a, rfl⟩ := List.getLast?_eq_some_iff.1 hlast
    obtain ⟨s, rfl⟩ := hpre
    exact ⟨a, s, by simp⟩
  · rintro ⟨name, hmem, a, s, hname⟩
    have hnamep : ∀ r, r ≠ [] → r <+: name → r ∈ paths t := fun r hr hpre =>
      (hinv.paths_iff r).2 ⟨hr, _, hmem, hpre⟩
    refine ⟨a ++ [q0], (mem_labelled _ _ _).2 ⟨hnamep _ (by simp) ⟨qs ++ s, by simp [← hname]⟩, by simp⟩,
      (a ++ [q0]) ++ qs, ?_, ?_⟩
    · apply follow_of_prefixes
      intro r _ ⟨s', hs'⟩
      apply hnamep _ (by simp)
      exact ⟨s' ++ s, by simp [← hname, ← hs']⟩
    · rw [mem_below]
      exact ⟨name, ⟨s, by simp [← hname]⟩, (hinv.fin_iff _ _).2 hmem⟩

theorem contains_iff (t : Trie) (q0 : String) (qs : List String) :
    contains t (q0 :: qs) = true ↔ ∃ p ∈ labelled t q0, ∃ p', follow t p qs = some p' := by
  simp [contains, List.any_eq_true, Option.isSome_iff_exists]

theorem snd_inj_of_nodup {α} (ns : List (α × Nat)) (h : (ns.map (·.2)).Nodup) (x y : α) (i : Nat)
    (hx : (x, i) ∈ ns) (hy : (y, i) ∈ ns) : x = y := by
  induction ns with
  | nil => simp at hx
  | cons n rs ih =>
    simp only [List.map_cons, List.nodup_cons] at h
    rcases List.mem_cons.1 hx with hx | hx <;> rcases List.mem_cons.1 hy with hy | hy
    · rw [← hx] at hy; exact (Prod.mk.inj hy).1.symm
    · exfalso; apply h.1; rw [← hx]; exact List.mem_map.2 ⟨_, hy, rfl⟩
    · exfalso; apply h.1; rw [← hy]; exact List.mem_map.2 ⟨_, hx, rfl⟩
    · exact ih h.2 hx hy

/-- two prefixes of a duplicate-free list that end in the same element are equal -/
theorem prefix_same_last_eq (n p1 p2 : List String) (v : String) (hn : n.Nodup)
    (h1 : p1 ++ [v] <+: n) (h2 : p2 ++ [v] <+: n) : p1 = p2 := by
  have key : ∀ {a b : List String}, b ++ [v] <+: n → a ++ [v] <+: b ++ [v] → a = b := by
    intro a b hb hab
    rcases List.prefix_concat_iff.mp hab with h | h
    · exact List.append_cancel_right h
    · have hv : v ∈ b := h.subset (List.mem_append_right _ (List.mem_singleton.mpr rfl))
      exact absurd rfl ((List.nodup_append.mp (hn.sublist hb.sublist)).2.2 v hv v (List.mem_singleton.mpr rfl))
  rcases List.prefix_or_prefix_of_prefix h1 h2 with h | h
  · exact key h2 h
  · exact (key h1 h).symm

theorem get_nodup {t : Trie} {ns : List (List String × Nat)} (hinv : Inv t ns) (hwf : WF ns)
    (hids : (ns.map (·.2)).Nodup) (q : List String) : (get t q).Nodup := by
  cases q with
  | nil => simp [get]
  | cons q0 qs =>
    unfold get
    simp only
    rw [List.Nodup, List.pairwise_flatMap]
    constructor
    · intro p _
      split
      · -- below is duplicate free
        rename_i p' _
        unfold below
        have hp : List.Pairwise (fun a b : Entry => a ∈ t ∧ b ∈ t ∧ a.path ≠ b.path) t :=
          List.Pairwise.and_mem.mp (List.pairwise_map.mp hinv.nodup)
        refine List.Pairwise.filterMap _ ?_ hp
        rintro e e' ⟨he, he', hne⟩ b hb b' hb' rfl
        exact hne (snd_inj_of_nodup ns hids _ _ b
          ((hinv.fin_iff _ _).1 ⟨e, he, rfl, (Option.ite_none_right_eq_some.mp hb).2⟩)
          ((hinv.fin_iff _ _).1 ⟨e', he', rfl, (Option.ite_none_right_eq_some.mp hb').2⟩))
      · simp
    · have hl : (labelled t q0).Nodup := by
        unfold labelled; exact List.Nodup.sublist List.filter_sublist hinv.nodup
      rw [List.Nodup, List.Pairwise.and_mem] at hl
      refine hl.imp ?_
      rintro p1 p2 ⟨h1, h2, hne⟩ x hx y hy hxy
      subst hxy
      apply hne
      cases hf1 : follow t p1 qs with
      | none => simp [hf1] at hx
      | some p1' =>
      cases hf2 : follow t p2 qs with
      | none => simp [hf2] at hy
      | some p2' =>
      simp only [hf1] at hx
      simp only [hf2] at hy
      obtain ⟨rfl, _⟩ := follow_some _ _ _ _ hf1
      obtain ⟨rfl, _⟩ := follow_some _ _ _ _ hf2
      obtain ⟨n1, hpre1, hfin1⟩ := (mem_below _ _ _).1 hx
      obtain ⟨n2, hpre2, hfin2⟩ := (mem_below _ _ _).1 hy
      have hm1 := (hinv.fin_iff _ _).1 hfin1
      have hm2 := (hinv.fin_iff _ _).1 hfin2
      have : n1 = n2 := snd_inj_of_nodup ns hids _ _ x hm1 hm2
      subst this
      obtain ⟨a1, rfl⟩ := List.getLast?_eq_some_iff.1 ((mem_labelled _ _ _).1 h1).2
      obtain ⟨a2, rfl⟩ := List.getLast?_eq_some_iff.1 ((mem_labelled _ _ _).1 h2).2
      have := prefix_same_last_eq n1 a1 a2 q0 (hwf.var_nodup _ hm1)
        (List.IsPrefix.trans ⟨qs, rfl⟩ hpre1) (List.IsPrefix.trans ⟨qs, rfl⟩ hpre2)
      rw [this]

end I2N.Index
