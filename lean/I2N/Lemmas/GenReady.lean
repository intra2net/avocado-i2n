import I2N.Extracted.GenReady
import I2N.Lemmas.PyGenSort
import I2N.Lemmas.TravTerm
/-!
# What the definitions generated from `is_*_ready`, `drop_*`, `pick_*` compute (closed forms)

`Extracted/GenReady.lean` is regenerated by `harness/pygen_pxready.py` from the current source of
avocado_i2n/cartgraph/node.py.  These lemmas bring the generated `do` blocks into the combinator form of the hand model;
the equalities with the hand model are in `Props/C02.lean`.  A change of the Python that changes the generated text makes
this file (or the Props file) fail to compile.
-/
namespace I2N.GenReady
open I2N.Trav
open I2N.Extracted.GenReady

theorem genIsSetupReady_all (l : List Nat) (flat idIn dropped : Nat → Bool) :
    genIsSetupReady l flat idIn dropped = l.all (fun p => !(flat p || idIn p) || dropped p) := by
  have h := I2N.PyGenSort.find_guard_all l (fun p => !flat p && !idIn p) (fun p => !dropped p)
  have e : genIsSetupReady l flat idIn dropped =
      ((l.filter (fun p => !(!flat p && !idIn p))).find? (fun p => !dropped p)).isNone := by
    unfold genIsSetupReady
    cases (l.filter (fun p => !(!flat p && !idIn p))).find? (fun p => !dropped p) <;> rfl
  rw [e, h]
  congr 1
  funext p
  cases flat p <;> cases idIn p <;> cases dropped p <;> rfl

/-- the generated text is that of `is_setup_ready`, with `cleanup` for `setup` -/
theorem genIsCleanupReady_all (l : List Nat) (flat idIn dropped : Nat → Bool) :
    genIsCleanupReady l flat idIn dropped = l.all (fun p => !(flat p || idIn p) || dropped p) :=
  genIsSetupReady_all l flat idIn dropped

/-- the registers after a generated register action (whether or not it raises) -/
def execRegs (m : RegM Unit) (r : ClassRegs) : ClassRegs := (m.run.run r).2

/-- the three keys of the picks: flat nodes first, then fewest picks, then the rank of the prefix -/
def flatKey (flat : Nat → Bool) (p : Nat) : Nat := if flat p then 0 else 1

open I2N.PyGenSort in
theorem three_sorts (flat : Nat → Bool) (picks rank : Nat → Nat) (l : List Nat) :
    sortedByKey (fun n => if flat n then 0 else 1) (sortedByKey picks (sortedByKey rank l)) =
      stableSort (lexLe (flatKey flat) (lexLe picks (keyOrd rank))) l := by
  show stableSort (keyOrd (flatKey flat)) (stableSort (keyOrd picks) (stableSort (keyOrd rank) l)) = _
  rw [stableSort_comp picks (keyOrd rank) (keyOrd_total rank) (keyOrd_trans rank),
    stableSort_comp (flatKey flat) _ (lexLe_total picks _ (keyOrd_total rank)) (lexLe_trans picks _ (keyOrd_trans rank))]

open I2N.PyGenSort in
/-- `pick_parent` and `pick_child` are one text up to the register the pick is entered in (`reg`, which changes the
state by `f` and does not raise) -/
theorem pick_run (reg : Nat → PickM Unit) (f : Nat → State → State) (hreg : ∀ p s, (reg p).run.run s = (.ok (), f p s))
    (l : List Nat) (flat idIn dropped : Nat → Bool) (picks rank : Nat → Nat) (s : State) :
    (do
      let mut available_nodes : List Nat := ((l.filter (fun n => ((idIn n) || (flat n)))).map (fun n => n))
      available_nodes := ((available_nodes.filter (fun n => (!(dropped n)))).map (fun n => n))
      if ((Int.ofNat available_nodes.length) == (0 : Int)) then
        throw "RuntimeError"
      let mut sorted_nodes : List Nat := (sortedByKey rank available_nodes)
      sorted_nodes := (sortedByKey picks sorted_nodes)
      sorted_nodes := (sortedByKey (fun n => if flat n then 0 else 1) sorted_nodes)
      let mut test_node : Nat := (← (match sorted_nodes with | pyHd :: _ => pure pyHd | [] => throw "IndexError"))
      reg test_node
      return test_node : PickM Nat).run.run s =
      match (stableSort (lexLe (flatKey flat) (lexLe picks (keyOrd rank)))
          (l.filter (fun p => (flat p || idIn p) && !dropped p))).head? with
      | none => (.error "RuntimeError", s)
      | some p => (.ok p, f p s) := by
  have hA : (((l.filter (fun n => idIn n || flat n)).map (fun n => n)).filter (fun n => !dropped n)).map (fun n => n) =
      l.filter (fun p => (flat p || idIn p) && !dropped p) := by
    simp only [List.map_id', List.filter_filter]
    congr 1; funext p; cases flat p <;> cases idIn p <;> cases dropped p <;> rfl
  simp only [hA, three_sorts]
  generalize hS : stableSort (lexLe (flatKey flat) (lexLe picks (keyOrd rank)))
    (l.filter (fun p => (flat p || idIn p) && !dropped p)) = S
  have hlen : S.length = (l.filter (fun p => (flat p || idIn p) && !dropped p)).length := by
    rw [← hS]; exact I2N.Trav.Term.stableSort_length _ _
  cases S with
  | nil =>
    have : (l.filter (fun p => (flat p || idIn p) && !dropped p)).length = 0 := by simpa using hlen.symm
    simp [this]
    rfl
  | cons p r =>
    have : (l.filter (fun p => (flat p || idIn p) && !dropped p)).length ≠ 0 := by
      rw [← hlen]; simp
    simp [this, hreg]
    rfl

open I2N.PyGenSort in
theorem genPickParent_run (g : Graph) (l : List Nat) (flat idIn dropped : Nat → Bool) (picks rank : Nat → Nat)
    (key : Nat × Nat) (s : State) :
    (genPickParent g l flat idIn dropped picks rank key).run.run s =
      match (stableSort (lexLe (flatKey flat) (lexLe picks (keyOrd rank)))
          (l.filter (fun p => (flat p || idIn p) && !dropped p))).head? with
      | none => (.error "RuntimeError", s)
      | some p => (.ok p, s.setCr (g.node p).cls
          (fun r => { r with pickedByCleanup := regAdd r.pickedByCleanup key })) :=
  pick_run _ _ (fun _ _ => rfl) l flat idIn dropped picks rank s

open I2N.PyGenSort in
theorem genPickChild_run (g : Graph) (l : List Nat) (flat idIn dropped : Nat → Bool) (picks rank : Nat → Nat)
    (key : Nat × Nat) (s : State) :
    (genPickChild g l flat idIn dropped picks rank key).run.run s =
      match (stableSort (lexLe (flatKey flat) (lexLe picks (keyOrd rank)))
          (l.filter (fun p => (flat p || idIn p) && !dropped p))).head? with
      | none => (.error "RuntimeError", s)
      | some p => (.ok p, s.setCr (g.node p).cls
          (fun r => { r with pickedBySetup := regAdd r.pickedBySetup key })) :=
  pick_run _ _ (fun _ _ => rfl) l flat idIn dropped picks rank s

end I2N.GenReady
