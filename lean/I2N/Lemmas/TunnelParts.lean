import I2N.Lemmas.Tunnel
/-! Inversion lemmas for the parts of `VMTunnel.__init__` (what a successful part looked up and assigned). -/
namespace I2N.Tunnel

/-- keys assigned by `__init__` are qualified by the tunnel name, or by the tunnel name and an end node -/
def Shape (name n1 n2 : String) (k : Key) : Prop :=
  k.quals = [name] ∨ k.quals = [name, n1] ∨ k.quals = [name, n2]

theorem mainPart_ok {name n1 n2 : String} {l1 r1 l2 r2 : SDict} {a : Assignments}
    (h : mainPart name n1 n2 l1 r1 l2 r2 = .ok a) :
    ∃ tl1 tl2 tr1 tr2, l1.get? "type" = some tl1 ∧ l2.get? "type" = some tl2 ∧ r1.get? "type" = some tr1 ∧
      r2.get? "type" = some tr2 ∧
      a = [(k2 "vpnconn" name n1, name), (k2 "vpnconn" name n2, name),
           (k2 "vpn_side" name n1, "left"), (k2 "vpn_side" name n2, "right"),
           (k2 "vpnconn_lan_type" name n1, upper tl1), (k2 "vpnconn_lan_type" name n2, upper tl2),
           (k2 "vpnconn_remote_type" name n1, upper tr1), (k2 "vpnconn_remote_type" name n2, upper tr2)] := by
  unfold mainPart at h
  simp only [bind_ok, pure_ok, SDict.getItem_ok] at h
  obtain ⟨tl1, h1, tl2, h2, tr1, h3, tr2, h4, h⟩ := h
  exact ⟨tl1, tl2, tr1, tr2, h1, h2, h3, h4, h.symm⟩

/-- the two parameters (network address, netmask) that describe a network `nc` to the end point `n` -/
def netOf (sNet sMask name n : String) (nc : Option Netconfig) : Assignments :=
  match nc with
  | none => []
  | some nc => [(k2 sNet name n, nc.netIp), (k2 sMask name n, nc.netmask)]

def lanOf (name n : String) (nc : Option Netconfig) : Assignments :=
  netOf "vpnconn_lan_net" "vpnconn_lan_netmask" name n nc

def remoteOf (name n : String) (nc : Option Netconfig) : Assignments :=
  netOf "vpnconn_remote_net" "vpnconn_remote_netmask" name n nc

/-- the local part describes the left network `nc` to the left end as its lan and, unless it is `custom`, to the right
end as its remote network -/
theorem localPart_spec {name : String} {node1 node2 : Node} {local1 : SDict} {a : Assignments}
    {nc : Option Netconfig} (h : localPart name node1 node2 local1 = .ok (a, nc)) :
    ∃ t, local1.get? "type" = some t ∧ t ∈ ["nic", "internetip", "custom"] ∧
      a = lanOf name node1.name nc ++ (if t = "custom" then [] else remoteOf name node2.name nc) ∧
      (t = "custom" → ∃ lnet lmask, local1.get? "lnet" = some lnet ∧ local1.get? "lmask" = some lmask ∧
        nc = some ⟨lnet, lmask, []⟩) := by
  unfold localPart at h
  rw [bind_ok] at h
  obtain ⟨t, ht, h⟩ := h
  refine ⟨t, (SDict.getItem_ok ..).1 ht, ?_⟩
  by_cases hn : t = "nic"
  · simp only [if_pos hn, bind_ok, pure_ok, Prod.mk.injEq] at h
    obtain ⟨i, _, rfl, rfl⟩ := h
    simp [hn, lanOf, remoteOf, netOf]
  · by_cases hi : t = "internetip"
    · rw [if_neg hn, if_pos hi, pure_ok, Prod.mk.injEq] at h
      obtain ⟨rfl, rfl⟩ := h
      simp [hi, lanOf, remoteOf, netOf]
    · by_cases hc : t = "custom"
      · simp only [if_neg hn, if_neg hi, if_pos hc, bind_ok, pure_ok, Prod.mk.injEq, SDict.getItem_ok] at h
        obtain ⟨lnet, hl, lmask, hm, rfl, rfl⟩ := h
        simp [hc, hl, hm, lanOf, netOf]
      · rw [if_neg hn, if_neg hi, if_neg hc, throw_ne_ok] at h; exact h.elim
/-- the remote part describes the right network `nc` to the right end as its lan and to the left end as its remote
network; `extra` is the `modeconfig` address -/
theorem remotePart_spec {name : String} {node1 node2 : Node} {local1 remote1 : SDict} {a : Assignments}
    {nc : Option Netconfig} (h : remotePart name node1 node2 local1 remote1 = .ok (a, nc)) :
    ∃ t, remote1.get? "type" = some t ∧ t ∈ ["custom", "externalip", "modeconfig"] ∧
      ∃ extra, a = lanOf name node2.name nc ++ remoteOf name node1.name nc ++ extra ∧
        ∀ p ∈ extra, p.1 = k2 "vpnconn_remote_modeconfig_ip" name node1.name := by
  unfold remotePart at h
  rw [bind_ok] at h
  obtain ⟨t, ht, h⟩ := h
  refine ⟨t, (SDict.getItem_ok ..).1 ht, ?_⟩
  by_cases hn : t = "custom"
  · simp only [if_pos hn, bind_ok, pure_ok, Prod.mk.injEq] at h
    obtain ⟨lt, _, ⟨a', nc'⟩, h1, rfl, rfl⟩ := h
    refine ⟨by simp [hn], [], ?_, by simp⟩
    by_cases hc : lt = "custom"
    · simp only [if_pos hc, bind_ok, pure_ok, Prod.mk.injEq, SDict.getItem_ok] at h1
      obtain ⟨_, _, _, _, rfl, rfl⟩ := h1
      simp [lanOf, remoteOf, netOf]
    · simp only [if_neg hc, bind_ok, pure_ok, Prod.mk.injEq] at h1
      obtain ⟨i, _, rfl, rfl⟩ := h1
      simp [lanOf, remoteOf, netOf]
  · by_cases he : t = "externalip"
    · rw [if_neg hn, if_pos he, pure_ok, Prod.mk.injEq] at h
      obtain ⟨rfl, rfl⟩ := h
      exact ⟨by simp [he], [], by simp [lanOf, remoteOf, netOf], by simp⟩
    · by_cases hm : t = "modeconfig"
      · simp only [if_neg hn, if_neg he, if_pos hm, bind_ok, pure_ok, Prod.mk.injEq, SDict.getItem_ok] at h
        obtain ⟨ip, _, rfl, rfl⟩ := h
        exact ⟨by simp [hm], _, by simp [lanOf, remoteOf, netOf]; rfl, by simp⟩
      · rw [if_neg hn, if_neg he, if_neg hm, throw_ne_ok] at h; exact h.elim

theorem peerPart_ok {name : String} {node1 node2 : Node} {peer1 peer2 : SDict} {a : Assignments}
    {i1 i2 : Iface} (h : peerPart name node1 node2 peer1 peer2 = .ok (a, i1, i2)) :
    ∃ t t2, peer1.get? "type" = some t ∧ peer2.get? "type" = some t2 ∧
      node2.iface (peer1.getD "nic" "internet_nic") = .ok i2 ∧
      node1.iface (peer2.getD "nic" "internet_nic") = .ok i1 ∧
      ((t = "ip" ∧
          a = [(k2 "vpnconn_peer_type" name node1.name, upper t), (k2 "vpnconn_peer_ip" name node1.name, i2.ip),
               (k2 "vpnconn_activation" name node1.name, "ALWAYS"),
               (k2 "vpnconn_peer_type" name node2.name, upper t2), (k2 "vpnconn_peer_ip" name node2.name, i1.ip),
               (k2 "vpnconn_activation" name node2.name, "ALWAYS")]) ∨
       (t = "dynip" ∧
          a = [(k2 "vpnconn_peer_type" name node1.name, upper t),
               (k2 "vpnconn_activation" name node1.name, "PASSIVE"),
               (k2 "vpnconn_peer_type" name node2.name, upper t2), (k2 "vpnconn_peer_ip" name node2.name, i1.ip),
               (k2 "vpnconn_activation" name node2.name, "ALWAYS")])) := by
  unfold peerPart at h
  rw [bind_ok] at h
  obtain ⟨t, ht, h⟩ := h
  rw [bind_ok] at h
  obtain ⟨⟨a', j2⟩, h1, h⟩ := h
  simp only [bind_ok, pure_ok, Prod.mk.injEq, SDict.getItem_ok] at h
  obtain ⟨t2, ht2, j1, hj1, ha, hi1, hi2⟩ := h
  subst hi1 hi2
  refine ⟨t, t2, (SDict.getItem_ok ..).1 ht, ht2, ?_⟩
  by_cases hn : t = "ip"
  · rw [if_pos hn] at h1
    simp only [bind_ok, pure_ok, Prod.mk.injEq] at h1
    obtain ⟨i, hi, ha', hii⟩ := h1
    subst hii ha'
    exact ⟨hi, hj1, Or.inl ⟨hn, by simpa using ha.symm⟩⟩
  · rw [if_neg hn] at h1
    by_cases hd : t = "dynip"
    · rw [if_pos hd] at h1
      simp only [bind_ok, pure_ok, Prod.mk.injEq] at h1
      obtain ⟨i, hi, ha', hii⟩ := h1
      subst hii ha'
      exact ⟨hi, hj1, Or.inr ⟨hd, by simpa using ha.symm⟩⟩
    · rw [if_neg hd, throw_ne_ok] at h1
      exact h1.elim

theorem authPart_ok {name n1 n2 : String} {auth : Option SDict} {a : Assignments}
    (h : authPart name n1 n2 auth = .ok a) :
    (auth = none ∧ a = [(k1 "vpnconn_key_type" name, "NONE")]) ∨
    (∃ d t, auth = some d ∧ d.get? "type" = some t ∧
      ((t = "pubkey" ∧ a = [(k1 "vpnconn_key_type" name, "PUBLIC")]) ∨
       (t = "psk" ∧ ∃ psk leftId rightId, d.get? "psk" = some psk ∧ d.get? "left_id" = some leftId ∧
          d.get? "right_id" = some rightId ∧
          a = [(k1 "vpnconn_key_type" name, "PSK"), (k1 "vpnconn_psk" name, psk),
               (k2 "vpnconn_psk_foreign_id" name n1, rightId),
               (k2 "vpnconn_psk_foreign_id_type" name n1, if rightId = "" then "IP" else "CUSTOM"),
               (k2 "vpnconn_psk_own_id" name n1, leftId),
               (k2 "vpnconn_psk_own_id_type" name n1, if leftId = "" then "IP" else "CUSTOM"),
               (k2 "vpnconn_psk_foreign_id" name n2, leftId),
               (k2 "vpnconn_psk_foreign_id_type" name n2, if leftId = "" then "IP" else "CUSTOM"),
               (k2 "vpnconn_psk_own_id" name n2, rightId),
               (k2 "vpnconn_psk_own_id_type" name n2, if rightId = "" then "IP" else "CUSTOM")]))) := by
  unfold authPart at h
  cases auth with
  | none => simp only [pure_ok] at h; exact Or.inl ⟨rfl, h.symm⟩
  | some d =>
    simp only at h
    rw [bind_ok] at h
    obtain ⟨t, ht, h⟩ := h
    refine Or.inr ⟨d, t, rfl, (SDict.getItem_ok ..).1 ht, ?_⟩
    by_cases hn : t = "pubkey"
    · rw [if_pos hn, pure_ok] at h
      exact Or.inl ⟨hn, h.symm⟩
    · rw [if_neg hn] at h
      by_cases hp : t = "psk"
      · rw [if_pos hp] at h
        simp only [bind_ok, pure_ok, SDict.getItem_ok] at h
        obtain ⟨psk, hk, l, hl, r, hr, ha⟩ := h
        exact Or.inr ⟨hp, psk, l, r, hk, hl, hr, ha.symm⟩
      · rw [if_neg hp, throw_ne_ok] at h
        exact h.elim

end I2N.Tunnel
