import I2N.Lemmas.NetInv
/-! Helper lemmas for C18: `add_interface`, `integrate_node`, `VMNetwork.__init__` keep the invariant. -/
namespace I2N.Net

@[simp] theorem attachState_nIf (s : Net) (n i : Nat) : (attachState s n i).nIf = s.nIf := rfl
@[simp] theorem attachState_nNc (s : Net) (n i : Nat) : (attachState s n i).nNc = s.nNc := rfl
@[simp] theorem attachState_reg (s : Net) (n i : Nat) : (attachState s n i).reg = s.reg := rfl
theorem attachState_nc (s : Net) (n i m : Nat) : (attachState s n i).nc m =
    if m = n then { s.nc m with ifs := aset (s.iface i).ip i (s.nc m).ifs } else s.nc m := rfl
theorem attachState_iface (s : Net) (n i j : Nat) : (attachState s n i).iface j =
    if j = i then { s.iface j with nc := some n } else s.iface j := rfl

theorem attachState_ip (s : Net) (n i j : Nat) : ((attachState s n i).iface j).ip = (s.iface j).ip := by
  rw [attachState_iface]; split <;> rfl

theorem attachState_netIp (s : Net) (n i m : Nat) : ((attachState s n i).nc m).netIp = (s.nc m).netIp := by
  rw [attachState_nc]; split <;> rfl

theorem attachState_netmask (s : Net) (n i m : Nat) : ((attachState s n i).nc m).netmask = (s.nc m).netmask := by
  rw [attachState_nc]; split <;> rfl

theorem attachState_inNet (s : Net) (n i m x : Nat) : inNet ((attachState s n i).nc m) x = inNet (s.nc m) x :=
  inNet_congr _ _ _ (attachState_netIp s n i m) (attachState_netmask s n i m)

/-- attaching a detached interface to a registered netconfig re-establishes the invariant, once `validate` has
    accepted the result -/
theorem attachState_pinv (s : Net) (n i : Nat) (hs : PInvEx s i) (hi : i < s.nIf) (hn : Registered s n)
    (hval : validate (attachState s n i) n = .ok ()) : PInv (attachState s n i) := by
  have hv := validate_ok _ _ hval
  have hreg : ∀ m, Registered (attachState s n i) m ↔ Registered s m := fun m => Iff.rfl
  refine ⟨?_, ?_, ?_, ?_, ?_, ?_⟩
  · intro k m hm
    have := hs.regKey k m hm
    exact ⟨this.1, by rw [attachState_netIp]; exact this.2⟩
  · exact hs.regNodup
  · intro m
    rw [attachState_nc]
    split
    · exact aset_keys_nodup _ _ _ (hs.ifsNodup m)
    · exact hs.ifsNodup m
  · intro m hm k j hj
    simp only [attachState_nIf]
    rw [attachState_nc] at hj
    have old : (k, j) ∈ (s.nc m).ifs → j < s.nIf ∧ j ≠ s.nIf ∧ ((attachState s n i).iface j).nc = some m ∧
        ((attachState s n i).iface j).ip = k := by
      intro hj'
      obtain ⟨h1, h2, h3, h4⟩ := hs.member m hm k j hj'
      refine ⟨h1, Nat.ne_of_lt h1, ?_, by rw [attachState_ip]; exact h4⟩
      rw [attachState_iface, if_neg h2]; exact h3
    split at hj
    · rename_i hmn
      subst hmn
      rcases (mem_aset _ _ _ _).1 hj with heq | ⟨_, hj'⟩
      · cases heq
        refine ⟨hi, Nat.ne_of_lt hi, ?_, by rw [attachState_ip]⟩
        rw [attachState_iface, if_pos rfl]
      · exact old hj'
    · exact old hj
  · intro j m hj _ hjm
    simp only [attachState_nIf] at hj
    rw [attachState_ip, attachState_inNet]
    by_cases hji : j = i
    · subst hji
      rw [attachState_iface, if_pos rfl] at hjm
      simp only [Option.some.injEq] at hjm
      subst hjm
      have hmem : ((s.iface j).ip, j) ∈ ((attachState s n j).nc n).ifs := by
        rw [attachState_nc, if_pos rfl]; exact (mem_aset _ _ _ _).2 (Or.inl rfl)
      refine ⟨hn, hmem, ?_⟩
      have := hv _ _ hmem
      rw [attachState_ip, attachState_inNet] at this
      exact this
    · rw [attachState_iface, if_neg hji] at hjm
      obtain ⟨h1, h2, h3⟩ := hs.placed j m hj hji hjm
      refine ⟨h1, ?_, h3⟩
      rw [attachState_nc]
      split
      · apply (mem_aset _ _ _ _).2
        right
        refine ⟨?_, h2⟩
        intro heq
        exact hji (hs.distinct j i hj hi heq)
      · exact h2
  · intro a b ha hb hab
    simp only [attachState_nIf] at ha hb
    rw [attachState_ip, attachState_ip] at hab
    exact hs.distinct a b ha hb hab

/-- an interface that was never attached is a detached interface -/
theorem pinvEx_of_unattached (s : Net) (i : Nat) (hs : PInv s) (hi : (s.iface i).nc = none) : PInvEx s i := by
  refine ⟨hs.regKey, hs.regNodup, hs.ifsNodup, ?_, ?_, hs.distinct⟩
  · intro n hn k j hj
    obtain ⟨h1, _, h3, h4⟩ := hs.member n hn k j hj
    refine ⟨h1, ?_, h3, h4⟩
    rintro rfl
    rw [hi] at h3; cases h3
  · intro j n hj _ hjn
    exact hs.placed j n hj (Nat.ne_of_lt hj) hjn

theorem canAdd_false (c : Netconfig) (i : Nat) (f : Iface) (h : canAdd c i f = .ok false) :
    networkIp f.ip c.bits ≠ c.netIp := by
  revert h
  fun_cases canAdd c i f with
  | case3 => intro h; simpa using h
  | _ => nofun

theorem findNc_some (s : Net) (i n : Nat) (l : List (Nat × Nat)) (h : findNc s i l = .ok (some n)) :
    ∃ k, (k, n) ∈ l := by
  revert h
  fun_induction findNc s i l with
  | case3 k0 n0 r _ => intro h; cases h; exact ⟨k0, List.mem_cons_self⟩
  | case4 k0 n0 r _ ih => intro h; exact (ih h).imp fun k hk => List.mem_cons_of_mem _ hk
  | _ => nofun

theorem findNc_none (s : Net) (i : Nat) (l : List (Nat × Nat)) (h : findNc s i l = .ok none) :
    ∀ k n, (k, n) ∈ l → networkIp (s.iface i).ip (s.nc n).bits ≠ (s.nc n).netIp := by
  revert h
  fun_induction findNc s i l with
  | case1 => intro _ k n hm; cases hm
  | case4 k0 n0 r hc ih =>
    intro h k n hm
    rcases List.mem_cons.1 hm with heq | hm
    · cases heq; exact canAdd_false _ _ _ hc
    · exact ih h k n hm
  | _ => nofun

/-- a new netconfig object `c` entered into the registry under its network address -/
def newNcState (s : Net) (c : Netconfig) : Net :=
  { s with nNc := s.nNc + 1, nc := fun m => if m = s.nNc then c else s.nc m, reg := aset c.netIp s.nNc s.reg }

/-- … which keeps the invariant provided the key is not in use: otherwise the netconfig registered under it would
    drop out of the registry while its interfaces still refer to it -/
theorem newNc_pinvEx (s : Net) (c : Netconfig) (i : Nat) (hs : PInv s) (hi : (s.iface i).nc = none)
    (hk : hasKey c.netIp s.reg = false) (hc : c.ifs = []) : PInvEx (newNcState s c) i := by
  have hex := pinvEx_of_unattached s i hs hi
  have hmem : ∀ k m, (k, m) ∈ (newNcState s c).reg ↔ (k, m) = (c.netIp, s.nNc) ∨ (k, m) ∈ s.reg := fun k m =>
    (mem_aset _ _ _ _).trans
      (or_congr_right ⟨And.right, fun h => ⟨fun e => (hasKey_false_iff _ _).1 hk m (e ▸ h), h⟩⟩)
  have hnew : (newNcState s c).nc s.nNc = c := if_pos rfl
  have hold : ∀ k m, (k, m) ∈ s.reg → (newNcState s c).nc m = s.nc m := fun k m hm =>
    if_neg (by have := (hs.regKey k m hm).1; omega)
  refine ⟨?_, aset_keys_nodup _ _ _ hs.regNodup, ?_, ?_, ?_, hex.distinct⟩
  · intro k m hm
    rcases (hmem k m).1 hm with heq | hm
    · cases heq; exact ⟨Nat.lt_succ_self _, congrArg Netconfig.netIp hnew⟩
    · have := hs.regKey k m hm
      exact ⟨Nat.lt_succ_of_lt this.1, (congrArg Netconfig.netIp (hold k m hm)).trans this.2⟩
  · intro m
    show ((if m = s.nNc then c else s.nc m).ifs.map (·.1)).Nodup
    split
    · rw [hc]; exact List.nodup_nil
    · exact hs.ifsNodup m
  · rintro m ⟨kr, hr⟩ k j hj
    rcases (hmem kr m).1 hr with heq | hr
    · cases heq; rw [hnew, hc] at hj; cases hj
    · rw [hold kr m hr] at hj
      exact hex.member m ⟨kr, hr⟩ k j hj
  · intro j m hj hji hjm
    obtain ⟨⟨kr, hr⟩, h2, h3⟩ := hex.placed j m hj hji hjm
    rw [hold kr m hr]
    exact ⟨⟨kr, (hmem kr m).2 (Or.inr hr)⟩, h2, h3⟩

theorem fromInterface_ifs (f : Iface) : (fromInterface f).ifs = [] := rfl

theorem validateIfs_congr (s t : Net) (n : Nat) (c : Netconfig) (l : List (Nat × Nat)) (h : t.iface = s.iface) :
    validateIfs t n c l = validateIfs s n c l := by
  induction l with
  | nil => rfl
  | cons p l ih => obtain ⟨k, i⟩ := p; simp only [validateIfs, h, ih]

/-- `validate` reads the interface and netconfig objects only -/
theorem validate_congr (s t : Net) (n : Nat) (h1 : t.iface = s.iface) (h2 : t.nc = s.nc) :
    validate t n = validate s n := by
  unfold validate
  simp only [h2, validateIfs_congr s t n _ _ h1]

/-- what `place` returns in the two branches: the interface attached to a registered netconfig, or to a new one
    `from_interface` that is entered into the registry under its network address (afterwards in the code; `validate`
    does not read the registry) -/
theorem place_cases (s s' : Net) (i : Nat) (h : place s i = .ok s') :
    (∃ n, Registered s n ∧ validate (attachState s n i) n = .ok () ∧ s' = attachState s n i) ∨
    ((∀ k n, (k, n) ∈ s.reg → networkIp (s.iface i).ip (s.nc n).bits ≠ (s.nc n).netIp) ∧
      validate (attachState (newNcState s (fromInterface (s.iface i))) s.nNc i) s.nNc = .ok () ∧
      s' = attachState (newNcState s (fromInterface (s.iface i))) s.nNc i) := by
  revert h
  fun_cases place s i with
  | case2 n hf =>
    intro h
    obtain ⟨rfl, hval⟩ := addInterface_ok _ _ _ _ h
    exact Or.inl ⟨n, findNc_some s i n s.reg hf, hval, rfl⟩
  | case4 hf n c s1 s2 hadd =>
    intro h
    obtain ⟨rfl, hval⟩ := addInterface_ok _ _ _ _ hadd
    refine Or.inr ⟨findNc_none s i s.reg hf, ?_, (Except.ok.inj h).symm⟩
    rw [← hval]
    exact validate_congr _ _ _ rfl rfl
  | _ => nofun

/-- one interface attached by `integrate_node`, provided a new netconfig does not take over the
    registry key of another one -/
theorem place_pinv (s s' : Net) (i : Nat) (hs : PInv s) (hi : i < s.nIf) (hnone : (s.iface i).nc = none)
    (hkey : (∀ k n, (k, n) ∈ s.reg → networkIp (s.iface i).ip (s.nc n).bits ≠ (s.nc n).netIp) →
      hasKey (fromInterface (s.iface i)).netIp s.reg = false)
    (h : place s i = .ok s') : PInv s' := by
  rcases place_cases s s' i h with ⟨n, hn, hval, rfl⟩ | ⟨hno, hval, rfl⟩
  · exact attachState_pinv s n i (pinvEx_of_unattached s i hs hnone) hi hn hval
  · exact attachState_pinv _ s.nNc i (newNc_pinvEx s _ i hs hnone (hkey hno) (fromInterface_ifs _)) hi
      ⟨_, (mem_aset _ _ _ _).2 (Or.inl rfl)⟩ hval

/-- every registered netconfig was constructed `from_interface` of some interface (build phase only:
    interface addresses do not change) -/
def Origin (s : Net) : Prop :=
  ∀ k n, (k, n) ∈ s.reg → ∃ j, j < s.nIf ∧ (s.nc n).netmask = (s.iface j).netmask ∧
    (s.nc n).netIp = networkIp (s.iface j).ip (maskBit (s.iface j).netmask)

/-- no two interfaces configure subnets with the same network address but different netmasks -/
def NoShadowS (s : Net) : Prop :=
  ∀ i j, i < s.nIf → j < s.nIf →
    networkIp (s.iface i).ip (maskBit (s.iface i).netmask) = networkIp (s.iface j).ip (maskBit (s.iface j).netmask) →
    (s.iface i).netmask = (s.iface j).netmask

theorem noShadow_key (s : Net) (i : Nat) (hs : PInv s) (ho : Origin s) (hsh : NoShadowS s) (hi : i < s.nIf)
    (hno : ∀ k n, (k, n) ∈ s.reg → networkIp (s.iface i).ip (s.nc n).bits ≠ (s.nc n).netIp) :
    hasKey (fromInterface (s.iface i)).netIp s.reg = false := by
  rw [hasKey_false_iff]
  intro n hm
  obtain ⟨j, hj, hmask, hip⟩ := ho _ n hm
  have hkey := (hs.regKey _ n hm).2
  have heq : networkIp (s.iface i).ip (maskBit (s.iface i).netmask) =
      networkIp (s.iface j).ip (maskBit (s.iface j).netmask) := by
    rw [← hip, hkey]; rfl
  have hmm := hsh i j hi hj heq
  apply hno _ n hm
  rw [Netconfig.bits, hmask, ← hmm, hkey]; rfl

theorem attachState_frame (t : Net) (n i : Nat) :
    (∀ j, ((attachState t n i).iface j).ip = (t.iface j).ip ∧ ((attachState t n i).iface j).netmask = (t.iface j).netmask) ∧
    (∀ j, j ≠ i → ((attachState t n i).iface j).nc = (t.iface j).nc) ∧ (((attachState t n i).iface i).nc).isSome = true := by
  refine ⟨fun j => ?_, fun j hj => ?_, ?_⟩
  · rw [attachState_iface]; split <;> exact ⟨rfl, rfl⟩
  · rw [attachState_iface, if_neg hj]
  · rw [attachState_iface, if_pos rfl]; rfl

theorem place_frame (s s' : Net) (i : Nat) (h : place s i = .ok s') :
    s'.nIf = s.nIf ∧ (∀ j, (s'.iface j).ip = (s.iface j).ip ∧ (s'.iface j).netmask = (s.iface j).netmask) ∧
    (∀ j, j ≠ i → (s'.iface j).nc = (s.iface j).nc) ∧ ((s'.iface i).nc).isSome = true := by
  rcases place_cases s s' i h with ⟨n, _, _, rfl⟩ | ⟨_, _, rfl⟩
  · exact ⟨rfl, attachState_frame s n i⟩
  · exact ⟨rfl, attachState_frame _ s.nNc i⟩

theorem Origin.congr {s t : Net} (ho : Origin s) (hnIf : t.nIf = s.nIf) (hreg : t.reg = s.reg)
    (hif : ∀ j, (t.iface j).ip = (s.iface j).ip ∧ (t.iface j).netmask = (s.iface j).netmask)
    (hnc : ∀ m, (t.nc m).netIp = (s.nc m).netIp ∧ (t.nc m).netmask = (s.nc m).netmask) : Origin t := by
  intro k m hm
  obtain ⟨j, hj, h1, h2⟩ := ho k m (hreg ▸ hm)
  exact ⟨j, hnIf ▸ hj, by rw [(hnc m).2, (hif j).2, h1], by rw [(hnc m).1, (hif j).1, (hif j).2, h2]⟩

theorem attachState_origin {t : Net} (ho : Origin t) (n i : Nat) : Origin (attachState t n i) :=
  ho.congr rfl rfl (attachState_frame t n i).1 (fun m => ⟨attachState_netIp t n i m, attachState_netmask t n i m⟩)

theorem place_origin (s s' : Net) (i : Nat) (hi : i < s.nIf) (ho : Origin s) (hs : PInv s)
    (h : place s i = .ok s') : Origin s' := by
  rcases place_cases s s' i h with ⟨n, _, _, rfl⟩ | ⟨_, _, rfl⟩
  · exact attachState_origin ho n i
  · -- the new netconfig comes from interface `i`; the old ones are below `s.nNc` and stay as they are
    refine attachState_origin ?_ s.nNc i
    intro k m hm
    rcases (mem_aset _ _ _ _).1 hm with heq | ⟨_, hm⟩
    · cases heq
      have e : (newNcState s (fromInterface (s.iface i))).nc s.nNc = fromInterface (s.iface i) := if_pos rfl
      exact ⟨i, hi, congrArg Netconfig.netmask e, congrArg Netconfig.netIp e⟩
    · have e : (newNcState s (fromInterface (s.iface i))).nc m = s.nc m :=
        if_neg (by have := (hs.regKey k m hm).1; omega)
      obtain ⟨j, hj, h1, h2⟩ := ho k m hm
      exact ⟨j, hj, (congrArg Netconfig.netmask e).trans h1, (congrArg Netconfig.netIp e).trans h2⟩

theorem placeAll_inv (ids : List Nat) : ∀ (s s' : Net), PInv s → Origin s → NoShadowS s → ids.Nodup →
    (∀ i ∈ ids, i < s.nIf ∧ (s.iface i).nc = none) → placeAll s ids = .ok s' →
    PInv s' ∧ s'.nIf = s.nIf ∧ (∀ i ∈ ids, ((s'.iface i).nc).isSome = true) ∧
      (∀ j, j ∉ ids → (s'.iface j).nc = (s.iface j).nc) := by
  induction ids with
  | nil =>
    intro s s' hs _ _ _ _ h
    simp only [placeAll, Except.ok.injEq] at h
    subst h
    exact ⟨hs, rfl, by simp, fun _ _ => rfl⟩
  | cons i ids ih =>
    intro s s' hs ho hsh hnd hids h
    rw [placeAll] at h
    cases h1 : place s i with
    | error e => rw [h1] at h; cases h
    | ok s1 =>
      rw [h1] at h
      have ⟨hi, hnone⟩ := hids i (by simp)
      have hfr := place_frame s s1 i h1
      have hs1 : PInv s1 := place_pinv s s1 i hs hi hnone (noShadow_key s i hs ho hsh hi) h1
      have ho1 : Origin s1 := place_origin s s1 i hi ho hs h1
      have hsh1 : NoShadowS s1 := by
        intro a b ha hb hab
        rw [hfr.1] at ha hb
        rw [(hfr.2.1 a).1, (hfr.2.1 a).2, (hfr.2.1 b).1, (hfr.2.1 b).2] at hab
        rw [(hfr.2.1 a).2, (hfr.2.1 b).2]
        exact hsh a b ha hb hab
      have hnd' := List.nodup_cons.1 hnd
      have hids1 : ∀ j ∈ ids, j < s1.nIf ∧ (s1.iface j).nc = none := by
        intro j hj
        have hji : j ≠ i := by rintro rfl; exact hnd'.1 hj
        rw [hfr.1, hfr.2.2.1 j hji]
        exact hids j (by simp [hj])
      obtain ⟨r1, r2, r3, r4⟩ := ih s1 s' hs1 ho1 hsh1 hnd'.2 hids1 h
      refine ⟨r1, by rw [r2, hfr.1], ?_, ?_⟩
      · intro j hj
        rcases List.mem_cons.1 hj with rfl | hj
        · by_cases hmem : j ∈ ids
          · exact r3 j hmem
          · rw [r4 j hmem]; exact hfr.2.2.2
        · exact r3 j hj
      · intro j hj
        simp only [List.mem_cons, not_or] at hj
        rw [r4 j hj.2, hfr.2.2.1 j hj.1]

theorem init_iface (inp : List Iface) (i : Nat) (hi : i < inp.length) :
    ((init inp).iface i).ip = inp[i].ip ∧ ((init inp).iface i).netmask = inp[i].netmask ∧
    ((init inp).iface i).nc = none := by
  simp [init, List.getD_eq_getElem?_getD, List.getElem?_eq_getElem hi]

theorem init_pinv (inp : List Iface) (hd : (inp.map (·.ip)).Nodup) : PInv (init inp) := by
  refine ⟨?_, ?_, ?_, ?_, ?_, ?_⟩
  · intro k n hm; simp [init] at hm
  · simp [init]
  · intro n; simp only [init]; exact List.nodup_nil
  · rintro n ⟨k, hm⟩; simp [init] at hm
  · intro i n hi _ hn
    have : ((init inp).iface i).nc = none := rfl
    rw [this] at hn; cases hn
  · intro i j hi hj hij
    have hi' : i < inp.length := hi
    have hj' : j < inp.length := hj
    rw [(init_iface inp i hi').1, (init_iface inp j hj').1] at hij
    have h1 : (inp.map (·.ip))[i]'(by simpa using hi') = (inp.map (·.ip))[j]'(by simpa using hj') := by
      simpa using hij
    exact (List.getElem_inj hd).1 h1

/-- input-level form of `NoShadowS`: equal network addresses imply equal netmasks -/
def NoShadow (inp : List Iface) : Prop :=
  ∀ a ∈ inp, ∀ b ∈ inp, networkIp a.ip (maskBit a.netmask) = networkIp b.ip (maskBit b.netmask) →
    a.netmask = b.netmask

theorem init_noShadow (inp : List Iface) (h : NoShadow inp) : NoShadowS (init inp) := by
  intro i j hi hj hij
  have hi' : i < inp.length := hi
  have hj' : j < inp.length := hj
  obtain ⟨a1, a2, _⟩ := init_iface inp i hi'
  obtain ⟨b1, b2, _⟩ := init_iface inp j hj'
  rw [a1, a2, b1, b2] at hij
  rw [a2, b2]
  exact h _ (List.getElem_mem hi') _ (List.getElem_mem hj') hij

/-- consistent registries and every interface attached -/
def Inv (s : Net) : Prop := PInv s ∧ ∀ i, i < s.nIf → ((s.iface i).nc).isSome = true

theorem build_inv (inp : List Iface) (s : Net) (hd : (inp.map (·.ip)).Nodup) (hsh : NoShadow inp)
    (h : build inp = .ok s) : Inv s ∧ s.nIf = inp.length := by
  unfold build at h
  have hids : ∀ i ∈ List.range inp.length, i < (init inp).nIf ∧ ((init inp).iface i).nc = none := by
    intro i hi
    exact ⟨by simpa [init] using hi, rfl⟩
  obtain ⟨r1, r2, r3, _⟩ := placeAll_inv (List.range inp.length) (init inp) s (init_pinv inp hd)
    (by intro k n hm; simp [init] at hm) (init_noShadow inp hsh) List.nodup_range hids h
  refine ⟨⟨r1, ?_⟩, r2⟩
  intro i hi
  rw [r2] at hi
  exact r3 i (by simpa [init] using hi)

end I2N.Net
