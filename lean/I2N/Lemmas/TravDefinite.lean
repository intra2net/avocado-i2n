import I2N.Lemmas.TravFair
/-!
C02, the "definite result" half: what holds at the END of a run.

(a) `Owner`/`Abandoned`: an in-flight UNKNOWN placeholder (status `UNKNOWN`, tag `≥ 1`) on a copy that is not an
object root exists only while the worker that started the execution is suspended inside it — or for ever, if the
report of that execution never arrived (the eleventh resumption of the result wait finds nothing: the runner's default
ERROR, `resume_abandon`).  One case analysis over `resume_eff` (`step_orphan`), lifted to runs (`run_orphan`).

(b) `DInv`: a worker is registered as having dropped a child class only after a copy of that class it cares for was
cleanup-ready for it and — if the copy is a stateless test that is selected for running — the class had a result.
Frame relation `DUpd`, which every way a step can go keeps (`After`, `Iter`, `Ran`, `Resumed` of Lemmas/TravMoves.lean).
-/
namespace I2N.Trav.Definite
open I2N.Trav I2N.Trav.GlobalN

/-! ## (a) placeholders -/

/-- some worker is suspended inside the execution `t` of the test proper of copy `m` -/
def Owner (s : State) (m t : Nat) : Prop := ∃ v dir uid wait, (s.wd v).pc = .test m .plain dir uid t wait

/-- the step `x` taken in state `s` gives up the execution `t` of copy `m`: the stepping worker is inside it, has
slept ten times waiting for the report, and the report is still not among the job results -/
def AbandonStep (g : Graph) (s : State) (x : StepN) (m t : Nat) : Prop :=
  ∃ dir uid wait, (s.wd x.1).pc = .test m .plain dir uid t wait ∧ 10 ≤ wait ∧
    s.jobResults.find? (fun r => r.1 == (g.node m).name && r.2.1 == uid) = none

/-- some step of the run from `s` gives up the execution `t` of copy `m` -/
def Abandoned (g : Graph) : State → List StepN → Nat → Nat → Prop
  | _, [], _, _ => False
  | s, x :: r, m, t => AbandonStep g s x m t ∨ Abandoned g (stepN g s x) r m t

theorem startFrom_results {g : Graph} {w : Nat} {s1 s' : State} (h : StartFrom g w s1 s') (hw : w < s1.workers.length)
    (m : Nat) (r : Result) (hr : r ∈ (s'.nd m).results) :
    r ∈ (s1.nd m).results ∨
      (r = phOf (g.node m).name s1.nextTag ∧ ∃ dir uid, (s'.wd w).pc = .test m .plain dir uid s1.nextTag 0) := by
  cases h with
  | plain n dir s0 evs gv hgv hn hroot hdec h =>
    subst h
    rcases startTest_results g s1 n w .plain dir m with e | ⟨_, hmn, _, e⟩
    · left; rw [e] at hr; exact hr
    · rw [e] at hr
      rcases List.mem_append.mp hr with hr | hr
      · exact Or.inl hr
      · right
        subst hmn
        exact ⟨List.mem_singleton.mp hr, dir, _, startTest_pc g s1 m w .plain dir hw⟩
  | pre n dir hn hroot h =>
    subst h
    left
    rcases startTest_results g (s1.setWd w (fun d => { d with preResults := (s1.nd n).results, preName := preNameOf g n w }))
      n w .pre dir m with e | ⟨hne, _⟩
    · rw [e] at hr; exact hr
    · exact absurd rfl hne

theorem startFrom_others {g : Graph} {w : Nat} {s1 s' : State} (h : StartFrom g w s1 s') (v : Nat) (hv : v ≠ w) :
    s'.wd v = s1.wd v := by
  cases h with
  | plain n dir s0 evs gv hgv hn hroot hdec h => subst h; exact startTest_wd_ne g s1 n w .plain dir v hv
  | pre n dir hn hroot h =>
    subst h
    rw [startTest_wd_ne g _ n w .pre dir v hv]
    exact wd_setWd_ne s1 w v _ hv

theorem startFrom_tag {g : Graph} {w : Nat} {s1 s' : State} (h : StartFrom g w s1 s') : s'.nextTag = s1.nextTag + 1 := by
  cases h with
  | plain n dir s0 evs gv hgv hn hroot hdec h => subst h; rfl
  | pre n dir hn hroot h => subst h; rfl

theorem contBase_nd {sc : State} {n w : Nat} {ph : Phase} (m : Nat) (hmn : ph = .pre → m ≠ n) :
    ((if ph = .pre then appendPre sc n w else sc).nd m).results = (sc.nd m).results := by
  split
  · rename_i hp
    unfold appendPre
    rw [nd_setNd_ne sc n m _ (hmn hp)]
  · rfl

theorem contEff_results {g : Graph} {w n : Nat} {ph : Phase} {dir : Dir} {sc : State} {ok : Bool} {s' : State}
    (h : ContEff g w n ph dir sc ok s') (hw : w < sc.workers.length) (m : Nat) (hmn : ph = .pre → m ≠ n)
    (r : Result) (hr : r ∈ (s'.nd m).results) :
    r ∈ (sc.nd m).results ∨
      (r = phOf (g.node m).name sc.nextTag ∧ ∃ dir uid, (s'.wd w).pc = .test m .plain dir uid sc.nextTag 0) := by
  rcases h with ⟨hp, _, h⟩ | ⟨_, h⟩
  · left
    subst h
    rcases startTest_results g sc n w .main dir m with e | ⟨_, hmn', _, _⟩
    · rw [e] at hr; exact hr
    · exact absurd hmn' (hmn hp)
  · have hnd := contBase_nd (sc := sc) (n := n) (w := w) (ph := ph) m hmn
    have htag : (if ph = .pre then appendPre sc n w else sc).nextTag = sc.nextTag := by split <;> rfl
    have hlen : (if ph = .pre then appendPre sc n w else sc).workers.length = sc.workers.length := by split <;> rfl
    generalize (if ph = .pre then appendPre sc n w else sc) = sd at h hnd htag hlen
    rcases h with ⟨a, _⟩ | ⟨s1, a, hs⟩
    · left; rw [a.results, hnd] at hr; exact hr
    · rcases startFrom_results hs (by rw [a.workersLen, hlen]; exact hw) m r hr with h1 | h1
      · left; rw [a.results, hnd] at h1; exact h1
      · right; rw [a.tag, htag] at h1; exact h1

theorem contEff_others {g : Graph} {w n : Nat} {ph : Phase} {dir : Dir} {sc : State} {ok : Bool} {s' : State}
    (h : ContEff g w n ph dir sc ok s') (v : Nat) (hv : v ≠ w) : s'.wd v = sc.wd v := by
  rcases h with ⟨_, _, h⟩ | ⟨_, h⟩
  · subst h; exact startTest_wd_ne g sc n w .main dir v hv
  · have hwd : (if ph = .pre then appendPre sc n w else sc).wd v = sc.wd v := by split <;> rfl
    generalize (if ph = .pre then appendPre sc n w else sc) = sd at h hwd
    rcases h with ⟨a, _⟩ | ⟨s1, a, hs⟩
    · rw [a.others v hv, hwd]
    · rw [startFrom_others hs v hv, a.others v hv, hwd]

theorem resume_others' (g : Graph) (hwf : GraphWF g) (s : State) (w : Nat) (out : Outcome) (fuel : Nat) (hf : 0 < fuel)
    (hw : w < s.workers.length) (hpath : ∀ x ∈ (s.wd w).path, x < g.nodes.length) (v : Nat) (hv : v ≠ w) :
    (resume g s w out fuel).1.wd v = s.wd v := by
  rcases resume_eff g hwf s w out fuel hf hw hpath with ⟨_, h⟩ | ⟨n, ph, dir, uid, tag, wait, hpc, sa, hrep, h⟩
  · rcases h with ⟨a, _⟩ | ⟨s1, a, hs⟩
    · exact a.others v hv
    · rw [startFrom_others hs v hv, a.others v hv]
  · have hsb := hrep.sameBook
    rcases h with ⟨e, _, sb, res, ok, hsab, _, _, hc⟩ | ⟨_, h | hc⟩
    · rw [contEff_others hc v hv]
      have : (if ph = .pre then settlePre sb w res tag else settleNd sb n res tag).wd v = sb.wd v := by
        split
        · exact wd_setWd_ne sb w v _ hv
        · rfl
      rw [this, hsab.wd, hsb.wd]
    · rw [h, wd_setWd_ne sa w v _ hv, hsb.wd]
    · rw [contEff_others hc v hv, hsb.wd]

/-! ### the result wait: tick, or the default after the tenth sleep -/

theorem reportOutcome_idle (g : Graph) (s : State) (w n : Nat) (ph : Phase) (uid : String) (wait : Nat) (out : Outcome)
    (h : wait ≠ 0 ∨ out.status = none) : (reportOutcome g s w n ph uid wait out).1 = s := by
  fun_cases reportOutcome g s w n ph uid wait out with
  | case1 _ _ hw st hst =>
    rcases h with h | h
    · exact absurd (by simpa using hw) h
    · rw [hst] at h; cases h
  | case2 => rfl
  | case3 => rfl

theorem resume_test_eq (g : Graph) (s : State) (w : Nat) (out : Outcome) (fuel : Nat) {n : Nat} {ph : Phase} {dir : Dir}
    {uid : String} {tag wait : Nat} (hpc : (s.wd w).pc = .test n ph dir uid tag wait) :
    resume g s w out fuel = resumeTest g s w n ph dir uid tag wait out fuel := by
  unfold resume; rw [hpc]

/-- the report is not there and fewer than ten sleeps have been taken: one more sleep -/
theorem tick_of_resumed {g : Graph} {s : State} {w n : Nat} {ph : Phase} {dir : Dir} {uid : String} {tag wait : Nat}
    {out : Outcome} {fuel : Nat} {r : State × List Event} (hw : w < s.workers.length)
    (hpc : (s.wd w).pc = .test n ph dir uid tag wait) (hlt : wait < 10)
    (hnone : (reportOutcome g s w n ph uid wait out).1.jobResults.find?
      (fun r => r.1 == testName g s w n ph && r.2.1 == uid) = none)
    (h : Resumed g w out fuel s r) : (r.1.wd w).pc = .test n ph dir uid tag (wait + 1) := by
  have ended : ∀ {sc ok}, ¬ Ended g w n ph uid tag wait out s sc ok := by
    intro sc ok hs
    cases hs with
    | found _ _ _ _ hf => rw [hnone] at hf; cases hf
    | lost _ hw' => omega
  cases h with
  | over h' => rcases h' with h' | h' <;> rw [hpc] at h' <;> cases h'
  | loop _ h' => rcases h' with h' | h' <;> rw [hpc] at h' <;> cases h'
  | wait _ _ _ _ _ _ hpc' =>
    cases hpc.symm.trans hpc'
    rw [wd_setWd_eq _ w _ (by rw [(reportOutcome_frame g s w n ph uid wait out).2.1]; exact hw)]
  | created _ _ _ _ _ _ hpc' hs => cases hpc.symm.trans hpc'; exact (ended hs).elim
  | stuck _ _ _ _ _ _ _ _ _ _ _ hpc' hs => cases hpc.symm.trans hpc'; exact (ended hs).elim
  | back _ _ _ _ _ _ _ _ _ _ _ _ hpc' hs => cases hpc.symm.trans hpc'; exact (ended hs).elim

/-- **what the model does when the report never arrives**: at the eleventh resumption of the result wait (`wait = 10`;
the task ended at `wait = 0`, ten sleeps of 30 s followed) with the report still missing, the step is the continuation
after a test that counts as FAILED (`ok = false`: the runner's default `error`), on the unchanged state: nothing is
filed, the placeholder is not removed. -/
theorem resume_abandon (g : Graph) (s : State) (w : Nat) (out : Outcome) (fuel : Nat) {n : Nat} {ph : Phase} {dir : Dir}
    {uid : String} {tag wait : Nat} (hpc : (s.wd w).pc = .test n ph dir uid tag wait) (hge : 10 ≤ wait)
    (hnone : s.jobResults.find?
      (fun r => r.1 == (if ph == .pre then (s.wd w).preName else (g.node n).name) && r.2.1 == uid) = none) :
    resume g s w out fuel = resumeTest.continueAfter g w n ph dir fuel s false [] := by
  have hrep : reportOutcome g s w n ph uid wait out = (s, []) := by
    unfold reportOutcome
    have : (wait == 0) = false := by simp; omega
    simp only [this, Bool.false_eq_true, if_false]
  rw [resume_test_eq g s w out fuel hpc, resumeTest_eq, hrep]
  dsimp only
  rw [hnone]
  dsimp only
  have h1 : ¬ wait + 1 < 10 := by omega
  have h2 : (wait + 1 == 10) = false := by simp; omega
  simp only [h1, h2, if_false, Bool.false_eq_true]

theorem settle_book (sb : State) (w n : Nat) (ph : Phase) (res : Result) (tag : Nat) :
    (if ph = .pre then settlePre sb w res tag else settleNd sb n res tag).workers.length = sb.workers.length ∧
      (if ph = .pre then settlePre sb w res tag else settleNd sb n res tag).nextTag = sb.nextTag := by
  split
  · exact ⟨workers_length_setWd sb w _, rfl⟩
  · exact ⟨rfl, rfl⟩

theorem owner_real {g : Graph} {s : State} (b : Basic g s All) {m t : Nat} (h : Owner s m t) :
    ∃ v, v < g.workers.length ∧ ∃ dir uid wait, (s.wd v).pc = .test m .plain dir uid t wait := by
  obtain ⟨v, dir, uid, wait, hv⟩ := h
  exact ⟨v, by rw [← b.workersLen]; exact lt_of_isTest s v (by rw [hv]; rfl), dir, uid, wait, hv⟩

theorem tag_phOf (nm : String) (t : Nat) : (phOf nm t).tag = t := rfl

/-- A placeholder that has no owner after a step of `w` was there before the step, and either had no owner before, or
the step gave its execution up. -/
theorem step_orphan {g : Graph} (hwf : GraphWF g) {s : State} (b : Basic g s All) (w : Nat) (out : Outcome) (fuel : Nat)
    (hw : w < g.workers.length) (hf : 0 < fuel) (m : Nat) (hm : (g.node m).objectRoot = false) (r : Result)
    (hr : r ∈ ((resume g s w out fuel).1.nd m).results) (hu : r.status = "UNKNOWN") (ht : 1 ≤ r.tag)
    (hno : ¬ Owner (resume g s w out fuel).1 m r.tag) :
    r ∈ (s.nd m).results ∧ (¬ Owner s m r.tag ∨ AbandonStep g s (w, out, fuel) m r.tag) := by
  have hws : w < s.workers.length := by rw [b.workersLen]; exact hw
  have hoth := resume_others' g hwf s w out fuel hf hws (b.paths w)
  -- an owner other than `w` is still an owner afterwards
  have hother : ∀ v dir uid wait, v ≠ w → (s.wd v).pc = .test m .plain dir uid r.tag wait → False := by
    intro v dir uid wait hv hp
    exact hno ⟨v, dir, uid, wait, by rw [hoth v hv]; exact hp⟩
  have hfresh : ∀ T, (r = phOf (g.node m).name T ∧ ∃ dir uid, ((resume g s w out fuel).1.wd w).pc = .test m .plain dir uid T 0) →
      False := by
    rintro T ⟨e, dir, uid, hp⟩
    exact hno ⟨w, dir, uid, 0, by rw [e, tag_phOf]; exact hp⟩
  rcases resume_eff g hwf s w out fuel hf hws (b.paths w) with ⟨hnt, h⟩ | ⟨n, ph, dir, uid, tag, wait, hpc, sa, hrep, h⟩
  · have hold : r ∈ (s.nd m).results := by
      rcases h with ⟨a, _⟩ | ⟨s1, a, hs⟩
      · rw [a.results] at hr; exact hr
      · rcases startFrom_results hs (by rw [a.workersLen]; exact hws) m r hr with h1 | h1
        · rw [a.results] at h1; exact h1
        · rw [a.tag] at h1; exact (hfresh _ h1).elim
    refine ⟨hold, Or.inl ?_⟩
    rintro ⟨v, dir, uid, wait, hp⟩
    by_cases hv : v = w
    · subst hv; rw [hp] at hnt; simp [Pc.isTest] at hnt
    · exact hother v dir uid wait hv hp
  · have hsb := hrep.sameBook
    have hok := b.pcOK w n ph dir uid tag wait trivial hpc
    have hmn : ph = .pre → m ≠ n := by
      intro hp hmn
      subst hmn
      have := hok.2.2.2.1.mp hm
      rw [hp] at this; cases this
    -- an owner in `s` is `w` itself, with `n = m`, `ph = plain`, `tag = r.tag`
    have hown : Owner s m r.tag → n = m ∧ ph = .plain ∧ tag = r.tag := by
      rintro ⟨v, dir', uid', wait', hp⟩
      by_cases hv : v = w
      · subst hv
        rw [hpc] at hp
        simp only [Pc.test.injEq] at hp
        exact ⟨hp.1, hp.2.1, hp.2.2.2.2.1⟩
      · exact (hother v dir' uid' wait' hv hp).elim
    rcases h with ⟨e, _, sb, res, ok, hsab, _, ⟨hres, _⟩, hc⟩ | ⟨hnone, h | hc⟩
    · -- the report was found: the placeholder of `tag` is gone
      obtain ⟨hlen, htag⟩ := settle_book sb w n ph res tag
      rw [hsab.2.1, hsb.2.1] at hlen
      rw [hsab.2.2, hsb.2.2] at htag
      rcases contEff_results hc (by rw [hlen]; exact hws) m hmn r hr with h1 | h1
      · have hnd : sb.nd m = s.nd m := by rw [hsab.nd, hsb.nd]
        by_cases hp : ph = .pre
        · simp only [hp, if_true] at h1
          have h1' : r ∈ (sb.nd m).results := h1
          rw [hnd] at h1'
          refine ⟨h1', Or.inl fun ho => ?_⟩
          have := (hown ho).2.1
          rw [hp] at this; cases this
        · simp only [hp, if_false] at h1
          by_cases hmn' : m = n
          · subst hmn'
            unfold settleNd at h1
            rw [nd_setNd_eq sb m _ (by rw [hsab.1, hsb.1, b.nodesLen]; exact hok.1)] at h1
            have h2 := List.mem_filter.mp h1
            rcases List.mem_append.mp h2.1 with h3 | h3
            · rw [hnd] at h3
              refine ⟨h3, Or.inl fun ho => ?_⟩
              have htg := (hown ho).2.2
              have h4 := h2.2
              rw [hu, htg] at h4
              simp at h4
            · rw [List.mem_singleton.mp h3, hres] at ht; omega
          · unfold settleNd at h1
            rw [nd_setNd_ne sb n m _ hmn', hnd] at h1
            exact ⟨h1, Or.inl fun ho => hmn' (hown ho).1.symm⟩
      · rw [htag] at h1; exact (hfresh _ h1).elim
    · -- one more sleep
      have hold : r ∈ (s.nd m).results := by
        rw [h] at hr
        have : r ∈ (sa.nd m).results := hr
        rw [hsb.nd] at this; exact this
      refine ⟨hold, Or.inl fun ho => ?_⟩
      obtain ⟨e1, e2, e3⟩ := hown ho
      subst e1 e2
      apply hno
      rw [← e3]
      refine ⟨w, dir, uid, wait + 1, ?_⟩
      rw [h, wd_setWd_eq sa w _ (by rw [hsb.2.1]; exact hws)]
    · -- the default
      have hold : r ∈ (s.nd m).results := by
        rcases contEff_results hc (by rw [hsb.2.1]; exact hws) m hmn r hr with h1 | h1
        · rw [hsb.nd] at h1; exact h1
        · rw [hsb.2.2] at h1; exact (hfresh _ h1).elim
      refine ⟨hold, ?_⟩
      by_cases ho : Owner s m r.tag
      · right
        obtain ⟨e1, e2, e3⟩ := hown ho
        subst e1 e2
        rw [← e3]
        simp only [reduceCtorEq, if_false] at hrep hnone
        rcases hrep with ⟨hsa, hidle⟩ | ⟨_, st, _, _, hj⟩
        · subst hsa
          by_cases hlt : wait < 10
          · -- the step would have been one more sleep
            exfalso
            apply hno
            rw [← e3]
            refine ⟨w, dir, uid, wait + 1, tick_of_resumed hws hpc hlt ?_ (resume_resumed g sa w out fuel)⟩
            rw [reportOutcome_idle g sa w n .plain uid wait out hidle]
            exact hnone
          · exact ⟨dir, uid, wait, hpc, by omega, hnone⟩
        · exact absurd hnone (by rw [hj]; exact find?_append_singleton_ne_none _ _ _ (by simp))
      · exact Or.inl ho

theorem basic_run {g : Graph} (hwf : GraphWF g) (steps : List StepN) : ∀ s, Basic g s All →
    (∀ x ∈ steps, x.1 < g.workers.length) → (∀ x ∈ steps, 0 < x.2.2) → Basic g (runStepsN g s steps) All :=
  fun s b hreal hfuel => Fair.run_keeps (I := fun s => Basic g s All)
    (fun _ w out fuel b hw hf => b.step hwf w out fuel hw hf) steps s b (fun x hx => ⟨hreal x hx, hfuel x hx⟩)

/-- along a run from any state with the bookkeeping invariant: a placeholder at the end has an owner, or was given
up on the way, or was an orphan at the beginning already -/
theorem run_orphan {g : Graph} (hwf : GraphWF g) (steps : List StepN) : ∀ s, Basic g s All →
    (∀ x ∈ steps, x.1 < g.workers.length) → (∀ x ∈ steps, 0 < x.2.2) →
    ∀ m, (g.node m).objectRoot = false → ∀ r ∈ ((runStepsN g s steps).nd m).results, r.status = "UNKNOWN" → 1 ≤ r.tag →
      Owner (runStepsN g s steps) m r.tag ∨ Abandoned g s steps m r.tag ∨ (r ∈ (s.nd m).results ∧ ¬ Owner s m r.tag) := by
  induction steps with
  | nil =>
    intro s _ _ _ m _ r hr _ _
    by_cases ho : Owner s m r.tag
    · exact Or.inl ho
    · exact Or.inr (Or.inr ⟨hr, ho⟩)
  | cons x rest ih =>
    intro s b hreal hfuel m hm r hr hu ht
    rw [runStepsN_cons] at hr ⊢
    have hx := hreal x (List.mem_cons_self ..)
    have hfx := hfuel x (List.mem_cons_self ..)
    have b1 : Basic g (stepN g s x) All := b.step hwf x.1 x.2.1 x.2.2 hx hfx
    rcases ih _ b1 (fun y hy => hreal y (List.mem_cons_of_mem _ hy)) (fun y hy => hfuel y (List.mem_cons_of_mem _ hy))
      m hm r hr hu ht with h | h | ⟨h1, h2⟩
    · exact Or.inl h
    · exact Or.inr (Or.inl (Or.inr h))
    · obtain ⟨h3, h4⟩ := step_orphan hwf b x.1 x.2.1 x.2.2 hx hfx m hm r h1 hu ht h2
      rcases h4 with h4 | h4
      · exact Or.inr (Or.inr ⟨h3, h4⟩)
      · exact Or.inr (Or.inl (Or.inl h4))

theorem run_placeholder {g : Graph} (hwf : GraphWF g) (ncls : Nat) (store : List (String × List (String × String)))
    (hidden : List Nat) (steps : List StepN) (hreal : ∀ x ∈ steps, x.1 < g.workers.length) (hfuel : ∀ x ∈ steps, 0 < x.2.2)
    (m : Nat) (hm : (g.node m).objectRoot = false) (r : Result)
    (hr : r ∈ ((runStepsN g (initState g ncls store hidden) steps).nd m).results) (hu : r.status = "UNKNOWN") (ht : 1 ≤ r.tag) :
    Owner (runStepsN g (initState g ncls store hidden) steps) m r.tag ∨
      Abandoned g (initState g ncls store hidden) steps m r.tag := by
  rcases run_orphan hwf steps _ (Basic.init g hwf ncls store hidden) hreal hfuel m hm r hr hu ht with h | h | ⟨h, _⟩
  · exact Or.inl h
  · exact Or.inr h
  · rw [initState_nd] at h; cases h

/-! ### when every task reports, nothing is ever given up -/

/-- nobody has slept waiting for a report -/
def W0 (s : State) : Prop := ∀ v n ph dir uid tag wait, (s.wd v).pc = .test n ph dir uid tag wait → wait = 0

theorem resume_w0 (g : Graph) (hwf : GraphWF g) (s : State) (w : Nat) (out : Outcome) (fuel : Nat) (hf : 0 < fuel)
    (hw : w < s.workers.length) (hpath : ∀ x ∈ (s.wd w).path, x < g.nodes.length) (hout : out.status ≠ none)
    (h0 : W0 s) : W0 (resume g s w out fuel).1 := by
  intro v n ph dir uid tag wait hp
  by_cases hv : v = w
  · subst hv
    rcases resume_eff g hwf s v out fuel hf hw hpath with ⟨_, h⟩ | ⟨n0, ph0, dir0, uid0, tag0, wait0, hpc, sa, hrep, h⟩
    · rcases h with ⟨_, hpcf⟩ | ⟨s1, a, hs⟩
      · rw [hp] at hpcf; simp [Pc.isTest] at hpcf
      · obtain ⟨_, _, _, _, _, e⟩ := Global.startFrom_pc hs (by rw [a.workersLen]; exact hw)
        rw [e] at hp; cases hp; rfl
    · have hw0 := h0 v _ _ _ _ _ _ hpc
      subst hw0
      rcases hrep with ⟨_, h' | h'⟩ | ⟨_, st, hst, hsb, hj⟩
      · exact absurd rfl h'
      · exact absurd h' hout
      · have hfind : sa.jobResults.find?
            (fun r => r.1 == (if ph0 = .pre then (s.wd v).preName else (g.node n0).name) && r.2.1 == uid0) ≠ none := by
          rw [hj]; exact find?_append_singleton_ne_none _ _ _ (by simp)
        rcases h with ⟨e, _, sb, res, ok, hsab, _, _, hc⟩ | ⟨hnone, _⟩
        · have hlen : v < (if ph0 = .pre then settlePre sb v res tag0 else settleNd sb n0 res tag0).workers.length := by
            rw [(settle_book sb v n0 ph0 res tag0).1, hsab.2.1, hsb.2.1]; exact hw
          rcases Global.contEff_pc hc hlen with h1 | ⟨_, _, _, _, _, e1⟩
          · rw [hp] at h1; simp [Pc.isTest] at h1
          · rw [e1] at hp; cases hp; rfl
        · exact absurd hnone hfind
  · rw [resume_others' g hwf s w out fuel hf hw hpath v hv] at hp
    exact h0 v n ph dir uid tag wait hp

theorem init_pc' (g : Graph) (ncls : Nat) (store : List (String × List (String × String))) (hidden : List Nat) (v : Nat) :
    ((initState g ncls store hidden).wd v).pc = .loop := by
  unfold initState State.wd
  simp only [List.getD_eq_getElem?_getD, List.getElem?_map]
  cases g.workers[v]? <;> rfl

theorem w0_init (g : Graph) (ncls : Nat) (store : List (String × List (String × String))) (hidden : List Nat) :
    W0 (initState g ncls store hidden) := by
  intro v n ph dir uid tag wait hp
  rw [init_pc'] at hp; cases hp

/-- every step of the run is given a status (whenever a test task ends, it has reported) -/
def Reports (steps : List StepN) : Prop := ∀ x ∈ steps, x.2.1.status ≠ none

theorem not_abandoned {g : Graph} (hwf : GraphWF g) (steps : List StepN) : ∀ s, Basic g s All → W0 s →
    (∀ x ∈ steps, x.1 < g.workers.length) → (∀ x ∈ steps, 0 < x.2.2) → Reports steps →
    ∀ m t, ¬ Abandoned g s steps m t := by
  induction steps with
  | nil => intro s _ _ _ _ _ m t h; exact h
  | cons x rest ih =>
    intro s b h0 hreal hfuel hrep m t h
    have hx := hreal x (List.mem_cons_self ..)
    have hfx := hfuel x (List.mem_cons_self ..)
    rcases h with ⟨dir, uid, wait, hpc, hge, _⟩ | h
    · have := h0 _ _ _ _ _ _ _ hpc
      omega
    · exact ih _ (b.step hwf x.1 x.2.1 x.2.2 hx hfx)
        (resume_w0 g hwf s x.1 x.2.1 x.2.2 hfx (by rw [b.workersLen]; exact hx) (b.paths x.1)
          (hrep x (List.mem_cons_self ..)) h0)
        (fun y hy => hreal y (List.mem_cons_of_mem _ hy)) (fun y hy => hfuel y (List.mem_cons_of_mem _ hy))
        (fun y hy => hrep y (List.mem_cons_of_mem _ hy)) m t h

/-- the placeholder of the execution a worker is inside of is kept by a step that gives the execution up -/
theorem abandon_keeps {g : Graph} (hwf : GraphWF g) {s : State} (b : Basic g s All) (w : Nat) (out : Outcome) (fuel : Nat)
    (hf : 0 < fuel) {n : Nat} {dir : Dir} {uid : String} {tag wait : Nat}
    (hpc : (s.wd w).pc = .test n .plain dir uid tag wait) (hge : 10 ≤ wait)
    (hnone : s.jobResults.find? (fun r => r.1 == (g.node n).name && r.2.1 == uid) = none) :
    phOf (g.node n).name tag ∈ ((resume g s w out fuel).1.nd n).results ∧
      (s.nd n).results <+: ((resume g s w out fuel).1.nd n).results ∧
      ¬ Owner (resume g s w out fuel).1 n tag := by
  have hws : w < s.workers.length := lt_of_isTest s w (by rw [hpc]; rfl)
  have hab := resume_abandon g s w out fuel hpc hge hnone
  have hc := continueAfter_eff g hwf w n .plain dir fuel hf s false [] hws (b.paths w)
  rw [← hab] at hc
  have hpre : (s.nd n).results <+: ((resume g s w out fuel).1.nd n).results := hc.ext n
  refine ⟨hpre.subset ((b.placeholder w n .plain dir uid tag wait trivial hpc).1 (by decide)), hpre, ?_⟩
  rintro ⟨v, dir', uid', wait', hp⟩
  have hlt := (b.pcOK w n .plain dir uid tag wait trivial hpc).2.2.1
  by_cases hv : v = w
  · subst hv
    rcases Global.contEff_pc hc hws with h1 | ⟨n', ph', dir'', uid'', tag', e1⟩
    · rw [hp] at h1; simp [Pc.isTest] at h1
    · -- a fresh test has a fresh tag
      have b' := b.step hwf v out fuel (by rw [← b.workersLen]; exact hws) hf
      rcases hc with ⟨h, _⟩ | ⟨_, h⟩
      · cases h
      · simp only [reduceCtorEq, if_false] at h
        rcases h with ⟨_, hnt⟩ | ⟨s1, a, hs⟩
        · rw [hp] at hnt; simp [Pc.isTest] at hnt
        · have hw1 : v < s1.workers.length := by rw [a.workersLen]; exact hws
          have : (((resume g s v out fuel).1).wd v).pc = .test n .plain dir' uid' tag wait' := hp
          cases hs with
          | plain n2 dir2 s0 evs gv hgv hn hroot hdec e =>
            rw [e, startTest_pc g s1 n2 v .plain dir2 hw1] at this
            simp only [Pc.test.injEq] at this
            have := this.2.2.2.2.1
            rw [a.tag] at this; omega
          | pre n2 dir2 hn hroot e =>
            rw [e, startTest_pc g _ n2 v .pre dir2 (by simp [State.setWd]; exact hw1)] at this
            simp only [Pc.test.injEq] at this
            have := this.2.1; cases this
  · rw [resume_others' g hwf s w out fuel hf hws (b.paths w) v hv] at hp
    exact b.tagsDistinct v w n .plain dir' uid' tag wait' n .plain dir uid tag wait trivial trivial hv hp hpc rfl

/-! ## (b) a child leaves the to-do list only after the decision -/

/-- copy `p` is a test the stateless branch of `default_run_decision` decides about: not the shared root, not a dry
run, not flat, not a clone source, and it sets no state -/
def selected (g : Graph) (p : Nat) : Bool :=
  !(g.node p).sharedRoot && !(g.node p).dryRun && !(g.node p).flat && !(g.node p).cloneSource && (g.node p).sets.isEmpty

/-- worker `v` is through with a copy of class `c`: a copy of that class it cares for is cleanup-ready for it, and if
it is a selected stateless test, its class has a result -/
def Seen (g : Graph) (s : State) (v c : Nat) : Prop :=
  ∃ p, p < g.nodes.length ∧ (g.node p).cls = c ∧ relevant g v p = true ∧ isCleanupReady g s p v = true ∧
    (selected g p = true → sharedResults g s p ≠ [])

/-- the `droppedCleanup` registers only grow -/
def MonoC (s s' : State) : Prop :=
  ∀ c c' u, u ∈ regWorkers (s.cr c).droppedCleanup (some c') → u ∈ regWorkers (s'.cr c).droppedCleanup (some c')

/-- a result list that is not empty stays so -/
def NE (s s' : State) : Prop := ∀ i, (s.nd i).results ≠ [] → (s'.nd i).results ≠ []

/-- the nodes behind the first one on `w`'s path are nodes of the graph that `w` cares for -/
def TailOk (g : Graph) (w : Nat) (s : State) : Prop :=
  ∀ x ∈ (s.wd w).path.tail, x < g.nodes.length ∧ relevant g w x = true

theorem isCleanupReady_mono (g : Graph) (s s' : State) (n v : Nat) (hm : MonoC s s')
    (h : isCleanupReady g s n v = true) : isCleanupReady g s' n v = true := by
  unfold isCleanupReady at h ⊢
  rw [List.all_eq_true] at h ⊢
  intro p hp
  have := h p hp
  obtain ⟨p1, vms⟩ := p
  simp only [Bool.or_eq_true, Bool.not_eq_true', List.contains_iff_mem] at this ⊢
  rcases this with h1 | h1
  · exact Or.inl h1
  · exact Or.inr (hm _ _ _ h1)

theorem sharedResults_ne_mono (g : Graph) (s s' : State) (p : Nat) (hne : NE s s') (h : sharedResults g s p ≠ []) :
    sharedResults g s' p ≠ [] := by
  unfold sharedResults at h ⊢
  intro h'
  apply h
  rw [List.flatMap_eq_nil_iff] at h' ⊢
  intro i hi
  by_cases hc : (s.nd i).results = []
  · exact hc
  · exact absurd (h' i hi) (hne i hc)

theorem Seen.mono {g : Graph} {s s' : State} {v c : Nat} (h : Seen g s v c) (hne : NE s s') (hm : MonoC s s') :
    Seen g s' v c := by
  obtain ⟨p, h1, h2, h3, h4, h5⟩ := h
  exact ⟨p, h1, h2, h3, isCleanupReady_mono g s s' p v hm h4, fun hs => sharedResults_ne_mono g s s' p hne (h5 hs)⟩

/-- what a piece of a step of worker `w` may do to results, the hidden set, the `droppedCleanup` registers and `w`'s path -/
structure DUpd (g : Graph) (w : Nat) (s s' : State) : Prop where
  ne : NE s s'
  hid : s.hidden = [] → s'.hidden = []
  mono : MonoC s s'
  new : ∀ c c' u, u ∈ regWorkers (s'.cr c).droppedCleanup (some c') →
    u ∈ regWorkers (s.cr c).droppedCleanup (some c') ∨ (u = w ∧ Seen g s' w c')
  tail : TailOk g w s → TailOk g w s'
  done : (s'.wd w).pc = .done → (s.wd w).pc = .done ∨ isCleanupReady g s' g.root w = true

theorem DUpd.refl (g : Graph) (w : Nat) (s : State) : DUpd g w s s :=
  ⟨fun _ h => h, fun h => h, fun _ _ _ h => h, fun _ _ _ h => Or.inl h, fun h => h, fun h => Or.inl h⟩

theorem DUpd.trans {g : Graph} {w : Nat} {s s1 s2 : State} (a : DUpd g w s s1) (b : DUpd g w s1 s2) : DUpd g w s s2 where
  ne := fun i h => b.ne i (a.ne i h)
  hid := fun h => b.hid (a.hid h)
  mono := fun c c' u h => b.mono c c' u (a.mono c c' u h)
  new := fun c c' u h => by
    rcases b.new c c' u h with h1 | h1
    · rcases a.new c c' u h1 with h2 | ⟨h2, h3⟩
      · exact Or.inl h2
      · exact Or.inr ⟨h2, h3.mono b.ne b.mono⟩
    · exact Or.inr h1
  tail := fun h => b.tail (a.tail h)
  done := fun h => by
    rcases b.done h with h1 | h1
    · rcases a.done h1 with h2 | h2
      · exact Or.inl h2
      · exact Or.inr (isCleanupReady_mono g s1 s2 g.root w b.mono h2)
    · exact Or.inr h1

theorem DUpd.quiet {g : Graph} {w : Nat} {s s' : State} (hr : ∀ i, (s'.nd i).results = (s.nd i).results)
    (hh : s'.hidden = s.hidden) (hc : ∀ c, (s'.cr c).droppedCleanup = (s.cr c).droppedCleanup)
    (hp : (s'.wd w).path = (s.wd w).path) (hpc : (s'.wd w).pc = (s.wd w).pc) : DUpd g w s s' :=
  ⟨fun i h => by rw [hr i]; exact h, fun h => by rw [hh]; exact h, fun c c' u h => by rw [hc c]; exact h,
    fun c c' u h => Or.inl (by rw [← hc c]; exact h), fun h => by unfold TailOk; rw [hp]; exact h,
    fun h => Or.inl (by rw [← hpc]; exact h)⟩

theorem dupd_setNd (g : Graph) (w : Nat) (s : State) (m : Nat) (f : NodeD → NodeD) (hf : ∀ d, (f d).results = d.results) :
    DUpd g w s (s.setNd m f) :=
  DUpd.quiet (fun i => nd_setNd_proj (·.results) s m f hf i) rfl (fun _ => rfl) rfl rfl

theorem dupd_setCr (g : Graph) (w : Nat) (s : State) (c : Nat) (f : ClassRegs → ClassRegs)
    (hc : ∀ r, (f r).droppedCleanup = r.droppedCleanup) : DUpd g w s (s.setCr c f) := by
  refine DUpd.quiet (fun _ => rfl) rfl (fun c' => ?_) rfl rfl
  rcases Term.cr_setCr_cases s c f c' with h | ⟨_, h⟩
  · rw [h]
  · rw [h, hc]

theorem dupd_setWd (g : Graph) (w : Nat) (s : State) (f : WorkerD → WorkerD)
    (hpath : ∀ d, (∀ x ∈ d.path.tail, x < g.nodes.length ∧ relevant g w x = true) →
      ∀ x ∈ (f d).path.tail, x < g.nodes.length ∧ relevant g w x = true)
    (hpc : ∀ d, (f d).pc = d.pc ∨ (f d).pc ≠ .done) : DUpd g w s (s.setWd w f) := by
  refine ⟨fun _ h => h, fun h => h, fun _ _ _ h => h, fun _ _ _ h => Or.inl h, ?_, ?_⟩
  · intro hp
    unfold TailOk
    rcases wd_setWd_cases s w f with ⟨h, _⟩ | ⟨_, h⟩
    · rw [h]; exact hp
    · rw [h]; exact hpath _ hp
  · intro hd
    rcases wd_setWd_cases s w f with ⟨h, _⟩ | ⟨_, h⟩
    · rw [h] at hd; exact Or.inl hd
    · rw [h] at hd
      rcases hpc (s.wd w) with h1 | h1
      · rw [h1] at hd; exact Or.inl hd
      · exact absurd hd h1

theorem dupd_setWd_path (g : Graph) (w : Nat) (s : State) (f : WorkerD → WorkerD) (hf : ∀ d, (f d).path = d.path)
    (hpc : ∀ d, (f d).pc = d.pc ∨ (f d).pc ≠ .done) : DUpd g w s (s.setWd w f) :=
  dupd_setWd g w s f (fun d h => by rw [hf d]; exact h) hpc

theorem dupd_popPath (g : Graph) (w : Nat) (s : State) : DUpd g w s (popPath s w) :=
  dupd_setWd g w s _ (fun d h x hx => by
    apply h x
    have : d.path.dropLast.tail = d.path.tail.dropLast := by
      cases d.path with
      | nil => rfl
      | cons a l => cases l <;> simp
    rw [this] at hx
    exact List.dropLast_subset _ hx) (fun _ => Or.inl rfl)

theorem dupd_pushPath (g : Graph) (w : Nat) (s : State) (m : Nat) (hm : m < g.nodes.length) (hr : relevant g w m = true) :
    DUpd g w s (pushPath s w m) :=
  dupd_setWd g w s _ (fun d h x hx => by
    have hsub : ∀ y ∈ (d.path ++ [m]).tail, y ∈ d.path.tail ∨ y = m := by
      intro y hy
      cases hd : d.path with
      | nil => rw [hd] at hy; simp at hy
      | cons a l =>
        rw [hd] at hy
        simp only [List.cons_append, List.tail_cons, List.mem_append, List.mem_singleton] at hy
        simpa using hy
    rcases hsub x hx with h1 | h1
    · exact h x h1
    · rw [h1]; exact ⟨hm, hr⟩) (fun _ => Or.inl rfl)

theorem dupd_toRoot (g : Graph) (w : Nat) (s : State) (f : WorkerD → WorkerD) (hf : ∀ d, (f d).path = [g.root] ∨ (f d).path = [])
    (hpc : ∀ d, (f d).pc = d.pc ∨ (f d).pc ≠ .done) : DUpd g w s (s.setWd w f) :=
  dupd_setWd g w s f (fun d _ x hx => by
    rcases hf d with h | h <;> rw [h] at hx <;> simp at hx) hpc

theorem dupd_exit (g : Graph) (w : Nat) (s : State) (h : isCleanupReady g s g.root w = true) :
    DUpd g w s (s.setWd w (fun d => { d with pc := .done, path := [] })) := by
  refine ⟨fun _ h => h, fun h => h, fun _ _ _ h => h, fun _ _ _ h => Or.inl h, ?_, fun _ => Or.inr h⟩
  intro _
  unfold TailOk
  rcases wd_setWd_cases s w (fun d => { d with pc := .done, path := [] }) with ⟨h', hlt⟩ | ⟨_, h'⟩
  · rw [h', wd_default_of_ge s w hlt]; intro x hx; simp at hx
  · rw [h']; intro x hx; simp at hx

theorem dupd_book (g : Graph) (w : Nat) {s s' : State} (hn : s'.nodes = s.nodes) (hr : s'.regs = s.regs)
    (hw : s'.workers = s.workers) (hh : s'.hidden = s.hidden) : DUpd g w s s' :=
  DUpd.quiet (fun i => by unfold State.nd; rw [hn]) hh (fun c => by unfold State.cr; rw [hr])
    (by unfold State.wd; rw [hw]) (by unfold State.wd; rw [hw])

theorem dupd_hidden (g : Graph) (w : Nat) (s : State) (p : Nat → Bool) : DUpd g w s { s with hidden := s.hidden.filter p } :=
  ⟨fun _ h => h, fun h => by show s.hidden.filter p = []; rw [h]; rfl, fun _ _ _ h => h, fun _ _ _ h => Or.inl h, fun h => h,
    fun h => Or.inl h⟩

theorem dupd_disableRerun (g : Graph) (w : Nat) (s : State) (n : Nat) : DUpd g w s (disableRerun s n) :=
  dupd_setNd g w s n _ (fun _ => rfl)

theorem dupd_runDecision (g : Graph) (w : Nat) (s : State) (n v : Nat) (b : Bool) (s1 : State) (e1 : List Event)
    (h : runDecision g s n v = .ok (b, s1, e1)) : DUpd g w s s1 := by
  rcases runDecision_state g s n v b s1 e1 h with h | h
  · rw [h]; exact DUpd.refl g w s
  · rw [h]; exact dupd_disableRerun g w s n

theorem dupd_pullLocations (g : Graph) (w : Nat) (s : State) (n : Nat) : DUpd g w s (pullLocations g s n) := by
  obtain ⟨l, h⟩ := pullLocations_setNd g s n
  rw [h]
  exact dupd_setNd g w s n _ (fun _ => rfl)

theorem dupd_syncStates (g : Graph) (w : Nat) (s : State) (n v : Nat) (rv : Option (List String)) :
    DUpd g w s (syncStates g s n v rv).1 := by
  obtain ⟨st, h⟩ := syncStates_store g s n v rv
  rw [h]
  exact dupd_book g w rfl rfl rfl rfl

theorem dupd_finishTraverse (g : Graph) (w : Nat) (s : State) (n v : Nat) : DUpd g w s (finishTraverse s n v) :=
  dupd_setNd g w s n _ (fun _ => rfl)

theorem dupd_reverseNode (g : Graph) (w : Nat) (s : State) (n v : Nat) (s' : State) (evs : List Event)
    (h : reverseNode g s n v = .ok (s', evs)) : DUpd g w s s' := by
  rcases reverseNode_eq_ok h with ⟨_, hs, _⟩ | ⟨_, clean, s2, _, hsync, hs⟩
  · rw [hs]; exact DUpd.refl g w s
  · rw [hs]
    refine (dupd_setNd g w s n (fun d => { d with started := some v }) (fun _ => rfl)).trans
      (DUpd.trans ?_ (dupd_setNd g w s2 n _ (fun _ => rfl)))
    rw [show s2 = (s2, evs).1 from rfl, ← hsync]
    split
    · exact dupd_syncStates g w _ n v none
    · exact DUpd.refl g w _

theorem dupd_pickChild (g : Graph) (hwf : GraphWF g) (w : Nat) (s : State) (n c : Nat) (s' : State)
    (h : pickChild g s n w = some (c, s')) : DUpd g w s (pushPath s' w c) := by
  obtain ⟨hc, hrel, _, rfl⟩ := pickChild_eq_some h
  obtain ⟨p, hp, rfl⟩ := List.mem_map.mp hc
  refine DUpd.trans ?_ (dupd_pushPath g w _ _ (hwf.cleanup_lt n p hp) hrel)
  exact dupd_setCr g w s _ _ (fun _ => rfl)

theorem dupd_pickParent (g : Graph) (hwf : GraphWF g) (w : Nat) (s : State) (n c : Nat) (s' : State)
    (h : pickParent g s n w = some (c, s')) : DUpd g w s (pushPath s' w c) := by
  obtain ⟨hc, hrel, _, rfl⟩ := pickParent_eq_some h
  obtain ⟨p, hp, rfl⟩ := List.mem_map.mp hc
  refine DUpd.trans ?_ (dupd_pushPath g w _ _ (hwf.setup_lt n p hp) hrel)
  exact dupd_setCr g w s _ _ (fun _ => rfl)

/-- one more registration of `w` in a `droppedCleanup` register, for a class `w` is through with -/
theorem dupd_addDropC (g : Graph) (w : Nat) (s : State) (cc c0 : Nat) (hw : Seen g s w c0) :
    DUpd g w s (s.setCr cc (fun r => { r with droppedCleanup := regAdd r.droppedCleanup (c0, w) })) := by
  have hm : MonoC s (s.setCr cc (fun r => { r with droppedCleanup := regAdd r.droppedCleanup (c0, w) })) := by
    intro c c' u h
    rcases Term.cr_setCr_cases s cc (fun r => { r with droppedCleanup := regAdd r.droppedCleanup (c0, w) }) c with h' | ⟨_, h'⟩
    · rw [h']; exact h
    · rw [h']; exact (Term.mem_regWorkers_regAdd _ c0 w c' u).mpr (Or.inl h)
  refine ⟨fun _ h => h, fun h => h, hm, fun c c' u h => ?_, fun h => h, fun h => Or.inl h⟩
  rcases Term.cr_setCr_cases s cc (fun r => { r with droppedCleanup := regAdd r.droppedCleanup (c0, w) }) c with h' | ⟨_, h'⟩
  · rw [h'] at h; exact Or.inl h
  · rw [h'] at h
    rcases (Term.mem_regWorkers_regAdd _ c0 w c' u).mp h with h1 | ⟨h1, h2⟩
    · exact Or.inl h1
    · refine Or.inr ⟨h1, ?_⟩
      rw [h2]
      exact hw.mono (fun _ h => h) hm

theorem dupd_dropChildren (g : Graph) (w : Nat) (next : Nat) (l : List (Nat × List String)) :
    ∀ s, Seen g s w (g.node next).cls → DUpd g w s (l.foldl (fun s (p, _) => dropChild g s p next w) s) := by
  induction l with
  | nil => intro s _; exact DUpd.refl g w s
  | cons a r ih =>
    intro s hs
    obtain ⟨p, vms⟩ := a
    simp only [List.foldl_cons]
    have h1 : DUpd g w s (dropChild g s p next w) := dupd_addDropC g w s _ _ hs
    exact h1.trans (ih _ (hs.mono h1.ne h1.mono))

/-- the decision "do not run" on a selected stateless copy: its class has a result -/
theorem runDecision_false_selected (g : Graph) (s : State) (n w : Nat) (s1 : State) (evs : List Event)
    (h : runDecision g s n w = .ok (false, s1, evs)) (hsel : selected g n = true) : sharedResults g s n ≠ [] := by
  unfold selected at hsel
  simp only [Bool.and_eq_true, Bool.not_eq_true'] at hsel
  obtain ⟨⟨⟨⟨c1, c2⟩, c3⟩, c4⟩, c6⟩ := hsel
  unfold runDecision at h
  dsimp only at h
  cases c5 : g.idIn w n
  all_goals simp only [c1, c2, c3, c4, c5, c6, Bool.false_eq_true, if_false, if_true, Bool.not_false, Bool.not_true,
    reduceCtorEq] at h
  unfold runDecisionStateless at h
  intro he
  rw [he] at h
  simp at h

theorem dupd_setNd_ne (g : Graph) (w : Nat) (s : State) (m : Nat) (f : NodeD → NodeD)
    (hf : ∀ d, d.results ≠ [] → (f d).results ≠ []) : DUpd g w s (s.setNd m f) := by
  refine ⟨fun i h => ?_, fun h => h, fun _ _ _ h => h, fun _ _ _ h => Or.inl h, fun h => h, fun h => Or.inl h⟩
  rcases nd_setNd_cases s m f i with h' | ⟨_, _, h'⟩
  · rw [h']; exact h
  · rw [h']; exact hf _ h

theorem dupd_dropParent (g : Graph) (w : Nat) (s : State) (child parent v : Nat) : DUpd g w s (dropParent g s child parent v) := by
  unfold dropParent
  exact dupd_setCr g w s _ _ (fun _ => rfl)

/-- the only place where a child is dropped: the copy is cleanup-ready for `w` and the decision was not to run it -/
theorem dupd_dropAll (g : Graph) (w : Nat) (s : State) (next : Nat) (s1 : State) (evs : List Event)
    (hd : runDecision g s next w = .ok (false, s1, evs)) (hc : isCleanupReady g s1 next w = true)
    (hn : next < g.nodes.length) (hrel : relevant g w next = true) :
    DUpd g w s ((g.node next).setup.foldl (fun s (p, _) => dropChild g s p next w) s1) := by
  have h1 := dupd_runDecision g w s next w false s1 evs hd
  exact h1.trans (dupd_dropChildren g w next (g.node next).setup s1 ⟨next, hn, rfl, hrel, hc, fun hsel =>
    sharedResults_ne_mono g s s1 next h1.ne (runDecision_false_selected g s next w s1 evs hd hsel)⟩)

theorem after_dupd {g : Graph} (hwf : GraphWF g) {s : State} {w next prev : Nat} {dir : Dir} {r : Step}
    (hn : next < g.nodes.length) (hrel : relevant g w next = true) (h : After g w next prev dir s r) : DUpd g w s r.1 := by
  cases h with
  | undecided => exact .refl g w s
  | up run s1 evs _ hd =>
    refine (dupd_runDecision g w s next w run s1 evs hd).trans (DUpd.trans ?_ (dupd_popPath g w _))
    split
    · exact dupd_dropParent g w s1 prev next w
    · exact .refl g w s1
  | again s1 evs _ hd => exact (dupd_runDecision g w s next w _ s1 evs hd).trans (dupd_popPath g w _)
  | postponed s1 evs _ hd =>
    exact (dupd_runDecision g w s next w _ s1 evs hd).trans
      (dupd_toRoot g w s1 _ (fun _ => Or.inl rfl) (fun _ => Or.inl rfl))
  | cleaned s1 evs s3 evs2 _ hd hc _ hr =>
    exact (dupd_dropAll g w s next s1 evs hd hc hn hrel).trans
      ((dupd_reverseNode g w _ next w s3 evs2 hr).trans (dupd_popPath g w _))
  | uncleaned s1 evs e _ hd hc => exact dupd_dropAll g w s next s1 evs hd hc hn hrel
  | descend s1 evs c s2 _ hd _ hp =>
    exact (dupd_runDecision g w s next w _ s1 evs hd).trans (dupd_pickChild g hwf w s1 next c s2 hp)
  | childless s1 evs _ hd => exact dupd_runDecision g w s next w _ s1 evs hd

theorem startTest_dupd (g : Graph) (s : State) (n w : Nat) (ph : Phase) (dir : Dir) :
    DUpd g w s (startTest g s n w ph dir).1 := by
  have h0 : DUpd g w s { s with nextTag := s.nextTag + 1 } := dupd_book g w rfl rfl rfl rfl
  by_cases hph : ph = .pre
  · subst hph
    rw [startTest_pre_fst]
    exact h0.trans (dupd_setWd_path g w _ _ (fun _ => rfl) (fun _ => Or.inr (by simp)))
  · rw [startTest_nonpre_fst g s n w ph dir hph]
    exact h0.trans ((dupd_setNd_ne g w _ n _ (fun d _ => by simp)).trans
      (dupd_setWd_path g w _ _ (fun _ => rfl) (fun _ => Or.inr (by simp))))

theorem getLast?_mem_tail {l : List Nat} {x : Nat} (h : l.getLast? = some x) (hl : l.length ≠ 1) : x ∈ l.tail := by
  cases l with
  | nil => simp at h
  | cons a r =>
    cases r with
    | nil => simp at hl
    | cons b r' =>
      simp only [List.tail_cons]
      rw [List.getLast?_cons_cons] at h
      exact List.mem_of_getLast? h

theorem iter_dupd {g : Graph} (hwf : GraphWF g) {s : State} {w : Nat} {r : Step} (ht : TailOk g w s)
    (h : Iter g w s r) : DUpd g w s r.1 := by
  have entered : ∀ n, DUpd g w s (entered g s w n) := fun n =>
    (dupd_setNd g w s n (fun d => { d with started := some w }) (fun _ => rfl)).trans (dupd_pullLocations g w _ n)
  cases h with
  | exit hc => exact dupd_exit g w s hc
  | lost => exact .refl g w s
  | fromRoot n c s1 _ _ _ hp => exact dupd_pickChild g hwf w s n c s1 hp
  | bounce n =>
    refine DUpd.trans ?_ (dupd_toRoot g w _ _ (fun _ => Or.inl rfl) (fun _ => Or.inr (by simp)))
    split
    · refine DUpd.trans ?_ (dupd_setWd_path g w _ _ (fun _ => rfl) (fun _ => Or.inl rfl))
      split
      · exact dupd_setNd g w s n _ (fun _ => rfl)
      · exact .refl g w s
    · exact dupd_setWd_path g w s _ (fun _ => rfl) (fun _ => Or.inl rfl)
  | toParent n _ p s1 _ _ _ hp => exact dupd_pickParent g hwf w s n p s1 hp
  | undecided n => exact entered n
  | start n _ dir s1 evs _ hd =>
    exact (entered n).trans ((dupd_runDecision g w _ n w _ s1 evs hd).trans (startTest_dupd g s1 n w .plain dir))
  | create n _ dir s1 evs _ hd =>
    exact (entered n).trans ((dupd_runDecision g w _ n w _ s1 evs hd).trans
      ((show DUpd g w s1 (preset g s1 w n) from dupd_setWd_path g w s1 _ (fun _ => rfl) (fun _ => Or.inl rfl)).trans
        (startTest_dupd g _ n w .pre dir)))
  | skip n _ _ s1 evs r hv hd ha =>
    obtain ⟨hn, hrel⟩ := ht n (getLast?_mem_tail hv.last hv.long)
    exact (entered n).trans ((dupd_runDecision g w _ n w _ s1 evs hd).trans
      ((dupd_finishTraverse g w s1 n w).trans (after_dupd (r := r) hwf hn hrel ha)))

theorem dupd_reveal (g : Graph) (w : Nat) (s : State) (f v : Nat) : DUpd g w s (reveal g s f v) := by
  unfold reveal
  dsimp only
  split
  · exact dupd_book g w rfl rfl rfl rfl
  · exact dupd_hidden g w s _

theorem dupd_prepare (g : Graph) (w : Nat) (s : State) : DUpd g w s (prepare g s w) := by
  fun_cases prepare g s w with
  | case1 => exact DUpd.refl g w s
  | case2 _ next _ _ s1 =>
    exact (dupd_setWd_path g w s _ (fun _ => rfl) (fun _ => Or.inl rfl) : DUpd g w s s1).trans (dupd_reveal g w _ next w)
  | case3 => exact dupd_setWd_path g w s _ (fun _ => rfl) (fun _ => Or.inl rfl)

theorem iterL_dupd {g : Graph} (hwf : GraphWF g) {s : State} {w : Nat} {r : Step} (hh : s.hidden = [])
    (ht : TailOk g w s) (h : IterL g w s r) : DUpd g w s r.1 := by
  obtain ⟨s1, hp, hi⟩ := h
  have h0 : DUpd g w s s1 := by
    cases hp with
    | stay => exact .refl g w s
    | expand => exact dupd_prepare g w s
  rw [vis_eq_of_hidden_nil (h0.hid hh)] at hi
  exact h0.trans (iter_dupd hwf (h0.tail ht) hi)

theorem dupd_setPc (g : Graph) (w : Nat) (s : State) (pc : Pc) (hpc : pc ≠ .done) :
    DUpd g w s (s.setWd w (fun d => { d with pc := pc })) :=
  dupd_setWd_path g w s _ (fun _ => rfl) (fun _ => Or.inr hpc)

theorem ran_dupd {g : Graph} (hwf : GraphWF g) {w fuel : Nat} {s : State} {evs : List Event} {r : State × List Event}
    (hh : s.hidden = []) (ht : TailOk g w s) (h : Ran g w fuel s evs r) : DUpd g w s r.1 := by
  have body : ∀ {s s1 e f}, s.hidden = [] → TailOk g w s →
      IterL g w (s.setWd w (fun d => { d with pc := .loop })) (s1, e, f) → DUpd g w s s1 := fun hh ht hi =>
    have h0 := dupd_setPc g w _ .loop (by simp)
    h0.trans (iterL_dupd hwf (h0.hid hh) (h0.tail ht) hi)
  induction h with
  | dry => exact .refl g w _
  | cont hi _ ih => exact (body hh ht hi).trans (ih ((body hh ht hi).hid hh) ((body hh ht hi).tail ht))
  | stop hi => exact body hh ht hi
  | fail hi => exact (body hh ht hi).trans (dupd_setPc g w _ .failed (by simp))

theorem reportOutcome_dupd (g : Graph) (s : State) (w n : Nat) (ph : Phase) (uid : String) (wait : Nat) (out : Outcome) :
    DUpd g w s (reportOutcome g s w n ph uid wait out).1 := by
  fun_cases reportOutcome g s w n ph uid wait out with
  | case1 _ _ _ st _ s1 s2 =>
    refine (dupd_book g w rfl rfl rfl rfl : DUpd g w s s1).trans (?_ : DUpd g w s1 s2)
    unfold s2
    split
    · exact dupd_book g w rfl rfl rfl rfl
    · exact DUpd.refl g w _
  | case2 => exact DUpd.refl g w s
  | case3 => exact DUpd.refl g w s

theorem settle_ne (l : List Result) (res : Result) (tag : Nat) (hres : res.tag = 0) (htag : 1 ≤ tag) :
    (l ++ [res]).filter (fun r => !(r.status == "UNKNOWN" && r.tag == tag)) ≠ [] := by
  intro hnil
  have hmem : res ∈ (l ++ [res]).filter (fun r => !(r.status == "UNKNOWN" && r.tag == tag)) := by
    refine List.mem_filter.mpr ⟨List.mem_append_right _ (List.mem_singleton.mpr rfl), ?_⟩
    have : (res.tag == tag) = false := by rw [hres]; simp; omega
    simp [this]
  rw [hnil] at hmem
  cases hmem

theorem recordResult_dupd (g : Graph) (s : State) (w n : Nat) (ph : Phase) (name uid : String) (tag : Nat) (st0 : String)
    (dur : Nat) (htag : 1 ≤ tag) : DUpd g w s (recordResult s w n ph name uid tag st0 dur).1 := by
  fun_cases recordResult s w n ph name uid tag st0 dur with
  | case1 _ _ _ _ s1 _ s2 =>
    have h1 : DUpd g w s s1 := by
      unfold s1
      split
      · exact dupd_book g w rfl rfl rfl rfl
      · exact DUpd.refl g w s
    refine h1.trans (?_ : DUpd g w s1 s2)
    unfold s2
    split
    · exact dupd_setWd_path g w _ _ (fun _ => rfl) (fun _ => Or.inl rfl)
    · exact dupd_setNd_ne g w _ n _ (fun d _ => settle_ne _ _ _ rfl htag)

theorem ended_dupd {g : Graph} {w n : Nat} {ph : Phase} {uid : String} {tag wait : Nat} {out : Outcome} {s sc : State}
    {ok : Bool} (htag : 1 ≤ tag) (h : Ended g w n ph uid tag wait out s sc ok) : DUpd g w s sc := by
  cases h with
  | found => exact (reportOutcome_dupd ..).trans (recordResult_dupd g _ w n ph _ uid tag _ _ htag)
  | lost => exact reportOutcome_dupd ..

theorem resumed_dupd {g : Graph} (hwf : GraphWF g) {s : State} {w : Nat} {out : Outcome} {fuel : Nat}
    {r : State × List Event} (hh : s.hidden = []) (ht : TailOk g w s)
    (hpc : ∀ n ph dir uid tag wait, (s.wd w).pc = .test n ph dir uid tag wait →
      n < g.nodes.length ∧ relevant g w n = true ∧ 1 ≤ tag) (h : Resumed g w out fuel s r) : DUpd g w s r.1 := by
  -- the traversal of the node of the finished test ends, and the loop body goes on
  have back : ∀ {n ph dir uid tag wait sc ok prev r}, (s.wd w).pc = .test n ph dir uid tag wait →
      Ended g w n ph uid tag wait out s sc ok →
      After (vis g (finishTraverse (accounted sc w n ph) n w)) w n prev dir (finishTraverse (accounted sc w n ph) n w) r →
      DUpd g w s r.1 := by
    intro n ph dir uid tag wait sc ok prev r h hs ha
    obtain ⟨hn, hrel, htag⟩ := hpc _ _ _ _ _ _ h
    have h0 : DUpd g w s (finishTraverse (accounted sc w n ph) n w) := by
      refine (ended_dupd htag hs).trans (DUpd.trans ?_ (dupd_finishTraverse g w _ n w))
      unfold accounted
      split
      · exact dupd_setNd_ne g w sc n _ (fun d h => by simp [h])
      · exact .refl g w sc
    rw [vis_eq_of_hidden_nil (h0.hid hh)] at ha
    exact h0.trans (after_dupd hwf hn hrel ha)
  cases h with
  | over => exact .refl g w s
  | loop r _ hr => exact ran_dupd hwf hh ht hr
  | wait n ph dir uid tag wait => exact (reportOutcome_dupd ..).trans (dupd_setPc g w _ _ (by simp))
  | created n dir uid tag wait sc h hs =>
    exact (ended_dupd (hpc _ _ _ _ _ _ h).2.2 hs).trans (startTest_dupd g sc n w .main dir)
  | stuck n ph dir uid tag wait sc ok s1 e what h hs _ ha =>
    exact (back h hs ha).trans (dupd_setPc g w _ .failed (by simp))
  | back n ph dir uid tag wait sc ok s1 e f r h hs _ ha _ hr =>
    have h01 := back h hs ha
    exact h01.trans (ran_dupd hwf (h01.hid hh) (h01.tail ht) hr)

theorem resume_dupd (g : Graph) (hwf : GraphWF g) (s : State) (w : Nat) (out : Outcome) (fuel : Nat)
    (hh : s.hidden = []) (ht : TailOk g w s)
    (hpc : ∀ n ph dir uid tag wait, (s.wd w).pc = .test n ph dir uid tag wait →
      n < g.nodes.length ∧ relevant g w n = true ∧ 1 ≤ tag) :
    DUpd g w s (resume g s w out fuel).1 :=
  resumed_dupd hwf hh ht hpc (resume_resumed g s w out fuel)

/-! ### the invariant and the end of a run -/

structure DInv (g : Graph) (s : State) : Prop where
  hid : s.hidden = []
  /-- a worker registered as having dropped a child class is through with a copy of that class -/
  seen : ∀ c c' v, v ∈ regWorkers (s.cr c).droppedCleanup (some c') → Seen g s v c'
  /-- a worker left through the root only when the root was cleanup-ready for it -/
  done : ∀ v, (s.wd v).pc = .done → isCleanupReady g s g.root v = true

theorem DInv.upd {g : Graph} {w : Nat} {s s' : State} (h : DInv g s) (a : DUpd g w s s')
    (hoth : ∀ v, v ≠ w → s'.wd v = s.wd v) : DInv g s' where
  hid := a.hid h.hid
  seen := fun c c' v hv => by
    rcases a.new c c' v hv with h1 | ⟨h1, h2⟩
    · exact (h.seen c c' v h1).mono a.ne a.mono
    · rw [h1]; exact h2
  done := fun v hv => by
    by_cases hvw : v = w
    · subst hvw
      rcases a.done hv with h1 | h1
      · exact isCleanupReady_mono g s s' g.root v a.mono (h.done v h1)
      · exact h1
    · rw [hoth v hvw] at hv
      exact isCleanupReady_mono g s s' g.root v a.mono (h.done v hv)

theorem init_cr (g : Graph) (ncls : Nat) (store : List (String × List (String × String))) (hidden : List Nat) (c : Nat) :
    (initState g ncls store hidden).cr c = {} := by
  unfold initState State.cr
  simp only [List.getD_eq_getElem?_getD, List.getElem?_map]
  cases (List.range ncls)[c]? <;> rfl

theorem DInv.init (g : Graph) (ncls : Nat) (store : List (String × List (String × String))) :
    DInv g (initState g ncls store []) where
  hid := rfl
  seen := fun c c' v hv => by
    rw [init_cr] at hv
    simp [regWorkers] at hv
  done := fun v hv => by
    rw [init_pc'] at hv; cases hv

theorem pathOK_tail {R : Nat → Nat → Prop} {P : Nat → Prop} {root : Nat} {p : List Nat} (h : PathOK R P root p) :
    ∀ x ∈ p.tail, P x := by
  induction h with
  | root => intro x hx; simp at hx
  | push p last c _ hl _ hP ih =>
    intro x hx
    cases p with
    | nil => simp at hl
    | cons a l =>
      simp only [List.cons_append, List.tail_cons, List.mem_append, List.mem_singleton] at hx
      rcases hx with hx | hx
      · exact ih x (by simpa using hx)
      · rw [hx]; exact hP

theorem tail_of_pinv {g : Graph} {s : State} (b : Basic g s All) (p : PInv g s) (v : Nat) (hv : v < g.workers.length) :
    TailOk g v s := by
  intro x hx
  refine ⟨b.paths v x (List.mem_of_mem_tail hx), ?_⟩
  rcases p.path v (by rw [b.workersLen]; exact hv) with ⟨h, _⟩ | h
  · rw [h] at hx; simp at hx
  · exact pathOK_tail h x hx

theorem dinv_step {g : Graph} (hwf : GraphWF g) {s : State} (b : Basic g s All) (p : PInv g s) (d : DInv g s)
    (w : Nat) (out : Outcome) (fuel : Nat) (hw : w < g.workers.length) (hf : 0 < fuel) :
    DInv g (resume g s w out fuel).1 := by
  have hws : w < s.workers.length := by rw [b.workersLen]; exact hw
  refine d.upd (resume_dupd g hwf s w out fuel d.hid (tail_of_pinv b p w hw) ?_)
    (resume_others' g hwf s w out fuel hf hws (b.paths w))
  intro n ph dir uid tag wait heq
  have hok := b.pcOK w n ph dir uid tag wait trivial heq
  exact ⟨hok.1, relevant_of_idIn (p.testOwn w n (by rw [heq]; rfl)).1, hok.2.1⟩

theorem dinv_run {g : Graph} (hwf : graphWF g = true) (hsym : EdgeSym g) (ncls : Nat)
    (store : List (String × List (String × String))) (steps : List StepN) : ∀ s, ReachableR g ncls store s →
    ReachableF g ncls store s → DInv g s → (∀ x ∈ steps, x.1 < g.workers.length) → (∀ x ∈ steps, 0 < x.2.2) →
    DInv g (runStepsN g s steps) :=
  fun s hR hF d hreal hfuel =>
    (Fair.run_keeps (I := fun s => ReachableR g ncls store s ∧ ReachableF g ncls store s ∧ DInv g s)
      (fun s w out fuel h hw hf => ⟨.step w out fuel h.1 hw hf, .step s w out fuel h.2.1 hw hf,
        dinv_step (GraphWF.of_bool hwf) (h.1.basic hwf) (h.2.1.pinv hsym) h.2.2 w out fuel hw hf⟩)
      steps s ⟨hR, hF, d⟩ (fun x hx => ⟨hreal x hx, hfuel x hx⟩)).2.2

/-- the copies below the shared root that worker `w` is responsible for: reachable from the root through children `w`
cares for -/
inductive Below (g : Graph) (w : Nat) : Nat → Prop
  | root : Below g w g.root
  | child {p c : Nat} (vms : List String) : Below g w p → (c, vms) ∈ (g.node p).cleanup → relevant g w c = true → Below g w c

/-- In a state with the invariant in which the root is cleanup-ready for `w` (e.g. `w` is `done`): every copy `w` is
responsible for is cleanup-ready for `w`, and every such copy other than the root that is a selected stateless test has a
result in its class. -/
theorem below_done {g : Graph} (hwf : GraphWF g) {s : State} (d : DInv g s) (w : Nat) (hinj : Term.ClassInj g w)
    (hready : isCleanupReady g s g.root w = true) (n : Nat) (hb : Below g w n) :
    isCleanupReady g s n w = true ∧ (n ≠ g.root → selected g n = true → sharedResults g s n ≠ []) := by
  induction hb with
  | root => exact ⟨hready, fun h => absurd rfl h⟩
  | @child p c vms _ hc hrel ih =>
    have hreg := (cleanup_ready_iff g s p w).mp ih.1 (c, vms) hc hrel
    obtain ⟨p', h1, h2, h3, h4, h5⟩ := d.seen _ _ _ hreg
    have hclt : c < g.nodes.length := hwf.cleanup_lt p (c, vms) hc
    have : p' = c := hinj p' c h1 hclt h3 hrel h2
    subst this
    exact ⟨h4, fun _ hs => h5 hs⟩

end I2N.Trav.Definite
