/-
Helper lemmas for the translator tie of `TestRunner.run_test_node` / `all_results_ok` (Props/C10.lean, section
"Regenerated runner"): the generated segments of `Extracted/GenRunner.lean` in closed form.
-/
import I2N.Model.Rules
import I2N.Extracted.GenRunner
namespace I2N.Lemmas.RunnerGen
open I2N.Rules I2N.Extracted.Rules I2N.Extracted.GenRunner

theorem anyM_filter_eq_anyOk (name : String) (tests : List JobRes) :
    (tests.filter (fun t => t.name == name)).anyM (fun t => statusOkM t.status) = anyOk name tests := by
  induction tests with
  | nil => rfl
  | cons t ts ih =>
    by_cases h : (t.name == name) = true
    · rw [List.filter_cons, if_pos h, List.anyM_cons, anyOk, if_pos h, ih]
      unfold statusOkM
      cases hs : statusOk t.status with
      | none => rfl
      | some b => cases b <;> rfl
    · rw [List.filter_cons, if_neg h, anyOk, if_neg h, ih]

theorem genAnyOk_eq (tests : List JobRes) (test : JobRes) : genAnyOk tests test = anyOk test.name tests := by
  unfold genAnyOk
  rw [anyM_filter_eq_anyOk]

theorem genAllOkLoop_eq (tests : List JobRes) (l : List JobRes) :
    genAllOkLoop tests true l = allOkLoop tests l := by
  induction l with
  | nil => rfl
  | cons t ts ih =>
    rw [genAllOkLoop, allOkLoop, genAnyOk_eq]
    cases h : anyOk t.name tests with
    | error e => rfl
    | ok b =>
      cases b
      · rfl
      · simpa [bind, Except.bind, pure, Except.pure] using ih

theorem genLookup_eq (tests : List JobRes) (name uid : String) :
    genLookup tests name uid = tests.filter (fun x => x.name == name && x.uid == uid) := by
  unfold genLookup
  simp [Id.run]
  rfl

theorem genLookup_head (tests : List JobRes) (name uid : String) :
    (genLookup tests name uid).head? = lookupJob tests name uid := by
  rw [genLookup_eq, List.head?_filter]; rfl

theorem lookupJob_name {job : List JobRes} {name uid : String} {x : JobRes}
    (h : lookupJob job name uid = some x) : x.name = name ∧ x.uid = uid := by
  unfold lookupJob at h
  have := List.find?_some h
  simpa using this

theorem pyMaxDefault_eq (results : List Result) (d : Nat) :
    pyMaxDefault ((results.filter (fun r => r.status == "PASS")).map (fun r => r.time.getD 0)) d =
      maxAllowed results d := by
  unfold pyMaxDefault maxAllowed passStatus
  rfl

end I2N.Lemmas.RunnerGen
