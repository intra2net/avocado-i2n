import I2N.Lemmas.TravGlobal
/-!
Progress ACROSS suspensions for ANY number of workers (property C02).

`Lemmas/TravGlobal.lean` treats one worker.  With several workers a run can be arbitrarily long — a worker may sleep at an
occupied node as long as the holder keeps running — but that is the ONLY way:

1. `cntN = 24·(number of results) + Σ_workers q(pc)` (`q` = the wait counter inside a test, 12 in the loop or the back-off
   sleep, 13 once over) never falls, and strictly grows with every step of a worker that is inside a test, and with every
   step of a worker in the loop / waking up from a back-off sleep that does not end in a back-off sleep again
   (`Global.resume_shape`, `step_cntN`, `run_cntN`).  The number of results is bounded by the retry budgets of C03 for
   every number of workers (`total_le_resultBoundN`: the copy with results is seen by the worker that cares for it), as long
   as no `max_concurrent_tries` is bumped.  Hence the number of such "productive" steps of a whole run is at most
   `24·resultBound g + |workers|` (`productive_le`).
2. A worker whose step ends in the back-off sleep has seen a `started` mark, which belongs to ANOTHER worker that is inside a
   test or dead (`Global.resume_quiet`, contrapositive: `bounce_has_runner`): when all the others are done, the remaining worker
   never sleeps, and its traversal is over after `24·resultBound g + 13·|workers| + 1` of its steps (`lastWorker_over`).
-/
namespace I2N.Trav.GlobalN
open I2N.Trav I2N.Trav.Global

def pcEnd : Pc → Bool
  | .loop => false
  | _ => true

theorem pcEnd_of_isTest {pc : Pc} (h : pc.isTest = true) : pcEnd pc = true := by
  cases pc <;> first | rfl | cases h

structure IterEnd (w : Nat) (r : Step) : Prop where
  susp : isSuspend r.2.2 = true → (r.1.wd w).pc.isTest = true ∨ (r.1.wd w).pc = .bounce
  exit : r.2.2.isExit = true → (r.1.wd w).pc = .done

theorem iter_end (gv : Graph) (s : State) (w : Nat) (hw : w < s.workers.length) : IterEnd w (iter gv s w) :=
  (iter_out gv s w hw).elim (fun h => ⟨fun hs => Or.inl (h.susp hs), h.exit⟩)
    (fun ⟨_, hb, hf⟩ => ⟨fun _ => Or.inr hb, fun he => by rw [hf] at he; cases he⟩)

theorem iterL_end (g : Graph) (s : State) (w : Nat) (hw : w < s.workers.length) : IterEnd w (iterL g s w) := by
  unfold iterL
  split
  · exact iter_end (vis g s) s w hw
  · dsimp only
    obtain ⟨_, h2, _, _⟩ := prepare_frame g s w
    exact iter_end (vis g (prepare g s w)) (prepare g s w) w (by rw [h2]; exact hw)

theorem runLoopO_pcEnd (g : Graph) (hwf : GraphWF g) (w fuel : Nat) (s : State) (evs : List Event) (r : State × List Event)
    (hw : w < s.workers.length) (hpath : ∀ x ∈ (s.wd w).path, x < g.nodes.length)
    (h : Term.runLoopO g w fuel s evs = some r) : pcEnd (r.1.wd w).pc = true := by
  induction fuel generalizing s evs with
  | zero => simp [Term.runLoopO] at h
  | succ fuel ih =>
    unfold Term.runLoopO at h
    dsimp only at h
    have h0 : Silent g w s (s.setWd w (fun d => { d with pc := .loop })) := silent_setPc g w s .loop rfl
    have hw0 : w < (s.setWd w (fun d => { d with pc := .loop })).workers.length := by rw [h0.workersLen]; exact hw
    have hp0 := h0.path hpath
    have he := iterL_eff g hwf _ w hp0
    have hit := iterL_end g _ w hw0
    split at h
    · next s1 e heq =>
      rw [heq] at he
      rcases he with he | ⟨_, hf⟩
      · exact ih s1 _ (by rw [he.workersLen]; exact hw0) (he.path hp0) h
      · cases hf
    · next s1 e heq =>
      rw [heq] at hit
      simp only [Option.some.injEq] at h
      subst h
      rcases hit.susp rfl with h' | h'
      · exact pcEnd_of_isTest h'
      · show pcEnd (s1.wd w).pc = true
        rw [h']; rfl
    · next s1 e heq =>
      rw [heq] at hit
      simp only [Option.some.injEq] at h
      subst h
      show pcEnd (s1.wd w).pc = true
      rw [show (s1.wd w).pc = .done from hit.exit rfl]; rfl
    · next s1 e what heq =>
      rw [heq] at he
      simp only [Option.some.injEq] at h
      subst h
      rcases he with he | ⟨_, hf⟩
      · show pcEnd ((s1.setWd w _).wd w).pc = true
        rw [wd_setWd_eq s1 w _ (by rw [he.workersLen]; exact hw0)]; rfl
      · cases hf

/-- weight of a program counter: the wait counter inside a test (`≤ 10`), 12 in the loop or the back-off sleep, 13 once the
traversal of the worker is over -/
def q : Pc → Nat
  | .test _ _ _ _ _ wait => wait
  | .loop => 12
  | .bounce => 12
  | .done => 13
  | .failed => 13

def qsum (g : Graph) (s : State) : Nat := ((List.range g.workers.length).map (fun v => q (s.wd v).pc)).sum

def cntN (g : Graph) (s : State) : Nat := 24 * total g s + qsum g s

theorem q_nonTest {pc : Pc} (h : pc.isTest = false) : 12 ≤ q pc := by
  cases pc <;> first | (cases h; done) | simp [q]

theorem q_over {pc : Pc} (h1 : pc.isTest = false) (h2 : pcEnd pc = true) (h3 : pc ≠ .bounce) : q pc = 13 := by
  cases pc <;> first | (cases h1; done) | (cases h2; done) | rfl | exact absurd rfl h3

theorem q_le {pc : Pc} (h : ∀ n ph dir uid tag wait, pc = .test n ph dir uid tag wait → wait ≤ 10) : q pc ≤ 13 := by
  cases pc with
  | test n ph dir uid tag wait => exact Nat.le_trans (h n ph dir uid tag wait rfl) (by decide)
  | _ => simp [q]

theorem q_test_le {pc : Pc} (h : ∀ n ph dir uid tag wait, pc = .test n ph dir uid tag wait → wait ≤ 10)
    (ht : pc.isTest = true) : q pc ≤ 10 := by
  cases pc with
  | test n ph dir uid tag wait => exact h n ph dir uid tag wait rfl
  | _ => cases ht

/-- only the summand of the stepping worker changes -/
theorem qsum_step {g : Graph} {s s' : State} {w : Nat} (hw : w < g.workers.length)
    (hoth : ∀ v, v ≠ w → s'.wd v = s.wd v) : qsum g s' + q (s.wd w).pc = qsum g s + q (s'.wd w).pc := by
  unfold qsum
  have hm : w ∈ List.range g.workers.length := List.mem_range.mpr hw
  rw [← sum_map_split _ List.nodup_range w hm (fun v => q (s'.wd v).pc),
    ← sum_map_split _ List.nodup_range w hm (fun v => q (s.wd v).pc)]
  have : (((List.range g.workers.length).filter (· != w)).map (fun v => q (s'.wd v).pc)).sum =
      (((List.range g.workers.length).filter (· != w)).map (fun v => q (s.wd v).pc)).sum := by
    apply sum_map_congr
    intro j hj
    have hjw : j ≠ w := by simpa using (List.mem_filter.mp hj).2
    rw [hoth j hjw]
  omega

theorem sum_map_const_le (l : List Nat) (f : Nat → Nat) (c : Nat) (h : ∀ j ∈ l, f j ≤ c) : (l.map f).sum ≤ c * l.length := by
  induction l with
  | nil => simp
  | cons a r ih =>
    simp only [List.map_cons, List.sum_cons, List.length_cons, Nat.mul_succ]
    rw [Nat.add_comm]
    exact Nat.add_le_add (ih (fun j hj => h j (List.mem_cons_of_mem _ hj))) (h a List.mem_cons_self)

theorem sum_map_const_ge (l : List Nat) (f : Nat → Nat) (c : Nat) (h : ∀ j ∈ l, c ≤ f j) : c * l.length ≤ (l.map f).sum := by
  induction l with
  | nil => simp
  | cons a r ih =>
    simp only [List.map_cons, List.sum_cons, List.length_cons, Nat.mul_succ]
    rw [Nat.add_comm]
    exact Nat.add_le_add (h a List.mem_cons_self) (ih (fun j hj => h j (List.mem_cons_of_mem _ hj)))

/-- static hypotheses: a pre-parsed (`noFlatB`: no flat node but the shared root) acyclic graph with edges recorded at
both ends and within range, registers for every class; any number of workers -/
structure StaticN (g : Graph) (ncls : Nat) : Prop where
  ranked : Term.rankedB g = true
  sym : edgeSymB g = true
  flat : Term.noFlatB g = true
  wf : graphWF g = true
  cls : ∀ n, n < g.nodes.length → (g.node n).cls < ncls

/-- a scheduler step: the worker that is resumed, the outcome of the test it awaited (if any), the fuel of the block -/
abbrev StepN := Nat × Outcome × Nat

def stepN (g : Graph) (s : State) (st : StepN) : State := (resume g s st.1 st.2.1 st.2.2).1

/-- the run: one `resume` per entry, any interleaving -/
def runStepsN (g : Graph) (s : State) (steps : List StepN) : State := steps.foldl (stepN g) s

/-- no worker steps after it has waited at occupied nodes for longer than the node's `timeout · max(max_tries, 1)`
(so no `max_concurrent_tries` is ever bumped, `resume_bump_eq`) -/
def Patient (g : Graph) : State → List StepN → Prop
  | _, [] => True
  | s, st :: r => ¬ overWaited g s st.1 ∧ Patient g (stepN g s st) r

structure GInvN (g : Graph) (ncls : Nat) (store : List (String × List (String × String))) (s : State) : Prop where
  reachR : ReachableR g ncls store s
  reachF : ReachableF g ncls store s
  noBump : NoBump s
  wait : ∀ v n ph dir uid tag wait, (s.wd v).pc = .test n ph dir uid tag wait → wait ≤ 10

theorem init_wd (g : Graph) (ncls : Nat) (store : List (String × List (String × String))) (v : Nat)
    (hv : v < g.workers.length) : (initState g ncls store []).wd v = { path := [g.root] } := by
  unfold initState State.wd
  simp only [List.getD_eq_getElem?_getD, List.getElem?_map, List.getElem?_eq_getElem hv]
  rfl

theorem init_pc (g : Graph) (ncls : Nat) (store : List (String × List (String × String))) (v : Nat) :
    ((initState g ncls store []).wd v).pc = .loop := by
  by_cases hv : v < g.workers.length
  · rw [init_wd g ncls store v hv]
  · rw [wd_default_of_ge _ v (by simpa [initState] using hv)]

theorem ginvN_init (g : Graph) (ncls : Nat) (store : List (String × List (String × String))) :
    GInvN g ncls store (initState g ncls store []) := by
  refine ⟨.init [], .init [], (ReachableP.init (g := g) (ncls := ncls) (store := store) []).noBump, ?_⟩
  intro v n ph dir uid tag wait e
  rw [init_pc] at e; cases e

theorem resume_others {g : Graph} {ncls : Nat} (st : StaticN g ncls) {store : List (String × List (String × String))}
    {s : State} (h : ReachableF g ncls store s) (w : Nat) (hw : w < g.workers.length) (out : Outcome) (fuel : Nat)
    (hf : 0 < fuel) (v : Nat) (hv : v ≠ w) : (resume g s w out fuel).1.wd v = s.wd v := by
  have hsym := edgeSymB_sound st.sym
  have hr := Term.rankedB_sound st.ranked
  exact (Term.resume_loc g (Term.depth g) hr hsym s w out fuel hf hw (h.pinv hsym) (Term.reachable_tinv hr hsym st.cls h)).others v hv

theorem ginvN_step {g : Graph} {ncls : Nat} (st : StaticN g ncls) {store : List (String × List (String × String))} {s : State}
    (h : GInvN g ncls store s) (w : Nat) (hw : w < g.workers.length) (out : Outcome) (fuel : Nat) (hf : 0 < fuel)
    (hb : ∀ i, ((resume g s w out fuel).1.nd i).bump = (s.nd i).bump) : GInvN g ncls store (resume g s w out fuel).1 := by
  have b := h.reachR.basic st.wf
  refine ⟨.step w out fuel h.reachR hw hf, .step s w out fuel h.reachF hw hf, fun i => (hb i).trans (h.noBump i), ?_⟩
  intro v
  by_cases hv : v = w
  · subst hv
    exact resume_wait g (GraphWF.of_bool st.wf) s v out fuel hf (by rw [b.workersLen]; exact hw) (b.paths v) (h.wait v)
  · rw [resume_others st h.reachF w hw out fuel hf v hv]
    exact h.wait v

theorem resume_overN (g : Graph) (s : State) (w : Nat) (out : Outcome) (fuel : Nat) (h : isOver (s.wd w).pc = true) :
    (resume g s w out fuel).1 = s := resume_over g s w out fuel h

theorem resume_loop_pcEnd {g : Graph} {ncls : Nat} (st : StaticN g ncls) {store : List (String × List (String × String))}
    {s : State} (h : GInvN g ncls store s) (w : Nat) (hw : w < g.workers.length) (out : Outcome) (fuel : Nat)
    (hf : Term.bound g ≤ fuel) (hpc : (s.wd w).pc = .loop ∨ (s.wd w).pc = .bounce) :
    pcEnd ((resume g s w out fuel).1.wd w).pc = true := by
  have hsym := edgeSymB_sound st.sym
  have hr := Term.rankedB_sound st.ranked
  have b := h.reachR.basic st.wf
  have hg : Term.Good g (Term.depth g) w s :=
    Term.reachable_good hr hsym st.cls h.reachF (Term.explored_of_noFlat st.flat s) w
  obtain ⟨r, h2, h3⟩ := Term.runLoop_terminates g (Term.depth g) hr hsym w s [] hg fuel hf
  have he : resume g s w out fuel = runLoop g w fuel s [] := by
    unfold resume
    rcases hpc with e | e <;> rw [e]
  rw [he, h3]
  exact runLoopO_pcEnd g (GraphWF.of_bool st.wf) w (Term.bound g) s [] r (by rw [b.workersLen]; exact hw) (b.paths w) h2

/-- a step is productive unless it is a back-off wake-up that ends in a back-off sleep again, or a step of a worker whose
traversal is over: `before`/`after` = the program counter of the stepping worker before and after the step -/
def productive (before after : Pc) : Bool :=
  match before with
  | .test .. => true
  | .loop | .bounce => (match after with | .bounce => false | _ => true)
  | .done | .failed => false

def productiveSteps (g : Graph) : State → List StepN → Nat
  | _, [] => 0
  | s, st :: r =>
    (if productive (s.wd st.1).pc ((stepN g s st).wd st.1).pc then 1 else 0) + productiveSteps g (stepN g s st) r

/-- the counter never falls and grows with every productive step -/
theorem step_cntN {g : Graph} {ncls : Nat} (st : StaticN g ncls) (hnr : noRootsB g = true)
    {store : List (String × List (String × String))} {s : State} (h : GInvN g ncls store s) (w : Nat)
    (hw : w < g.workers.length) (out : Outcome) (fuel : Nat) (hf : Term.bound g ≤ fuel) :
    cntN g s + (if productive (s.wd w).pc ((resume g s w out fuel).1.wd w).pc then 1 else 0) ≤
      cntN g (resume g s w out fuel).1 := by
  have hf0 : 0 < fuel := Nat.lt_of_lt_of_le (bound_pos g) hf
  by_cases hov : isOver (s.wd w).pc = true
  · rw [resume_overN g s w out fuel hov]
    have : productive (s.wd w).pc (s.wd w).pc = false := by
      cases hpc : (s.wd w).pc <;> rw [hpc] at hov <;> first | (cases hov; done) | rfl
    rw [this]; simp
  · have hq := qsum_step (g := g) hw (resume_others st h.reachF w hw out fuel hf0)
    have hsh := resume_shape g (GraphWF.of_bool st.wf) (noRoots_spec hnr) s (h.reachR.basic st.wf) w hw out fuel hf0
    have hq13 := q_le (h.wait w)
    have hp : (if productive (s.wd w).pc ((resume g s w out fuel).1.wd w).pc then 1 else 0) ≤ 1 := by split <;> simp
    unfold cntN
    -- only the summand of `w` matters
    suffices 24 * total g s + (q (s.wd w).pc + (if productive (s.wd w).pc ((resume g s w out fuel).1.wd w).pc then 1 else 0)) ≤
        24 * total g (resume g s w out fuel).1 + q ((resume g s w out fuel).1.wd w).pc by omega
    clear hq
    generalize hpd : (if productive (s.wd w).pc ((resume g s w out fuel).1.wd w).pc then 1 else 0) = p at hp ⊢
    rcases hsh with ⟨h1, h2⟩ | ⟨h1, n, ph, dir, uid, tag, e⟩ | ⟨h1, n, ph, dir, uid, tag, wait, e, e'⟩
    · -- nothing appended, the step ends outside a test: `12 ≤ q`, and `13` unless it ends in the back-off sleep
      have h12 := q_nonTest h2
      rw [h1]
      refine Nat.add_le_add_left ?_ _
      by_cases ht : (s.wd w).pc.isTest = true
      · exact Nat.le_trans (Nat.add_le_add (q_test_le (h.wait w) ht) hp) (Nat.le_trans (by decide) h12)
      · have hlb : (s.wd w).pc = .loop ∨ (s.wd w).pc = .bounce := by
          cases hpc : (s.wd w).pc <;> rw [hpc] at hov ht <;> simp [isOver, Pc.isTest] at hov ht ⊢
        have hq12 : q (s.wd w).pc = 12 := by rcases hlb with e | e <;> rw [e] <;> rfl
        rw [hq12]
        by_cases hbn : ((resume g s w out fuel).1.wd w).pc = .bounce
        · have : p = 0 := by
            rw [← hpd, hbn]
            rcases hlb with e | e <;> rw [e] <;> rfl
          rw [this, hbn]
          exact Nat.le_refl 12
        · rw [q_over h2 (resume_loop_pcEnd st h w hw out fuel hf hlb) hbn]
          exact Nat.add_le_add_left hp 12
    · -- one more result is worth 24, the weight of `w` was at most 13
      rw [h1, e, Nat.mul_succ]
      exact Nat.le_trans (Nat.add_le_add_left (Nat.le_trans (Nat.add_le_add hq13 hp) (by decide)) _) (Nat.le_add_right _ _)
    · -- a tick of the result wait
      rw [h1, e, e']
      exact Nat.add_le_add_left (Nat.add_le_add_left hp wait) _

theorem runStepsN_cons (g : Graph) (s : State) (a : StepN) (r : List StepN) :
    runStepsN g s (a :: r) = runStepsN g (stepN g s a) r := rfl

theorem run_cntN {g : Graph} {ncls : Nat} (st : StaticN g ncls) (hnr : noRootsB g = true)
    {store : List (String × List (String × String))} (steps : List StepN) (s : State) (h : GInvN g ncls store s)
    (hreal : ∀ x ∈ steps, x.1 < g.workers.length) (hfuel : ∀ x ∈ steps, Term.bound g ≤ x.2.2)
    (hpat : Patient g s steps) :
    GInvN g ncls store (runStepsN g s steps) ∧
      cntN g s + productiveSteps g s steps ≤ cntN g (runStepsN g s steps) := by
  induction steps generalizing s with
  | nil => exact ⟨h, Nat.le_refl _⟩
  | cons a r ih =>
    have hw := hreal a List.mem_cons_self
    have hf := hfuel a List.mem_cons_self
    have hf0 : 0 < a.2.2 := Nat.lt_of_lt_of_le (bound_pos g) hf
    have h1 : GInvN g ncls store (stepN g s a) :=
      ginvN_step st h a.1 hw a.2.1 a.2.2 hf0 (resume_bump_eq g s a.1 a.2.1 a.2.2 hpat.1)
    have c1 := step_cntN st hnr h a.1 hw a.2.1 a.2.2 hf
    obtain ⟨y1, y2⟩ := ih (stepN g s a) h1 (fun x hx => hreal x (List.mem_cons_of_mem _ hx))
      (fun x hx => hfuel x (List.mem_cons_of_mem _ hx)) hpat.2
    rw [runStepsN_cons]
    refine ⟨y1, ?_⟩
    have e : productiveSteps g s (a :: r) =
        (if productive (s.wd a.1).pc ((stepN g s a).wd a.1).pc then 1 else 0) + productiveSteps g (stepN g s a) r := rfl
    rw [e]
    unfold stepN at y2 ⊢
    omega

/-- a copy of a setup class that has results is counted by the worker that cares for it -/
theorem len_le_scopedLen {g : Graph} {c : Nat} {M : Option Int} {sh : Shape} (hC : BClass g c M sh) {s : State}
    (b : BInv g c M sh s All) (n : Nat) (hn : n < g.nodes.length) (hc : (g.node n).cls = c)
    (hne : (s.nd n).results ≠ []) :
    ∃ u, u < g.workers.length ∧ (s.nd n).results.length ≤ scopedLen g s c sh u := by
  have key : ∃ u, u < g.workers.length ∧ g.idIn u n = true := by
    rcases b.p1 n hn hc hne with ⟨u, tag, _, ⟨ph, dir, uid, wait, hpc, _⟩, _⟩ | ⟨u, hu, hid, _⟩
    · obtain ⟨_, _, hid, _⟩ := b.infl u trivial n ph dir uid tag wait hpc hc
      have hu : u < s.workers.length := lt_of_isTest s u (by rw [hpc]; rfl)
      rw [b.workersLen] at hu
      exact ⟨u, hu, hid⟩
    · exact ⟨u, hu, hid⟩
  obtain ⟨u, hu, hid⟩ := key
  refine ⟨u, hu, ?_⟩
  have hseen : seen g sh u n = true := by
    rw [hC.scope n hn hc u u hu hu hid]; exact inScopeOf_self sh g u
  have := Term.le_sum_of_mem (g.classNodes c) (fun j => if seen g sh u j then (s.nd j).results.length else 0) n
    ((mem_classNodes g c n).mpr ⟨hn, hc⟩)
  simp only [hseen, if_true] at this
  exact this

theorem results_le_of_class {g : Graph} (hwf : graphWF g = true) {ncls : Nat}
    {store : List (String × List (String × String))} {s : State} (hR : ReachableR g ncls store s) (hnb : NoBump s)
    {n : Nat} (hn : n < g.nodes.length)
    (hc : statelessClass g (g.node n).cls (g.node n).maxTries = true ∨
      ∃ sh, BClass g (g.node n).cls (g.node n).maxTries sh ∧ mctWithin g (g.node n).cls (g.node n).maxTries = true) :
    (s.nd n).results.length ≤ (max ((g.node n).maxTries.getD 1) 1).toNat := by
  rcases hc with hc | ⟨sh, hC, hm⟩
  · have hle : (s.nd n).results.length ≤ classLen g s (g.node n).cls :=
      Term.le_sum_of_mem (g.classNodes (g.node n).cls) (fun j => (s.nd j).results.length) n
        ((mem_classNodes g _ n).mpr ⟨hn, rfl⟩)
    have := hR.budget hwf (g.node n).cls (g.node n).maxTries hc
    omega
  · have b := hR.binv hwf hC
    by_cases hne : (s.nd n).results = []
    · rw [hne]; exact Nat.zero_le _
    · obtain ⟨u, hu, h1⟩ := len_le_scopedLen hC b n hn rfl hne
      have h2 := b.budget u hu [] List.nodup_nil (fun v hv => by cases hv)
      have h3 := classLimit_le_of_mctWithin hC hm s hnb
      simp only [List.length_nil, Nat.add_zero] at h2
      omega

/-- **the number of results never exceeds `resultBound g = Σ_n max(max_tries n, 1)`** in a reachable state without bumps,
whatever the number of workers -/
theorem total_le_resultBoundN {g : Graph} (hwf : graphWF g = true) (hcl : classesOKB g = true) {ncls : Nat}
    {store : List (String × List (String × String))} {s : State} (hR : ReachableR g ncls store s) (hnb : NoBump s) :
    total g s ≤ resultBound g := by
  refine sum_map_le _ _ _ (fun n hn => results_le_of_class hwf hR hnb (List.mem_range.mp hn) ?_)
  unfold classesOKB at hcl
  rw [List.all_eq_true] at hcl
  have hc := hcl n hn
  rw [Bool.or_eq_true, Bool.and_eq_true] at hc
  exact hc.imp id (fun h => ⟨_, statefulClass_spec h.1, h.2⟩)

theorem _root_.I2N.Trav.Global.total_le_resultBound {g : Graph} {ncls : Nat} (st : Static g ncls) (hcl : classesOKB g = true)
    {store : List (String × List (String × String))} {s : State} (hP : ReachableP g ncls store s) :
    total g s ≤ resultBound g :=
  total_le_resultBoundN st.wf hcl hP.reachableR hP.noBump

theorem qsum_le {g : Graph} {s : State}
    (h : ∀ v n ph dir uid tag wait, (s.wd v).pc = .test n ph dir uid tag wait → wait ≤ 10) :
    qsum g s ≤ 13 * g.workers.length := by
  have := sum_map_const_le (List.range g.workers.length) (fun v => q (s.wd v).pc) 13 (fun v _ => q_le (h v))
  rwa [List.length_range] at this

/-- **the number of productive steps of a patient run is at most `24·resultBound g + |workers|`** -/
theorem productive_le {g : Graph} {ncls : Nat} (st : StaticN g ncls) (hnr : noRootsB g = true) (hcl : classesOKB g = true)
    (store : List (String × List (String × String))) (steps : List StepN)
    (hreal : ∀ x ∈ steps, x.1 < g.workers.length) (hfuel : ∀ x ∈ steps, Term.bound g ≤ x.2.2)
    (hpat : Patient g (initState g ncls store []) steps) :
    productiveSteps g (initState g ncls store []) steps ≤ 24 * resultBound g + g.workers.length := by
  obtain ⟨y, c⟩ := run_cntN st hnr steps _ (ginvN_init g ncls store) hreal hfuel hpat
  have h1 := total_le_resultBoundN st.wf hcl y.reachR y.noBump
  have h2 := qsum_le (g := g) y.wait
  have h3 : 12 * g.workers.length ≤ qsum g (initState g ncls store []) := by
    have := sum_map_const_ge (List.range g.workers.length) (fun v => q ((initState g ncls store []).wd v).pc) 12
      (fun v _ => by rw [init_pc]; exact Nat.le_refl _)
    rwa [List.length_range] at this
  unfold cntN at c
  omega

theorem unproductive_step (g : Graph) (s : State) (w : Nat) (out : Outcome) (fuel : Nat)
    (h : productive (s.wd w).pc ((resume g s w out fuel).1.wd w).pc = false) :
    (isOver (s.wd w).pc = true ∧ (resume g s w out fuel).1 = s) ∨
    (((s.wd w).pc = .loop ∨ (s.wd w).pc = .bounce) ∧ ((resume g s w out fuel).1.wd w).pc = .bounce) := by
  cases hpc : (s.wd w).pc with
  | test n ph dir uid tag wait => rw [hpc] at h; cases h
  | done | failed => exact Or.inl ⟨rfl, resume_overN g s w out fuel (by rw [hpc]; rfl)⟩
  | loop | bounce =>
    rw [hpc] at h
    refine Or.inr ⟨by simp, ?_⟩
    cases hpc' : ((resume g s w out fuel).1.wd w).pc <;> rw [hpc'] at h <;> first | rfl | cases h

theorem real_of_runner {s : State} {v : Nat} (h : (s.wd v).pc.node? ≠ none ∨ (s.wd v).pc = .failed) :
    v < s.workers.length := by
  by_cases hl : v < s.workers.length
  · exact hl
  · exfalso
    rw [wd_default_of_ge s v hl] at h
    rcases h with h | h
    · exact h rfl
    · cases h

/-- **a step that ends in the back-off sleep needs a runner**: some OTHER real worker is inside a test or dead -/
theorem bounce_has_runner (g : Graph) (hsym : EdgeSym g) (s : State) (w : Nat) (out : Outcome) (fuel : Nat) (hf : 0 < fuel)
    (hw : w < g.workers.length) (h : PInv g s) (hb : ((resume g s w out fuel).1.wd w).pc = .bounce) :
    ∃ v, v ≠ w ∧ v < g.workers.length ∧ ((∃ m, (s.wd v).pc.node? = some m) ∨ (s.wd v).pc = .failed) := by
  refine Classical.byContradiction (fun hno => (resume_quiet g hsym s w out fuel hf hw h (fun v hv => ?_)).1 hb)
  have real : (s.wd v).pc.node? ≠ none ∨ (s.wd v).pc = .failed → v < g.workers.length :=
    fun hr => by rw [← h.wlen]; exact real_of_runner hr
  refine ⟨?_, fun hd => hno ⟨v, hv, real (Or.inr hd), Or.inr hd⟩⟩
  cases hn : (s.wd v).pc.node? with
  | none => rfl
  | some m => exact absurd ⟨v, hv, real (Or.inl (by rw [hn]; simp)), Or.inl ⟨m, hn⟩⟩ hno

def OthersDone (g : Graph) (w : Nat) (s : State) : Prop := ∀ v, v ≠ w → v < g.workers.length → (s.wd v).pc = .done

theorem quiet_of_othersDone {g : Graph} {w : Nat} {s : State} (hlen : s.workers.length = g.workers.length)
    (h : OthersDone g w s) : Quiet w s := by
  intro v hv
  by_cases hl : v < g.workers.length
  · rw [h v hv hl]; exact ⟨rfl, by simp⟩
  · rw [wd_default_of_ge s v (by rw [hlen]; exact hl)]; exact ⟨rfl, by simp⟩

/-- the steps of one worker `w`: (outcome, fuel) per step -/
def runW (g : Graph) (w : Nat) (s : State) (steps : List (Outcome × Nat)) : State :=
  steps.foldl (fun s st => (resume g s w st.1 st.2).1) s

theorem runW_cons (g : Graph) (w : Nat) (s : State) (a : Outcome × Nat) (r : List (Outcome × Nat)) :
    runW g w s (a :: r) = runW g w (resume g s w a.1 a.2).1 r := rfl

theorem runW_over (g : Graph) (w : Nat) (steps : List (Outcome × Nat)) (s : State) (h : isOver (s.wd w).pc = true) :
    runW g w s steps = s := resumes_over g w steps s h

theorem productive_of_not_bounce {pc pc' : Pc} (h1 : isOver pc = false) (h2 : pc' ≠ .bounce) : productive pc pc' = true := by
  cases pc with
  | test n ph dir uid tag wait => rfl
  | done => cases h1
  | failed => cases h1
  | loop => cases pc' <;> first | rfl | exact absurd rfl h2
  | bounce => cases pc' <;> first | rfl | exact absurd rfl h2

/-- a step of the last worker: the invariant is kept (nothing is bumped although the worker may have over-waited before),
the others stay done, the step does not end in the back-off sleep, and the counter grows unless the step ends the traversal -/
theorem lastWorker_step {g : Graph} {ncls : Nat} (st : StaticN g ncls) (hnr : noRootsB g = true)
    {store : List (String × List (String × String))} {s : State} (h : GInvN g ncls store s) (w : Nat)
    (hw : w < g.workers.length) (hd : OthersDone g w s) (out : Outcome) (fuel : Nat) (hf : Term.bound g ≤ fuel) :
    (GInvN g ncls store (resume g s w out fuel).1 ∧ OthersDone g w (resume g s w out fuel).1) ∧
      ((resume g s w out fuel).1.wd w).pc ≠ .bounce ∧
      (isOver ((resume g s w out fuel).1.wd w).pc = false → cntN g s < cntN g (resume g s w out fuel).1) := by
  have hf0 : 0 < fuel := Nat.lt_of_lt_of_le (bound_pos g) hf
  have hsym := edgeSymB_sound st.sym
  have hp := h.reachF.pinv hsym
  obtain ⟨x1, x2⟩ := resume_quiet g hsym s w out fuel hf0 hw hp (quiet_of_othersDone hp.wlen hd)
  refine ⟨⟨ginvN_step st h w hw out fuel hf0 x2.bump, ?_⟩, x1, fun hno => ?_⟩
  · intro v hv hvl
    rw [resume_others st h.reachF w hw out fuel hf0 v hv]
    exact hd v hv hvl
  · have hov : isOver (s.wd w).pc = false := by
      cases hov : isOver (s.wd w).pc with
      | false => rfl
      | true => rw [resume_over g s w out fuel hov, hov] at hno; cases hno
    have c := step_cntN st hnr h w hw out fuel hf
    rw [productive_of_not_bounce hov x1] at c
    exact c

theorem lastWorker_run {g : Graph} {ncls : Nat} (st : StaticN g ncls) (hnr : noRootsB g = true)
    {store : List (String × List (String × String))} (w : Nat) (hw : w < g.workers.length)
    (steps : List (Outcome × Nat)) (s : State) (h : GInvN g ncls store s) (hd : OthersDone g w s)
    (hfuel : ∀ x ∈ steps, Term.bound g ≤ x.2) :
    GInvN g ncls store (runW g w s steps) ∧ OthersDone g w (runW g w s steps) ∧
      (steps ≠ [] → ((runW g w s steps).wd w).pc ≠ .bounce) ∧
      (isOver ((runW g w s steps).wd w).pc = false → cntN g s + steps.length ≤ cntN g (runW g w s steps)) := by
  obtain ⟨⟨y1, y2⟩, y3, y4⟩ := resumes_run (I := fun s => GInvN g ncls store s ∧ OthersDone g w s)
    (Q := fun s => (s.wd w).pc ≠ .bounce)
    (fun s out fuel h hf => ⟨(lastWorker_step st hnr h.1 w hw h.2 out fuel hf).1, (lastWorker_step st hnr h.1 w hw h.2 out fuel hf).2.1⟩)
    steps s ⟨h, hd⟩ hfuel
  exact ⟨y1, y2, y3, y4 (cntN g) (fun s out fuel h hf => (lastWorker_step st hnr h.1 w hw h.2 out fuel hf).2.2)⟩

/-- **the last worker terminates**: once all the other workers are done, the remaining worker never sleeps at an occupied
node again and is done or dead after any `24·resultBound g + 13·|workers| + 1` of its steps -/
theorem lastWorker_over {g : Graph} {ncls : Nat} (st : StaticN g ncls) (hnr : noRootsB g = true) (hcl : classesOKB g = true)
    {store : List (String × List (String × String))} (w : Nat) (hw : w < g.workers.length)
    (steps : List (Outcome × Nat)) (s : State) (h : GInvN g ncls store s) (hd : OthersDone g w s)
    (hfuel : ∀ x ∈ steps, Term.bound g ≤ x.2) (hlen : 24 * resultBound g + 13 * g.workers.length + 1 ≤ steps.length) :
    isOver ((runW g w s steps).wd w).pc = true := by
  refine resumes_end (I := fun s => GInvN g ncls store s ∧ OthersDone g w s)
    (fun s out fuel h hf => (lastWorker_step st hnr h.1 w hw h.2 out fuel hf).1) steps s ⟨h, hd⟩ hfuel (cntN g)
    (fun s out fuel h hf => (lastWorker_step st hnr h.1 w hw h.2 out fuel hf).2.2)
    (24 * resultBound g + 13 * g.workers.length) (fun s h _ => ?_) hlen
  have h1 := total_le_resultBoundN st.wf hcl h.1.reachR h.1.noBump
  have h2 := qsum_le (g := g) h.1.wait
  unfold cntN
  omega

end I2N.Trav.GlobalN
