import I2N.Model.Tools
import I2N.Model.Index
/-!
C15, translator tie: the part of `intertest_setup.update` AROUND the flagging passes of one (vm, worker) iteration.

`I2N.Tools.updateFlags` (Model/Tools.lean) is ONE iteration of the worker loop, with what the Cartesian parser
answered as inputs (`UpdateIn`).  The regenerated definitions of `I2N/Extracted/GenUpdate.lean` mirror the Python
function, which has the two loops (vms with their index, workers), reads `from_state` / `to_state` / `remove_set` of
each vm, composes the remove-set restriction, calls the parser and bridges all pairs of nodes afterwards.  This file
defines that surrounding structure ONCE by hand (`UEnv`, `updateIn`, `updateAll`, `bridgeAll`) — the *adapter* the
`…_matches_source` theorems of Props/C15.lean compare the regenerated definitions with.  Nothing here changes the
model; no Mathlib.
-/
namespace I2N.Tools
open I2N.Trav (strIn)

/-- what `update` reads from its configuration and what the Cartesian parser answers (an oracle, as in `UpdateIn`) -/
structure UEnv where
  /-- `config["available_restrictions"]` -/
  restrictions : List String
  /-- `config["vms_params"].object_params(vm).get(key)`: the per-vm view (`key_<vm>` wins over `key`) -/
  vmParam : String → String → Option String
  /-- component forms of `graph.get_objects(param_val=vm)` (one per selected variant of the vm) -/
  compForms : String → List String
  /-- `l.parse_object_trees(worker, restriction, prefix=f"{tag}m{i+1}", …, with_shared_root=False)` for the remove set:
  restriction, index `i` of the vm, vm, worker id ↦ the graph, `none` = `EmptyCartesianProduct` -/
  parseClean : String → Nat → String → String → Option UGraph
  /-- names of the nodes of `l.parse_object_trees(worker, restriction, prefix=tag, object_restrs={vm: …})`:
  restriction, vm, worker id -/
  parseNames : String → String → String → List String
  /-- names of the `all.original` nodes of the graph parsed for `all..customize` (`to_state == "install"`) -/
  installNames : String → String → List String

/-- `state.split(".")` as `flag_children` / the prefix tree see it (`""` = no node name) -/
def dotSplit (s : String) : List String := if s == "" then [] else s.splitOn "."

/-- the restriction the remove-set graph is parsed with: `remove_set` OF THE VM (default `leaves`), prefixed with
`all..` unless it mentions one of the available (primary) restrictions -/
def removeSetStr (env : UEnv) (vm : String) : String :=
  let s := (env.vmParam vm "remove_set").getD "leaves"
  if env.restrictions.any (fun r => strIn r s) then s else "all.." ++ s

/-- the input of the hand model for the iteration (`i`-th vm `vm`, worker `w`) -/
def updateIn (env : UEnv) (i : Nat) (vm w : String) : UpdateIn :=
  let frm := (env.vmParam vm "from_state").getD "install"
  let to := (env.vmParam vm "to_state").getD "customize"
  { vm := vm, worker := w, compForms := env.compForms vm, fromState := frm, toState := to,
    fromVars := dotSplit frm, toVars := dotSplit to,
    clean := env.parseClean (removeSetStr env vm) i vm w,
    runNames := if to == "install" then env.installNames vm w else env.parseNames ("all.." ++ to) vm w,
    skipNames := env.parseNames ("all.." ++ frm) vm w }

/-- what `update` has flagged when it reaches the bridging loop: the policy table of every (vm, worker) graph, in
program order (`graph.new_nodes(clean_graph.nodes)`); a worker without remove-set graph is skipped -/
abbrev Flagged := List (String × String × Flags)

/-- one iteration of the worker loop on top of the hand model -/
def updateOne (env : UEnv) (i : Nat) (vm : String) (acc : Flagged) (w : String) : Except Err Flagged :=
  match updateFlags (updateIn env i vm w) with
  | .error e => .error e
  | .ok none => .ok acc
  | .ok (some f) => .ok (acc ++ [(vm, w, f)])

/-- `enumerate(l)` -/
def enumFrom : Nat → List String → List (Nat × String)
  | _, [] => []
  | i, x :: xs => (i, x) :: enumFrom (i + 1) xs

/-- **the adapter**: `for i, vm_name in enumerate(selected_vms): for worker in graph.workers.values(): <one iteration>`,
the first error ends everything -/
def updateAll (env : UEnv) (vms workers : List String) : Except Err Flagged :=
  (enumFrom 0 vms).foldlM (fun acc iv => workers.foldlM (updateOne env iv.1 iv.2) acc) []

/-! ### the bridging loop behind the two loops -/

/-- a node as the bridging loop sees it: `bridged_form` and `id` -/
structure BNode where
  form : String
  id : String
deriving Repr, DecidableEq

def BNode.formOf (ns : List BNode) (i : Nat) : String := (ns.getD i ⟨"", ""⟩).form
def BNode.idOf (ns : List BNode) (i : Nat) : String := (ns.getD i ⟨"", ""⟩).id

/-- the body of the inner loop for the pair (`i`, `j`) of node indices -/
def bridgePair (ns : List BNode) (b : I2N.Index.Bridging) (i j : Nat) : Except Err I2N.Index.Bridging :=
  if i == j then .ok b
  else if BNode.formOf ns i == BNode.formOf ns j then
    (if BNode.idOf ns i == BNode.idOf ns j then .error .valueError else .ok (b.bridge i j))
  else .ok b

/-- `for node1 in graph.nodes: for node2 in graph.nodes: …` — ALL ordered pairs -/
def bridgeAll (ns : List BNode) (b : I2N.Index.Bridging) : Except Err I2N.Index.Bridging :=
  (List.range ns.length).foldlM (fun b i => (List.range ns.length).foldlM (fun b j => bridgePair ns b i j) b) b

/-! ### `StateT σ (Except Err)` actions the regenerated definitions are written with -/

/-- a step `σ → Except Err σ` as an action -/
def stepM {σ : Type} (f : σ → Except Err σ) : StateT σ (Except Err) Unit := fun s => (f s).map (fun s' => ((), s'))

/-- `l.forM` of steps is `foldlM` -/
theorem forM_stepM {σ α : Type} (f : σ → α → Except Err σ) (l : List α) (s : σ) :
    (l.forM (fun a => stepM (fun s => f s a))) s = (l.foldlM f s).map (fun s' => ((), s')) := by
  induction l generalizing s with
  | nil => rfl
  | cons a r ih =>
    simp only [List.forM, List.foldlM, bind, StateT.bind, stepM]
    cases f s a with
    | error e => rfl
    | ok s' => simp only [Except.map, Except.bind]; exact ih s'

/-- a step followed by the rest of a `do` block, run on a state -/
theorem stepM_bind {σ β : Type} (f : σ → Except Err σ) (k : Unit → StateT σ (Except Err) β) (s : σ) :
    (stepM f >>= k) s = f s >>= fun s' => k () s' := by
  simp only [bind, StateT.bind, stepM]
  cases f s <;> rfl

theorem map_bind_except {α β γ : Type} (g : β → γ) (x : Except Err α) (k : α → Except Err β) :
    Except.map g (x >>= k) = x >>= fun a => Except.map g (k a) := by
  cases x <;> rfl

/-- two nested loops of steps are two nested `foldlM` -/
theorem forM_forM_stepM {σ α β : Type} (body : α → β → StateT σ (Except Err) Unit) (f : σ → α → β → Except Err σ)
    (hbody : ∀ a b, body a b = stepM (fun s => f s a b)) (la : List α) (lb : List β) (s : σ) :
    (la.forM fun a => lb.forM fun b => body a b) s =
      (la.foldlM (fun s a => lb.foldlM (fun s b => f s a b) s) s).map (fun s' => ((), s')) := by
  have inner : ∀ a, (lb.forM fun b => body a b) = stepM (fun s => lb.foldlM (fun s b => f s a b) s) := fun a => by
    funext s
    simp only [hbody]
    exact forM_stepM (fun s b => f s a b) lb s
  simp only [inner]
  exact forM_stepM (fun s a => lb.foldlM (fun s b => f s a b) s) la s

end I2N.Tools
