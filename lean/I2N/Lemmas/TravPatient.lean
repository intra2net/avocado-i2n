import I2N.Lemmas.TravBudgetResume
/-!
Where the thresholds of `is_occupied` grow (companion of the budget theorems of C03).

`classLimit g s c` depends on the state only through the `bump` counters of the copies of the class, and a `bump` counter
is written in exactly one place: the back-off branch of `iter` — the worker stands again before an occupied node it has
bounced off before (`occAt`) and its accumulated back-off (`occWait`, seconds) exceeds the node's timeout budget
`timeout * max_tries`.  `occAt`/`occWait` of a worker are written in that branch only, and the branch ends the step
(suspension), so whether a step of worker `w` bumps is decided by `w`'s record at the beginning of the step:
`overWaited g s w`.  A step with `¬ overWaited g s w` leaves every `bump` counter — hence every `classLimit` — alone
(`resume_bump_eq`); along runs all of whose steps are of this kind (`ReachableP`) no bump ever happens (`NoBump`).

Technique: the frame relation `Calm` (bump counters and the stepping worker's back-off record unchanged), an instance of
`Walk` (`TravWalk.lean`), so that the walk through the loop is not repeated; the back-off branch is looked at separately
(`bounced_bump`).
-/
namespace I2N.Trav

/-- worker `w` has accumulated more back-off than the timeout budget `timeout * max(max_tries, 1)` of a node it has bounced off
before: its next bounce at that node would raise the node's `max_concurrent_tries` -/
def overWaited (g : Graph) (s : State) (w : Nat) : Prop :=
  ∃ n ∈ (s.wd w).occAt,
    (s.wd w).occWait > Float.ofInt (((g.node n).timeout : Int) * max ((g.node n).maxTries.getD 1) 1)

theorem not_overWaited_of_nil {g : Graph} {s : State} {w : Nat} (h : (s.wd w).occAt = []) : ¬ overWaited g s w := by
  rintro ⟨n, hn, _⟩
  rw [h] at hn
  cases hn

/-- bump counters and the back-off record of worker `w` are unchanged -/
structure Calm (w : Nat) (s s' : State) : Prop where
  bump : ∀ i, (s'.nd i).bump = (s.nd i).bump
  occAt : (s'.wd w).occAt = (s.wd w).occAt
  occWait : (s'.wd w).occWait = (s.wd w).occWait

theorem Calm.refl (w : Nat) (s : State) : Calm w s s := ⟨fun _ => rfl, rfl, rfl⟩

theorem Calm.trans {w : Nat} {s s1 s2 : State} (a : Calm w s s1) (b : Calm w s1 s2) : Calm w s s2 :=
  ⟨fun i => (b.bump i).trans (a.bump i), b.occAt.trans a.occAt, b.occWait.trans a.occWait⟩

theorem Calm.quiet {w : Nat} {s s' : State} (hn : s'.nodes = s.nodes) (hw : s'.workers = s.workers) : Calm w s s' :=
  ⟨fun i => by rw [nd_of_nodes_eq hn], by rw [wd_of_workers_eq hw], by rw [wd_of_workers_eq hw]⟩

theorem calm_setNd (w : Nat) (s : State) (m : Nat) (f : NodeD → NodeD) (hb : ∀ d, (f d).bump = d.bump) :
    Calm w s (s.setNd m f) :=
  ⟨fun i => nd_setNd_proj (·.bump) s m f hb i, rfl, rfl⟩

theorem calm_setWd (w : Nat) (s : State) (v : Nat) (f : WorkerD → WorkerD) (h1 : ∀ d, (f d).occAt = d.occAt)
    (h2 : ∀ d, (f d).occWait = d.occWait) : Calm w s (s.setWd v f) := by
  refine ⟨fun _ => rfl, ?_, ?_⟩
  · by_cases hv : w = v
    · subst hv
      rcases wd_setWd_cases s w f with ⟨h, _⟩ | ⟨_, h⟩
      · rw [h]
      · rw [h, h1]
    · rw [wd_setWd_ne s v w f hv]
  · by_cases hv : w = v
    · subst hv
      rcases wd_setWd_cases s w f with ⟨h, _⟩ | ⟨_, h⟩
      · rw [h]
      · rw [h, h2]
    · rw [wd_setWd_ne s v w f hv]

theorem calm_walk (w : Nat) (gv : Graph) (v : Nat) : Walk gv (fun _ => True) v (Calm w) where
  refl := Calm.refl w
  trans := Calm.trans
  quiet := Calm.quiet
  inert := fun s n f h => calm_setNd w s n f (fun d => (h d).2.1)
  mark := fun s n _ _ => calm_setNd w s n _ (fun _ => rfl)
  finish := fun s n _ => calm_setNd w s n _ (fun _ => rfl)
  worker := fun s f h => calm_setWd w s v f (fun d => (h d).2.2.1) (fun d => (h d).2.2.2)
  path := fun _ _ _ _ => trivial
  root := trivial
  adj := fun _ _ _ _ => trivial

theorem calm_pickChild (w : Nat) (g : Graph) (s : State) (n v x : Nat) (s' : State) (h : pickChild g s n v = some (x, s')) :
    Calm w s (pushPath s' v x) :=
  walk_pickChild (calm_walk w g v) s n x s' h

theorem calm_pickParent (w : Nat) (g : Graph) (s : State) (n v x : Nat) (s' : State) (h : pickParent g s n v = some (x, s')) :
    Calm w s (pushPath s' v x) :=
  walk_pickParent (calm_walk w g v) s n x s' h

theorem calm_finishTraverse (w : Nat) (s : State) (n v : Nat) : Calm w s (finishTraverse s n v) :=
  calm_setNd w s n _ (fun _ => rfl)

theorem calm_of_after (w : Nat) {g : Graph} {s : State} {v next prev : Nat} {dir : Dir} {r : Step}
    (h : After g v next prev dir s r) : Calm w s r.1 :=
  walk_of_after (calm_walk w g v) trivial h

theorem calm_afterTraverse (w : Nat) (g : Graph) (s : State) (v next prev : Nat) (dir : Dir) :
    Calm w s (afterTraverse g s v next prev dir).1 :=
  calm_of_after w (afterTraverse_after g s v next prev dir)

theorem calm_startTest (w : Nat) (g : Graph) (s : State) (n v : Nat) (ph : Phase) (dir : Dir) :
    Calm w s (startTest g s n v ph dir).1 := by
  refine Calm.trans (s1 := { s with nextTag := s.nextTag + 1 }) (Calm.quiet rfl rfl) ?_
  by_cases hph : ph = .pre
  · subst hph
    rw [startTest_pre_fst]
    exact calm_setWd w _ v _ (fun _ => rfl) (fun _ => rfl)
  · rw [startTest_nonpre_fst g s n v ph dir hph]
    exact (calm_setNd w _ n (fun d => { d with results := d.results ++ [phOf (g.node n).name s.nextTag] })
      (fun _ => rfl)).trans (calm_setWd w _ v _ (fun _ => rfl) (fun _ => rfl))

/-- an iteration that ends suspended changes nothing the bump depends on, unless it is the back-off -/
theorem calm_of_paused (w : Nat) {g : Graph} {v : Nat} {s s' : State} (h : Paused g v s s') :
    Calm w s s' ∨ ∃ n, isOccupied g s n v = true ∧ s' = bounced g s v n := by
  have hR := calm_walk w g v
  cases h with
  | start n _ dir s1 _ _ hd => exact Or.inl ((walk_decided hR trivial hd).trans (calm_startTest w g s1 n v .plain dir))
  | create n _ dir s1 _ _ hd =>
    exact Or.inl ((walk_decided hR trivial hd).trans (Calm.trans (s1 := preset g s1 v n)
      (calm_setWd w s1 v _ (fun _ => rfl) (fun _ => rfl)) (calm_startTest w g _ n v .pre dir)))
  | bounce n ho => exact Or.inr ⟨n, ho, rfl⟩

theorem calm_of_iter (w : Nat) {g : Graph} {s : State} {v : Nat} {r : Step} (h : Iter g v s r) :
    Calm w s r.1 ∨ ∃ n, isOccupied g s n v = true ∧ r.1 = bounced g s v n ∧ r.2.2 = Flow.suspend := by
  rcases walk_of_iter (calm_walk w g v) (fun _ _ => trivial) h with h1 | ⟨h1, hs⟩
  · exact Or.inl h1
  · exact (calm_of_paused w h1).imp_right (fun ⟨n, ho, e⟩ => ⟨n, ho, e, hs⟩)

/-- for any arguments, not only those of a visit (`Visit`): hence not by way of `Iter` -/
theorem calm_traverseNode (w : Nat) (g : Graph) (s : State) (v next prev : Nat) (dir : Dir) :
    Calm w s (traverseNode g s v next prev dir).1 := by
  have hR := calm_walk w g v
  fun_cases traverseNode g s v next prev dir with
  | case1 => exact calm_afterTraverse w g s v next prev dir
  | case2 => exact walk_entered hR s trivial
  | case3 _ _ _ s1 evs _ s2 s3 evs2 f hst hd =>
    exact (walk_decided hR trivial hd).trans (Calm.trans (s1 := s2) (calm_setWd w s1 v _ (fun _ => rfl) (fun _ => rfl))
      (congrArg Prod.fst hst ▸ calm_startTest w g s2 next v .pre dir))
  | case4 _ _ _ s1 evs _ s2 evs2 f hst hd =>
    exact (walk_decided hR trivial hd).trans (congrArg Prod.fst hst ▸ calm_startTest w g s1 next v .plain dir)
  | case5 _ _ _ run s1 evs hd _ s2 evs2 f hat =>
    exact (walk_decided hR trivial hd).trans ((calm_finishTraverse w s1 next v).trans
      (congrArg Prod.fst hat ▸ calm_afterTraverse w g _ v next prev dir))

theorem SameNodes.timeout {gv g : Graph} (h : SameNodes gv g) (n : Nat) : (gv.node n).timeout = (g.node n).timeout := by
  exact h.proj Node.timeout (fun _ => rfl) n

/-- the back-off, the only place where a bump counter is written, writes none when the worker has not over-waited -/
theorem bounced_bump {g gv : Graph} (hgv : SameNodes gv g) (s : State) (w next : Nat) (h : ¬ overWaited g s w) (i : Nat) :
    ((bounced gv s w next).nd i).bump = (s.nd i).bump := by
  unfold bounced
  dsimp only
  rw [nd_setWd]
  by_cases hc : (s.wd w).occAt.contains next = true
  · have hnot : ¬ ((s.wd w).occWait >
        Float.ofInt (((gv.node next).timeout : Int) * max ((gv.node next).maxTries.getD 1) 1)) := by
      intro hgt
      apply h
      refine ⟨next, by simpa using hc, ?_⟩
      rw [← hgv.timeout, ← hgv.maxTries]
      exact hgt
    simp only [hc, if_true, hnot, if_false, nd_setWd]
  · simp only [hc, Bool.false_eq_true, if_false, nd_setWd]

theorem calm_prepare (w : Nat) (g : Graph) (s : State) (v : Nat) : Calm w s (prepare g s v) :=
  walk_prepare (calm_walk w g v) g s

theorem overWaited_of_calm {g : Graph} {w : Nat} {s s' : State} (a : Calm w s s') (h : ¬ overWaited g s w) :
    ¬ overWaited g s' w := by
  unfold overWaited at h ⊢
  rw [a.occAt, a.occWait]
  exact h

theorem bump_of_ran {g : Graph} {w fuel : Nat} {s : State} {evs : List Event} {r : State × List Event}
    (hno : ¬ overWaited g s w) (h : Ran g w fuel s evs r) : ∀ i, (r.1.nd i).bump = (s.nd i).bump := by
  have h0 : Calm w s (s.setWd w (fun d => { d with pc := .loop })) := calm_setWd w s w _ (fun _ => rfl) (fun _ => rfl)
  rcases walk_of_ran (fun s => calm_walk w (vis g s) w) (fun _ _ => trivial) h with ⟨_, e⟩ | h1 | ⟨s1, h1, hp⟩
  · rw [e]; exact fun _ => rfl
  · exact (h0.trans h1).bump
  · rcases calm_of_paused w hp with h2 | ⟨n, _, e⟩
    · exact ((h0.trans h1).trans h2).bump
    · exact fun i => (e ▸ bounced_bump (sameNodes_vis g s1) s1 w n (overWaited_of_calm (h0.trans h1) hno) i).trans
        ((h0.trans h1).bump i)

theorem calm_recordResult (w : Nat) (s : State) (v n : Nat) (phase : Phase) (name uid : String) (tag : Nat) (st0 : String)
    (dur : Nat) : Calm w s (recordResult s v n phase name uid tag st0 dur).1 := by
  obtain ⟨sJ, st, F, G, hJn, hJw, hF, hG, e⟩ := recordResult_fst s v n phase name uid tag st0 dur
  rw [e]
  refine (Calm.quiet hJn hJw).trans ?_
  split
  · exact calm_setWd w _ v F (fun d => by rw [hF]) (fun d => by rw [hF])
  · exact calm_setNd w _ n G (fun d => by rw [hG])

theorem calm_of_ended (w : Nat) {g : Graph} {v n : Nat} {ph : Phase} {uid : String} {tag wait : Nat} {out : Outcome}
    {s sc : State} {ok : Bool} (h : Ended g v n ph uid tag wait out s sc ok) : Calm w s sc := by
  obtain ⟨hn, hw, _⟩ := reportOutcome_frame g s v n ph uid wait out
  cases h with
  | found nm u st0 dur => exact (Calm.quiet hn hw).trans (calm_recordResult w _ v n ph _ uid tag st0 dur)
  | lost => exact Calm.quiet hn hw

theorem bump_of_resumed {g : Graph} {s : State} {w : Nat} {out : Outcome} {fuel : Nat} {r : State × List Event}
    (hno : ¬ overWaited g s w) (h : Resumed g w out fuel s r) : ∀ i, (r.1.nd i).bump = (s.nd i).bump := by
  -- the traversal of the node of the finished test ends, and the loop body goes on
  have back : ∀ {n ph dir uid tag wait sc ok prev r}, Ended g w n ph uid tag wait out s sc ok →
      After (vis g (finishTraverse (accounted sc w n ph) n w)) w n prev dir (finishTraverse (accounted sc w n ph) n w) r →
      Calm w s r.1 := by
    intro n ph dir uid tag wait sc ok prev r hs ha
    refine (calm_of_ended w hs).trans (Calm.trans ?_ ((calm_finishTraverse w _ n w).trans (calm_of_after w ha)))
    unfold accounted
    split
    · exact calm_setNd w sc n _ (fun _ => rfl)
    · exact Calm.refl w sc
  cases h with
  | over => exact fun _ => rfl
  | loop r _ hr => exact bump_of_ran hno hr
  | wait n ph dir uid tag wait =>
    exact fun i => by rw [nd_setWd, nd_of_nodes_eq (reportOutcome_frame g s w n ph uid wait out).1]
  | created n dir uid tag wait sc _ hs => exact ((calm_of_ended w hs).trans (calm_startTest w g sc n w .main dir)).bump
  | stuck n ph dir uid tag wait sc ok s1 e what _ hs _ ha => exact fun i => by rw [nd_setWd]; exact (back hs ha).bump i
  | back n ph dir uid tag wait sc ok s1 e f r _ hs _ ha _ hr =>
    exact fun i => (bump_of_ran (overWaited_of_calm (back hs ha) hno) hr i).trans ((back hs ha).bump i)

/-- **A step of a worker that has not over-waited leaves every bump counter alone.** -/
theorem resume_bump_eq (g : Graph) (s : State) (w : Nat) (out : Outcome) (fuel : Nat) (h : ¬ overWaited g s w) :
    ∀ i, ((resume g s w out fuel).1.nd i).bump = (s.nd i).bump :=
  bump_of_resumed h (resume_resumed g s w out fuel)

theorem classLimit_congr_bump (g : Graph) (s s' : State) (c : Nat) (h : ∀ i, (s'.nd i).bump = (s.nd i).bump) :
    classLimit g s' c = classLimit g s c :=
  Nat.le_antisymm (classLimit_mono g s' s c (fun i => Nat.le_of_eq (h i)))
    (classLimit_mono g s s' c (fun i => Nat.le_of_eq (h i).symm))

/-- **`classLimit` grows only through the bump of the back-off branch**: a step of a worker that has not waited longer
than `timeout * max_tries` at an occupied node leaves the largest threshold of every class as it was, and preserves
`NoBump`. -/
theorem resume_classLimit_eq (g : Graph) (s : State) (w : Nat) (out : Outcome) (fuel : Nat) (h : ¬ overWaited g s w) (c : Nat) :
    classLimit g (resume g s w out fuel).1 c = classLimit g s c :=
  classLimit_congr_bump g s _ c (resume_bump_eq g s w out fuel h)

theorem resume_noBump (g : Graph) (s : State) (w : Nat) (out : Outcome) (fuel : Nat) (h : ¬ overWaited g s w)
    (hb : NoBump s) : NoBump (resume g s w out fuel).1 :=
  fun i => (resume_bump_eq g s w out fuel h i).trans (hb i)

/-- the states reachable by steps of workers none of which has over-waited when it steps -/
inductive ReachableP (g : Graph) (ncls : Nat) (store : List (String × List (String × String))) : State → Prop
  | init (hidden : List Nat) : ReachableP g ncls store (initState g ncls store hidden)
  | step {s : State} (w : Nat) (out : Outcome) (fuel : Nat) (h : ReachableP g ncls store s) (hw : w < g.workers.length)
      (hf : 0 < fuel) (hp : ¬ overWaited g s w) : ReachableP g ncls store (resume g s w out fuel).1

theorem ReachableP.reachableR {g : Graph} {ncls : Nat} {store : List (String × List (String × String))} {s : State}
    (h : ReachableP g ncls store s) : ReachableR g ncls store s := by
  induction h with
  | init hidden => exact .init hidden
  | step w out fuel _ hw hf _ ih => exact .step w out fuel ih hw hf

theorem ReachableP.noBump {g : Graph} {ncls : Nat} {store : List (String × List (String × String))} {s : State}
    (h : ReachableP g ncls store s) : NoBump s := by
  induction h with
  | init hidden => exact fun i => by rw [initState_nd]
  | step w out fuel _ _ _ hp ih => exact resume_noBump g _ w out fuel hp ih

end I2N.Trav
