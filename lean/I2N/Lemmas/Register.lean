import I2N.Model.Index
/-! Helper lemmas for C16: edge registers and bridging. -/
namespace I2N.Index

def registerAll (ops : List (String × String)) : Register :=
  ops.foldl (fun r op => register r op.1 op.2) []

theorem getCounters_cons (e : (String × String) × Nat) (r : Register) (no wo : Option String) :
    getCounters (e :: r) no wo = (if keyMatches no wo e.1 then e.2 else 0) + getCounters r no wo := by
  simp only [getCounters, sumCounts, List.filter_cons]
  split <;> simp

theorem getCounters_register (r : Register) (n w : String) (no wo : Option String) :
    getCounters (register r n w) no wo = getCounters r no wo + (if keyMatches no wo (n, w) then 1 else 0) := by
  fun_induction register r n w with
  | case1 => rw [getCounters_cons, Nat.add_comm]
  | case2 k c rest hk =>
    rw [eq_of_beq hk]
    simp only [getCounters_cons]
    split <;> omega
  | case3 k c rest hk ih =>
    simp only [getCounters_cons, ih]
    omega

theorem getCounters_foldl (r : Register) (ops : List (String × String)) (no wo : Option String) :
    getCounters (ops.foldl (fun r op => register r op.1 op.2) r) no wo
      = getCounters r no wo + (ops.filter (keyMatches no wo)).length := by
  induction ops generalizing r with
  | nil => rfl
  | cons op rest ih =>
    rw [List.foldl_cons, ih, getCounters_register, List.filter_cons]
    split <;> simp <;> omega

theorem mem_dedup (l : List String) (a : String) : a ∈ dedup l ↔ a ∈ l := by
  fun_induction dedup l with
  | case1 => rfl
  | case2 b l hb ih =>
    rw [ih, List.mem_cons]
    exact ⟨Or.inr, fun h => h.elim (fun e => e ▸ List.contains_iff_mem.mp hb) id⟩
  | case3 b l hb ih => rw [List.mem_cons, List.mem_cons, ih]

theorem nodup_dedup (l : List String) : (dedup l).Nodup := by
  fun_induction dedup l with
  | case1 => exact List.nodup_nil
  | case2 b l hb ih => exact ih
  | case3 b l hb ih => exact List.nodup_cons.mpr ⟨fun h => hb (List.contains_iff_mem.mpr ((mem_dedup l b).mp h)), ih⟩

/-- the keys present in a register are exactly the registered (node, worker) pairs -/
theorem mem_keys_register (r : Register) (n w : String) (k : String × String) :
    k ∈ (register r n w).map (·.1) ↔ k ∈ r.map (·.1) ∨ k = (n, w) := by
  fun_induction register r n w with
  | case1 => simp
  | case2 k' c rest hk =>
    rw [eq_of_beq hk]
    simp only [List.map_cons, List.mem_cons, or_comm, or_self_left]
  | case3 k' c rest hk ih => simp only [List.map_cons, List.mem_cons, ih, or_assoc]

theorem mem_keys_foldl (r : Register) (ops : List (String × String)) (k : String × String) :
    k ∈ (ops.foldl (fun r op => register r op.1 op.2) r).map (·.1) ↔ k ∈ r.map (·.1) ∨ k ∈ ops := by
  induction ops generalizing r with
  | nil => simp
  | cons op rest ih => rw [List.foldl_cons, ih, mem_keys_register, List.mem_cons, or_assoc]

theorem mem_getWorkers (r : Register) (no : Option String) (w : String) :
    w ∈ getWorkers r no ↔ ∃ k ∈ r.map (·.1), keyMatches no none k = true ∧ k.2 = w := by
  unfold getWorkers
  rw [mem_dedup]
  simp only [List.mem_map, List.mem_filter]
  constructor
  · rintro ⟨e, ⟨he, hm⟩, rfl⟩
    exact ⟨e.1, ⟨e, he, rfl⟩, by simpa [keyMatches] using hm, rfl⟩
  · rintro ⟨k, ⟨e, he, rfl⟩, hm, rfl⟩
    exact ⟨e, ⟨he, by simpa [keyMatches] using hm⟩, rfl⟩

theorem reg_bridge (b : Bridging) (a c m : Nat) :
    (b.bridge a c).reg m = if m = a ∧ a ≠ c ∧ b.isBridged a c = false then b.reg c else b.reg m := by
  fun_cases Bridging.bridge b a c with
  | case1 h =>
    rw [Bool.or_eq_true, beq_iff_eq] at h
    rw [if_neg]
    rintro ⟨_, h1, h2⟩
    exact h.elim h1 (by simp [h2])
  | case2 h =>
    rw [Bool.or_eq_true, beq_iff_eq, not_or, Bool.not_eq_true] at h
    simp only [Bridging.reg, lookupReg, beq_iff_eq, h, ne_eq, not_false_eq_true, and_true, @eq_comm _ a m]

theorem isBridged_bridge (b : Bridging) (a c x y : Nat) :
    (b.bridge a c).isBridged x y =
      (b.isBridged x y || (a != c && !b.isBridged a c && ((x, y) == (a, c) || (x, y) == (c, a)))) := by
  have hg : (a != c && !b.isBridged a c) = !(a == c || b.isBridged a c) := (Bool.not_or _ _).symm
  rw [hg]
  fun_cases Bridging.bridge b a c with
  | case1 h => rw [h, Bool.not_true, Bool.false_and, Bool.or_false]
  | case2 h =>
    rw [(Bool.not_eq_true _).mp h, Bool.not_false, Bool.true_and]
    simp only [Bridging.isBridged, List.contains_cons]
    ac_rfl

/-- graph.py discipline: a newly parsed node bridges with every old equivalent node in turn -/
def bridgeWithAll (b : Bridging) (n : Nat) (olds : List Nat) : Bridging :=
  olds.foldl (fun b c => b.bridge n c) b

theorem bridgeWithAll_append (b : Bridging) (a : Nat) (l1 l2 : List Nat) :
    bridgeWithAll b a (l1 ++ l2) = bridgeWithAll (bridgeWithAll b a l1) a l2 :=
  List.foldl_append

theorem snoc_induction {α : Type} {P : List α → Prop} (nil : P []) (snoc : ∀ l a, P l → P (l ++ [a])) :
    ∀ l, P l := fun l => by
  rw [← List.reverse_reverse l]
  induction l.reverse with
  | nil => exact nil
  | cons a l ih => rw [List.reverse_cons]; exact snoc _ _ ih

/-- the effect of bridging a new node `n` with the old nodes in turn; by induction from the end of the list, since
the last bridge is the one that decides the registers of `n` -/
theorem bridgeWithAll_spec (b : Bridging) (n : Nat) (olds : List Nat) (hnd : olds.Nodup) (hn : n ∉ olds)
    (hfresh : ∀ c ∈ olds, b.isBridged n c = false) :
    (∀ m, m ≠ n → (bridgeWithAll b n olds).reg m = b.reg m) ∧
    ((bridgeWithAll b n olds).reg n = match olds.getLast? with | none => b.reg n | some c => b.reg c) ∧
    (∀ x y, (bridgeWithAll b n olds).isBridged x y =
        (b.isBridged x y || (x == n && olds.contains y) || (y == n && olds.contains x))) := by
  induction olds using snoc_induction with
  | nil => simp [bridgeWithAll]
  | snoc olds c ih =>
    obtain ⟨hnd', -, hc⟩ := List.nodup_append.mp hnd
    have hnc : n ≠ c := fun h => hn (h ▸ List.mem_append_right _ (List.mem_singleton.mpr rfl))
    obtain ⟨i1, -, i3⟩ := ih hnd' (fun h => hn (List.mem_append_left _ h))
      (fun d hd => hfresh d (List.mem_append_left _ hd))
    have hbc : (bridgeWithAll b n olds).isBridged n c = false := by
      have hc' : c ∉ olds := fun h => hc c h c (List.mem_singleton.mpr rfl) rfl
      rw [i3, hfresh c (List.mem_append_right _ (List.mem_singleton.mpr rfl))]
      simp [hc', Ne.symm hnc]
    rw [bridgeWithAll_append]
    refine ⟨fun m hm => ?_, ?_, fun x y => ?_⟩
    · exact (reg_bridge _ n c m).trans ((if_neg fun h => hm h.1).trans (i1 m hm))
    · rw [List.getLast?_concat]
      exact (reg_bridge _ n c n).trans ((if_pos ⟨rfl, hnc, hbc⟩).trans (i1 c (Ne.symm hnc)))
    · show ((bridgeWithAll b n olds).bridge n c).isBridged x y = _
      rw [isBridged_bridge, i3, hbc, bne_iff_ne.mpr hnc, List.contains_append, List.contains_append]
      rw [show ((x, y) == (n, c)) = (x == n && y == c) from rfl,
        show ((x, y) == (c, n)) = (y == n && x == c) from Bool.and_comm ..]
      simp only [List.contains_cons, List.contains_nil, Bool.or_false, Bool.not_false, Bool.and_self, Bool.true_and,
        Bool.and_or_distrib_left]
      ac_rfl
/-- nodes of one equivalence class arriving one by one (parse order), each bridging with all earlier ones -/
def arrive (st : Bridging × List Nat) (n : Nat) : Bridging × List Nat :=
  (bridgeWithAll st.1 n st.2, st.2 ++ [n])

structure ClassInv (st : Bridging × List Nat) : Prop where
  seen_nodup : st.2.Nodup
  shared : ∀ x ∈ st.2, ∀ y ∈ st.2, st.1.reg x = st.1.reg y
  fresh : ∀ x, x ∉ st.2 → ∀ y, st.1.isBridged x y = false ∧ st.1.isBridged y x = false
  sym : ∀ x y, st.1.isBridged x y = st.1.isBridged y x
  linked : ∀ x ∈ st.2, ∀ y ∈ st.2, x ≠ y → st.1.isBridged x y = true

theorem classInv_init : ClassInv ({ regOf := [], bridged := [] }, []) := by
  refine ⟨by simp, by simp, ?_, ?_, by simp⟩
  · intro x _ y; simp [Bridging.isBridged]
  · intro x y; simp [Bridging.isBridged]

theorem classInv_arrive (st : Bridging × List Nat) (n : Nat) (h : ClassInv st) (hn : n ∉ st.2) :
    ClassInv (arrive st n) := by
  obtain ⟨b, seen⟩ := st
  simp only at h hn
  obtain ⟨s1, s2, s3⟩ := bridgeWithAll_spec b n seen h.seen_nodup hn (fun c _ => (h.fresh n hn c).1)
  refine ⟨?_, ?_, ?_, ?_, ?_⟩
  · simp only [arrive]
    rw [List.nodup_append]
    refine ⟨h.seen_nodup, by simp, ?_⟩
    intro a ha b' hb'; simp at hb'; subst hb'; intro hab; subst hab; exact hn ha
  · -- every seen node, old or new, has the register of the new node
    have key : ∀ x ∈ seen ++ [n], (bridgeWithAll b n seen).reg x = (bridgeWithAll b n seen).reg n := by
      intro x hx
      rcases List.mem_append.mp hx with hx | hx
      · rw [s1 x fun hh => hn (hh ▸ hx), s2]
        cases hl : seen.getLast? with
        | none => rw [List.getLast?_eq_none_iff.mp hl] at hx; cases hx
        | some d => exact h.shared x hx d (List.mem_of_getLast? hl)
      · rw [List.mem_singleton.mp hx]
    exact fun x hx y hy => (key x hx).trans (key y hy).symm
  · intro x hx y
    simp only [arrive, List.mem_append, List.mem_singleton, not_or] at hx ⊢
    have hxn : (x == n) = false := by simpa using hx.2
    have hxs : seen.contains x = false := by simpa using hx.1
    rw [s3, s3]
    simp [hxn, hx.1, (h.fresh x hx.1 y).1, (h.fresh x hx.1 y).2]
  · intro x y
    simp only [arrive]
    rw [s3, s3, h.sym x y, Bool.or_right_comm]
  · intro x hx y hy hxy
    simp only [arrive, List.mem_append, List.mem_singleton] at hx hy ⊢
    rw [s3]
    rcases hx with hx | rfl <;> rcases hy with hy | rfl
    · simp [h.linked x hx y hy hxy]
    · simp [hx]
    · simp [hy]
    · exact absurd rfl hxy

theorem classInv_foldl (ms : List Nat) (st : Bridging × List Nat) (h : ClassInv st)
    (hnd : ms.Nodup) (hdisj : ∀ m ∈ ms, m ∉ st.2) : ClassInv (ms.foldl arrive st) := by
  induction ms generalizing st with
  | nil => exact h
  | cons m rest ih =>
    rw [List.nodup_cons] at hnd
    simp only [List.foldl_cons]
    apply ih _ (classInv_arrive st m h (hdisj m (by simp))) hnd.2
    intro x hx
    simp only [arrive, List.mem_append, List.mem_singleton, not_or]
    exact ⟨hdisj x (by simp [hx]), fun hh => hnd.1 (hh ▸ hx)⟩

/-! ### the all-pairs discipline of `intertest_setup.update`
`for node1 in nodes: for node2 in nodes: if equivalent and node1 != node2: node1.bridge_with_node(node2)` -/

theorem classInv_arrivals (ms : List Nat) (hnd : ms.Nodup) :
    ClassInv (ms.foldl arrive ({ regOf := [], bridged := [] }, [])) ∧
      (ms.foldl arrive ({ regOf := [], bridged := [] }, [])).2 = ms := by
  have hsnd : ∀ (l : List Nat) (s : Bridging × List Nat), (l.foldl arrive s).2 = s.2 ++ l := fun l => by
    induction l with
    | nil => exact fun s => (List.append_nil _).symm
    | cons a r ih => exact fun s => (ih _).trans (List.append_assoc ..)
  exact ⟨classInv_foldl ms _ classInv_init hnd fun _ _ => List.not_mem_nil, hsnd ms _⟩

theorem bridge_noop (b : Bridging) (a c : Nat) (h : a = c ∨ b.isBridged a c = true) : b.bridge a c = b := by
  unfold Bridging.bridge
  rcases h with h | h
  · simp [h]
  · simp [h]

theorem bridgeWithAll_noop (b : Bridging) (a : Nat) (l : List Nat) (h : ∀ c ∈ l, a = c ∨ b.isBridged a c = true) :
    bridgeWithAll b a l = b := by
  induction l with
  | nil => rfl
  | cons c r ih =>
    simp only [bridgeWithAll, List.foldl_cons]
    rw [bridge_noop b a c (h c (by simp))]
    exact ih (fun d hd => h d (by simp [hd]))

/-- one pass of the all-pairs loop for node `a` (inner loop over all nodes of the class) -/
def pairsStep (ms : List Nat) (b : Bridging) (a : Nat) : Bridging := bridgeWithAll b a ms

def allPairs (ms : List Nat) (b : Bridging) : Bridging := ms.foldl (pairsStep ms) b

/-- invariant of the outer loop after the nodes `done` were processed (`ms = done ++ rest`) -/
structure PairsInv (done rest : List Nat) (b : Bridging) : Prop where
  linked : ∀ x ∈ done, ∀ y ∈ done ++ rest, x ≠ y → b.isBridged x y = true ∧ b.isBridged y x = true
  only : ∀ x y, b.isBridged x y = true → (x ∈ done ∨ y ∈ done)
  regRest : ∀ y ∈ rest, b.reg y = y
  regDone : ∀ x ∈ done, b.reg x = (done ++ rest).getLast?.getD x

theorem pairsInv_step (done : List Nat) (a : Nat) (rest : List Nat) (b : Bridging)
    (hnd : (done ++ a :: rest).Nodup) (h : PairsInv done (a :: rest) b) :
    PairsInv (done ++ [a]) rest (pairsStep (done ++ a :: rest) b a) := by
  have hnd' := hnd
  rw [List.nodup_append] at hnd
  obtain ⟨hd, har, hdisj⟩ := hnd
  rw [List.nodup_cons] at har
  have ha_done : a ∉ done := fun hx => hdisj a hx a (by simp) rfl
  -- bridging with the processed nodes and with itself does nothing
  have hnoop : bridgeWithAll b a (done ++ [a]) = b := by
    refine bridgeWithAll_noop b a _ fun c hc => ?_
    rcases List.mem_append.mp hc with hc | hc
    · exact Or.inr (h.linked c hc a (List.mem_append_right _ (List.mem_cons_self ..))
        fun e => ha_done (e ▸ hc)).2
    · exact Or.inl (List.mem_singleton.mp hc).symm
  have hsplit : pairsStep (done ++ a :: rest) b a = bridgeWithAll b a rest := by
    unfold pairsStep
    have : done ++ a :: rest = (done ++ [a]) ++ rest := by simp
    rw [this, bridgeWithAll_append, hnoop]
  rw [hsplit]
  have hfresh : ∀ c ∈ rest, b.isBridged a c = false := fun c hc =>
    Bool.eq_false_iff.mpr fun hb =>
      (h.only a c hb).elim ha_done fun h1 => hdisj c h1 c (List.mem_cons_of_mem _ hc) rfl
  obtain ⟨s1, s2, s3⟩ := bridgeWithAll_spec b a rest har.2 har.1 hfresh
  refine ⟨?_, ?_, ?_, ?_⟩
  · intro x hx y hy hxy
    simp only [List.mem_append, List.mem_singleton] at hx
    have hy' : y ∈ done ++ a :: rest := by
      simp only [List.append_assoc, List.singleton_append] at hy; exact hy
    rw [s3, s3]
    rcases hx with hx | hx
    · have := h.linked x hx y hy' hxy
      simp [this.1, this.2]
    · subst hx
      -- y is processed earlier (linked by the invariant) or comes later (linked now)
      simp only [List.mem_append, List.mem_cons] at hy'
      rcases hy' with hy1 | hy1 | hy1
      · have := h.linked y hy1 x (by simp) (Ne.symm hxy)
        simp [this.1, this.2]
      · exact absurd hy1.symm hxy
      · simp [hy1]
  · intro x y hxy
    rw [s3] at hxy
    simp only [Bool.or_eq_true, Bool.and_eq_true, beq_iff_eq, List.contains_eq_mem, decide_eq_true_eq] at hxy
    simp only [List.mem_append, List.mem_singleton]
    rcases hxy with (hxy | hxy) | hxy
    · rcases h.only x y hxy with h1 | h1
      · exact Or.inl (Or.inl h1)
      · exact Or.inr (Or.inl h1)
    · exact Or.inl (Or.inr hxy.1)
    · exact Or.inr (Or.inr hxy.1)
  · intro y hy
    have hya : y ≠ a := fun e => har.1 (e ▸ hy)
    rw [s1 y hya]
    exact h.regRest y (by simp [hy])
  · intro x hx
    simp only [List.mem_append, List.mem_singleton] at hx
    rw [List.append_assoc, List.singleton_append]
    rcases hx with hx | hx
    · rw [s1 x fun e => ha_done (e ▸ hx)]
      exact h.regDone x hx
    · subst hx
      -- the registers of every node still to come are its own, so the last of them, or `x` itself, decides
      rw [s2, List.getLast?_append, List.getLast?_cons, Option.some_or, Option.getD_some]
      cases hr : rest.getLast? with
      | none => exact h.regRest x (List.mem_cons_self ..)
      | some d => exact h.regRest d (List.mem_cons_of_mem _ (List.mem_of_getLast? hr))

theorem pairsInv_foldl (ms : List Nat) (hnd : ms.Nodup) (done rest : List Nat) (hms : ms = done ++ rest) (b : Bridging)
    (h : PairsInv done rest b) : PairsInv ms [] (rest.foldl (pairsStep ms) b) := by
  induction rest generalizing done b with
  | nil => simpa [hms] using h
  | cons a r ih =>
    simp only [List.foldl_cons]
    have hms' : ms = (done ++ [a]) ++ r := by simp [hms]
    apply ih (done ++ [a]) hms'
    have := pairsInv_step done a r b (hms ▸ hnd) h
    rw [hms]; exact this

theorem pairsInv_allPairs (ms : List Nat) (hnd : ms.Nodup) :
    PairsInv ms [] (allPairs ms { regOf := [], bridged := [] }) :=
  pairsInv_foldl ms hnd [] ms rfl _
    ⟨fun _ hx => (nomatch hx), fun _ _ h => Bool.noConfusion h, fun _ _ => rfl, fun _ hx => (nomatch hx)⟩

theorem PairsInv.reg_eq {done : List Nat} {b : Bridging} (h : PairsInv done [] b) {x y : Nat}
    (hx : x ∈ done) (hy : y ∈ done) : b.reg x = b.reg y := by
  rw [h.regDone x hx, h.regDone y hy, List.append_nil]
  cases hl : done.getLast? with
  | none => rw [List.getLast?_eq_none_iff.mp hl] at hx; cases hx
  | some l => rfl

end I2N.Index
