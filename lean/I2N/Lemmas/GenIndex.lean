import I2N.Extracted.GenIndex
import I2N.Lemmas.Register
/-!
Helper lemmas for the translator tie of C16 (`EdgeRegister`): the adapter `flat` from the Python shaped registry
(dict of dicts, `I2N.PyDict.PyReg`) to the hand model's flat association list (`I2N.Index.Register`), the
well-formedness of a registry (what a Python dict guarantees: no key twice; counters are not negative), and the
lemmas relating the dictionary primitives to the model's `register` / `getCounters` / `getWorkers`.
-/
namespace I2N.Index
open I2N.PyDict I2N.Extracted.GenIndex

/-- the entries of one inner dictionary under the node key `n` -/
def flatInner (n : String) (inner : Dict Int) : Register := inner.map (fun e => ((n, e.1), e.2.toNat))

/-- ADAPTER: the dict of dicts as the flat association list of the hand model, in dictionary order -/
def flat (r : PyReg) : Register := r.flatMap (fun e => flatInner e.1 e.2)

/-- an inner dictionary: no worker key twice, no negative counter -/
def InnerWF (inner : Dict Int) : Prop := (keys inner).Nodup ∧ ∀ e ∈ inner, 0 ≤ e.2

instance (inner : Dict Int) : Decidable (InnerWF inner) := by unfold InnerWF; infer_instance

/-- a registry: no node key twice, every inner dictionary well formed -/
def RegWF (r : PyReg) : Prop := (keys r).Nodup ∧ ∀ e ∈ r, InnerWF e.2

instance (r : PyReg) : Decidable (RegWF r) := by unfold RegWF; infer_instance

@[simp] theorem flat_nil : flat [] = [] := rfl
theorem flat_cons (e : String × Dict Int) (r : PyReg) : flat (e :: r) = flatInner e.1 e.2 ++ flat r := by
  simp [flat]

theorem regWF_cons {e : String × Dict Int} {r : PyReg} (h : RegWF (e :: r)) :
    e.1 ∉ keys r ∧ InnerWF e.2 ∧ RegWF r := by
  obtain ⟨h1, h2⟩ := h
  simp only [keys, List.map_cons, List.nodup_cons] at h1
  exact ⟨h1.1, h2 e (by simp), h1.2, fun x hx => h2 x (by simp [hx])⟩

theorem innerWF_nil : InnerWF [] := by simp [InnerWF, keys]

theorem getD_eq_get? {α : Type} (d : Dict α) (k : String) (dflt : α) : getD d k dflt = (get? d k).getD dflt := by
  fun_induction get? d k with
  | case1 => rfl
  | case2 k' v rest h => rw [getD, if_pos h, Option.getD_some]
  | case3 k' v rest h ih => rw [getD, if_neg h, ih]

theorem contains_keys_eq {α : Type} (d : Dict α) (k : String) : (keys d).contains k = (get? d k).isSome := by
  fun_induction get? d k with
  | case1 => rfl
  | case2 k' v rest h => simp only [keys, List.map_cons, List.contains_cons, BEq.comm (a := k), h, Bool.true_or, Option.isSome_some]
  | case3 k' v rest h ih =>
    rw [← ih]
    simp only [keys, List.map_cons, List.contains_cons, BEq.comm (a := k), h, Bool.false_or]

theorem get?_none_iff {α : Type} (d : Dict α) (k : String) : get? d k = none ↔ k ∉ keys d := by
  have := contains_keys_eq d k
  cases h : get? d k <;> simp_all

theorem get?_set_self {α : Type} (d : Dict α) (k : String) (v : α) : get? (setItem d k v) k = some v := by
  fun_induction setItem d k v with
  | case1 => simp [get?]
  | case2 k' v' rest h => rw [get?, if_pos h]
  | case3 k' v' rest h ih => rw [get?, if_neg h, ih]

theorem set_set {α : Type} (d : Dict α) (k : String) (v v' : α) : setItem (setItem d k v) k v' = setItem d k v' := by
  fun_induction setItem d k v with
  | case1 => simp [setItem]
  | case2 k' v'' rest h => simp only [setItem, if_pos h]
  | case3 k' v'' rest h ih => simp only [setItem, if_neg h, ih]

theorem set_of_get? {α : Type} (d : Dict α) (k : String) (v : α) (h : get? d k = some v) : setItem d k v = d := by
  fun_induction setItem d k v with
  | case1 => cases h
  | case2 k' v' rest hk =>
    rw [get?, if_pos hk] at h
    cases h; rfl
  | case3 k' v' rest hk ih =>
    rw [get?, if_neg hk] at h
    rw [ih h]

theorem keys_cons {α : Type} (k : String) (v : α) (d : Dict α) : keys ((k, v) :: d) = k :: keys d := rfl

theorem keys_set {α : Type} (d : Dict α) (k : String) (v : α) :
    keys (setItem d k v) = if k ∈ keys d then keys d else keys d ++ [k] := by
  fun_induction setItem d k v with
  | case1 => rfl
  | case2 k' v' rest h => rw [keys_cons, keys_cons, if_pos (eq_of_beq h ▸ List.mem_cons_self ..)]
  | case3 k' v' rest h ih =>
    have hk : ¬ k = k' := fun e => h (beq_iff_eq.mpr e.symm)
    rw [keys_cons, keys_cons, ih]
    simp only [List.mem_cons, hk, false_or]
    split <;> rfl

theorem nodup_keys_set {α : Type} (d : Dict α) (k : String) (v : α) (h : (keys d).Nodup) : (keys (setItem d k v)).Nodup := by
  rw [keys_set]
  split
  · exact h
  · rename_i hk
    rw [List.nodup_append]
    exact ⟨h, by simp, by intro a ha b hb; simp at hb; subst hb; intro hab; subst hab; exact hk ha⟩

theorem mem_set {α : Type} (d : Dict α) (k : String) (v : α) (e : String × α) (h : e ∈ setItem d k v) :
    e ∈ d ∨ e = (k, v) := by
  fun_induction setItem d k v with
  | case1 => exact Or.inr (List.mem_singleton.mp h)
  | case2 k' v' rest hk =>
    rcases List.mem_cons.mp h with h | h
    · exact Or.inr (eq_of_beq hk ▸ h)
    · exact Or.inl (List.mem_cons_of_mem _ h)
  | case3 k' v' rest hk ih =>
    rcases List.mem_cons.mp h with h | h
    · exact Or.inl (h ▸ List.mem_cons_self ..)
    · exact (ih h).imp_left (List.mem_cons_of_mem _)

theorem getD_of_mem {α : Type} (d : Dict α) (h : (keys d).Nodup) (e : String × α) (he : e ∈ d) (dflt : α) :
    getD d e.1 dflt = e.2 := by
  fun_induction getD d e.1 dflt with
  | case1 => cases he
  | case2 k v rest hk =>
    rcases List.mem_cons.mp he with rfl | he
    · rfl
    · exact absurd (eq_of_beq hk ▸ List.mem_map_of_mem (f := (·.1)) he) (List.nodup_cons.mp h).1
  | case3 k v rest hk ih =>
    refine ih (List.nodup_cons.mp h).2 ((List.mem_cons.mp he).resolve_left ?_)
    rintro rfl
    exact hk (beq_self_eq_true _)

theorem getD_nonneg (inner : Dict Int) (h : InnerWF inner) (w : String) : 0 ≤ getD inner w 0 := by
  have h2 := h.2
  clear h
  fun_induction getD inner w 0 with
  | case1 => exact Int.le_refl 0
  | case2 k v rest hk => exact h2 (k, v) (List.mem_cons_self ..)
  | case3 k v rest hk ih => exact ih fun e he => h2 e (List.mem_cons_of_mem _ he)

theorem innerWF_getD (r : PyReg) (h : RegWF r) (n : String) : InnerWF (getD r n []) := by
  fun_induction getD r n [] with
  | case1 => exact innerWF_nil
  | case2 k v rest hk => exact (regWF_cons h).2.1
  | case3 k v rest hk ih => exact ih (regWF_cons h).2.2

theorem innerWF_set (inner : Dict Int) (h : InnerWF inner) (w : String) (c : Int) (hc : 0 ≤ c) : InnerWF (setItem inner w c) := by
  refine ⟨nodup_keys_set _ _ _ h.1, ?_⟩
  intro e he
  rcases mem_set _ _ _ _ he with he | he
  · exact h.2 e he
  · subst he; exact hc

/-! ## `register` of the hand model on appended lists -/

theorem register_append_of_mem (A B : Register) (n w : String) (h : (n, w) ∈ A.map (·.1)) :
    register (A ++ B) n w = register A n w ++ B := by
  fun_induction register A n w with
  | case1 => cases h
  | case2 k c rest hk => rw [List.cons_append, register, if_pos hk]; rfl
  | case3 k c rest hk ih =>
    have hrest : (n, w) ∈ rest.map (·.1) := (List.mem_cons.mp h).resolve_left fun e => hk (beq_iff_eq.mpr e.symm)
    rw [List.cons_append, register, if_neg hk, ih hrest]; rfl

theorem register_append_of_not_mem (A B : Register) (n w : String) (h : (n, w) ∉ A.map (·.1)) :
    register (A ++ B) n w = A ++ register B n w := by
  induction A with
  | nil => rfl
  | cons e rest ih =>
    obtain ⟨hk, hrest⟩ := not_or.mp (mt List.mem_cons.mpr h)
    rw [List.cons_append, register, if_neg fun e => hk (eq_of_beq e).symm, ih hrest]; rfl

theorem register_of_not_mem (B : Register) (n w : String) (h : (n, w) ∉ B.map (·.1)) :
    register B n w = B ++ [((n, w), 1)] := by
  have := register_append_of_not_mem B [] n w h
  simpa [register] using this

theorem keys_flatInner (n : String) (inner : Dict Int) : (flatInner n inner).map (·.1) = (keys inner).map (fun w => (n, w)) := by
  simp [flatInner, keys]

theorem mem_keys_flat (r : PyReg) (k : String × String) (h : k ∈ (flat r).map (·.1)) : k.1 ∈ keys r := by
  induction r with
  | nil => simp at h
  | cons e rest ih =>
    rw [flat_cons, List.map_append, List.mem_append, keys_flatInner] at h
    simp only [keys, List.map_cons, List.mem_cons]
    rcases h with h | h
    · simp only [List.mem_map] at h
      obtain ⟨w, _, rfl⟩ := h
      exact Or.inl rfl
    · exact Or.inr (ih h)

/-- one inner dictionary: the model's `register` is the Python `inner[w] = inner.get(w, 0) + 1` -/
theorem register_flatInner (n w : String) (inner : Dict Int) (h : ∀ e ∈ inner, 0 ≤ e.2) :
    register (flatInner n inner) n w = flatInner n (setItem inner w (getD inner w 0 + 1)) := by
  induction inner with
  | nil => rfl
  | cons e rest ih =>
    obtain ⟨k, c⟩ := e
    have hkey : (((n, k) : String × String) == (n, w)) = (k == w) :=
      (congrArg (· && (k == w)) (beq_self_eq_true n)).trans (Bool.true_and _)
    simp only [flatInner, List.map_cons, register, getD, setItem, hkey]
    split
    · have hc : 0 ≤ c := h (k, c) (List.mem_cons_self ..)
      rw [List.map_cons, Int.toNat_add hc (by decide)]; rfl
    · exact congrArg _ (ih fun e he => h e (List.mem_cons_of_mem _ he))

/-! ## the Python `register` in closed form -/

/-- `register` of the source as a function: `reg[n] = reg.get(n, {}) with [w] = old + 1` -/
def regStep (r : PyReg) (n w : String) : PyReg :=
  let inner := getD r n []
  setItem r n (setItem inner w (getD inner w 0 + 1))

theorem regStep_cons (k : String) (i : Dict Int) (rest : PyReg) (n w : String) :
    regStep ((k, i) :: rest) n w =
      if (k == n) = true then (k, setItem i w (getD i w 0 + 1)) :: rest else (k, i) :: regStep rest n w := by
  simp only [regStep, getD, setItem]
  split <;> rfl

theorem regWF_regStep (r : PyReg) (h : RegWF r) (n w : String) : RegWF (regStep r n w) := by
  have hi := innerWF_getD r h n
  refine ⟨nodup_keys_set _ _ _ h.1, ?_⟩
  intro e he
  rcases mem_set _ _ _ _ he with he | he
  · exact h.2 e he
  · subst he
    exact innerWF_set _ hi _ _ (by have := getD_nonneg _ hi w; omega)

/-- the effect of the source's `register` on the adapter's image is the model's `register`, up to the order of the
entries (a new worker of a known node is filed inside the node's dictionary, the model appends it at the end) -/
theorem flat_regStep_perm (r : PyReg) (h : RegWF r) (n w : String) :
    (flat (regStep r n w)).Perm (register (flat r) n w) := by
  induction r with
  | nil => simp [regStep, getD, setItem, flat, flatInner, register]
  | cons e rest ih =>
    obtain ⟨k, i⟩ := e
    obtain ⟨hk, hi, hr⟩ := regWF_cons h
    rw [regStep_cons]
    by_cases hkn : k = n
    · subst hkn
      simp only [beq_self_eq_true, if_true, flat_cons]
      rw [← register_flatInner k w i hi.2]
      by_cases hm : (k, w) ∈ (flatInner k i).map (·.1)
      · rw [register_append_of_mem _ _ _ _ hm]
      · rw [register_append_of_not_mem _ _ _ _ hm, register_of_not_mem _ _ _ hm]
        have hnot : (k, w) ∉ (flat rest).map (·.1) := fun hh => hk (mem_keys_flat rest (k, w) hh)
        rw [register_of_not_mem _ _ _ hnot, List.append_assoc]
        exact List.Perm.append_left _ List.perm_append_comm
    · have hb : (k == n) = false := by simpa using hkn
      simp only [hb, Bool.false_eq_true, if_false, flat_cons]
      have hm : (n, w) ∉ (flatInner k i).map (·.1) := by
        rw [keys_flatInner]; simp only [List.mem_map, not_exists, not_and]
        intro x _ hx; exact hkn (by simpa using (congrArg Prod.fst hx))
      rw [register_append_of_not_mem _ _ _ _ hm]
      exact List.Perm.append_left _ (ih hr)

/-! ## reading: selection of the node, then of the worker -/

/-- the entries `get_counters` / `get_workers` look at: the one of the given node (an absent node reads as `{}`) or all -/
def nodeSel (r : PyReg) : Option String → PyReg
  | some n => [(n, getD r n [])]
  | none => r

theorem filter_key {α : Type} (d : Dict α) (h : (keys d).Nodup) (k : String) :
    d.filter (fun e => e.1 == k) = match get? d k with | some v => [(k, v)] | none => [] := by
  fun_induction get? d k with
  | case1 => rfl
  | case2 k' v rest hk =>
    have hnot : k' ∉ keys rest := (List.nodup_cons.mp h).1
    have hnil : rest.filter (fun e => e.1 == k) = [] :=
      List.filter_eq_nil_iff.mpr fun e he hek =>
        hnot ((eq_of_beq hek).trans (eq_of_beq hk).symm ▸ List.mem_map_of_mem (f := (·.1)) he)
    rw [List.filter_cons, if_pos hk, hnil, eq_of_beq hk]
  | case3 k' v rest hk ih => rw [List.filter_cons, if_neg hk]; exact ih (List.nodup_cons.mp h).2

theorem filter_flat (p : String → Bool) (r : PyReg) :
    (flat r).filter (fun e => p e.1.1) = flat (r.filter (fun e => p e.1)) := by
  induction r with
  | nil => rfl
  | cons e rest ih =>
    have hin : (flatInner e.1 e.2).filter (fun x => p x.1.1) = if p e.1 then flatInner e.1 e.2 else [] := by
      rw [flatInner, List.filter_map]
      split
      · rw [List.filter_eq_self.mpr fun _ _ => ‹_›]
      · rw [List.filter_eq_nil_iff.mpr fun _ _ => ‹_›, List.map_nil]
    rw [flat_cons, List.filter_append, hin, ih, List.filter_cons]
    split
    · rw [flat_cons]
    · rfl

theorem filter_flat_some (r : PyReg) (h : (keys r).Nodup) (n : String) :
    (flat r).filter (fun e => e.1.1 == n) = flatInner n (getD r n []) := by
  rw [filter_flat (· == n), filter_key r h n, getD_eq_get?]
  cases get? r n with
  | none => rfl
  | some i => exact List.append_nil _

theorem filter_flat_node (r : PyReg) (h : (keys r).Nodup) (node : Option String) :
    (flat r).filter (fun e => match node with | some n => e.1.1 == n | none => true) = flat (nodeSel r node) := by
  cases node with
  | none => exact List.filter_eq_self.mpr fun _ _ => rfl
  | some n => exact (filter_flat_some r h n).trans (List.append_nil _).symm

theorem nodeSel_inner (r : PyReg) (h : RegWF r) (node : Option String) : ∀ e ∈ nodeSel r node, InnerWF e.2 := by
  cases node with
  | none => exact h.2
  | some n => intro e he; simp only [nodeSel, List.mem_singleton] at he; subst he; exact innerWF_getD r h n

/-- the entries the readers look at, as the source computes them: the node keys, each looked up in the registry -/
theorem nodeSel_eq (r : PyReg) (h : (keys r).Nodup) (node : Option String) :
    nodeSel r node = (if node.isSome then [node.getD ""] else keys r).map (fun nk => (nk, getD r nk [])) := by
  cases node with
  | some n => rfl
  | none =>
    rw [nodeSel, Option.isSome_none, if_neg Bool.false_ne_true, keys, List.map_map]
    exact (List.map_id r).symm.trans (List.map_congr_left fun e he => Prod.ext rfl (getD_of_mem r h e he []).symm)

theorem foldl_add_eq {α : Type} (l : List α) (f : α → Int) (c : Int) :
    l.foldl (fun c x => c + f x) c = c + (l.map f).sum := by
  induction l generalizing c with
  | nil => simp
  | cons a rest ih => simp only [List.foldl_cons, List.map_cons, List.sum_cons, ih]; omega

theorem foldl_foldl_add_eq {α β : Type} (l : List α) (g : α → List β) (f : α → β → Int) (c : Int) :
    l.foldl (fun c x => (g x).foldl (fun c y => c + f x y) c) c = c + (l.map (fun x => ((g x).map (f x)).sum)).sum := by
  induction l generalizing c with
  | nil => simp
  | cons a rest ih => simp only [List.foldl_cons, List.map_cons, List.sum_cons, foldl_add_eq]; omega

theorem sumCounts_append (A B : Register) : sumCounts (A ++ B) = sumCounts A + sumCounts B := by
  simp [sumCounts]

/-- the worker keys `get_counters` runs over inside one node -/
def workerSel (inner : Dict Int) : Option String → List String
  | some w => [w]
  | none => keys inner

theorem workerSel_eq (inner : Dict Int) (worker : Option String) :
    workerSel inner worker = if worker.isSome then [worker.getD ""] else keys inner := by
  cases worker <;> rfl

theorem sumCounts_flatInner (n : String) (inner : Dict Int) (h : ∀ e ∈ inner, 0 ≤ e.2) :
    (sumCounts (flatInner n inner) : Int) = (inner.map (·.2)).sum := by
  induction inner with
  | nil => rfl
  | cons e rest ih =>
    have h0 := h e (List.mem_cons_self ..)
    have := ih fun x hx => h x (List.mem_cons_of_mem _ hx)
    simp only [flatInner, sumCounts, List.map_map, List.map_cons, List.sum_cons] at this ⊢
    omega

/-- one inner dictionary: the model's filtered sum is the source's sum of lookups -/
theorem sum_inner (n : String) (inner : Dict Int) (h : InnerWF inner) (worker : Option String) :
    (sumCounts ((flatInner n inner).filter (fun e => match worker with | some w => e.1.2 == w | none => true)) : Int)
      = ((workerSel inner worker).map (fun wk => getD inner wk 0)).sum := by
  cases worker with
  | none =>
    rw [List.filter_eq_self.mpr fun _ _ => rfl, sumCounts_flatInner n inner h.2, workerSel, keys, List.map_map]
    exact congrArg List.sum (List.map_congr_left fun e he => (getD_of_mem inner h.1 e he 0).symm)
  | some w =>
    have hsel : (flatInner n inner).filter (fun e => e.1.2 == w) = flatInner n (inner.filter (fun e => e.1 == w)) := by
      rw [flatInner, List.filter_map]; rfl
    have hnn := getD_nonneg inner h w
    rw [hsel, filter_key inner h.1 w]
    rw [getD_eq_get?] at hnn
    simp only [workerSel, List.map_cons, List.map_nil, List.sum_cons, List.sum_nil, getD_eq_get?]
    cases hg : get? inner w with
    | none => rfl
    | some c =>
      rw [hg, Option.getD_some] at hnn
      simp only [flatInner, sumCounts, List.map_cons, List.map_nil, List.sum_cons, List.sum_nil, Option.getD_some]
      omega

/-- the model's `getCounters` on the adapter's image, as the double sum the source computes -/
theorem getCounters_flat (r : PyReg) (h : RegWF r) (node worker : Option String) :
    (getCounters (flat r) node worker : Int)
      = ((nodeSel r node).map (fun e => ((workerSel e.2 worker).map (fun wk => getD e.2 wk 0)).sum)).sum := by
  unfold getCounters
  have : (flat r).filter (fun e => keyMatches node worker e.1)
      = ((flat r).filter (fun e => match node with | some n => e.1.1 == n | none => true)).filter
          (fun e => match worker with | some w => e.1.2 == w | none => true) := by
    rw [List.filter_filter]
    apply List.filter_congr
    intro e _; exact Bool.and_comm ..
  rw [this, filter_flat_node r h.1 node]
  have hin := nodeSel_inner r h node
  generalize nodeSel r node = sel at hin
  induction sel with
  | nil => simp [sumCounts]
  | cons e rest ih =>
    rw [flat_cons, List.filter_append, sumCounts_append]
    simp only [List.map_cons, List.sum_cons]
    rw [← ih (fun x hx => hin x (by simp [hx])), ← sum_inner e.1 e.2 (hin e (by simp)) worker]
    omega

theorem mem_foldl_append {α : Type} (l : List α) (f : α → List String) (init : List String) (w : String) :
    w ∈ l.foldl (fun acc x => acc ++ f x) init ↔ w ∈ init ∨ ∃ x ∈ l, w ∈ f x := by
  induction l generalizing init with
  | nil => simp
  | cons a rest ih => simp only [List.foldl_cons, ih, List.mem_append, List.mem_cons, exists_eq_or_imp, or_assoc]

theorem mem_workers_flat (sel : PyReg) (w : String) :
    w ∈ (flat sel).map (·.1.2) ↔ ∃ e ∈ sel, w ∈ keys e.2 := by
  induction sel with
  | nil => simp
  | cons e rest ih =>
    rw [flat_cons, List.map_append, List.mem_append, ih]
    simp only [flatInner, List.map_map, List.mem_cons, exists_eq_or_imp, keys]
    apply or_congr _ Iff.rfl
    simp [Function.comp]

theorem getWorkers_flat (r : PyReg) (h : (keys r).Nodup) (node : Option String) :
    getWorkers (flat r) node = dedup ((flat (nodeSel r node)).map (·.1.2)) := by
  unfold getWorkers
  cases node with
  | none => simp only [nodeSel]; rw [List.filter_eq_self.2 (by intros; rfl)]
  | some n => simp only [nodeSel]; rw [filter_flat_some r h n]; simp [flat]

/-! ## running the generated `register` -/

theorem regKeys_run (r : PyReg) : regKeys.run r = .ok (keys r, r) := rfl
theorem innerKeys_run (r : PyReg) (n : String) :
    (innerKeys n).run r = match get? r n with | some i => .ok (keys i, r) | none => .error .keyError := rfl

theorem setInnerEmpty_run (r : PyReg) (n : String) : (setInnerEmpty n).run r = .ok ((), setItem r n []) := rfl
theorem setCount_run (r : PyReg) (n w : String) (c : Int) :
    (setCount n w c).run r = match get? r n with | some i => .ok ((), setItem r n (setItem i w c)) | none => .error .keyError := rfl

theorem addCount_run (r : PyReg) (n w : String) (c : Int) :
    (addCount n w c).run r = match get? r n with
      | some i => (match get? i w with | some old => .ok ((), setItem r n (setItem i w (old + c))) | none => .error .keyError)
      | none => .error .keyError := rfl

theorem ok_bind {ε α β : Type} (a : α) (f : α → Except ε β) : (Except.ok a >>= f) = f a := rfl

theorem mem_keys_of_get? {α : Type} (d : Dict α) (k : String) (v : α) (h : get? d k = some v) : k ∈ keys d := by
  have := contains_keys_eq d k
  rw [h] at this; simpa using this

theorem genRegister_run (r : PyReg) (n w : String) :
    (genRegister n w).run r = .ok ((), regStep r n w) := by
  simp only [genRegister, regStep, getD_eq_get?]
  cases hn : get? r n with
  | none =>
    have hc : n ∉ keys r := (get?_none_iff r n).1 hn
    have hw : w ∉ keys ([] : Dict Int) := by simp [keys]
    simp [StateT.run_bind, regKeys_run, ok_bind, hc, hw, setInnerEmpty_run, innerKeys_run, get?_set_self, setCount_run, addCount_run, set_set, get?, setItem]
  | some inner =>
    have hc : n ∈ keys r := mem_keys_of_get? _ _ _ hn
    cases hw : get? inner w with
    | none =>
      have hc2 : w ∉ keys inner := (get?_none_iff inner w).1 hw
      simp [StateT.run_bind, regKeys_run, ok_bind, hc, innerKeys_run, hn, hc2, hw, setCount_run, addCount_run, get?_set_self, set_set]
    | some c =>
      have hc2 : w ∈ keys inner := mem_keys_of_get? _ _ _ hw
      simp [StateT.run_bind, regKeys_run, ok_bind, hc, innerKeys_run, hn, hc2, addCount_run, hw]

/-! ## what the model's readers observe -/

theorem getCounters_perm (a b : Register) (h : a.Perm b) (node worker : Option String) :
    getCounters a node worker = getCounters b node worker := by
  unfold getCounters sumCounts
  exact ((h.filter _).map _).sum_nat

theorem getWorkers_perm (a b : Register) (h : a.Perm b) (node : Option String) (w : String) :
    w ∈ getWorkers a node ↔ w ∈ getWorkers b node := by
  unfold getWorkers
  rw [mem_dedup, mem_dedup]
  exact ((h.filter _).map _).mem_iff

theorem mem_getWorkers_register (m : Register) (n w : String) (node : Option String) (w' : String) :
    w' ∈ getWorkers (register m n w) node ↔ w' ∈ getWorkers m node ∨ (keyMatches node none (n, w) = true ∧ w = w') := by
  rw [mem_getWorkers, mem_getWorkers]
  constructor
  · rintro ⟨k, hk, hm, hw⟩
    rcases (mem_keys_register m n w k).1 hk with hk | hk
    · exact Or.inl ⟨k, hk, hm, hw⟩
    · subst hk; exact Or.inr ⟨hm, hw⟩
  · rintro (⟨k, hk, hm, hw⟩ | ⟨hm, hw⟩)
    · exact ⟨k, (mem_keys_register m n w k).2 (Or.inl hk), hm, hw⟩
    · exact ⟨(n, w), (mem_keys_register m n w (n, w)).2 (Or.inr rfl), hm, hw⟩

/-- the adapter's image of `r` and the model register `m` cannot be told apart by the model's readers -/
def SameObs (r : PyReg) (m : Register) : Prop :=
  (∀ node worker, getCounters (flat r) node worker = getCounters m node worker) ∧
  (∀ node w, w ∈ getWorkers (flat r) node ↔ w ∈ getWorkers m node)

theorem sameObs_register (r r' : PyReg) (m : Register) (n w : String) (h : SameObs r m)
    (hp : (flat r').Perm (register (flat r) n w)) : SameObs r' (register m n w) := by
  constructor
  · intro node worker
    rw [getCounters_perm _ _ hp, getCounters_register, getCounters_register, h.1]
  · intro node w'
    rw [getWorkers_perm _ _ hp, mem_getWorkers_register, mem_getWorkers_register, h.2]

end I2N.Index
