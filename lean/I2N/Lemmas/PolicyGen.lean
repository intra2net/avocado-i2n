import I2N.Extracted.GenPolicy
import I2N.Lemmas.Policy
/-! Equality of the definitions regenerated from `avocado_i2n/states/setup.py` (`I2N.Extracted.GenPolicy`) with the
hand model `I2N.Policy`: helper lemmas. -/
set_option linter.unusedVariables false
namespace I2N.PolicyGen
open I2N.Policy I2N.PolicyM I2N.Extracted.Policy I2N.Extracted.GenPolicy

/-- Python compares one character strings, the hand model compares characters -/
theorem letter_beq (ch c : Char) : (String.ofList [ch] == String.ofList [c]) = (c == ch) := by
  rw [Bool.eq_iff_iff, beq_iff_eq, beq_iff_eq]
  constructor
  · intro h2
    have := congrArg String.toList h2
    simp at this
    exact this.symm
  · intro h; rw [h]

theorem letter_beq' (ch c : Char) : (String.ofList [c] == String.ofList [ch]) = (c == ch) := by
  rw [letter_beq, Bool.eq_iff_iff, beq_iff_eq, beq_iff_eq]; exact eq_comm

theorem lit_a (c : Char) : ("a" == String.ofList [c]) = (c == 'a') := letter_beq 'a' c
theorem lit_i (c : Char) : ("i" == String.ofList [c]) = (c == 'i') := letter_beq 'i' c
theorem lit_r (c : Char) : ("r" == String.ofList [c]) = (c == 'r') := letter_beq 'r' c
theorem lit_f (c : Char) : ("f" == String.ofList [c]) = (c == 'f') := letter_beq 'f' c
theorem lit_f' (c : Char) : (String.ofList [c] == "f") = (c == 'f') := letter_beq' 'f' c
theorem lit_r' (c : Char) : (String.ofList [c] == "r") = (c == 'r') := letter_beq' 'r' c

theorem chainParams_mid (d : Do) (sp : Params) : chainParams d sp = restrict (midP d sp) := rfl

theorem midP_getD (d : Do) (sp : Params) (k dflt : String)
    (hk : k ≠ "check_state" ∧ k ≠ "show_location" ∧ k ≠ "check_opts" ∧ k ≠ "soft_boot") :
    (midP d sp).getD k dflt = sp.getD k dflt := by
  obtain ⟨h1, h2, h3, h4⟩ := hk
  unfold midP
  cases d <;> simp only [reduceCtorEq, if_true, if_false] <;> split <;>
    simp [Params.getD_set, Ne.symm h1, Ne.symm h2, Ne.symm h3, Ne.symm h4]

/-- the type and the name `_state_check_chain` is handed are the ones the hand model re-reads from the dictionary -/
theorem chainParamsWith_eq (d : Do) (sp : Params) :
    chainParamsWith d (sp.getD "object_type" "") (sp.getD "object_name" "")
      (sp.set d.modeKey (sp.getD d.modeKey d.dMode)) = doParams d sp := by
  unfold doParams chainParamsWith
  rw [chainParams_mid]
  unfold restrict restrictWith typeOf
  rw [midP_getD _ _ _ _ (by decide), midP_getD _ _ _ _ (by decide)]
  cases d <;> simp [Params.getD_set, Do.modeKey]

theorem truthy_getD {sp : Params} {k v : String} (h : sp.truthy k = some v) : sp.getD k "" = v := by
  unfold Params.truthy at h
  unfold Params.getD
  cases hg : sp.get? k with
  | none => simp [hg] at h
  | some w =>
    simp only [hg] at h
    split at h
    · simp at h
    · simpa using h

theorem foldl_set_getD (l : List (String × String)) (sp : Params) (k dflt : String) (h : ∀ tn ∈ l, tn.1 ≠ k) :
    (l.foldl (fun acc tn => acc.set tn.1 tn.2) sp).getD k dflt = sp.getD k dflt := by
  induction l generalizing sp with
  | nil => rfl
  | cons a rest ih =>
    rw [List.foldl_cons, ih _ (fun tn hm => h tn (List.mem_cons_of_mem _ hm)),
      Params.getD_set_ne _ _ _ (h a List.mem_cons_self)]

/-- `restrict` leaves a key alone that is neither `states_chain` nor a component of the object type -/
theorem restrict_getD (sp : Params) (k dflt : String) (h1 : k ≠ "states_chain") (h2 : k ∉ splitSlash (typeOf sp)) :
    (restrict sp).getD k dflt = sp.getD k dflt := by
  unfold restrict
  rw [Params.getD_set_ne _ _ _ (Ne.symm h1)]
  apply foldl_set_getD
  intro tn hm heq
  exact h2 (heq ▸ (List.of_mem_zip hm).1)

/-- the state key survives `_state_check_chain` when no component of the object type is called like it -/
theorem doParams_stateKey (d : Do) (sp : Params) (h : d.stateKey ∉ splitSlash (typeOf sp)) :
    (doParams d sp).getD d.stateKey "" = sp.getD d.stateKey "" := by
  unfold doParams
  rw [chainParams_mid, restrict_getD _ _ _ (by cases d <;> decide)]
  · rw [midP_getD _ _ _ _ (by cases d <;> decide)]
    cases d <;> exact Params.getD_set_ne _ _ _ (by decide)
  · unfold typeOf
    rw [midP_getD _ _ _ _ (by decide)]
    have : (sp.set d.modeKey (sp.getD d.modeKey d.dMode)).getD "object_type" "" = sp.getD "object_type" "" := by
      cases d <;> exact Params.getD_set_ne _ _ _ (by decide)
    rw [this]; exact h

/-- `M.run` as a rewrite rule.  Never `unfold M.run` on a generated definition: that closes by a definitional cast, and
the kernel's lazy unfolding then opens the whole generated `do` block before the one-line `M.run` (minutes of type
checking); the rewrite gives a `congrArg` term whose type the kernel matches syntactically. -/
theorem M.run_ap {α : Type} (x : M α) (s : PS) : x.run s = x s := rfl

/-- the two `continue` guards in front of the four loop bodies are `guardSkip`, whatever follows them -/
theorem guard_ap {α : Type} (ret : α) (k : String → String → M α) (s : PS) :
    (do let n ← rd (fun sp => sp.getD "object_name" "")
        let t ← rd (fun sp => sp.getD "object_type" "")
        let l ← rd (fun sp => sp.objects "skip_types")
        if l.contains t = true then pure ret
        else if (t == "nets/vms/images") = true then do
          let b ← getBoolM "image_readonly"
          if b = true then pure ret else k t n
        else if (t == "nets/vms/images") = true then pure ret else k t n) s =
      match guardSkip s.sp with
      | .error e => (.error e, s)
      | .ok true => (.ok ret, s)
      | .ok false => k (s.sp.getD "object_type" "") (s.sp.getD "object_name" "") s := by
  fun_cases guardSkip s.sp with
    simp only [↓M.bind_ap, ↓M.ite_ap, M.bindF_ok, M.pure_ap, rd, getBoolM, typeOf, readonlyType] at *
  | case1 h1 => simp only [h1, if_true]
  | case2 h1 h2 =>
    simp only [h1, h2, if_true]
    rcases boolParam (s.sp.get? "image_readonly") with e | (_ | _) <;> rfl
  | case3 h1 h2 => simp only [h1, h2, Bool.false_eq_true, if_false]

/-- `mode[0]`, `mode[1]` read one after the other are `letters` -/
theorem letters_ap {α : Type} (mk : String) (k : String → String → M α) (s : PS) :
    M.bindF (letterM mk 0 s) (fun a => letterM mk 1 >>= fun b => k a b) =
      match letters (s.sp.getD mk "") with
      | none => (.error .indexError, s)
      | some (c1, c2) => k (String.ofList [c1]) (String.ofList [c2]) s := by
  rcases h : (s.sp.getD mk "").toList with _ | ⟨c1, _ | ⟨c2, rest⟩⟩ <;>
    simp only [letterM, letters, h, M.bind_ap, List.getElem?_nil, List.getElem?_cons_zero, List.getElem?_cons_succ,
      M.bindF_ok, M.bindF_error]

/-- What `get_states`, `set_states` and `unset_states` share: everything in front of the `if/elif` chain over the mode
letters is `doOne` up to its call of `act`, whatever the chain `k` is.  The generated bodies are instances of the left
side by unification (`refine one_eq B d _ …` finds `k`), which leaves the chain to be compared with `act d`. -/
theorem one_eq (B : Backends) (d : Do) (k : Bool → String × Bool → String → String → M Unit) (sp rp : Params) (st : St)
    (hk : ∀ exist b c1 c2 st1 state, sp.truthy d.stateKey = some state →
      outOf (k exist b (String.ofList [c1]) (String.ofList [c2]) ⟨doParams d sp, rp, st1⟩) =
        act d b.1 b.2 (doParams d sp) state c1 c2 exist st1) :
    outOf ((do
      let mut params_obj_name : String := (← rd (fun sp => sp.getD "object_name" ""))
      let mut params_obj_type : String := (← rd (fun sp => sp.getD "object_type" ""))
      if ((← rd (fun sp => sp.objects "skip_types")).contains params_obj_type) then
        return ()
      let mut pyTmp1 : Bool := (params_obj_type == "nets/vms/images")
      if pyTmp1 then
        pyTmp1 := (← getBoolM "image_readonly")
      if pyTmp1 then
        return ()
      if (!(← rd (truthyP d.stateKey))) then
        return ()
      else
        pure ()
      setP d.modeKey (← rd (fun sp => sp.getD d.modeKey d.dMode))
      let mut state_exists : Bool := (← chainM B d params_obj_type params_obj_name)
      let state_backend ← backendM B
      vmM
      pure ()
      let mut action_if_exists : String := (← letterM d.modeKey 0)
      let mut action_if_doesnt_exist : String := (← letterM d.modeKey 1)
      k state_exists state_backend action_if_exists action_if_doesnt_exist : M Unit) ⟨sp, rp, st⟩) =
      doOne B d sp st := by
  dsimp only
  rw [guard_ap]
  -- each case of `doOne` comes with the outcome of every look-up on its way: the generated code runs to the same exit
  fun_cases doOne B d sp st with
    simp +zetaDelta only [*, ↓M.bind_ap, ↓M.ite_ap, M.bindF_ok, M.bindF_error, M.pure_ap, rd, setP, truthyP, chainM,
      backendM, vmM, letters_ap, outOf_mk, chainParamsWith_eq, Option.isSome_none, Option.isSome_some, Bool.not_true,
      Bool.not_false, Bool.false_eq_true, if_true, if_false]
  | case8 _ _ ht => exact hk _ (_, _) _ _ _ _ ht

theorem getOne_eq (B : Backends) (sp rp : Params) (st : St)
    (hk : (doParams .get sp).getD "get_state" "" = sp.getD "get_state" "") :
    outOf ((genGetOne B).run ⟨sp, rp, st⟩) = doOne B .get sp st := by
  rw [M.run_ap]
  refine one_eq B .get _ sp rp st ?_
  intro exist b c1 c2 st1 state ht
  have hs : sp.getD "get_state" "" = state := truthy_getD ht
  rcases hr : roots.contains state with _ | _ <;> cases exist <;> simp only [roots] at hr <;>
    simp only [act, getAct, roots, ↓M.bind_ap, ↓M.ite_ap, M.bindF_ok, M.bindF_error, M.pure_ap, M.throw_ap, rd, onSt,
      bGetRootM, bGetM, outOf_mk, outOf_ite, lit_a, lit_i, lit_r, hk, hs, hr, Bool.not_true, Bool.not_false,
      Bool.true_and, Bool.false_and, Bool.false_eq_true, if_true, if_false]

theorem unsetOne_eq (B : Backends) (sp rp : Params) (st : St)
    (hk : (doParams .unset sp).getD "unset_state" "" = sp.getD "unset_state" "") :
    outOf ((genUnsetOne B).run ⟨sp, rp, st⟩) = doOne B .unset sp st := by
  rw [M.run_ap]
  refine one_eq B .unset _ sp rp st ?_
  intro exist b c1 c2 st1 state ht
  have hs : sp.getD "unset_state" "" = state := truthy_getD ht
  rcases hr : roots.contains state with _ | _ <;> cases exist <;> simp only [roots] at hr <;>
    simp only [act, unsetAct, roots, ↓M.bind_ap, ↓M.ite_ap, M.bindF_ok, M.bindF_error, M.pure_ap, M.throw_ap, rd, onSt,
      bUnsetRootM, bUnsetM, outOf_mk, outOf_ite, lit_a, lit_i, lit_r, lit_f, hk, hs, hr, Bool.not_true, Bool.not_false,
      Bool.true_and, Bool.false_and, Bool.false_eq_true, if_true, if_false]

theorem setOne_eq (B : Backends) (sp rp : Params) (st : St)
    (hk : (doParams .set sp).getD "set_state" "" = sp.getD "set_state" "") :
    outOf ((genSetOne B).run ⟨sp, rp, st⟩) = doOne B .set sp st := by
  rw [M.run_ap]
  refine one_eq B .set _ sp rp st ?_
  intro exist b c1 c2 st1 state ht
  have hs : sp.getD "set_state" "" = state := truthy_getD ht
  have hu : ((doParams .set sp).set "unset_state" state).getD "set_state" "" = (doParams .set sp).getD "set_state" "" :=
    Params.getD_set_ne _ _ _ (by decide)
  -- the two `apply_ite`: the hand model decides inside the state whether a sourced backend keeps the old state
  rcases hr : roots.contains state with _ | _ <;> cases exist <;> simp only [roots] at hr <;>
    simp only [act, setAct, roots, ↓M.bind_ap, ↓M.ite_ap, M.bindF_ok, M.bindF_error, M.pure_ap, M.throw_ap, rd, setP,
      onSt, bUnsetRootM, bUnsetM, bSetRootM, bSetM, bCheckRootM, bCheckRoot, outOf_mk, outOf_ite, lit_a, lit_r, lit_f,
      hk, hs, hu, hr, Bool.not_true, Bool.not_false, Bool.true_and, Bool.false_and, Bool.false_eq_true, if_true, if_false,
      apply_ite (bSet b.1 ((doParams .set sp).set "unset_state" state)), apply_ite (Prod.mk (.ok () : Except Err Unit))]

theorem checkDefaults_eq (sp : Params) :
    (sp.set "check_opts" (sp.getD "check_opts" "soft_boot=yes")).set "check_mode"
      ((sp.set "check_opts" (sp.getD "check_opts" "soft_boot=yes")).getD "check_mode" "rf") = checkDefaults sp := by
  unfold checkDefaults dCheckOpts dCheckMode
  rw [Params.getD_set_ne _ _ _ (by decide)]

theorem typeOf_checkDefaults (sp : Params) : (checkDefaults sp).getD "object_type" "" = sp.getD "object_type" "" := by
  unfold checkDefaults
  rw [Params.getD_set_ne _ _ _ (by decide), Params.getD_set_ne _ _ _ (by decide)]

/-- `if not state_exists: return False` followed by `return True` -/
theorem not_ite_ok {σ : Type} (x : Bool) (s : σ) :
    (if (!x) = true then ((.ok false : Except Err Bool), s) else (.ok true, s)) = (.ok x, s) := by cases x <;> rfl

theorem checkOne_eq (B : Backends) (sp rp : Params) (st : St) :
    outOf ((genCheckOne B).run ⟨sp, rp, st⟩) = checkOne B sp st := by
  rw [M.run_ap]
  unfold genCheckOne
  dsimp only
  rw [guard_ap]
  have hcd := checkDefaults_eq sp
  have htd := typeOf_checkDefaults sp
  fun_cases checkOne B sp st with
    simp +zetaDelta only [*, ↓M.bind_ap, ↓M.ite_ap, M.bindF_ok, M.bindF_error, M.pure_ap, rd, setP, truthyP, backendM, vmM,
      letters_ap, outOf_mk, Option.isSome_none, Option.isSome_some, Bool.not_true, Bool.not_false, Bool.false_eq_true,
      if_true, if_false]
  | case7 _ state ht _ b _ _ _ _ c1 c2 _ =>
    have hs := truthy_getD ht
    unfold checkCore
    fun_cases rootPhase b (checkDefaults sp) c1 c2 st <;>
      simp +zetaDelta only [*, ↓M.bind_ap, ↓M.ite_ap, M.bindF_ok, M.bindF_error, M.pure_ap, M.throw_ap, bCheckRootM,
        copyRootM, setRP, onRSt, bSetRootRM, bUnsetRootRM, bGetRootRM, destroyRM, bShowM, bShow, outOf_mk, outOf_ite,
        not_ite_ok, lit_f', lit_r', rootScope, destroyType, typeOf, Bool.false_eq_true, if_true, if_false]
    -- what is left of the three runs that go on to the look-up differs in `roots` against the list the translator
    -- writes out: `rfl`; the forced root is removed by `destroy` or by `unset_root`
    · rfl
    · by_cases hty : (sp.getD "object_type" "" == "nets/vms") = true <;> simp only [hty, if_true] <;> rfl
    · rfl

end I2N.PolicyGen
