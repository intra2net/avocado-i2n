/-
Lemmas for property C10 (engine `rules`). Every run of the `run_test_node` state machine is a sequence of four
elementary changes (`Evolves`); its invariants are proved by induction on that: the counting invariant ("every
execution leaves exactly one more result than it found"), the own result counts behind the creation pre-steps,
and "no pending execution has a job record yet". With injectivity of the retry identifier they give distinct
test identifiers.
-/
import I2N.Model.Rules
import Std.Data.String.ToNat
namespace I2N.Lemmas.Rules
open I2N.Rules I2N.Extracted.Rules

/-- the static part (name, prefix) of the copies -/
def statics (cs : List Copy) : List (String × String) := cs.map (fun c => (c.name, c.pfx))

theorem map_updCopy {α : Type} (g : Copy → α) (cs : List Copy) (i : Nat) (f : Copy → Copy)
    (hf : ∀ c, g (f c) = g c) : (updCopy cs i f).map g = cs.map g := by
  induction cs generalizing i with
  | nil => rfl
  | cons c rest ih =>
    cases i with
    | zero => simp [updCopy, hf c]
    | succ i => simp only [updCopy, List.map_cons]; rw [ih]

/-- only the value of the update at the copy it meets matters -/
theorem updCopy_congr {cs : List Copy} {i : Nat} {c : Copy} {f g : Copy → Copy} (hc : cs[i]? = some c)
    (h : f c = g c) : updCopy cs i f = updCopy cs i g := by
  induction cs generalizing i with
  | nil => rfl
  | cons a as ih =>
    cases i with
    | zero => simp at hc; subst hc; simp [updCopy, h]
    | succ i => simp at hc; simp only [updCopy]; rw [ih hc]

theorem sharedLen_updCopy_succ (cs : List Copy) (i : Nat) (f : Copy → Copy) (c0 : Copy) (h0 : cs[i]? = some c0)
    (hf : ∀ c, (f c).results.length = c.results.length + 1) : sharedLen (updCopy cs i f) = sharedLen cs + 1 := by
  induction cs generalizing i with
  | nil => simp at h0
  | cons c rest ih =>
    cases i with
    | zero => have := hf c; simp only [updCopy, sharedLen, List.map_cons, List.sum_cons]; omega
    | succ i =>
      have := ih i (by simpa using h0)
      simp only [updCopy, sharedLen, List.map_cons, List.sum_cons] at *; omega

theorem mem_statics_of_getElem? {cs : List Copy} {i : Nat} {c : Copy} (h : cs[i]? = some c) :
    (c.name, c.pfx) ∈ statics cs := by
  have := List.mem_of_getElem? h
  exact List.mem_map.mpr ⟨c, this, rfl⟩

theorem uidOf_inj (p : String) {k k' : Nat} (h : uidOf p k = uidOf p k') : k = k' := by
  unfold uidOf at h
  have hpos : 0 < retryInfix.length := by decide
  have hlen : ∀ n : Nat, (p ++ retryInfix ++ toString n).length = p.length + retryInfix.length + (toString n).length := by
    intro n; simp only [String.length_append]
  by_cases hk : k > 0 <;> by_cases hk' : k' > 0
  · simp only [hk, hk', if_true] at h
    have h2 : (p ++ retryInfix ++ toString k).toList = (p ++ retryInfix ++ toString k').toList := by rw [h]
    simp only [String.toList_append, List.append_assoc] at h2
    have h3 := List.append_cancel_left (List.append_cancel_left h2)
    have h4 : toString k = toString k' := String.ext_iff.mpr h3
    exact Nat.repr_inj.mp h4
  · simp only [hk, hk', if_true, if_false] at h
    have := congrArg String.length h; rw [hlen] at this; omega
  · simp only [hk, hk', if_true, if_false] at h
    have := congrArg String.length h; rw [hlen] at this; omega
  · omega

/-- copies of one class either differ in their names (one copy per worker) or share the prefix -/
def ClassOK (cs : List Copy) : Prop :=
  ∀ p ∈ statics cs, ∀ q ∈ statics cs, p.1 = q.1 → p.2 = q.2

/-- "every execution leaves exactly one more result than it found": the retry counters handed out so far
are pairwise distinct and below the current number of shared results -/
structure CountInv (s : St) : Prop where
  kLt : ∀ e ∈ s.issued, e.k < sharedLen s.copies
  kDistinct : s.issued.Pairwise (fun a b => a.k ≠ b.k)
  issuedStatic : ∀ e ∈ s.issued, ∃ p, (e.name, p) ∈ statics s.copies ∧ e.uid = uidOf p e.k

theorem record_length {results : List Result} {job : List JobRes} {n u : String} {x : JobRes} {r : Settled}
    (h : record results job n u x = .ok r) : r.results.length = results.length := by
  revert h
  fun_cases record results job n u x with
  | case1 st job' results' hc =>
    intro h; cases h
    have hmem : unknownOf n ∈ results' := by simpa using hc
    simp only [List.length_erase_of_mem hmem, results', List.length_append, List.length_cons, List.length_nil]
    omega
  | case2 => intro h; cases h

/-- the ways the polling part ends well: nothing found (the results are untouched), or a record found in the
job list with the arrival before the lookup (`r0 = r`) or after it -/
theorem settle_ok {results : List Result} {job : List JobRes} {n u : String} {o : Outcome} {r : Settled}
    (h : settle results job n u o = .ok r) :
    (r.results = results ∧ r.job = arrive job n u o) ∨
    ∃ x r0, r.results = r0.results ∧
      (record results (arrive job n u o) n u x = .ok r0 ∧ r.job = r0.job ∨
       record results job n u x = .ok r0 ∧ r.job = arrive r0.job n u o) := by
  revert h
  fun_cases settle results job n u o with
  | case1 job0 x hx =>
    intro h
    cases hr : record results job0 n u x with
    | error e => rw [hr] at h; cases h
    | ok r0 =>
      rw [hr] at h
      simp only [Except.map] at h
      cases h
      refine Or.inr ⟨x, r0, ?_⟩
      by_cases hd : (o.delay == 0) = true
      · rw [if_pos hd]
        exact ⟨rfl, Or.inl ⟨by simpa only [job0, if_pos hd] using hr, rfl⟩⟩
      · rw [if_neg hd]
        exact ⟨rfl, Or.inr ⟨by simpa only [job0, if_neg hd] using hr, rfl⟩⟩
  | case2 job0 _ job1 _ x hx => intro h; exact Or.inr ⟨x, r, rfl, Or.inl ⟨h, rfl⟩⟩
  | case3 => intro h; cases h; exact Or.inl ⟨rfl, rfl⟩
  | case4 => intro h; cases h; exact Or.inl ⟨rfl, rfl⟩

theorem settle_length {results : List Result} {job : List JobRes} {name uid : String} {o : Outcome} {r : Settled}
    (h : settle results job name uid o = .ok r) : r.results.length = results.length := by
  rcases settle_ok h with ⟨h1, _⟩ | ⟨x, r0, h1, ⟨hr, _⟩ | ⟨hr, _⟩⟩
  · rw [h1]
  · rw [h1, record_length hr]
  · rw [h1, record_length hr]

theorem CountInv.mono {s s' : St} (h : CountInv s) (hi : s'.issued = s.issued)
    (hs : statics s'.copies = statics s.copies) (hl : sharedLen s.copies ≤ sharedLen s'.copies) : CountInv s' := by
  refine ⟨?_, ?_, ?_⟩
  · intro e he; rw [hi] at he; exact Nat.lt_of_lt_of_le (h.kLt e he) hl
  · rw [hi]; exact h.kDistinct
  · intro e he; rw [hi] at he; rw [hs]; exact h.issuedStatic e he

theorem beginExec_countInv (s : St) (i : Nat) (c : Copy) (hc : s.copies[i]? = some c) (h : CountInv s) :
    CountInv (beginExec s i c).1 := by
  have hst : statics (updCopy s.copies i fun c => { c with results := c.results ++ [unknownOf c.name] }) =
      statics s.copies := map_updCopy _ _ _ _ (fun _ => rfl)
  have hlen := sharedLen_updCopy_succ s.copies i
    (fun c => { c with results := c.results ++ [unknownOf c.name] }) c hc (fun c => by simp)
  simp only [beginExec]
  refine ⟨?_, ?_, ?_⟩
  · intro e he
    simp only [List.mem_cons] at he
    simp only [hlen]
    rcases he with rfl | he
    · exact Nat.lt_succ_self _
    · exact Nat.lt_succ_of_lt (h.kLt e he)
  · simp only [List.pairwise_cons]
    refine ⟨?_, h.kDistinct⟩
    intro a ha
    have := h.kLt a ha
    omega
  · intro e he
    simp only [List.mem_cons] at he
    simp only [hst]
    rcases he with rfl | he
    · exact ⟨c.pfx, mem_statics_of_getElem? hc, rfl⟩
    · exact h.issuedStatic e he

/-- the four elementary changes the events are made of (a creation is a pre-step followed by a start or by
an append to the copy's results); `Evolves s s'`: `s'` comes from `s` by a sequence of them -/
inductive Evolves (s : St) : St → Prop
  | refl : Evolves s s
  | begin {s1 : St} {i : Nat} {c : Copy} : Evolves s s1 → s1.copies[i]? = some c → Evolves s (beginExec s1 i c).1
  | settled {s1 : St} {j : Nat} {e : Exec} {c : Copy} {o : Outcome} {r : Settled} : Evolves s s1 →
      s1.pending[j]? = some e → s1.copies[e.copy]? = some c → settle c.results s1.job e.name e.uid o = .ok r →
      Evolves s { s1 with copies := updCopy s1.copies e.copy (fun c => { c with results := r.results })
                          job := r.job, pending := s1.pending.eraseIdx j }
  | append {s1 : St} (i : Nat) (g : Copy → List Result) : Evolves s s1 →
      Evolves s { s1 with copies := updCopy s1.copies i (fun c => { c with results := c.results ++ g c }) }
  | pre {s1 : St} {i : Nat} {c : Copy} {o : Outcome} {r : Settled} : Evolves s s1 → s1.copies[i]? = some c →
      settle (c.results ++ [unknownOf c.preName]) s1.job c.preName (uidOf c.prePfx c.results.length) o = .ok r →
      Evolves s { s1 with job := r.job
                          preIssued := ⟨i, c.results.length, c.preName, uidOf c.prePfx c.results.length⟩ :: s1.preIssued }

theorem Evolves.trans {a b c : St} (h1 : Evolves a b) (h2 : Evolves b c) : Evolves a c := by
  induction h2 with
  | refl => exact h1
  | begin _ hc ih => exact .begin ih hc
  | settled _ hp hc hs ih => exact .settled ih hp hc hs
  | append i g _ ih => exact .append i g ih
  | pre _ hc hs ih => exact .pre ih hc hs

theorem step_evolves (s : St) (ev : Event) : Evolves s (step s ev).1 := by
  cases ev with
  | start i =>
    simp only [step]
    fun_cases start s i with
    | case1 => exact .refl
    | case2 => exact .refl
    | case3 c hc => exact .begin .refl hc
  | finish j o =>
    simp only [step]
    fun_cases finish s j o with
    | case1 => exact .refl
    | case2 => exact .refl
    | case3 => exact .refl
    | case4 e hp c hc r hs => exact .settled .refl hp hc hs
  | replay i prev =>
    simp only [step]
    fun_cases replayStep s i prev with
    | case1 => exact .refl
    | case2 => exact .append i (fun _ => prev) .refl
    | case3 => exact .refl
  | create i o =>
    simp only [step]
    fun_cases createStep s i o with
    | case1 => exact .refl
    | case2 => exact .refl
    | case3 => exact .refl
    | case4 c hc _ uid pe r hs => exact .begin (.pre .refl hc hs) hc
    | case5 c hc _ uid pe r hs => exact .append i (fun c => r.results.drop c.results.length) (.pre .refl hc hs)

theorem run_evolves (s : St) (evs : List Event) : Evolves s (run s evs).1 := by
  induction evs generalizing s with
  | nil => exact .refl
  | cons e es ih => simp only [run]; exact (step_evolves s e).trans (ih _)

/-- any projection of the copies that ignores `results` is constant -/
theorem Evolves.map {α : Type} (g : Copy → α) (hg : ∀ (c : Copy) (rs : List Result), g { c with results := rs } = g c)
    {s s' : St} (h : Evolves s s') : s'.copies.map g = s.copies.map g := by
  induction h with
  | refl => rfl
  | begin _ _ ih => exact (map_updCopy g _ _ _ (fun c => hg c _)).trans ih
  | settled _ _ _ _ ih => exact (map_updCopy g _ _ _ (fun c => hg c _)).trans ih
  | append i f _ ih => exact (map_updCopy g _ _ _ (fun c => hg c _)).trans ih
  | pre _ _ _ ih => exact ih

theorem updCopy_eq_modify (cs : List Copy) (i : Nat) (f : Copy → Copy) : updCopy cs i f = cs.modify i f := by
  induction cs generalizing i with
  | nil => cases i <;> rfl
  | cons c rest ih =>
    cases i with
    | zero => rfl
    | succ i => simp only [updCopy, List.modify_succ_cons, ih]

/-- own result count of copy `j` -/
def lenAt (cs : List Copy) (j : Nat) : Option Nat := cs[j]?.map (fun c => c.results.length)

def LenMono (cs cs' : List Copy) : Prop := ∀ j n, lenAt cs j = some n → ∃ n', lenAt cs' j = some n' ∧ n ≤ n'

theorem LenMono.refl (cs : List Copy) : LenMono cs cs := fun _ n h => ⟨n, h, Nat.le_refl _⟩

theorem LenMono.trans {a b c : List Copy} (h1 : LenMono a b) (h2 : LenMono b c) : LenMono a c := by
  intro j n h
  obtain ⟨n1, h3, h4⟩ := h1 j n h
  obtain ⟨n2, h5, h6⟩ := h2 j n1 h3
  exact ⟨n2, h5, Nat.le_trans h4 h6⟩

theorem LenMono.sharedLen_le {cs cs' : List Copy} (h : LenMono cs cs') : sharedLen cs ≤ sharedLen cs' := by
  induction cs generalizing cs' with
  | nil => exact Nat.zero_le _
  | cons c rest ih =>
    obtain ⟨n', h0, hle⟩ := h 0 _ rfl
    cases cs' with
    | nil => cases h0
    | cons c' rest' =>
      have := ih (cs' := rest') (fun j n hj => h (j + 1) n hj)
      cases h0
      simp only [sharedLen, List.map_cons, List.sum_cons] at *; omega

theorem lenMono_updCopy (cs : List Copy) (i : Nat) (f : Copy → Copy)
    (hf : ∀ c0, cs[i]? = some c0 → c0.results.length ≤ (f c0).results.length) : LenMono cs (updCopy cs i f) := by
  intro j n h
  unfold lenAt at *
  rw [updCopy_eq_modify]
  by_cases hj : i = j
  · subst hj
    rw [List.getElem?_modify_eq]
    cases hc : cs[i]? with
    | none => rw [hc] at h; cases h
    | some c0 =>
      rw [hc] at h; simp only [Option.map_some, Option.some.injEq] at h
      exact ⟨(f c0).results.length, rfl, by have := hf c0 hc; omega⟩
  · rw [List.getElem?_modify_ne _ _ hj]; exact ⟨n, h, Nat.le_refl _⟩

theorem Evolves.lenMono {s s' : St} (h : Evolves s s') : LenMono s.copies s'.copies := by
  induction h with
  | refl => exact LenMono.refl _
  | begin _ _ ih => exact ih.trans (lenMono_updCopy _ _ _ (fun c0 _ => by simp))
  | settled _ _ hc hst ih =>
    refine ih.trans (lenMono_updCopy _ _ _ ?_)
    intro c0 h0
    rw [hc] at h0; cases h0
    simp only [settle_length hst]; exact Nat.le_refl _
  | append i g _ ih => exact ih.trans (lenMono_updCopy _ _ _ (fun c0 _ => by simp))
  | pre _ _ _ ih => exact ih

/-- an evolution that issues no identifier keeps the counting invariant: the results only grow -/
theorem Evolves.countInv_of_issued {s s' : St} (h : Evolves s s') (hi : s'.issued = s.issued) (hs : CountInv s) :
    CountInv s' :=
  hs.mono hi (h.map _ fun _ _ => rfl) h.lenMono.sharedLen_le

theorem Evolves.countInv {s s' : St} (h : Evolves s s') (hs : CountInv s) : CountInv s' := by
  induction h with
  | refl => exact hs
  | begin _ hc ih => exact beginExec_countInv _ _ _ hc ih
  | settled _ hp hc hst ih => exact (Evolves.settled .refl hp hc hst).countInv_of_issued rfl ih
  | append i g _ ih => exact (Evolves.append i g .refl).countInv_of_issued rfl ih
  | pre _ hc hst ih => exact (Evolves.pre .refl hc hst).countInv_of_issued rfl ih

theorem run_countInv (s : St) (evs : List Event) (h : CountInv s) : CountInv (run s evs).1 :=
  (run_evolves s evs).countInv h

theorem statics_run (s : St) (evs : List Event) : statics (run s evs).1.copies = statics s.copies :=
  (run_evolves s evs).map _ (fun _ _ => rfl)

/-- distinct retry counters give distinct (name, uid) pairs within a well-formed class -/
theorem ids_ne_of_k_ne {s : St} (h : CountInv s) (hcl : ClassOK s.copies) {a b : Exec} (ha : a ∈ s.issued)
    (hb : b ∈ s.issued) (hk : a.k ≠ b.k) : ¬ (a.name = b.name ∧ a.uid = b.uid) := by
  intro ⟨hn, hu⟩
  obtain ⟨p, hp, hpu⟩ := h.issuedStatic a ha
  obtain ⟨q, hq, hqu⟩ := h.issuedStatic b hb
  have hpq : p = q := hcl _ hp _ hq hn
  subst hpq
  rw [hpu, hqu] at hu
  exact hk (uidOf_inj p hu)

theorem ids_nodup_of_countInv {s : St} (h : CountInv s) (hc : ClassOK s.copies) :
    (s.issued.map (fun e => (e.name, e.uid))).Nodup := by
  rw [List.Nodup, List.pairwise_map]
  refine List.Pairwise.imp_of_mem ?_ h.kDistinct
  intro a b ha hb hk heq
  exact ids_ne_of_k_ne h hc ha hb hk (Prod.mk.inj heq)

theorem anyOk_spec (name : String) (l : List JobRes) (hv : ∀ t ∈ l, (statusOk t.status).isSome = true) :
    ∃ b, anyOk name l = .ok b ∧
      (b = true ↔ ∃ r ∈ l, r.name = name ∧ statusOk r.status = some true) := by
  induction l with
  | nil => exact ⟨false, rfl, by simp⟩
  | cons t ts ih =>
    obtain ⟨b, hb, hiff⟩ := ih (fun x hx => hv x (List.mem_cons_of_mem _ hx))
    have ht := hv t List.mem_cons_self
    unfold anyOk
    split
    · rename_i hn
      have hn : t.name = name := by simpa using hn
      split
      · rename_i hs; rw [hs] at ht; cases ht
      · rename_i hs; exact ⟨true, rfl, by simpa using Or.inl ⟨hn, hs⟩⟩
      · rename_i hs; exact ⟨b, hb, by simp [hiff, hs]⟩
    · rename_i hn
      have hn : t.name ≠ name := by simpa using hn
      exact ⟨b, hb, by simp [hiff, hn]⟩

theorem allOkLoop_spec (all rest : List JobRes) (hv : ∀ t ∈ all, (statusOk t.status).isSome = true) :
    ∃ b, allOkLoop all rest = .ok b ∧
      (b = true ↔ ∀ t ∈ rest, ∃ r ∈ all, r.name = t.name ∧ statusOk r.status = some true) := by
  induction rest with
  | nil => exact ⟨true, rfl, by simp⟩
  | cons t ts ih =>
    obtain ⟨b, hb, hiff⟩ := ih
    obtain ⟨a, ha, haiff⟩ := anyOk_spec t.name all hv
    unfold allOkLoop
    rw [ha, List.forall_mem_cons, ← haiff, ← hiff]
    cases a with
    | false => exact ⟨false, rfl, by simp⟩
    | true => exact ⟨b, hb, by simp⟩
theorem lookup_fresh_none (job : List JobRes) (name uid : String)
    (hfresh : ∀ x ∈ job, ¬ (x.name = name ∧ x.uid = uid)) : lookupJob job name uid = none := by
  unfold lookupJob
  rw [List.find?_eq_none]
  intro x hx h
  simp only [Bool.and_eq_true, beq_iff_eq] at h
  exact hfresh x hx h

theorem lookup_append_fresh (job : List JobRes) (name uid st : String) (t : Nat)
    (hfresh : ∀ x ∈ job, ¬ (x.name = name ∧ x.uid = uid)) :
    lookupJob (job ++ [{ name := name, uid := uid, status := st, time := t }]) name uid =
      some { name := name, uid := uid, status := st, time := t } := by
  have := lookup_fresh_none job name uid hfresh
  unfold lookupJob at this ⊢
  rw [List.find?_append, this]
  simp

theorem contains_append_false {l1 l2 : List String} {a : String}
    (h1 : l1.contains a = false) (h2 : l2.contains a = false) : (l1 ++ l2).contains a = false := by
  rw [List.contains_append, h1, h2]; rfl

/-! ### creation pre-steps -/

def preStatics (cs : List Copy) : List (String × String) := cs.map (fun c => (c.preName, c.prePfx))

/-- the pre-steps of one copy were started with strictly fewer own results than the copy holds now, and
with pairwise different own result counts -/
structure PreInv (s : St) : Prop where
  bound : ∀ e ∈ s.preIssued, (∃ n, lenAt s.copies e.copy = some n ∧ e.k < n) ∧
            ∃ p, (preStatics s.copies)[e.copy]? = some (e.name, p) ∧ e.uid = uidOf p e.k
  distinct : s.preIssued.Pairwise (fun a b => a.copy = b.copy → a.k ≠ b.k)

theorem PreInv.mono {s s' : St} (h : PreInv s) (hp : s'.preIssued = s.preIssued)
    (hst : preStatics s'.copies = preStatics s.copies) (hl : LenMono s.copies s'.copies) : PreInv s' := by
  refine ⟨?_, by rw [hp]; exact h.distinct⟩
  intro e he; rw [hp] at he
  obtain ⟨⟨n, hn, hk⟩, hs⟩ := h.bound e he
  obtain ⟨n', hn', hle⟩ := hl _ _ hn
  exact ⟨⟨n', hn', by omega⟩, by rw [hst]; exact hs⟩

/-- what a creation attempt does to the ghost list and to the own result count of its copy -/
theorem createStep_spec (s : St) (i : Nat) (o : Outcome) :
    (createStep s i o).1.preIssued = s.preIssued ∨
    ∃ c, s.copies[i]? = some c ∧
      (createStep s i o).1.preIssued =
        { copy := i, k := c.results.length, name := c.preName, uid := uidOf c.prePfx c.results.length } :: s.preIssued ∧
      lenAt (createStep s i o).1.copies i = some (c.results.length + 1) := by
  fun_cases createStep s i o with
  | case1 => exact Or.inl rfl
  | case2 => exact Or.inl rfl
  | case3 => exact Or.inl rfl
  | case4 c hc _ uid pe r hs s1 _ b =>
    refine Or.inr ⟨c, hc, rfl, ?_⟩
    simp only [b, s1, beginExec, lenAt, updCopy_eq_modify, List.getElem?_modify_eq, hc, Option.map_eq_map,
      Option.map_some, List.length_append, List.length_cons, List.length_nil]
  | case5 c hc _ uid pe r hs s1 =>
    refine Or.inr ⟨c, hc, rfl, ?_⟩
    have hlen : r.results.length = c.results.length + 1 := by
      rw [settle_length hs]; simp
    simp only [s1, lenAt, updCopy_eq_modify, List.getElem?_modify_eq, hc, Option.map_eq_map, Option.map_some,
      List.length_append, List.length_drop, hlen]
    congr 1; omega

theorem step_preInv (s : St) (ev : Event) (h : PreInv s) : PreInv (step s ev).1 := by
  have hst : preStatics (step s ev).1.copies = preStatics s.copies := (step_evolves s ev).map _ (fun _ _ => rfl)
  have hl := (step_evolves s ev).lenMono
  cases ev with
  | start i => exact h.mono (by simp only [step]; fun_cases start s i <;> rfl) hst hl
  | finish j o => exact h.mono (by simp only [step]; fun_cases finish s j o <;> rfl) hst hl
  | replay i prev => exact h.mono (by simp only [step]; fun_cases replayStep s i prev <;> rfl) hst hl
  | create i o =>
    simp only [step] at hst hl ⊢
    rcases createStep_spec s i o with hp | ⟨c, hc, hp, hlen⟩
    · exact h.mono hp hst hl
    · have hold := h.mono (s' := { (createStep s i o).1 with preIssued := s.preIssued }) rfl hst hl
      refine ⟨?_, ?_⟩
      · intro e he
        rw [hp] at he
        rcases List.mem_cons.mp he with rfl | he
        · refine ⟨⟨_, hlen, Nat.lt_succ_self _⟩, c.prePfx, ?_, rfl⟩
          rw [hst]; simp only [preStatics, List.getElem?_map, hc, Option.map_some]
        · exact hold.bound e he
      · rw [hp, List.pairwise_cons]
        refine ⟨?_, h.distinct⟩
        intro a ha hcopy
        obtain ⟨⟨n, hn, hk⟩, _⟩ := h.bound a ha
        simp only at hcopy
        rw [← hcopy] at hn
        simp only [lenAt, hc, Option.map_some, Option.some.injEq] at hn
        simp only; omega

theorem run_preInv (s : St) (evs : List Event) (h : PreInv s) : PreInv (run s evs).1 := by
  induction evs generalizing s with
  | nil => exact h
  | cons e es ih => simp only [run]; exact ih _ (step_preInv s e h)

theorem preStatics_run (s : St) (evs : List Event) : preStatics (run s evs).1.copies = preStatics s.copies :=
  (run_evolves s evs).map _ (fun _ _ => rfl)

/-- the pre-nodes of different copies (different workers) have different names -/
def PreNamesInj (cs : List Copy) : Prop :=
  ∀ (i j : Nat) (p q : String × String), (preStatics cs)[i]? = some p → (preStatics cs)[j]? = some q → p.1 = q.1 → i = j

theorem pre_ids_nodup_of_preInv {s : St} (h : PreInv s) (hn : PreNamesInj s.copies) :
    (s.preIssued.map (fun e => (e.name, e.uid))).Nodup := by
  rw [List.Nodup, List.pairwise_map]
  refine List.Pairwise.imp_of_mem ?_ h.distinct
  intro a b ha hb hk heq
  obtain ⟨_, p, hp, hu⟩ := h.bound a ha
  obtain ⟨_, q, hq, hv⟩ := h.bound b hb
  simp only [Prod.mk.injEq] at heq
  have hcopy : a.copy = b.copy := hn _ _ _ _ hp hq heq.1
  rw [hcopy] at hp
  rw [hp] at hq
  simp only [Option.some.injEq, Prod.mk.injEq] at hq
  rw [hu, hv, hq.2] at heq
  exact hk hcopy (uidOf_inj q heq.2)

/-! ### no pending execution has a job record yet -/

def IdIn (job : List JobRes) (n u : String) : Prop := ∃ y ∈ job, y.name = n ∧ y.uid = u

theorem warnFirst_ids (n u : String) (job : List JobRes) (x : JobRes) (hx : x ∈ warnFirst n u job) :
    IdIn job x.name x.uid := by
  induction job with
  | nil => simp [warnFirst] at hx
  | cons y ys ih =>
    unfold warnFirst at hx
    split at hx
    · rcases List.mem_cons.mp hx with rfl | hx
      · exact ⟨y, List.mem_cons_self, rfl, rfl⟩
      · exact ⟨x, List.mem_cons_of_mem _ hx, rfl, rfl⟩
    · rcases List.mem_cons.mp hx with rfl | hx
      · exact ⟨x, List.mem_cons_self, rfl, rfl⟩
      · obtain ⟨z, hz, h1, h2⟩ := ih hx
        exact ⟨z, List.mem_cons_of_mem _ hz, h1, h2⟩

theorem arrive_ids (job : List JobRes) (n u : String) (o : Outcome) (x : JobRes) (hx : x ∈ arrive job n u o) :
    IdIn job x.name x.uid ∨ (x.name = n ∧ x.uid = u) := by
  cases o with
  | never => exact Or.inl ⟨x, hx, rfl, rfl⟩
  | reported st t d =>
    simp only [arrive, List.mem_append, List.mem_singleton] at hx
    rcases hx with hx | rfl
    · exact Or.inl ⟨x, hx, rfl, rfl⟩
    · exact Or.inr ⟨rfl, rfl⟩

theorem record_ids {results : List Result} {job : List JobRes} {n u : String} {y : JobRes} {r : Settled}
    (h : record results job n u y = .ok r) (x : JobRes) (hx : x ∈ r.job) : IdIn job x.name x.uid := by
  unfold record at h
  simp only at h
  split at h
  · cases h
    simp only at hx
    split at hx
    · exact warnFirst_ids _ _ _ _ hx
    · exact ⟨x, hx, rfl, rfl⟩
  · cases h

/-- the job records after the polling part carry identifiers of earlier records or of this very execution -/
theorem settle_ids {results : List Result} {job : List JobRes} {n u : String} {o : Outcome} {r : Settled}
    (h : settle results job n u o = .ok r) (x : JobRes) (hx : x ∈ r.job) :
    IdIn job x.name x.uid ∨ (x.name = n ∧ x.uid = u) := by
  have lift : ∀ {a b : String}, IdIn (arrive job n u o) a b → IdIn job a b ∨ (a = n ∧ b = u) := by
    intro a b ⟨y, hy, h1, h2⟩
    rcases arrive_ids job n u o y hy with ⟨z, hz, h3, h4⟩ | ⟨h3, h4⟩
    · exact Or.inl ⟨z, hz, h3.trans h1, h4.trans h2⟩
    · exact Or.inr ⟨h1 ▸ h3, h2 ▸ h4⟩
  rcases settle_ok h with ⟨_, hj⟩ | ⟨y, r0, _, ⟨hr, hj⟩ | ⟨hr, hj⟩⟩
  · rw [hj] at hx; exact arrive_ids job n u o x hx
  · rw [hj] at hx; exact lift (record_ids hr x hx)
  · rw [hj] at hx
    rcases arrive_ids r0.job n u o x hx with ⟨z, hz, h1, h2⟩ | h'
    · obtain ⟨w, hw, h3, h4⟩ := record_ids hr z hz
      exact Or.inl ⟨w, hw, h3.trans h1, h4.trans h2⟩
    · exact Or.inr h'

def copyNames (cs : List Copy) : List String := cs.map (fun c => c.name)
def preNames (cs : List Copy) : List String := cs.map (fun c => c.preName)
/-- the pre-nodes are named differently from the nodes of the class -/
def PreSep (cs : List Copy) : Prop := ∀ p ∈ preNames cs, p ∉ copyNames cs

theorem Evolves.classOK {s s' : St} (h : Evolves s s') (hcl : ClassOK s.copies) : ClassOK s'.copies := by
  unfold ClassOK statics
  rw [h.map _ (fun _ _ => rfl)]
  exact hcl

theorem Evolves.preSep {s s' : St} (h : Evolves s s') (hsep : PreSep s.copies) : PreSep s'.copies := by
  unfold PreSep preNames copyNames
  rw [h.map _ (fun _ _ => rfl), h.map _ (fun _ _ => rfl)]
  exact hsep

structure ReadInv (s : St) : Prop where
  count : CountInv s
  pendIssued : ∀ e ∈ s.pending, e ∈ s.issued
  pendK : s.pending.Pairwise (fun a b => a.k ≠ b.k)
  jobIds : ∀ x ∈ s.job, (∃ e ∈ s.issued, e.name = x.name ∧ e.uid = x.uid) ∨ x.name ∈ preNames s.copies
  pendFresh : ∀ e ∈ s.pending, ¬ IdIn s.job e.name e.uid

theorem issued_name_mem {s : St} (h : CountInv s) {e : Exec} (he : e ∈ s.issued) : e.name ∈ copyNames s.copies := by
  obtain ⟨p, hp, _⟩ := h.issuedStatic e he
  simp only [statics, List.mem_map] at hp
  obtain ⟨c, hc, heq⟩ := hp
  simp only [Prod.mk.injEq] at heq
  exact List.mem_map.mpr ⟨c, hc, heq.1⟩

theorem beginExec_readInv (s : St) (i : Nat) (c : Copy) (hc : s.copies[i]? = some c)
    (hcl : ClassOK s.copies) (hsep : PreSep s.copies) (h : ReadInv s) : ReadInv (beginExec s i c).1 := by
  have hcount := beginExec_countInv s i c hc h.count
  have hpre : preNames (beginExec s i c).1.copies = preNames s.copies := map_updCopy _ _ _ _ (fun _ => rfl)
  have hnod := ids_nodup_of_countInv hcount ((Evolves.begin .refl hc).classOK hcl)
  refine ⟨hcount, ?_, ?_, ?_, ?_⟩
  · intro e he
    simp only [beginExec, List.mem_append, List.mem_singleton] at he
    simp only [beginExec, List.mem_cons]
    rcases he with he | rfl
    · exact Or.inr (h.pendIssued e he)
    · exact Or.inl rfl
  · simp only [beginExec]
    refine List.pairwise_append.mpr ⟨h.pendK, List.pairwise_singleton _ _, ?_⟩
    intro a ha b hb
    rw [List.mem_singleton] at hb; subst hb
    have := h.count.kLt a (h.pendIssued a ha)
    simp only; omega
  · intro x hx
    rw [hpre]
    rcases h.jobIds x hx with ⟨e, he, h1, h2⟩ | hp
    · exact Or.inl ⟨e, by simp only [beginExec, List.mem_cons]; exact Or.inr he, h1, h2⟩
    · exact Or.inr hp
  · intro e he
    simp only [beginExec, List.mem_append, List.mem_singleton] at he
    rcases he with he | rfl
    · exact h.pendFresh e he
    · rintro ⟨y, hy, h1, h2⟩
      simp only [beginExec] at hy
      rcases h.jobIds y hy with ⟨e0, he0, h3, h4⟩ | hp
      · simp only [beginExec, List.map_cons, List.nodup_cons] at hnod
        apply hnod.1
        exact List.mem_map.mpr ⟨e0, he0, by rw [h3, h4, h1, h2]⟩
      · apply hsep _ hp
        rw [h1]
        exact List.mem_map.mpr ⟨c, List.mem_of_getElem? hc, rfl⟩

theorem pairwise_getElem?_ne {α : Type} {R : α → α → Prop} (hsym : ∀ a b, R a b → R b a) {l : List α}
    (h : l.Pairwise R) {i j : Nat} {a b : α} (hi : l[i]? = some a) (hj : l[j]? = some b) (hne : i ≠ j) : R a b := by
  obtain ⟨hi', rfl⟩ := List.getElem?_eq_some_iff.mp hi
  obtain ⟨hj', rfl⟩ := List.getElem?_eq_some_iff.mp hj
  rw [List.pairwise_iff_getElem] at h
  rcases Nat.lt_or_gt_of_ne hne with hlt | hgt
  · exact h i j hi' hj' hlt
  · exact hsym _ _ (h j i hj' hi' hgt)

theorem ReadInv.mono {s s' : St} (h : ReadInv s) (hc : CountInv s') (hi : s'.issued = s.issued)
    (hp : s'.pending = s.pending) (hj : s'.job = s.job) (hn : preNames s'.copies = preNames s.copies) : ReadInv s' := by
  refine ⟨hc, ?_, ?_, ?_, ?_⟩
  · rw [hp, hi]; exact h.pendIssued
  · rw [hp]; exact h.pendK
  · rw [hj, hi, hn]; exact h.jobIds
  · rw [hp, hj]; exact h.pendFresh

theorem Evolves.readInv {s s' : St} (h : Evolves s s') (hcl : ClassOK s.copies) (hsep : PreSep s.copies)
    (hs : ReadInv s) : ReadInv s' := by
  induction h with
  | refl => exact hs
  | begin h1 hc ih => exact beginExec_readInv _ _ _ hc (h1.classOK hcl) (h1.preSep hsep) ih
  | append i g _ ih =>
    exact ih.mono ((Evolves.append i g .refl).countInv ih.count) rfl rfl rfl (map_updCopy _ _ _ _ (fun _ => rfl))
  | @settled s1 j e c o r hev hp hc hst ih =>
    have he : e ∈ s1.pending := List.mem_of_getElem? hp
    have hpn : preNames (updCopy s1.copies e.copy (fun c => { c with results := r.results })) = preNames s1.copies :=
      map_updCopy _ _ _ _ (fun _ => rfl)
    refine ⟨(Evolves.settled .refl hp hc hst).countInv ih.count, ?_, ?_, ?_, ?_⟩
    · intro e' he'; exact ih.pendIssued e' (List.mem_of_mem_eraseIdx he')
    · exact List.Pairwise.sublist (List.eraseIdx_sublist _ _) ih.pendK
    · intro x hx
      show _ ∨ x.name ∈ preNames (updCopy _ _ _)
      rw [hpn]
      rcases settle_ids hst x hx with ⟨y, hy, h1, h2⟩ | ⟨h1, h2⟩
      · rcases ih.jobIds y hy with ⟨e0, he0, h3, h4⟩ | hp'
        · exact Or.inl ⟨e0, he0, h3.trans h1, h4.trans h2⟩
        · exact Or.inr (h1 ▸ hp')
      · exact Or.inl ⟨e, ih.pendIssued e he, h1.symm, h2.symm⟩
    · intro e' he' ⟨y, hy, h1, h2⟩
      have he'p : e' ∈ s1.pending := List.mem_of_mem_eraseIdx he'
      rcases settle_ids hst y hy with ⟨z, hz, h3, h4⟩ | ⟨h3, h4⟩
      · exact ih.pendFresh e' he'p ⟨z, hz, h3.trans h1, h4.trans h2⟩
      · obtain ⟨i, hij, hi⟩ := List.mem_eraseIdx_iff_getElem?.mp he'
        have hk : e'.k ≠ e.k := pairwise_getElem?_ne (fun _ _ hab => Ne.symm hab) ih.pendK hi hp hij
        exact ids_ne_of_k_ne ih.count (hev.classOK hcl) (ih.pendIssued e' he'p) (ih.pendIssued e he) hk
          ⟨h1.symm.trans h3, h2.symm.trans h4⟩
  | @pre s1 i c o r hev hc hst ih =>
    have hcmem : c ∈ s1.copies := List.mem_of_getElem? hc
    refine ⟨ih.count.mono rfl rfl (Nat.le_refl _), ih.pendIssued, ih.pendK, ?_, ?_⟩
    · intro x hx
      rcases settle_ids hst x hx with ⟨y, hy, h1, h2⟩ | ⟨h1, _⟩
      · rcases ih.jobIds y hy with ⟨e0, he0, h3, h4⟩ | hp'
        · exact Or.inl ⟨e0, he0, h3.trans h1, h4.trans h2⟩
        · exact Or.inr (h1 ▸ hp')
      · exact Or.inr (by rw [h1]; exact List.mem_map.mpr ⟨c, hcmem, rfl⟩)
    · intro e' he' ⟨y, hy, h1, h2⟩
      rcases settle_ids hst y hy with ⟨z, hz, h3, h4⟩ | ⟨h3, _⟩
      · exact ih.pendFresh e' he' ⟨z, hz, h3.trans h1, h4.trans h2⟩
      · apply (hev.preSep hsep) c.preName (List.mem_map.mpr ⟨c, hcmem, rfl⟩)
        rw [← h3, h1]
        exact issued_name_mem ih.count (ih.pendIssued e' he')

theorem run_readInv (s : St) (evs : List Event) (hcl : ClassOK s.copies) (hsep : PreSep s.copies) (h : ReadInv s) :
    ReadInv (run s evs).1 :=
  (run_evolves s evs).readInv hcl hsep h

end I2N.Lemmas.Rules
