import I2N.Lemmas.Trav
/-!
What the two families of invariant files of the traversal model (`TravExcl`, `TravProgress` and `TravResults`,
`TravReady`) both need beyond `Trav.lean`: a node of the visible graph is the node of the full graph with fewer edges
(`vis_node`), and membership in `classNodes` and `copies`.  It is a file of its own so that files of both families can be
imported together (`TravBudget.lean` needs the exclusion vocabulary and the result bookkeeping at once).
-/
namespace I2N.Trav

theorem nd_setNd_cases (s : State) (m : Nat) (f : NodeD → NodeD) (n : Nat) :
    (s.setNd m f).nd n = s.nd n ∨ (n = m ∧ m < s.nodes.length ∧ (s.setNd m f).nd n = f (s.nd n)) := by
  rw [nd_setNd]; split
  · rename_i h; exact Or.inr ⟨h.1, h.2, rfl⟩
  · exact Or.inl rfl

theorem vis_node (g : Graph) (s : State) (n : Nat) :
    ∃ su cl, (vis g s).node n = { g.node n with setup := su, cleanup := cl } ∧
      (∀ p ∈ su, p ∈ (g.node n).setup) ∧ (∀ p ∈ cl, p ∈ (g.node n).cleanup) := by
  unfold vis
  by_cases he : s.hidden.isEmpty = true
  · rw [if_pos he]
    exact ⟨(g.node n).setup, (g.node n).cleanup, rfl, fun _ h => h, fun _ h => h⟩
  · rw [if_neg he]
    unfold Graph.node
    rw [List.getD_eq_getElem?_getD, List.getD_eq_getElem?_getD, List.getElem?_map, List.getElem?_zipIdx]
    cases g.nodes[n]? with
    | none => exact ⟨[], [], rfl, fun _ h => (nomatch h), fun _ h => (nomatch h)⟩
    | some nd =>
      dsimp only [Option.map_some, Option.getD_some]
      by_cases hh : s.hidden.contains (0 + n) = true
      · rw [if_pos hh]
        exact ⟨[], [], rfl, fun _ h => (nomatch h), fun _ h => (nomatch h)⟩
      · rw [if_neg hh]
        exact ⟨_, _, rfl, fun _ h => (List.mem_filter.mp h).1, fun _ h => (List.mem_filter.mp h).1⟩

theorem mem_classNodes (g : Graph) (c n : Nat) : n ∈ g.classNodes c ↔ n < g.nodes.length ∧ (g.node n).cls = c := by
  unfold Graph.classNodes
  simp [List.mem_filter, List.mem_range]

theorem mem_copies (g : Graph) (n i : Nat) (hn : n < g.nodes.length) (hf : (g.node n).flat = false) :
    i ∈ g.copies n ↔ i < g.nodes.length ∧ (g.node i).cls = (g.node n).cls := by
  unfold Graph.copies
  simp only [hf, Bool.false_eq_true, if_false, List.mem_cons, List.mem_filter, mem_classNodes, bne_iff_ne, ne_eq]
  constructor
  · rintro (rfl | h)
    · exact ⟨hn, rfl⟩
    · exact h.1
  · intro h
    by_cases hi : i = n
    · exact Or.inl hi
    · exact Or.inr ⟨h, hi⟩

end I2N.Trav
