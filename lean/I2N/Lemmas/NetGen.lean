import I2N.Lemmas.NetInv
import I2N.Extracted.GenNet
/-! Helper lemmas for the translator tie of C18 (`I2N.Extracted.GenNet`, regenerated from
`avocado_i2n/vmnet/netconfig.py` on every run) with the hand model `I2N.Model.Net`. -/
namespace I2N.Net
open I2N.Extracted.GenNet

theorem alookup_of_mem_nodup {α : Type} (l : List (Nat × α)) (h : (l.map (·.1)).Nodup) (p : Nat × α) (hp : p ∈ l) :
    alookup p.1 l = some p.2 := by
  induction l with
  | nil => cases hp
  | cons q r ih =>
    obtain ⟨k, v⟩ := q
    simp only [List.map_cons, List.nodup_cons, List.mem_map, not_exists, not_and] at h
    simp only [alookup]
    rcases List.mem_cons.mp hp with rfl | hm
    · simp
    · have : k ≠ p.1 := fun e => h.1 p hm e.symm
      simp only [this, if_false]
      exact ih h.2 hm

theorem alookup_isSome_iff_hasKey {α : Type} (k : Nat) (l : List (Nat × α)) : (alookup k l).isSome = hasKey k l := by
  induction l with
  | nil => rfl
  | cons q r ih =>
    obtain ⟨k', v⟩ := q
    by_cases h : k' = k
    · simp [alookup, hasKey, h]
    · have hb : (k' == k) = false := by simp [h]
      simp only [alookup, h, if_false, ih, hasKey, List.any_cons, hb, Bool.false_or]

theorem alookup_aset_self {α : Type} (k : Nat) (v : α) (l : List (Nat × α)) : alookup k (aset k v l) = some v := by
  unfold aset
  induction l with
  | nil => simp [hasKey, alookup]
  | cons q r ih =>
    obtain ⟨k', w⟩ := q
    by_cases h : k' = k
    · simp [hasKey, alookup, h]
    · -- the head has another key: it stays, and whether `k` is present is decided by the tail
      have hb : hasKey k ((k', w) :: r) = hasKey k r := by simp [hasKey, h]
      rw [hb]
      cases hk : hasKey k r
      · rw [hk] at ih
        rw [if_neg Bool.false_ne_true, List.cons_append, alookup, if_neg h]
        exact ih
      · rw [hk, if_pos rfl] at ih
        rw [if_pos rfl, List.map_cons, if_neg h, alookup, if_neg h]
        exact ih

theorem aset_cons_ne {α : Type} (k k' : Nat) (v w : α) (r : List (Nat × α)) (hne : ¬ k' = k) (hk : hasKey k r = true) :
    aset k v ((k', w) :: r) = (k', w) :: aset k v r := by
  have hk2 : hasKey k ((k', w) :: r) = true := by
    simp only [hasKey, List.any_cons] at hk ⊢; simp [hk]
  unfold aset
  rw [if_pos hk2, if_pos hk]
  simp [hne]

theorem find?_congr_mem {α : Type} (l : List α) (p q : α → Bool) (h : ∀ x ∈ l, p x = q x) : l.find? p = l.find? q := by
  induction l with
  | nil => rfl
  | cons a r ih =>
    simp only [List.find?_cons, h a (List.mem_cons_self ..)]
    rw [ih (fun x hx => h x (List.mem_cons_of_mem _ hx))]

/-- the search of the generated loop on a dictionary: the first entry that is free, and the dictionary with
    that key set to `True` -/
theorem allocRange_eq_find (r : List (Nat × Bool)) (h : (r.map (·.1)).Nodup) :
    allocRange r = (r.find? (fun x => x.2 == false)).map (fun x => (x.1, aset x.1 true r)) := by
  induction r with
  | nil => rfl
  | cons q r ih =>
    obtain ⟨o, t⟩ := q
    simp only [List.map_cons, List.nodup_cons, List.mem_map, not_exists, not_and] at h
    have hno : ∀ p ∈ r, ¬ p.1 = o := fun p hp => h.1 p hp
    cases t with
    | false =>
      have hmap : r.map (fun p => if p.1 = o then (o, true) else p) = r := by
        conv => rhs; rw [← List.map_id r]
        apply List.map_congr_left
        intro p hp; simp [hno p hp]
      simp [allocRange, aset, hasKey, hmap]
    | true =>
      simp only [allocRange, if_true, ih h.2, List.find?_cons, Option.map_map]
      have : ((o, true).2 == false) = false := rfl
      simp only [this]
      cases hf : r.find? (fun x => x.2 == false) with
      | none => rfl
      | some x =>
        have hx : x ∈ r := List.mem_of_find?_eq_some hf
        have hxo : ¬ o = x.1 := fun e => hno x hx e.symm
        have hk : hasKey x.1 r = true := (hasKey_iff x.1 r).2 ⟨x.2, hx⟩
        simp only [Option.map_some, Function.comp]
        rw [aset_cons_ne x.1 o true true r hxo hk]

theorem find_rangeKeys (c : Netconfig) (h : (c.range.map (·.1)).Nodup) :
    (rangeKeys c).find? (fun val => genAllocTest c val)
      = (c.range.find? (fun x => x.2 == false)).map (fun x => Int.ofNat x.1) := by
  unfold rangeKeys
  rw [List.find?_map]
  congr 1
  apply find?_congr_mem
  intro x hx
  simp only [Function.comp, genAllocTest, Id.run, rangeFree, pure]
  have : (Int.ofNat x.1).toNat = x.1 := by simp
  rw [this, alookup_of_mem_nodup c.range h x hx]
  cases x.2 <;> rfl

/-- the `w` lowest bits of `n`, least significant first -/
def bitsLE : Nat → Nat → List Bool
  | 0, _ => []
  | w + 1, n => (n % 2 == 1) :: bitsLE w (n / 2)

theorem bitsLE_length (w n : Nat) : (bitsLE w n).length = w := by
  induction w generalizing n with
  | zero => rfl
  | succ w ih => simp [bitsLE, ih]

theorem bitsLE_add (a b : Nat) : ∀ n, bitsLE (a + b) n = bitsLE a n ++ bitsLE b (n / 2 ^ a) := by
  induction a with
  | zero => intro n; simp [bitsLE]
  | succ a ih =>
    intro n
    rw [Nat.succ_add]
    simp only [bitsLE, List.cons_append, ih (n / 2), Nat.div_div_eq_div_mul, ← Nat.pow_succ']

theorem bitsLE_mod (w : Nat) : ∀ n, bitsLE w (n % 2 ^ w) = bitsLE w n := by
  induction w with
  | zero => intro n; rfl
  | succ w ih =>
    intro n
    simp only [bitsLE]
    have h1 : n % 2 ^ (w + 1) % 2 = n % 2 := by
      rw [Nat.pow_succ, Nat.mul_comm]; exact Nat.mod_mul_right_mod n 2 (2 ^ w)
    have h2 : n % 2 ^ (w + 1) / 2 = n / 2 % 2 ^ w := by
      rw [Nat.pow_succ, Nat.mul_comm]; exact Nat.mod_mul_right_div_self n 2 (2 ^ w)
    rw [h1, h2, ih]

/-- stripping the trailing zeros = dropping the leading `false`s of the little-endian expansion -/
theorem dropWhile_bitsLE_length (w : Nat) : ∀ m, ((bitsLE w m).dropWhile (fun b => !b)).length = w - tz w m := by
  induction w with
  | zero => intro m; rfl
  | succ w ih =>
    intro m
    simp only [bitsLE, tz]
    by_cases h : m % 2 = 0
    · simp only [h, if_true]
      have : ((0 : Nat) == 1) = false := rfl
      simp only [this, List.dropWhile_cons, Bool.not_false, if_true, ih, Nat.add_sub_add_right]
    · have h1 : m % 2 = 1 := by omega
      simp [h1, bitsLE_length]

theorem bitsLE_zero (w : Nat) : bitsLE w 0 = List.replicate w false := by
  induction w with
  | zero => rfl
  | succ w ih => simp only [bitsLE, Nat.zero_div, ih, List.replicate_succ]; rfl

/-- the digits of `bin(n)`, padded with zeros at the most significant end, are the `w` lowest bits when `n < 2^w` -/
theorem binDigitsLE_pad (fuel : Nat) : ∀ (w n : Nat), n < 2 ^ fuel → n < 2 ^ w → 1 ≤ w →
    binDigitsLE fuel n ++ List.replicate (w - (binDigitsLE fuel n).length) false = bitsLE w n := by
  induction fuel with
  | zero => intro w n h; simp only [Nat.pow_zero, Nat.lt_one_iff] at h; subst h; intro _ _; simp [binDigitsLE, bitsLE_zero]
  | succ f ih =>
    intro w n hf hw h1
    cases w with
    | zero => cases h1
    | succ w' =>
    rw [binDigitsLE, bitsLE]
    split
    · next h2 =>
      rw [Nat.div_eq_of_lt h2, Nat.mod_eq_of_lt h2, bitsLE_zero]
      rfl
    · next h2 =>
      have hw2 : n / 2 < 2 ^ w' := Nat.div_lt_of_lt_mul (by rwa [Nat.pow_succ, Nat.mul_comm] at hw)
      have hw1 : 1 ≤ w' := Nat.pos_of_ne_zero (by rintro rfl; omega)
      rw [List.cons_append, List.length_cons, Nat.add_sub_add_right,
        ih w' (n / 2) (Nat.div_lt_of_lt_mul (by rwa [Nat.pow_succ, Nat.mul_comm] at hf)) hw2 hw1]

/-- an octet as `bin(octet)[2:].zfill(8)` is its eight bits, most significant first -/
theorem binZfill_octet (n : Nat) (h : n < 256) : binZfill 8 n = (bitsLE 8 n).reverse := by
  have hf : n < 2 ^ (n + 1) := Nat.lt_of_lt_of_le Nat.lt_two_pow_self (Nat.pow_le_pow_right (by omega) (by omega))
  have := binDigitsLE_pad (n + 1) 8 n hf h (by omega)
  rw [← this]
  simp only [binZfill, List.reverse_append, List.reverse_replicate, List.length_reverse]
  rfl

theorem genMaskBit_eq (m : Nat) : genMaskBit m = Int.ofNat (maskBit m) := by
  have h1 : m / 2 ^ 24 % 256 < 256 := Nat.mod_lt _ (by decide)
  have h2 : m / 2 ^ 16 % 256 < 256 := Nat.mod_lt _ (by decide)
  have h3 : m / 2 ^ 8 % 256 < 256 := Nat.mod_lt _ (by decide)
  have h4 : m % 256 < 256 := Nat.mod_lt _ (by decide)
  have e : ∀ k, bitsLE 8 (k % 256) = bitsLE 8 k := fun k => bitsLE_mod 8 k
  have hb : bitsLE 32 m = bitsLE 8 m ++ (bitsLE 8 (m / 2 ^ 8) ++ (bitsLE 8 (m / 2 ^ 16) ++ bitsLE 8 (m / 2 ^ 24))) := by
    rw [show (32 : Nat) = 8 + (8 + (8 + 8)) by rfl, bitsLE_add, bitsLE_add, bitsLE_add]
    simp only [Nat.div_div_eq_div_mul]
  simp only [genMaskBit, Id.run, pure, octets, List.foldl_cons, List.foldl_nil, List.nil_append, rstripZeros,
    binZfill_octet _ h1, binZfill_octet _ h2, binZfill_octet _ h3, binZfill_octet _ h4, e,
    List.reverse_append, List.reverse_reverse, List.length_reverse, ← List.append_assoc]
  simp only [List.append_assoc, ← hb, dropWhile_bitsLE_length, maskBit]

end I2N.Net
