import I2N.Model.Transfer
/-!
Helper lemmas and spec predicates for C14 (core Lean only).
  * file-system primitives (`write`, `copy`, `unlink`, `symlink`)
  * the inductive invariant of the lock protocol
  * the declarative reading of the monitor state (`holdsR`)
-/
namespace I2N.Transfer

@[simp] theorem write_same (fs : FS) (p : Path) (n : Node) : write fs p n p = n := by
  simp [write]

theorem write_other (fs : FS) (p q : Path) (n : Node) (h : q ≠ p) : write fs p n q = fs q := by
  simp [write, h]

theorem resolve_of_not_link {fs : FS} {p : Path} (h : islink fs p = false) : resolve fs p = p := by
  unfold islink at h; unfold resolve; split <;> simp_all

theorem resolve_of_link {fs : FS} {p t : Path} (h : fs p = .link t) : resolve fs p = t := by
  unfold resolve; simp [h]

theorem islink_iff {fs : FS} {p : Path} : islink fs p = true ↔ ∃ t, fs p = .link t := by
  unfold islink; split <;> simp_all

theorem copy_ok {fs fs' : FS} {src dst : Path} (h : copy fs src dst = .ok fs') :
    ∃ d, read fs src = some d ∧ resolve fs src ≠ resolve fs dst ∧ fs' = write fs (resolve fs dst) (.file d) := by
  unfold copy at h
  split at h
  · cases h
  · rename_i d hd
    split at h
    · cases h
    · rename_i hne
      refine ⟨d, hd, hne, ?_⟩
      cases h; rfl

theorem unlink_ok {fs fs' : FS} {p : Path} (h : unlink fs p = .ok fs') :
    fs p ≠ .absent ∧ fs' = write fs p .absent := by
  unfold unlink at h
  split at h
  · cases h
  · rename_i hne
    refine ⟨fun h' => hne h', ?_⟩
    cases h; rfl

theorem symlink_ok {fs fs' : FS} {t p : Path} (h : symlink fs t p = .ok fs') :
    fs p = .absent ∧ fs' = write fs p (.link t) := by
  unfold symlink at h
  split at h
  · rename_i ha
    refine ⟨ha, ?_⟩
    cases h; rfl
  · cases h

/-- reading a path after a file was written where `dst` resolves to -/
theorem read_after_write_dst (fs : FS) (dst : Path) (d : Data) :
    read (write fs (resolve fs dst) (.file d)) dst = some d := by
  by_cases hl : islink fs dst = true
  · obtain ⟨t, ht⟩ := islink_iff.mp hl
    have hr : resolve fs dst = t := resolve_of_link ht
    rw [hr]
    by_cases hdt : dst = t
    · subst hdt
      simp [read, resolve, write]
    · have h1 : write fs t (.file d) dst = .link t := by rw [write_other _ _ _ _ hdt]; exact ht
      simp [read, resolve, h1]
  · have hl' : islink fs dst = false := by simpa using hl
    rw [resolve_of_not_link hl']
    simp [read, resolve, write]

/-- reading a path that neither is nor resolves to the written one is unaffected -/
theorem read_after_write_other (fs : FS) (w q : Path) (n : Node)
    (h1 : q ≠ w) (h2 : resolve fs q ≠ w) : read (write fs w n) q = read fs q := by
  have hq : write fs w n q = fs q := write_other _ _ _ _ h1
  have hr : resolve (write fs w n) q = resolve fs q := by unfold resolve; rw [hq]
  unfold read
  rw [hr, write_other _ _ _ _ h2]

/-- a successful copy leaves a source that the destination does not resolve to as it is, and the destination then reads what
the source reads -/
theorem copy_exact {fs fs' : FS} {src dst : Path} (h : copy fs src dst = .ok fs') (hs : src ≠ resolve fs dst) :
    fs' src = fs src ∧ read fs' src = read fs src ∧ read fs' dst = read fs' src := by
  obtain ⟨d, hd, hne, rfl⟩ := copy_ok h
  have h2 := read_after_write_other fs (resolve fs dst) src (.file d) hs hne
  exact ⟨write_other _ _ _ _ hs, h2, by rw [h2, hd]; exact read_after_write_dst fs dst d⟩
/-! ## Lock protocol: the inductive invariant -/

/-- whoever is inside a critical section owns the lock of its pool path -/
def InvCS (jobs : Nat → Job) (s : State) : Prop :=
  ∀ p i, s.pc p = .inCS i → s.owner (jobs p).pool = some p

/-- a lock cell is only ever owned by a live process that is inside its critical section on that path -/
def InvOwner (jobs : Nat → Job) (s : State) : Prop :=
  ∀ path p, s.owner path = some p → (∃ i, s.pc p = .inCS i) ∧ (jobs p).pool = path

def Inv (jobs : Nat → Job) (s : State) : Prop := InvCS jobs s ∧ InvOwner jobs s

theorem inv_init (jobs : Nat → Job) (fs : FS) : Inv jobs (State.init fs) := by
  constructor
  · intro p i h; simp [State.init] at h
  · intro path p h; simp [State.init] at h

theorem setPc_same (s : State) (p : Nat) (c : PC) : setPc s p c p = c := by simp [setPc]
theorem setPc_other (s : State) (p q : Nat) (c : PC) (h : q ≠ p) : setPc s p c q = s.pc q := by
  simp [setPc, h]
theorem setOwner_same (s : State) (x : Path) (o : Option Nat) : setOwner s x o x = o := by simp [setOwner]
theorem setOwner_other (s : State) (x y : Path) (o : Option Nat) (h : y ≠ x) :
    setOwner s x o y = s.owner y := by simp [setOwner, h]

/-- a move of `p` that keeps it on its side of the critical section leaves the lock cells alone -/
theorem inv_setPc {jobs : Nat → Job} {s : State} (hinv : Inv jobs s) (p : Nat) (c : PC)
    (hside : (∃ i, s.pc p = .inCS i) ↔ ∃ i, c = .inCS i) (fs : FS) (hist : List Event) :
    Inv jobs { s with pc := setPc s p c, fs := fs, hist := hist } := by
  obtain ⟨h1, h2⟩ := hinv
  constructor
  · intro q i hq
    by_cases hqp : q = p
    · subst hqp
      obtain ⟨k, hk⟩ := hside.mpr ⟨i, by simpa [setPc] using hq⟩
      exact h1 q k hk
    · simp [setPc, hqp] at hq; exact h1 q i hq
  · intro path q hq
    obtain ⟨hin, hpath⟩ := h2 path q hq
    refine ⟨?_, hpath⟩
    by_cases hqp : q = p
    · subst hqp; simpa [setPc] using hside.mp hin
    · simpa [setPc, hqp] using hin

/-- `p` enters its critical section taking the cell of its pool path, or leaves it clearing the cell: the
cell's new content names `p` exactly if `p` is inside afterwards; before, it was free or `p`'s -/
theorem inv_setOwner {jobs : Nat → Job} {s : State} (hinv : Inv jobs s) (p : Nat) (c : PC) (o : Option Nat)
    (ho : ∀ q, o = some q ↔ q = p ∧ ∃ i, c = .inCS i)
    (hcell : s.owner (jobs p).pool = none ∨ s.owner (jobs p).pool = some p) (hist : List Event) :
    Inv jobs { s with pc := setPc s p c, owner := setOwner s (jobs p).pool o, hist := hist } := by
  obtain ⟨h1, h2⟩ := hinv
  constructor
  · intro q i hq
    by_cases hqp : q = p
    · subst hqp
      simp only [setPc, if_true] at hq
      simp only [setOwner, if_true]
      exact (ho q).mpr ⟨rfl, i, hq⟩
    · simp [setPc, hqp] at hq
      have hq' := h1 q i hq
      have hne : (jobs q).pool ≠ (jobs p).pool := by
        intro heq
        rw [heq] at hq'
        rcases hcell with h | h <;> rw [h] at hq' <;> cases hq'
        exact hqp rfl
      simp [setOwner, hne]; exact hq'
  · intro path q hq
    by_cases hpath : path = (jobs p).pool
    · subst hpath
      simp only [setOwner, if_true] at hq
      obtain ⟨rfl, i, hc⟩ := (ho q).mp hq
      exact ⟨⟨i, by simp [setPc, hc]⟩, rfl⟩
    · simp [setOwner, hpath] at hq
      obtain ⟨⟨k, hk⟩, hpq⟩ := h2 path q hq
      have hqp : q ≠ p := by
        intro heq; subst heq; exact hpath hpq.symm
      exact ⟨⟨k, by simp [setPc, hqp]; exact hk⟩, hpq⟩

/-! ## Monitor: the declarative reading of "who holds what" -/

/-- how one event changes "does `p` hold `path`" -/
def holdUpd (e : Event) (p : Nat) (path : Path) (b : Bool) : Bool :=
  if e = .acq p path then true
  else if e = .rel p path ∨ e = .crash p then false
  else b

/-- on the REVERSED prefix (newest event first), starting from `b` before the oldest event -/
def holdsRB (b : Bool) : List Event → Nat → Path → Bool
  | [], _, _ => b
  | e :: older, p, path => holdUpd e p path (holdsRB b older p path)

/-- `p` holds the lock of `path` iff the most recent of its acquire / release / death events about
    `path` is an acquire (newest event first) -/
def holdsR (r : List Event) (p : Nat) (path : Path) : Bool := holdsRB false r p path

def heldOf (h : Held) (u : List Event) : Held := u.foldl heldAfter h

theorem monitorFrom_append (h : Held) (u v : List Event) :
    monitorFrom h (u ++ v) = (monitorFrom h u && monitorFrom (heldOf h u) v) := by
  induction u generalizing h with
  | nil => simp [monitorFrom, heldOf]
  | cons e u ih => simp [monitorFrom, heldOf, ih, Bool.and_assoc]

theorem holdsBy_iff (h : Held) (p : Nat) (path : Path) : holdsBy h p path = true ↔ (p, path) ∈ h := by
  simp only [holdsBy, List.any_eq_true, Bool.and_eq_true, beq_iff_eq]
  constructor
  · rintro ⟨⟨a, b⟩, hx, h1, h2⟩
    simp only at h1 h2
    subst h1; subst h2; exact hx
  · intro hx
    exact ⟨(p, path), hx, rfl, rfl⟩

theorem holdUpd_true_iff (e : Event) (p : Nat) (path : Path) (b : Bool) :
    holdUpd e p path b = true ↔ (e = .acq p path ∨ (¬ (e = .rel p path ∨ e = .crash p) ∧ b = true)) := by
  unfold holdUpd
  split
  · simp_all
  · split <;> simp_all

theorem holdsBy_heldAfter (h : Held) (e : Event) (p : Nat) (path : Path) :
    holdsBy (heldAfter h e) p path = holdUpd e p path (holdsBy h p path) := by
  rw [Bool.eq_iff_iff, holdsBy_iff, holdUpd_true_iff, holdsBy_iff]
  cases e with
  | acq q x =>
    simp only [heldAfter, List.mem_cons, Prod.mk.injEq, Event.acq.injEq, reduceCtorEq, false_or, not_false_eq_true,
      true_and, eq_comm]
  | rel q x =>
    simp only [heldAfter, List.mem_filter, Event.rel.injEq, reduceCtorEq, false_or, or_false]
    rw [and_comm, eq_comm (a := q), eq_comm (a := x)]; simp [Decidable.imp_iff_not_or]
  | crash q =>
    simp only [heldAfter, List.mem_filter, Event.crash.injEq, reduceCtorEq, false_or]
    rw [and_comm, eq_comm (a := q)]; simp
  | fsop q x => simp [heldAfter]
  | timeout q => simp [heldAfter]
theorem holdsRB_snoc (b : Bool) (r : List Event) (e : Event) (p : Nat) (path : Path) :
    holdsRB b (r ++ [e]) p path = holdsRB (holdUpd e p path b) r p path := by
  induction r with
  | nil => simp [holdsRB]
  | cons x r ih => simp [holdsRB, ih]

theorem holdsBy_heldOf_gen (u : List Event) (h : Held) (p : Nat) (path : Path) :
    holdsBy (heldOf h u) p path = holdsRB (holdsBy h p path) u.reverse p path := by
  induction u generalizing h with
  | nil => simp [heldOf, holdsRB]
  | cons e u ih =>
    have : heldOf h (e :: u) = heldOf (heldAfter h e) u := by simp [heldOf]
    rw [this, ih, List.reverse_cons, holdsRB_snoc, holdsBy_heldAfter]

theorem holdsBy_heldOf (u : List Event) (p : Nat) (path : Path) :
    holdsBy (heldOf [] u) p path = holdsR u.reverse p path := by
  rw [holdsBy_heldOf_gen]; simp [holdsR, holdsBy]

theorem holdsAny_iff (h : Held) (path : Path) : holdsAny h path = true ↔ ∃ p, holdsBy h p path = true := by
  simp only [holdsAny, holdsBy_iff, List.any_eq_true, beq_iff_eq]
  exact ⟨fun ⟨⟨q, x⟩, hm, hx⟩ => ⟨q, hx ▸ hm⟩, fun ⟨q, hm⟩ => ⟨(q, path), hm, rfl⟩⟩

theorem holdsSome_iff (h : Held) (p : Nat) : holdsSome h p = true ↔ ∃ path, holdsBy h p path = true := by
  simp only [holdsSome, holdsBy_iff, List.any_eq_true, beq_iff_eq]
  exact ⟨fun ⟨⟨q, x⟩, hm, hq⟩ => ⟨x, hq ▸ hm⟩, fun ⟨x, hm⟩ => ⟨(p, x), hm, rfl⟩⟩

/-- if the newest-first history contains an acquisition by `p` that is no longer in force, a release or a
    death of `p` came after it -/
theorem released_after_acq (r1 r2 : List Event) (p : Nat) (path : Path)
    (h : holdsR (r1 ++ .acq p path :: r2) p path = false) : .rel p path ∈ r1 ∨ .crash p ∈ r1 := by
  induction r1 with
  | nil => simp [holdsR, holdsRB, holdUpd] at h
  | cons e r1 ih =>
    simp only [holdsR, List.cons_append, holdsRB, holdUpd] at h
    split at h
    · cases h
    · split at h
      · rename_i _ hor
        rcases hor with h1 | h1
        · left; simp [h1]
        · right; simp [h1]
      · rcases ih h with h1 | h1
        · left; simp [h1]
        · right; simp [h1]

/-- if `p` holds according to the newest-first history, its acquisition is in it with no release or death after -/
theorem acq_of_holdsR (r : List Event) (p : Nat) (path : Path) (h : holdsR r p path = true) :
    ∃ r1 r2, r = r1 ++ .acq p path :: r2 ∧ .rel p path ∉ r1 ∧ .crash p ∉ r1 := by
  induction r with
  | nil => simp [holdsR, holdsRB] at h
  | cons e r ih =>
    simp only [holdsR, holdsRB, holdUpd] at h
    split at h
    · rename_i he
      exact ⟨[], r, by simp [he], by simp, by simp⟩
    · split at h
      · cases h
      · rename_i hne hnor
        obtain ⟨r1, r2, hr, h1, h2⟩ := ih h
        refine ⟨e :: r1, r2, by simp [hr], ?_, ?_⟩
        · intro hm
          rcases List.mem_cons.mp hm with h' | h'
          · exact hnor (Or.inl h'.symm)
          · exact h1 h'
        · intro hm
          rcases List.mem_cons.mp hm with h' | h'
          · exact hnor (Or.inr h'.symm)
          · exact h2 h'

/-! ## The histories of the protocol machine are accepted by the monitor -/

theorem mutexTrace_snoc (u : List Event) (e : Event) :
    mutexTrace (u ++ [e]) = (mutexTrace u && okEvent (heldOf [] u) e) := by
  simp [mutexTrace, monitorFrom_append, monitorFrom]

theorem heldOf_snoc (u : List Event) (e : Event) : heldOf [] (u ++ [e]) = heldAfter (heldOf [] u) e := by
  simp [heldOf]

/-- the monitor accepts the history so far and its `held` set is exactly the lock cells of the state -/
def TraceInv (s : State) : Prop :=
  mutexTrace s.hist.reverse = true ∧
  ∀ p path, holdsBy (heldOf [] s.hist.reverse) p path = true ↔ s.owner path = some p

theorem traceInv_push {s : State} (ht : TraceInv s) (e : Event) (pc' : Nat → PC) (owner' : Path → Option Nat)
    (fs' : FS) (hok : okEvent (heldOf [] s.hist.reverse) e = true)
    (hiff : ∀ p path, holdUpd e p path (holdsBy (heldOf [] s.hist.reverse) p path) = true ↔ owner' path = some p) :
    TraceInv { pc := pc', owner := owner', fs := fs', hist := e :: s.hist } := by
  obtain ⟨h1, _⟩ := ht
  constructor
  · simp only [List.reverse_cons]
    rw [mutexTrace_snoc, h1, hok]; rfl
  · intro p path
    simp only [List.reverse_cons]
    rw [heldOf_snoc, holdsBy_heldAfter]
    exact hiff p path

theorem traceInv_release {jobs : Nat → Job} {s : State} (hinv : Inv jobs s) (ht : TraceInv s) (p i : Nat)
    (hp : s.pc p = .inCS i) (c : PC) (e : Event) (he : e = .rel p (jobs p).pool ∨ e = .crash p) :
    TraceInv (release s p (jobs p).pool c e) := by
  obtain ⟨h1, h2⟩ := hinv
  have hown : s.owner (jobs p).pool = some p := h1 p i hp
  have hheld := (ht.2 p (jobs p).pool).mpr hown
  have hpool : ∀ y, s.owner y = some p → y = (jobs p).pool := fun y hy => (h2 y p hy).2.symm
  unfold release
  apply traceInv_push ht
  · rcases he with he | he <;> subst he <;> simp [okEvent, hheld]
  · intro q x
    rw [holdUpd_true_iff, ht.2 q x]
    by_cases hx : x = (jobs p).pool
    · -- the cleared cell was `p`'s: nobody holds it afterwards
      subst hx
      rcases he with rfl | rfl <;> simp [setOwner, hown, eq_comm]
    · -- another cell is not `p`'s, so neither event is about it
      have hqp : s.owner x = some q → p ≠ q := fun h heq => hx (hpool x (heq ▸ h))
      rcases he with rfl | rfl
      · simp [setOwner, hx, Ne.symm hx]
      · simpa [setOwner, hx] using hqp
/-- an event that is no acquisition, and neither a release by nor the death of a lock owner, leaves the held
set as it is -/
theorem traceInv_push_neutral {s : State} (ht : TraceInv s) (e : Event) (pc' : Nat → PC) (fs' : FS)
    (hok : okEvent (heldOf [] s.hist.reverse) e = true) (hacq : ∀ q x, e ≠ .acq q x)
    (hown : ∀ q x, s.owner x = some q → e ≠ .rel q x ∧ e ≠ .crash q) :
    TraceInv { pc := pc', owner := s.owner, fs := fs', hist := e :: s.hist } := by
  apply traceInv_push ht e pc' s.owner fs' hok
  intro q x
  rw [holdUpd_true_iff, ht.2 q x]
  constructor
  · rintro (h' | ⟨_, h'⟩)
    · exact absurd h' (hacq q x)
    · exact h'
  · intro h'
    exact Or.inr ⟨fun hh => hh.elim (hown q x h').1 (hown q x h').2, h'⟩

theorem traceInv_acquire {jobs : Nat → Job} {s : State} (ht : TraceInv s) (p : Nat)
    (hfree : s.owner (jobs p).pool = none) (pc' : Nat → PC) :
    TraceInv { s with pc := pc', owner := setOwner s (jobs p).pool (some p), hist := .acq p (jobs p).pool :: s.hist } := by
  apply traceInv_push ht
  · simp only [okEvent, Bool.not_eq_true']
    cases hany : holdsAny (heldOf [] s.hist.reverse) (jobs p).pool with
    | false => rfl
    | true =>
      obtain ⟨q, hq⟩ := (holdsAny_iff _ _).mp hany
      rw [ht.2 q _, hfree] at hq; cases hq
  · intro q x
    rw [holdUpd_true_iff, ht.2 q x]
    by_cases hx : x = (jobs p).pool
    · subst hx; simp [setOwner, hfree]
    · simp [setOwner, hx, Ne.symm hx]
/-- What one enabled action of process `p` can do: stay outside its critical section (only its program counter moves;
its timeout or its death is logged), take the free lock of its pool path, make a file-system call inside, or leave
(normally, by exception or by dying) and clear the lock cell. -/
inductive Move (jobs : Nat → Job) (s : State) (p : Nat) : State → Prop
  | outside (c : PC) (ev : List Event) : (∀ i, s.pc p ≠ .inCS i) → (∀ i, c ≠ .inCS i) →
      ev = [] ∨ ev = [.timeout p] ∨ ev = [.crash p] →
      Move jobs s p { s with pc := setPc s p c, hist := ev ++ s.hist }
  | acquire : (∀ i, s.pc p ≠ .inCS i) → s.owner (jobs p).pool = none →
      Move jobs s p { s with pc := setPc s p (.inCS 0), owner := setOwner s (jobs p).pool (some p),
                             hist := .acq p (jobs p).pool :: s.hist }
  | inside (i j : Nat) (fs' : FS) : s.pc p = .inCS i →
      Move jobs s p { s with pc := setPc s p (.inCS j), fs := fs', hist := .fsop p (jobs p).pool :: s.hist }
  | leave (i : Nat) (c : PC) (e : Event) : s.pc p = .inCS i → (∀ k, c ≠ .inCS k) →
      e = .rel p (jobs p).pool ∨ e = .crash p → Move jobs s p (release s p (jobs p).pool c e)

theorem stepAct_move {limit : Nat} {jobs : Nat → Job} {s s' : State} {p : Nat} {a : Act}
    (h : stepAct limit jobs s p a = some s') : Move jobs s p s' := by
  revert h
  fun_cases stepAct limit jobs s p a <;> intro h <;> cases h
  case case1 hpc _ => exact .outside _ [] (by simp [hpc]) nofun (.inl rfl)
  case case2 hpc _ => exact .outside _ [] (by simp [hpc]) nofun (.inl rfl)
  case case3 hpc _ hfree => exact .acquire (by simp [hpc]) hfree
  case case4 hpc _ _ _ => exact .outside _ [] (by simp [hpc]) nofun (.inl rfl)
  case case5 hpc _ => exact .outside _ [_] (by simp [hpc]) nofun (.inr (.inl rfl))
  case case6 i hpc _ fs' j _ => exact .inside i j fs' hpc
  case case7 i hpc _ e _ => exact .leave i _ _ hpc nofun (.inl rfl)
  case case9 i hpc _ => exact .leave i _ _ hpc nofun (.inl rfl)
  case case11 i hpc => exact .leave i _ _ hpc nofun (.inl rfl)
  case case12 i hpc => exact .leave i _ _ hpc nofun (.inr rfl)
  case case13 hpc => exact .outside _ [_] (by simp [hpc]) nofun (.inr (.inr rfl))
  case case14 hpc => exact .outside _ [_] (by simp [hpc]) nofun (.inr (.inr rfl))

theorem Move.inv {jobs : Nat → Job} {s s' : State} {p : Nat} (hinv : Inv jobs s) (h : Move jobs s p s') :
    Inv jobs s' := by
  cases h with
  | outside c ev hs hc _ => exact inv_setPc hinv p c ⟨fun ⟨i, h⟩ => (hs i h).elim, fun ⟨i, h⟩ => (hc i h).elim⟩ s.fs _
  | acquire _ hfree => exact inv_setOwner hinv p _ _ (by simp [eq_comm]) (.inl hfree) _
  | inside i j fs' hpc => exact inv_setPc hinv p _ (by simp [hpc]) _ _
  | leave i c e hpc hc _ =>
    exact inv_setOwner hinv p c none (fun q => ⟨nofun, fun ⟨_, k, hk⟩ => (hc k hk).elim⟩) (.inr (hinv.1 p i hpc)) _

theorem Move.traceInv {jobs : Nat → Job} {s s' : State} {p : Nat} (hinv : Inv jobs s) (ht : TraceInv s)
    (h : Move jobs s p s') : TraceInv s' := by
  cases h with
  | outside c ev hs _ hev =>
    -- a process outside its critical section holds no lock, so its timeout and its death are neutral events
    have out : ∀ x, s.owner x ≠ some p := fun x hx => (hinv.2 x p hx).1.elim fun i hi => hs i hi
    rcases hev with rfl | rfl | rfl
    · exact ht
    · refine traceInv_push_neutral ht _ _ s.fs ?_ (fun q x => nofun) (fun q x _ => ⟨nofun, nofun⟩)
      simp only [okEvent, Bool.not_eq_true']
      cases hany : holdsSome (heldOf [] s.hist.reverse) p with
      | false => rfl
      | true =>
        obtain ⟨x, hx⟩ := (holdsSome_iff _ _).mp hany
        exact absurd ((ht.2 p x).mp hx) (out x)
    · refine traceInv_push_neutral ht _ _ s.fs rfl (fun q x => nofun) (fun q x hq => ⟨nofun, ?_⟩)
      intro hh
      injection hh with e
      exact out x (e ▸ hq)
  | acquire _ hfree => exact traceInv_acquire ht p hfree _
  | inside i j fs' hpc =>
    exact traceInv_push_neutral ht _ _ fs' ((ht.2 p _).mpr (hinv.1 p i hpc)) (fun q x => nofun)
      (fun q x _ => ⟨nofun, nofun⟩)
  | leave i c e hpc _ he => exact traceInv_release hinv ht p i hpc c e he

theorem invs_reachable {limit : Nat} {jobs : Nat → Job} {fs0 : FS} {s : State}
    (h : Reachable limit jobs fs0 s) : Inv jobs s ∧ TraceInv s := by
  induction h with
  | init =>
    refine ⟨inv_init jobs fs0, ?_, ?_⟩
    · simp [State.init, mutexTrace, monitorFrom]
    · intro p path; simp [State.init, heldOf, holdsBy]
  | step p a _ hstep ih => exact ⟨(stepAct_move hstep).inv ih.1, (stepAct_move hstep).traceInv ih.1 ih.2⟩

theorem inv_reachable {limit : Nat} {jobs : Nat → Job} {fs0 : FS} {s : State}
    (h : Reachable limit jobs fs0 s) : Inv jobs s := (invs_reachable h).1

theorem traceInv_reachable {limit : Nat} {jobs : Nat → Job} {fs0 : FS} {s : State}
    (h : Reachable limit jobs fs0 s) : TraceInv s := (invs_reachable h).2

end I2N.Transfer
