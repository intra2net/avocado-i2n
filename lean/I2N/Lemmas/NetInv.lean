import I2N.Lemmas.NetAlloc
/-! Helper lemmas for C18: the registry invariant of `VMNetwork`. -/
namespace I2N.Net

theorem hasKey_iff {α : Type} (k : Nat) (l : List (Nat × α)) : hasKey k l = true ↔ ∃ v, (k, v) ∈ l := by
  simp only [hasKey, List.any_eq_true, beq_iff_eq]
  constructor
  · rintro ⟨⟨k', v⟩, hm, rfl⟩; exact ⟨v, hm⟩
  · rintro ⟨v, hm⟩; exact ⟨(k, v), hm, rfl⟩

theorem hasKey_false_iff {α : Type} (k : Nat) (l : List (Nat × α)) : hasKey k l = false ↔ ∀ v, (k, v) ∉ l := by
  rw [← Bool.not_eq_true, hasKey_iff]; simp

theorem hasKey_false_keys {α : Type} (k : Nat) (l : List (Nat × α)) (h : hasKey k l = false) : k ∉ l.map (·.1) := by
  rw [hasKey_false_iff] at h
  simp only [List.mem_map, not_exists, not_and]
  rintro ⟨k', v⟩ hm rfl
  exact h v hm

theorem mem_aset {α : Type} (k : Nat) (v : α) (l : List (Nat × α)) (p : Nat × α) :
    p ∈ aset k v l ↔ p = (k, v) ∨ (p.1 ≠ k ∧ p ∈ l) := by
  unfold aset
  split
  · rename_i h
    obtain ⟨w, hw⟩ := (hasKey_iff k l).1 h
    simp only [List.mem_map]
    constructor
    · rintro ⟨q, hq, rfl⟩
      by_cases hk : q.1 = k
      · simp [hk]
      · simp [hk, hq]
    · rintro (rfl | ⟨hne, hm⟩)
      · exact ⟨(k, w), hw, by simp⟩
      · exact ⟨p, hm, by simp [hne]⟩
  · rename_i h
    have h' := (hasKey_false_iff k l).1 (by simpa using h)
    simp only [List.mem_append, List.mem_singleton]
    constructor
    · rintro (hm | rfl)
      · right; refine ⟨?_, hm⟩; rintro rfl; exact h' p.2 hm
      · left; rfl
    · rintro (rfl | ⟨_, hm⟩)
      · right; rfl
      · left; exact hm

theorem aset_keys_nodup {α : Type} (k : Nat) (v : α) (l : List (Nat × α)) (h : (l.map (·.1)).Nodup) :
    ((aset k v l).map (·.1)).Nodup := by
  unfold aset
  split
  · have : (l.map (fun p => if p.1 = k then (k, v) else p)).map (·.1) = l.map (·.1) := by
      rw [List.map_map]; apply List.map_congr_left; intro p _; simp only [Function.comp]; split <;> simp_all
    rw [this]; exact h
  · rename_i hk
    rw [List.map_append, List.map_singleton]
    have hk' := hasKey_false_keys k l (by simpa using hk)
    rw [List.nodup_append]
    refine ⟨h, by simp, ?_⟩
    intro a ha b hb
    simp only [List.mem_singleton] at hb
    subst hb; rintro rfl; exact hk' ha

theorem aset_of_not_hasKey {α : Type} (k : Nat) (v : α) (l : List (Nat × α)) (h : hasKey k l = false) :
    aset k v l = l ++ [(k, v)] := by
  unfold aset; simp [h]

theorem mem_adel {α : Type} (k : Nat) (l : List (Nat × α)) (p : Nat × α) :
    p ∈ adel k l ↔ p.1 ≠ k ∧ p ∈ l := by
  unfold adel; simp only [List.mem_filter, bne_iff_ne]; exact And.comm

theorem adel_keys_nodup {α : Type} (k : Nat) (l : List (Nat × α)) (h : (l.map (·.1)).Nodup) :
    ((adel k l).map (·.1)).Nodup := by
  unfold adel
  exact h.sublist ((List.filter_sublist).map _)

/-- netconfig object `n` is a value of `self.netconfigs` -/
def Registered (s : Net) (n : Nat) : Prop := ∃ k, (k, n) ∈ s.reg

/-- consistency of the registries; `x` is an interface that is currently detached
    (`x ≥ s.nIf` for "none"). -/
structure PInvEx (s : Net) (x : Nat) : Prop where
  regKey : ∀ k n, (k, n) ∈ s.reg → n < s.nNc ∧ (s.nc n).netIp = k
  regNodup : (s.reg.map (·.1)).Nodup
  ifsNodup : ∀ n, ((s.nc n).ifs.map (·.1)).Nodup
  member : ∀ n, Registered s n → ∀ k i, (k, i) ∈ (s.nc n).ifs →
    i < s.nIf ∧ i ≠ x ∧ (s.iface i).nc = some n ∧ (s.iface i).ip = k
  placed : ∀ i n, i < s.nIf → i ≠ x → (s.iface i).nc = some n →
    Registered s n ∧ ((s.iface i).ip, i) ∈ (s.nc n).ifs ∧ inNet (s.nc n) (s.iface i).ip = true
  distinct : ∀ i j, i < s.nIf → j < s.nIf → (s.iface i).ip = (s.iface j).ip → i = j

/-- consistency of the registries for the interfaces that are attached (`nc ≠ none`) -/
def PInv (s : Net) : Prop := PInvEx s s.nIf

theorem Net.setNc_nc (s : Net) (n : Nat) (f : Netconfig → Netconfig) (m : Nat) :
    (s.setNc n f).nc m = if m = n then f (s.nc m) else s.nc m := rfl

theorem Net.setIface_iface (s : Net) (i : Nat) (f : Iface → Iface) (j : Nat) :
    (s.setIface i f).iface j = if j = i then f (s.iface j) else s.iface j := rfl

/-- an update of the interface list of one netconfig leaves the other fields of every netconfig as they are -/
theorem Net.setNc_ifs (s : Net) (n : Nat) (g : Netconfig → List (Nat × Nat)) (m : Nat) :
    (s.setNc n (fun k => { k with ifs := g k })).nc m =
      { s.nc m with ifs := if m = n then g (s.nc m) else (s.nc m).ifs } := by
  rw [Net.setNc_nc]; split <;> rfl

theorem inNet_congr (c c' : Netconfig) (x : Nat) (h1 : c'.netIp = c.netIp) (h2 : c'.netmask = c.netmask) :
    inNet c' x = inNet c x := by
  simp [inNet, Netconfig.bits, h1, h2]

/-- `t` is `s` up to what the registry invariant does not read: the range maps and hosts of the netconfigs -/
structure Same (s t : Net) : Prop where
  nIf : t.nIf = s.nIf
  nNc : t.nNc = s.nNc
  reg : t.reg = s.reg
  iface : t.iface = s.iface
  nc : ∀ m, (t.nc m).netIp = (s.nc m).netIp ∧ (t.nc m).netmask = (s.nc m).netmask ∧ (t.nc m).ifs = (s.nc m).ifs

theorem PInvEx.congr {s t : Net} {x : Nat} (h : PInvEx s x) (e : Same s t) : PInvEx t x := by
  refine ⟨?_, e.reg ▸ h.regNodup, fun n => (e.nc n).2.2 ▸ h.ifsNodup n, ?_, ?_, ?_⟩
  · intro k n hm
    rw [e.nNc, (e.nc n).1]
    exact h.regKey k n (e.reg ▸ hm)
  · rintro n ⟨kr, hr⟩ k i hi
    rw [e.nIf, e.iface]
    exact h.member n ⟨kr, e.reg ▸ hr⟩ k i ((e.nc n).2.2 ▸ hi)
  · intro i n hi hx hn
    rw [e.nIf] at hi
    rw [e.iface] at hn ⊢
    obtain ⟨⟨kr, hr⟩, h2, h3⟩ := h.placed i n hi hx hn
    rw [(e.nc n).2.2, inNet_congr _ _ _ (e.nc n).1 (e.nc n).2.1]
    exact ⟨⟨kr, e.reg.symm ▸ hr⟩, h2, h3⟩
  · rw [e.nIf, e.iface]
    exact h.distinct

theorem Same.setIface {s t : Net} (e : Same s t) (i : Nat) (f : Iface → Iface) :
    Same (s.setIface i f) (t.setIface i f) :=
  ⟨e.nIf, e.nNc, e.reg, by unfold Net.setIface; rw [e.iface], e.nc⟩

/-- taking an address changes a range map only -/
theorem allocate_same {s : Net} {n a : Nat} {k : Netconfig} (h : allocate (s.nc n) = .ok (a, k)) :
    Same s (s.setNc n fun _ => k) := by
  obtain ⟨_, _, _, _, _, h1, h2, h3, _, _⟩ := allocate_inv _ _ _ h
  refine ⟨rfl, rfl, rfl, rfl, fun m => ?_⟩
  rw [Net.setNc_nc]
  split
  · next hm => subst hm; exact ⟨h1, h2, h3⟩
  · exact ⟨rfl, rfl, rfl⟩

/-- the state `add_interface` validates and returns -/
def attachState (s : Net) (n i : Nat) : Net :=
  (s.setNc n (fun c => { c with ifs := aset (s.iface i).ip i c.ifs })).setIface i (fun f => { f with nc := some n })

theorem addInterface_ok (s s' : Net) (n i : Nat) (h : addInterface s n i = .ok s') :
    s' = attachState s n i ∧ validate (attachState s n i) n = .ok () := by
  revert h
  fun_cases addInterface s n i with
  | case1 => nofun
  | case2 ip s1 hv => intro h; exact ⟨(Except.ok.inj h).symm, hv⟩

theorem validateIfs_ok (s : Net) (n : Nat) (c : Netconfig) (l : List (Nat × Nat))
    (h : validateIfs s n c l = .ok ()) : ∀ k i, (k, i) ∈ l → inNet c (s.iface i).ip = true := by
  revert h
  fun_induction validateIfs s n c l with
  | case1 => intro _ k i hm; cases hm
  | case6 k0 i0 r _ j _ _ hin ih =>
    intro h k i hm
    rcases List.mem_cons.1 hm with heq | hm
    · cases heq; simpa using hin
    · exact ih h k i hm
  | _ => nofun

theorem validate_ok (s : Net) (n : Nat) (h : validate s n = .ok ()) :
    ∀ k i, (k, i) ∈ (s.nc n).ifs → inNet (s.nc n) (s.iface i).ip = true := by
  revert h
  fun_cases validate s n with
  | case5 => exact validateIfs_ok s n _ _
  | _ => nofun

end I2N.Net
