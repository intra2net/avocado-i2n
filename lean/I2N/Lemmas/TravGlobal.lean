import I2N.Lemmas.TravTerm
import I2N.Lemmas.TravPatient
/-!
Termination ACROSS suspensions for a single worker (property C02), and the tools shared with the many-worker and
object-root versions (`TravGlobalN.lean`, `TravGlobalR.lean`).

`Lemmas/TravTerm.lean` bounds the number of loop iterations of ONE block (`runLoop`, between two suspension points)
by `bound g`.  This file bounds the number of blocks — `resume` steps — of a whole run of a graph with one worker.

1. While every other worker is neither inside a test nor dead (`Quiet`; with one worker there is no other), nobody
   else can hold a `started` mark (`PInvO.markPc`: the holder of a mark is inside a test or dead, and it is not the
   stepping worker), so `is_occupied` is false in every iteration and the back-off branch of `iter` is dead (`iter_out`):
   a block ends inside a test, at the exit, or with an exception — never in `bounce`, and with `fuel ≥ bound g` never in
   `loop` (`resume_alone`).
2. Hence every `resume` step of the worker that does not end the traversal either is a tick of the result wait
   (`wait + 1 ≤ 10`), or settles an execution and starts the next test, which appends a result (the UNKNOWN placeholder)
   to a node (`resume_shape`).  The counter `23·(number of results) + pcTerm` strictly grows with every such step
   (`resume_cnt`), and a run of a worker is over once such a counter has no room left (`resumes_run`, `resumes_end`).
3. The number of results is bounded by the retry budgets of C03 (`GlobalN.total_le_resultBoundN`; no bump happens as nobody
   bounces).
-/
namespace I2N.Trav.Global
open I2N.Trav

theorem resumeTest_cases (g : Graph) (s : State) (w n : Nat) (phase : Phase) (dir : Dir) (uid : String) (tag wait : Nat)
    (out : Outcome) (fuel : Nat) :
    (∃ st0 dur, resumeTest g s w n phase dir uid tag wait out fuel = resumeTest.continueAfter g w n phase dir fuel
      (recordResult (reportOutcome g s w n phase uid wait out).1 w n phase
        (if phase == .pre then (s.wd w).preName else (g.node n).name) uid tag st0 dur).1
      (recordResult (reportOutcome g s w n phase uid wait out).1 w n phase
        (if phase == .pre then (s.wd w).preName else (g.node n).name) uid tag st0 dur).2
      (reportOutcome g s w n phase uid wait out).2) ∨
    (wait + 1 ≤ 10 ∧ resumeTest g s w n phase dir uid tag wait out fuel =
      ((reportOutcome g s w n phase uid wait out).1.setWd w (fun d => { d with pc := .test n phase dir uid tag (wait + 1) }),
        (reportOutcome g s w n phase uid wait out).2 ++ [Event.sleep (g.worker w).id 3000])) ∨
    resumeTest g s w n phase dir uid tag wait out fuel =
      resumeTest.continueAfter g w n phase dir fuel (reportOutcome g s w n phase uid wait out).1 false
        (reportOutcome g s w n phase uid wait out).2 := by
  rw [resumeTest_eq]
  split
  · next st0 dur _ => exact Or.inl ⟨st0, dur, rfl⟩
  · by_cases h9 : wait + 1 < 10
    · rw [if_pos h9]; exact Or.inr (Or.inl ⟨Nat.le_of_lt h9, rfl⟩)
    · rw [if_neg h9]
      by_cases h10 : (wait + 1 == 10) = true
      · rw [if_pos h10]; exact Or.inr (Or.inl ⟨Nat.le_of_eq (by simpa using h10), rfl⟩)
      · rw [if_neg h10]; exact Or.inr (Or.inr rfl)

def isSuspend : Flow → Bool
  | .suspend => true
  | _ => false

theorem afterTraverse_not_suspend (g : Graph) (s : State) (w next prev : Nat) (dir : Dir) :
    isSuspend (afterTraverse g s w next prev dir).2.2 = false := by
  fun_cases afterTraverse g s w next prev dir <;> rfl

theorem traverseNode_suspend (g : Graph) (s : State) (w next prev : Nat) (dir : Dir)
    (hs : isSuspend (traverseNode g s w next prev dir).2.2 = true) :
    ∃ s1 ph, (traverseNode g s w next prev dir).1 = (startTest g s1 next w ph dir).1 ∧ s1.workers.length = s.workers.length := by
  have hlen : ∀ run s1 evs, runDecision g (pullLocations g (s.setNd next (fun d => { d with started := some w })) next) next w =
      .ok (run, s1, evs) → s1.workers.length = s.workers.length := by
    intro run s1 evs hd
    rw [(silent_runDecision g w _ next w run s1 evs hd).workersLen,
      (silent_pullLocations g w (s.setNd next (fun d => { d with started := some w })) next).workersLen]
    rfl
  revert hs
  fun_cases traverseNode g s w next prev dir with
  | case1 => intro hs; rw [afterTraverse_not_suspend] at hs; cases hs
  | case2 => intro hs; cases hs
  | case3 _ _ _ s1 evs _ s1' s2 evs2 f hst hd =>
    exact fun _ => ⟨s1', .pre, by rw [hst], by simp [s1', State.setWd, hlen true s1 evs hd]⟩
  | case4 _ _ _ s1 evs _ s2 evs2 f hst hd => exact fun _ => ⟨s1, .plain, by rw [hst], hlen true s1 evs hd⟩
  | case5 _ _ _ run s1 evs hd _ s2 evs2 f hat =>
    intro hs
    have := afterTraverse_not_suspend g (finishTraverse s1 next w) w next prev dir
    rw [hat] at this
    rw [this] at hs; cases hs

structure IterOK (w : Nat) (s : State) (r : Step) : Prop where
  calm : Calm w s r.1
  susp : isSuspend r.2.2 = true → (r.1.wd w).pc.isTest = true
  exit : r.2.2.isExit = true → (r.1.wd w).pc = .done

theorem IterOK.quiet {w : Nat} {s s' : State} (hc : Calm w s s') (e : List Event) (f : Flow)
    (h1 : isSuspend f = false) (h2 : f.isExit = false) : IterOK w s (s', e, f) :=
  ⟨hc, fun hs => (by rw [h1] at hs; cases hs), fun he => (by rw [h2] at he; cases he)⟩

theorem iter_out (gv : Graph) (s : State) (w : Nat) (hw : w < s.workers.length) :
    IterOK w s (iter gv s w) ∨
      ((∃ n, isOccupied gv s n w = true) ∧ ((iter gv s w).1.wd w).pc = .bounce ∧ (iter gv s w).2.2 = .suspend) := by
  have htrav : ∀ next prev dir, IterOK w s (traverseNode gv s w next prev dir) := by
    intro next prev dir
    refine ⟨calm_traverseNode w gv s w _ prev dir, fun hs => ?_, fun he => ?_⟩
    · obtain ⟨s1, ph, h1, h2⟩ := traverseNode_suspend gv s w _ prev dir hs
      rw [h1, startTest_pc gv s1 _ w ph dir (by rw [h2]; exact hw)]; rfl
    · rw [traverseNode_not_exit] at he; cases he
  fun_cases iter gv s w with
  | case1 =>
    refine Or.inl ⟨calm_setWd w s w _ (fun _ => rfl) (fun _ => rfl), fun hs => (by cases hs), fun _ => ?_⟩
    show ((s.setWd w _).wd w).pc = .done
    rw [wd_setWd_eq s w _ hw]
  | case2 | case3 | case4 | case8 | case10 | case13 => exact Or.inl (IterOK.quiet (Calm.refl w s) _ _ rfl rfl)
  | case5 _ _ next _ _ c s2 hp => exact Or.inl (IterOK.quiet (calm_pickChild w gv s next w c s2 hp) _ _ rfl rfl)
  | case6 _ _ _ next _ _ hocc _ _ _ _ _ s1 =>
    refine Or.inr ⟨⟨next, hocc⟩, ?_, rfl⟩
    dsimp only
    rw [wd_setWd_eq s1 w _ ?_]
    dsimp only [s1]
    split
    · rw [workers_length_setWd]
      split
      · exact hw
      · exact hw
    · rw [workers_length_setWd]; exact hw
  | case7 => exact Or.inl (htrav _ _ .up)
  | case9 _ _ next _ _ _ _ _ _ c s2 hp | case11 _ _ next _ _ _ _ _ _ _ c s2 hp =>
    exact Or.inl (IterOK.quiet (calm_pickParent w gv s next w c s2 hp) _ _ rfl rfl)
  | case12 => exact Or.inl (htrav _ _ .down)

theorem iter_noMarks (gv : Graph) (s : State) (w : Nat) (hw : w < s.workers.length)
    (hm : ∀ i, (s.nd i).started = none) : IterOK w s (iter gv s w) :=
  (iter_out gv s w hw).resolve_right (fun ⟨⟨n, h⟩, _⟩ => by rw [Term.isOccupied_noMarks gv s n w hm] at h; cases h)

theorem iterL_noMarks (g : Graph) (s : State) (w : Nat) (hw : w < s.workers.length)
    (hm : ∀ i, (s.nd i).started = none) : IterOK w s (iterL g s w) := by
  unfold iterL
  split
  · exact iter_noMarks (vis g s) s w hw hm
  · dsimp only
    obtain ⟨h1, h2, _, _⟩ := prepare_frame g s w
    have h0 := calm_prepare w g s w
    have := iter_noMarks (vis g (prepare g s w)) (prepare g s w) w (by rw [h2]; exact hw)
      (fun i => by rw [nd_of_nodes_eq h1]; exact hm i)
    exact ⟨h0.trans this.calm, this.susp, this.exit⟩

/-- the program counters a block can end with when nobody bounces and the fuel suffices -/
def pcFinal : Pc → Bool
  | .test .. => true
  | .done => true
  | .failed => true
  | _ => false

theorem pcFinal_of_isTest {pc : Pc} (h : pc.isTest = true) : pcFinal pc = true := by
  cases pc <;> first | rfl | cases h

theorem bound_pos (g : Graph) : 0 < Term.bound g := by unfold Term.bound; exact Nat.succ_pos _

theorem ne_bounce_of_final {pc : Pc} (h : pcFinal pc = true) : pc ≠ .bounce := by
  intro e; rw [e] at h; cases h

end I2N.Trav.Global

namespace I2N.Trav.GlobalN
open I2N.Trav I2N.Trav.Global

/-! ## a worker that runs while the others are quiet

One walk through `resume` yields both that such a worker never backs off (for any positive fuel: `resume_quiet`) and
that with `fuel ≥ bound g` its block ends inside a test, at the exit or dead (the only worker: `Global.ginv_step`). -/

def Quiet (w : Nat) (s : State) : Prop := ∀ v, v ≠ w → (s.wd v).pc.node? = none ∧ (s.wd v).pc ≠ .failed

theorem Quiet.of_eq {w : Nat} {s s' : State} (h : Quiet w s) (e : ∀ v, v ≠ w → (s'.wd v).pc = (s.wd v).pc) : Quiet w s' :=
  fun v hv => by rw [e v hv]; exact h v hv

theorem noMarks_of_quiet {g : Graph} {s : State} {w : Nat} (ho : PInvO g s w) (hq : Quiet w s) :
    ∀ i, (s.nd i).started = none := by
  intro i
  cases h : (s.nd i).started with
  | none => rfl
  | some v =>
    exfalso
    obtain ⟨hv, hpc⟩ := ho.markPc i v h
    obtain ⟨h1, h2⟩ := hq v hv
    rcases hpc with h' | h'
    · rw [h1] at h'; cases h'
    · exact h2 h'

theorem traverseNode_contPc (gv : Graph) (hsym : EdgeSym gv) (s : State) (w next prev : Nat) (dir : Dir)
    (hw : w < s.workers.length) (hlast : (s.wd w).path.getLast? = some next) (hlen : 2 ≤ (s.wd w).path.length)
    (hc : (traverseNode gv s w next prev dir).2.2 = .cont) :
    ((traverseNode gv s w next prev dir).1.wd w).pc = (s.wd w).pc := by
  revert hc
  fun_cases traverseNode gv s w next prev dir with
  | case1 => exact fun _ => (afterTraverse_ok gv hsym s w next prev dir hw hlast hlen).2.1
  | case2 => intro hc; cases hc
  | case3 _ _ _ _ _ _ s1' s2 evs2 f hst | case4 _ _ _ s1' _ _ s2 evs2 f hst =>
    intro hc
    have hf := congrArg (fun r : Step => r.2.2) hst
    simp only [startTest_flow] at hf
    rw [← hf] at hc; cases hc
  | case5 _ s0 sp run s1 evs hd _ s2 evs2 f hat =>
    intro _
    have qF : Qt w none s (finishTraverse s1 next w) := enter_finish_qt w s s1 next
      ((qt_pullLocations w none gv s0 next).trans (qt_runDecision w none gv sp next w run s1 evs hd))
    have b := (afterTraverse_ok gv hsym (finishTraverse s1 next w) w next prev dir (by rw [qF.workers]; exact hw)
      (by rw [qF.wd w]; exact hlast) (by rw [qF.wd w]; exact hlen)).2.1
    rw [hat, qF.wd w] at b
    exact b

theorem iter_contPc (gv : Graph) (hsym : EdgeSym gv) (s : State) (w : Nat) (hc : (iter gv s w).2.2 = .cont) :
    ((iter gv s w).1.wd w).pc = (s.wd w).pc := by
  have real : ∀ next, (s.wd w).path.getLast? = some next → w < s.workers.length := by
    intro next hl
    exact lt_of_path_ne_nil s w (by intro h; rw [h] at hl; cases hl)
  have push : ∀ next (s1 : State) (c : Nat), (s.wd w).path.getLast? = some next → Qt w none s s1 →
      ((pushPath s1 w c).wd w).pc = (s.wd w).pc := by
    intro next s1 c hl q1
    unfold pushPath
    rw [q1.eff.wd_setWd (real next hl), q1.wd w]
  have trav : ∀ next prev dir, (s.wd w).path.getLast? = some next → ¬ ((s.wd w).path.length == 1) = true →
      (traverseNode gv s w next prev dir).2.2 = .cont → ((traverseNode gv s w next prev dir).1.wd w).pc = (s.wd w).pc := by
    intro next prev dir hl hlen1 hc
    have h0 : 0 < (s.wd w).path.length := List.length_pos_iff.mpr (by intro h; rw [h] at hl; cases hl)
    have h1 : (s.wd w).path.length ≠ 1 := by simpa using hlen1
    exact traverseNode_contPc gv hsym s w next prev dir (real next hl) hl (Nat.lt_of_le_of_ne h0 (fun e => h1 e.symm)) hc
  revert hc
  fun_cases iter gv s w with
  | case1 | case2 | case3 | case4 | case6 | case8 | case10 | case13 => intro hc; cases hc
  | case5 _ _ next hl _ c s1 hp => exact fun _ => push next s1 c hl (pickChild_qt w none gv s next w c s1 hp)
  | case7 _ _ next hl hlen1 prev => exact trav next prev .up hl hlen1
  | case9 _ _ next hl _ _ _ _ _ c s1 hp | case11 _ _ next hl _ _ _ _ _ _ c s1 hp =>
    exact fun _ => push next s1 c hl (pickParent_qt w none gv s next w c s1 hp)
  | case12 _ _ next hl hlen1 prev => exact trav next prev .down hl hlen1

theorem iterL_contPc (g : Graph) (hsym : EdgeSym g) (s : State) (w : Nat) (hc : (iterL g s w).2.2 = .cont) :
    ((iterL g s w).1.wd w).pc = (s.wd w).pc := by
  unfold iterL at hc ⊢
  split at hc
  · rename_i h1
    simp only [h1, if_true]
    exact iter_contPc (vis g s) (edgeSym_vis g s hsym) s w hc
  · rename_i h1
    simp only [h1, Bool.false_eq_true, if_false]
    dsimp only at hc ⊢
    rw [iter_contPc (vis g (prepare g s w)) (edgeSym_vis g _ hsym) (prepare g s w) w hc]
    exact ((prepare_frame g s w).2.2.1 w).2

theorem iterL_others_pc (g : Graph) (hsym : EdgeSym g) (s : State) (w v : Nat) (hv : v ≠ w) :
    ((iterL g s w).1.wd v).pc = (s.wd v).pc := by
  obtain ⟨s1, hs1, _, hok⟩ := iterL_ok g hsym s w
  have h1 : (s1.wd v).pc = (s.wd v).pc := by
    rcases hs1 with h | h
    · rw [h]
    · rw [h]; exact ((prepare_frame g s w).2.2.1 v).2
  rcases hok with ⟨he, _⟩ | ⟨_, _, _, he, _⟩
  · rw [he.others v hv, h1]
  · rw [he.others v hv, h1]

theorem runLoop_quiet (g : Graph) (hsym : EdgeSym g) (w fuel : Nat) (s : State) (evs : List Event) (ho : PInvO g s w)
    (hp : PathOK (Adj (vis g s)) (fun x => relevant g w x = true) g.root (s.wd w).path)
    (hw : w < s.workers.length) (hq : Quiet w s) (hpc : fuel = 0 → (s.wd w).pc ≠ .bounce) :
    ((runLoop g w fuel s evs).1.wd w).pc ≠ .bounce ∧ Calm w s (runLoop g w fuel s evs).1 ∧
      ((Term.runLoopO g w fuel s evs).isSome → pcFinal ((runLoop g w fuel s evs).1.wd w).pc = true) := by
  induction fuel generalizing s evs with
  | zero => exact ⟨hpc rfl, Calm.refl w s, fun h => by simp [Term.runLoopO] at h⟩
  | succ fuel ih =>
    unfold runLoop Term.runLoopO
    dsimp only
    generalize hs0 : s.setWd w (fun d => { d with pc := .loop }) = s0
    have e0 : Eff w none s s0 := by rw [← hs0]; exact eff_setWd w none s _
    have c0 : Calm w s s0 := by rw [← hs0]; exact calm_setWd w s w _ (fun _ => rfl) (fun _ => rfl)
    have hwd : s0.wd w = { s.wd w with pc := .loop } := by rw [← hs0]; exact wd_setWd_eq s w _ hw
    have hnd : ∀ i, s0.nd i = s.nd i := fun i => by rw [← hs0]; rfl
    have ho0 : PInvO g s0 w :=
      ho.transfer e0.workersLen (fun x hx => by rw [← e0.hidden]; exact hx)
        (fun v hv => by rw [e0.others v hv]; exact ⟨rfl, rfl⟩) (fun i => Or.inl (by rw [hnd]))
    have hp0 : PathOK (Adj (vis g s0)) (fun x => relevant g w x = true) g.root (s0.wd w).path := by
      rw [hwd]
      exact hp.mono (fun a b => adj_vis_mono g s _ (fun x hx => by rw [← e0.hidden]; exact hx) a b)
    have hw0 : w < s0.workers.length := by rw [e0.workersLen]; exact hw
    have hq0 : Quiet w s0 := hq.of_eq (fun v hv => by rw [e0.others v hv])
    obtain ⟨hl, hcont, _, _⟩ := iterL_inv g hsym s0 w ho0 hp0 (by rw [hwd]; rfl)
    have hit := iterL_noMarks g s0 w hw0 (noMarks_of_quiet ho0 hq0)
    have hoth := iterL_others_pc g hsym s0 w
    have hcp := iterL_contPc g hsym s0 w
    rcases heq : iterL g s0 w with ⟨s1, e, fl⟩
    rw [heq] at hcont hl hit hoth hcp
    cases fl with
    | cont =>
      obtain ⟨a, b, _⟩ := hcont rfl
      have hpc1 : (s1.wd w).pc ≠ .bounce := by
        have := hcp rfl
        dsimp only at this
        rw [this, hwd]; simp
      obtain ⟨q1, q2, q3⟩ := ih s1 _ a b (by rw [hl]; exact hw0) (hq0.of_eq (fun v hv => hoth v hv)) (fun _ => hpc1)
      exact ⟨q1, (c0.trans hit.calm).trans q2, q3⟩
    | suspend =>
      have hfin := pcFinal_of_isTest (hit.susp rfl)
      exact ⟨ne_bounce_of_final hfin, c0.trans hit.calm, fun _ => hfin⟩
    | exit =>
      have hfin : pcFinal (s1.wd w).pc = true := by rw [show (s1.wd w).pc = .done from hit.exit rfl]; rfl
      exact ⟨ne_bounce_of_final hfin, c0.trans hit.calm, fun _ => hfin⟩
    | raise what =>
      have hfin : pcFinal ((s1.setWd w (fun d => { d with pc := .failed })).wd w).pc = true := by
        rw [wd_setWd_eq s1 w _ (by rw [hl]; exact hw0)]; rfl
      exact ⟨ne_bounce_of_final hfin, (c0.trans hit.calm).trans (calm_setWd w s1 w _ (fun _ => rfl) (fun _ => rfl)), fun _ => hfin⟩

theorem runLoop_quiet_final (g : Graph) (hsym : EdgeSym g) (w : Nat) (s : State) (evs : List Event) (ho : PInvO g s w)
    (hp : PathOK (Adj (vis g s)) (fun x => relevant g w x = true) g.root (s.wd w).path)
    (hw : w < s.workers.length) (hq : Quiet w s) (d : Nat → Nat) (hr : Term.Ranked g d) (hg : Term.Good g d w s)
    (fuel : Nat) (hf : Term.bound g ≤ fuel) : pcFinal ((runLoop g w fuel s evs).1.wd w).pc = true := by
  obtain ⟨r, h2, h3⟩ := Term.runLoop_terminates g d hr hsym w s evs hg fuel hf
  obtain ⟨r', h2', h3'⟩ := Term.runLoop_terminates g d hr hsym w s evs hg (Term.bound g) (Nat.le_refl _)
  rw [h2] at h2'
  cases h2'
  have := (runLoop_quiet g hsym w (Term.bound g) s evs ho hp hw hq (fun h0 => absurd h0 (Nat.ne_of_gt (bound_pos g)))).2.2
    (by rw [h2]; rfl)
  rw [h3]
  rw [h3'] at this
  exact this

/-- the hypotheses of the termination argument of `Lemmas/TravTerm.lean` at a worker inside a test of node `n` -/
structure TermAt (g : Graph) (d : Nat → Nat) (w n : Nat) (dir : Dir) (fuel : Nat) (s : State) : Prop where
  ranked : Term.Ranked g d
  fuel : Term.bound g ≤ fuel
  walk : Term.Walk g d (s.wd w).path
  dir : dir = .down → Term.isUp g ((s.wd w).path.getD ((s.wd w).path.length - 2) 0) n = false
  nodesLen : s.nodes.length = g.nodes.length
  cls : Term.ClsOK g s
  explored : Term.Explored g s

theorem continueAfter_quiet (g : Graph) (hsym : EdgeSym g) (w n : Nat) (phase : Phase) (dir : Dir) (fuel : Nat)
    (hf : 0 < fuel) (s : State) (ok : Bool) (evs : List Event) (h : PInv g s) (hpcw : (s.wd w).pc.node? = some n)
    (hq : Quiet w s) :
    ((resumeTest.continueAfter g w n phase dir fuel s ok evs).1.wd w).pc ≠ .bounce ∧
      Calm w s (resumeTest.continueAfter g w n phase dir fuel s ok evs).1 ∧
      (∀ d, TermAt g d w n dir fuel s →
        pcFinal ((resumeTest.continueAfter g w n phase dir fuel s ok evs).1.wd w).pc = true) := by
  obtain ⟨hid, hlast, hlen⟩ := h.testOwn w n hpcw
  have hw : w < s.workers.length := lt_of_path_ne_nil s w (by intro h0; rw [h0] at hlen; simp at hlen)
  have fin : ∀ {s' : State}, Calm w s s' → pcFinal (s'.wd w).pc = true →
      (s'.wd w).pc ≠ .bounce ∧ Calm w s s' ∧ (∀ d, TermAt g d w n dir fuel s → pcFinal (s'.wd w).pc = true) :=
    fun c h => ⟨ne_bounce_of_final h, c, fun _ _ => h⟩
  unfold resumeTest.continueAfter
  dsimp only
  by_cases hpre : (phase == Phase.pre && ok) = true
  · rw [if_pos hpre]
    refine fin (calm_startTest w g s n w .main dir) ?_
    show pcFinal ((startTest g s n w .main dir).1.wd w).pc = true
    rw [startTest_pc g s n w .main dir hw]; rfl
  · rw [if_neg hpre]
    generalize hprev : (s.wd w).path.getD ((s.wd w).path.length - 2) 0 = prev
    generalize hs2 : (if (phase == Phase.pre) = true then
        s.setNd n (fun d => { d with results := d.results ++ (s.wd w).preResults.drop d.results.length }) else s) = s2
    have k2 : Qt w none s s2 ∧ Term.LW w Term.DT s s2 ∧ Calm w s s2 := by
      rw [← hs2]
      split
      · exact ⟨qt_setNd w none s n _ (fun d => Or.inl rfl), (Term.fr_setNd s n _).lw w, calm_setNd w s n _ (fun _ => rfl)⟩
      · exact ⟨Qt.refl _ _ _, Term.LW.refl w s, Calm.refl w s⟩
    obtain ⟨hoF, hpF, hlF, hnF, hwF, _⟩ := h.finish hpcw k2.1
    have qF := k2.1.trans (qt_finishTraverse w none s2 n w)
    have lF := k2.2.1.trans ((Term.fr_finishTraverse s2 n w).lw w)
    have cF := k2.2.2.trans (calm_finishTraverse w s2 n w)
    generalize finishTraverse s2 n w = sF at hoF hpF hlF hnF hwF qF lF cF
    have hqF : Quiet w sF := hq.of_eq (fun v _ => by rw [qF.wd v])
    obtain ⟨a, b, c, _⟩ := afterTraverse_ok (vis g sF) (edgeSym_vis g sF hsym) sF w n prev dir hwF hlF hnF
    -- the loop that follows terminates within the fuel
    have good : ∀ d, TermAt g d w n dir fuel s → Term.Good g d w (afterTraverse (vis g sF) sF w n prev dir).1 := by
      intro d t
      obtain ⟨k1, k2, _⟩ := Term.afterTraverse_any g d t.ranked hsym sF sF w n prev dir hwF hlF
        (by rw [lF.own]; exact hprev.symm) (by rw [lF.own]; exact t.walk) (hprev ▸ t.dir) (D := Term.DT) (fun _ _ => trivial)
      exact Term.good_of_loc (lF.toLoc.trans k1) t.nodesLen t.cls t.explored k2
    have cA := cF.trans (calm_afterTraverse w (vis g sF) sF w n prev dir)
    generalize afterTraverse (vis g sF) sF w n prev dir = r at a b c cA good
    have hhid : ∀ x, x ∈ r.1.hidden → x ∈ sF.hidden := by intro x hx; rw [← a.hidden]; exact hx
    have ho' : PInvO g r.1 w := hoF.transfer a.workersLen hhid (fun v hv => by rw [a.others v hv]; exact ⟨rfl, rfl⟩)
      (fun i => by
        rcases a.marks i with h' | h' | h'
        · exact Or.inl h'
        · exact Or.inr h'
        · exact absurd h'.1 (by simp))
    have hp' := pathOK_eff g sF r.1 w _ _ hhid hpF c
    have hw' : w < r.1.workers.length := by rw [a.workersLen]; exact hwF
    have hq' : Quiet w r.1 := hqF.of_eq (fun v hv => by rw [a.others v hv])
    obtain ⟨s1, e2, fl⟩ := r
    have loopCase : ∀ evs', ((runLoop g w fuel s1 evs').1.wd w).pc ≠ .bounce ∧ Calm w s (runLoop g w fuel s1 evs').1 ∧
        (∀ d, TermAt g d w n dir fuel s → pcFinal ((runLoop g w fuel s1 evs').1.wd w).pc = true) := by
      intro evs'
      obtain ⟨x1, x2, _⟩ := runLoop_quiet g hsym w fuel s1 evs' ho' hp' hw' hq' (fun h0 => absurd h0 (Nat.ne_of_gt hf))
      exact ⟨x1, cA.trans x2, fun d t => runLoop_quiet_final g hsym w s1 evs' ho' hp' hw' hq' d t.ranked (good d t) fuel t.fuel⟩
    cases fl with
    | raise what =>
      dsimp only
      refine fin (cA.trans (calm_setWd w s1 w _ (fun _ => rfl) (fun _ => rfl))) ?_
      rw [wd_setWd_eq s1 w _ hw']; rfl
    | cont => exact loopCase _
    | suspend => exact loopCase _
    | exit => exact loopCase _

theorem resumeTest_quiet (g : Graph) (hsym : EdgeSym g) (s : State) (w n : Nat) (phase : Phase) (dir : Dir) (uid : String)
    (tag wait : Nat) (out : Outcome) (fuel : Nat) (hf : 0 < fuel) (h : PInv g s) (hpcw : (s.wd w).pc.node? = some n)
    (hq : Quiet w s) :
    ((resumeTest g s w n phase dir uid tag wait out fuel).1.wd w).pc ≠ .bounce ∧
      Calm w s (resumeTest g s w n phase dir uid tag wait out fuel).1 ∧
      (∀ d, TermAt g d w n dir fuel s →
        pcFinal ((resumeTest g s w n phase dir uid tag wait out fuel).1.wd w).pc = true) := by
  obtain ⟨r1, r2, r3⟩ := reportOutcome_frame g s w n phase uid wait out
  have bA : BookOnly s (reportOutcome g s w n phase uid wait out).1 :=
    ⟨by rw [r2], r3, fun v => by unfold State.wd; rw [r2]; exact ⟨rfl, rfl⟩, fun i => by unfold State.nd; rw [r1]⟩
  have hA := h.bookOnly bA
  have lA := Term.reportOutcome_lw (D := Term.DT) g s w n phase uid wait out
  have cA : Calm w s (reportOutcome g s w n phase uid wait out).1 := Calm.quiet r1 r2
  have hpcA : ((reportOutcome g s w n phase uid wait out).1.wd w).pc.node? = some n := by rw [(bA.wd w).2]; exact hpcw
  have hqA : Quiet w (reportOutcome g s w n phase uid wait out).1 := hq.of_eq (fun v _ => (bA.wd v).2)
  generalize hsa : (reportOutcome g s w n phase uid wait out).1 = sa at hA hpcA bA lA cA hqA
  have tA : ∀ d, TermAt g d w n dir fuel s → TermAt g d w n dir fuel sa := fun d t =>
    have gA := Term.good_of_loc lA.toLoc t.nodesLen t.cls t.explored (by rw [lA.own]; exact t.walk)
    ⟨t.ranked, t.fuel, gA.walk, by rw [lA.own]; exact t.dir, gA.nodesLen, gA.cls, gA.explored⟩
  have hwA : w < sa.workers.length := by
    obtain ⟨_, _, hlen⟩ := hA.testOwn w n hpcA
    exact lt_of_path_ne_nil sa w (by intro h0; rw [h0] at hlen; simp at hlen)
  rcases resumeTest_cases g s w n phase dir uid tag wait out fuel with ⟨st0, dur, e⟩ | ⟨_, e⟩ | e <;> rw [e, hsa]
  · generalize (if (phase == Phase.pre) = true then (s.wd w).preName else (g.node n).name) = name
    have bB := recordResult_frame sa w n phase name uid tag st0 dur
    obtain ⟨b1, b2, _⟩ := Term.recordResult_loc (D := Term.DT) sa w n phase name uid tag st0 dur
    have cB := calm_recordResult w sa w n phase name uid tag st0 dur
    obtain ⟨x1, x2, x3⟩ := continueAfter_quiet g hsym w n phase dir fuel hf _
      (recordResult sa w n phase name uid tag st0 dur).2 (reportOutcome g s w n phase uid wait out).2
      (hA.bookOnly bB) (by rw [(bB.wd w).2]; exact hpcA) (hqA.of_eq (fun v _ => (bB.wd v).2))
    refine ⟨x1, (cA.trans cB).trans x2, fun d t => x3 d ?_⟩
    have tA' := tA d t
    have gB := Term.good_of_loc (g := g) (d := d) b1 tA'.nodesLen tA'.cls tA'.explored (by rw [b2]; exact tA'.walk)
    exact ⟨t.ranked, t.fuel, gB.walk, by rw [b2]; exact tA'.dir, gB.nodesLen, gB.cls, gB.explored⟩
  · have e := wd_setWd_eq sa w (fun d => { d with pc := .test n phase dir uid tag (wait + 1) }) hwA
    exact ⟨by rw [e]; simp, cA.trans (calm_setWd w sa w _ (fun _ => rfl) (fun _ => rfl)), fun _ _ => by rw [e]; rfl⟩
  · obtain ⟨x1, x2, x3⟩ := continueAfter_quiet g hsym w n phase dir fuel hf sa false
      (reportOutcome g s w n phase uid wait out).2 hA hpcA hqA
    exact ⟨x1, cA.trans x2, fun d t => x3 d (tA d t)⟩

/-- **A worker that runs while the others are quiet**: in a state satisfying the progress invariant `PInv`, if every worker
but `w` is neither inside a test nor dead, a step of `w` with positive fuel does not end in the back-off sleep, bumps
nothing and leaves `w`'s back-off record as it is; from a state satisfying the termination invariant `TInv` with nothing
unexplored and with `fuel ≥ bound g`, it ends inside a test, at the exit or dead — never in `loop` — unless it was over
before. -/
theorem resume_alone (g : Graph) (hsym : EdgeSym g) (s : State) (w : Nat) (out : Outcome) (fuel : Nat) (hf : 0 < fuel)
    (hw : w < g.workers.length) (h : PInv g s) (hq : Quiet w s) :
    ((resume g s w out fuel).1.wd w).pc ≠ .bounce ∧ Calm w s (resume g s w out fuel).1 ∧
      (∀ d, Term.Ranked g d → Term.bound g ≤ fuel → Term.TInv g d s → Term.Explored g s →
        pcFinal ((resume g s w out fuel).1.wd w).pc = true) := by
  have hws : w < s.workers.length := by rw [h.wlen]; exact hw
  have loopCase : (s.wd w).pc.node? = none → (s.wd w).pc ≠ .failed → (s.wd w).pc ≠ .done →
      ((runLoop g w fuel s []).1.wd w).pc ≠ .bounce ∧ Calm w s (runLoop g w fuel s []).1 ∧
      (∀ d, Term.Ranked g d → Term.bound g ≤ fuel → Term.TInv g d s → Term.Explored g s →
        pcFinal ((runLoop g w fuel s []).1.wd w).pc = true) := by
    intro h2 h3 h4
    have hp : PathOK (Adj (vis g s)) (fun x => relevant g w x = true) g.root (s.wd w).path := by
      rcases h.path w hws with h' | h'
      · exact absurd h'.2 h4
      · exact h'
    obtain ⟨x1, x2, _⟩ := runLoop_quiet g hsym w fuel s [] (h.toO h2 h3) hp hws hq (fun h0 => absurd h0 (Nat.ne_of_gt hf))
    exact ⟨x1, x2, fun d hr hfb ht he => runLoop_quiet_final g hsym w s [] (h.toO h2 h3) hp hws hq d hr
      ⟨ht.nodesLen, ht.cls, he, ht.walk w⟩ fuel hfb⟩
  unfold resume
  cases hpc : (s.wd w).pc with
  | loop | bounce => exact loopCase (by rw [hpc]; rfl) (by rw [hpc]; simp) (by rw [hpc]; simp)
  | test n phase dir uid tag wait =>
    obtain ⟨x1, x2, x3⟩ := resumeTest_quiet g hsym s w n phase dir uid tag wait out fuel hf h (by rw [hpc]; rfl) hq
    refine ⟨x1, x2, fun d hr hfb ht he => x3 d ⟨hr, hfb, ht.walk w, fun hdn => ?_, ht.nodesLen, ht.cls, he⟩⟩
    obtain ⟨_, hlast, _⟩ := h.testOwn w n (by rw [hpc]; rfl)
    exact (ht.dir w).1 n phase uid tag wait (by rw [hpc, hdn]) n hlast
  | done | failed => exact ⟨by rw [hpc]; simp, Calm.refl w s, fun _ _ _ _ _ => by rw [hpc]; rfl⟩

/-- **A step that ends in the back-off sleep needs a runner** (contrapositive form) -/
theorem resume_quiet (g : Graph) (hsym : EdgeSym g) (s : State) (w : Nat) (out : Outcome) (fuel : Nat) (hf : 0 < fuel)
    (hw : w < g.workers.length) (h : PInv g s) (hq : Quiet w s) :
    ((resume g s w out fuel).1.wd w).pc ≠ .bounce ∧ Calm w s (resume g s w out fuel).1 :=
  have x := resume_alone g hsym s w out fuel hf hw h hq
  ⟨x.1, x.2.1⟩

end I2N.Trav.GlobalN

namespace I2N.Trav.Global
open I2N.Trav

theorem startFrom_pc {g : Graph} {w : Nat} {s1 s' : State} (h : StartFrom g w s1 s') (hw : w < s1.workers.length) :
    ∃ n ph dir uid tag, (s'.wd w).pc = .test n ph dir uid tag 0 := by
  cases h with
  | plain n dir s0 evs gv hgv hn hroot hdec e =>
    rw [e, startTest_pc g s1 n w .plain dir hw]; exact ⟨_, _, _, _, _, rfl⟩
  | pre n dir hn hroot e =>
    rw [e, startTest_pc g _ n w .pre dir (by simp [State.setWd]; exact hw)]; exact ⟨_, _, _, _, _, rfl⟩

theorem appendPre_workers (s : State) (n w : Nat) (ph : Phase) :
    (if ph = .pre then appendPre s n w else s).workers.length = s.workers.length := by
  split <;> rfl

theorem contEff_pc {g : Graph} {w n : Nat} {ph : Phase} {dir : Dir} {sc s' : State} {ok : Bool}
    (h : ContEff g w n ph dir sc ok s') (hw : w < sc.workers.length) :
    (s'.wd w).pc.isTest = false ∨ ∃ n' ph' dir' uid' tag', (s'.wd w).pc = .test n' ph' dir' uid' tag' 0 := by
  rcases h with ⟨_, _, e⟩ | ⟨_, ⟨_, hp⟩ | ⟨s1, a, hs⟩⟩
  · right; rw [e, startTest_pc g sc n w .main dir hw]; exact ⟨_, _, _, _, _, rfl⟩
  · exact Or.inl hp
  · right; exact startFrom_pc hs (by rw [a.workersLen, appendPre_workers]; exact hw)

theorem wait_of_pc {pc : Pc} (h : pc.isTest = false ∨ ∃ n' ph' dir' uid' tag', pc = .test n' ph' dir' uid' tag' 0)
    {n : Nat} {ph : Phase} {dir : Dir} {uid : String} {tag wait : Nat} (e : pc = .test n ph dir uid tag wait) : wait ≤ 10 := by
  subst e
  rcases h with h | ⟨_, _, _, _, _, h⟩
  · cases h
  · cases h; exact Nat.zero_le _

theorem resume_wait (g : Graph) (hwf : GraphWF g) (s : State) (w : Nat) (out : Outcome) (fuel : Nat) (hf : 0 < fuel)
    (hw : w < s.workers.length) (hpath : ∀ x ∈ (s.wd w).path, x < g.nodes.length)
    (h : ∀ n ph dir uid tag wait, (s.wd w).pc = .test n ph dir uid tag wait → wait ≤ 10) :
    ∀ n ph dir uid tag wait, ((resume g s w out fuel).1.wd w).pc = .test n ph dir uid tag wait → wait ≤ 10 := by
  have loopCase : ∀ n ph dir uid tag wait, ((runLoop g w fuel s []).1.wd w).pc = .test n ph dir uid tag wait → wait ≤ 10 := by
    intro n ph dir uid tag wait e
    rcases runLoop_eff_pos g hwf w fuel hf s [] hw hpath with ⟨_, hp⟩ | ⟨s1, a, hs⟩
    · exact wait_of_pc (Or.inl hp) e
    · exact wait_of_pc (Or.inr (startFrom_pc hs (by rw [a.workersLen]; exact hw))) e
  unfold resume
  split
  · exact loopCase
  · exact loopCase
  · next n0 ph0 dir0 uid0 tag0 wait0 heq =>
    obtain ⟨r1, r2, _⟩ := reportOutcome_frame g s w n0 ph0 uid0 wait0 out
    have hwA : w < (reportOutcome g s w n0 ph0 uid0 wait0 out).1.workers.length := by rw [r2]; exact hw
    have hpA : ∀ x ∈ ((reportOutcome g s w n0 ph0 uid0 wait0 out).1.wd w).path, x < g.nodes.length := by
      unfold State.wd; rw [r2]; exact hpath
    rcases resumeTest_cases g s w n0 ph0 dir0 uid0 tag0 wait0 out fuel with ⟨st0, dur, e⟩ | ⟨hk, e⟩ | e <;> rw [e]
    · have bB := recordResult_frame (reportOutcome g s w n0 ph0 uid0 wait0 out).1 w n0 ph0
        (if (ph0 == Phase.pre) = true then (s.wd w).preName else (g.node n0).name) uid0 tag0 st0 dur
      intro n ph dir uid tag wait e
      exact wait_of_pc (contEff_pc (continueAfter_eff g hwf w n0 ph0 dir0 fuel hf _ _ _ (by rw [bB.workersLen]; exact hwA)
        (by rw [(bB.wd w).1]; exact hpA)) (by rw [bB.workersLen]; exact hwA)) e
    · intro n ph dir uid tag wait e
      rw [wd_setWd_eq _ w _ hwA] at e
      cases e; exact hk
    · intro n ph dir uid tag wait e
      exact wait_of_pc (contEff_pc (continueAfter_eff g hwf w n0 ph0 dir0 fuel hf _ _ _ hwA hpA) hwA) e
  · exact h
  · exact h

/-! ## counting the steps

`cnt = 23 · (number of results, placeholders included) + pcTerm`: a tick of the result wait raises `pcTerm` by one
(`wait ≤ 10`), the end of an execution followed by the start of the next test appends a placeholder. -/

/-- number of results of all nodes, UNKNOWN placeholders included -/
def total (g : Graph) (s : State) : Nat := ((List.range g.nodes.length).map (fun n => (s.nd n).results.length)).sum

theorem total_congr {g : Graph} {s s' : State} (h : ∀ m, (s'.nd m).results = (s.nd m).results) : total g s' = total g s :=
  sum_map_congr _ _ _ (fun j _ => by rw [h j])

theorem total_succ {g : Graph} {s s' : State} {n : Nat} (hn : n < g.nodes.length)
    (h1 : (s'.nd n).results.length = (s.nd n).results.length + 1)
    (h2 : ∀ j, j ≠ n → (s'.nd j).results.length = (s.nd j).results.length) : total g s' = total g s + 1 :=
  sum_map_succ _ List.nodup_range n (List.mem_range.mpr hn) _ _ h1 (fun j _ hj => h2 j hj)

/-- no node is an object root (no two-step creations) -/
def noRootsB (g : Graph) : Bool := g.nodes.all (fun nd => !nd.objectRoot)

theorem noRoots_spec {g : Graph} (h : noRootsB g = true) (n : Nat) : (g.node n).objectRoot = false := by
  rcases node_mem_or_default g n with hm | hm
  · unfold noRootsB at h
    rw [List.all_eq_true] at h
    simpa using h _ hm
  · rw [hm]

def pcTerm : Pc → Nat
  | .test _ .pre _ _ _ wait => 12 + wait
  | .test _ _ _ _ _ wait => 1 + wait
  | _ => 0

def cnt (g : Graph) (s : State) : Nat := 23 * total g s + pcTerm (s.wd 0).pc

def isOver : Pc → Bool
  | .done => true
  | .failed => true
  | _ => false

theorem pcTerm_le {pc : Pc} (h : ∀ n ph dir uid tag wait, pc = .test n ph dir uid tag wait → wait ≤ 10) : pcTerm pc ≤ 22 := by
  cases pc with
  | test n ph dir uid tag wait =>
    have := h n ph dir uid tag wait rfl
    cases ph
    · exact Nat.le_trans (Nat.add_le_add_left this 1) (by decide)
    · exact Nat.add_le_add_left this 12
    · exact Nat.le_trans (Nat.add_le_add_left this 1) (by decide)
  | _ => exact Nat.zero_le _

theorem pcTerm_succ (n : Nat) (ph : Phase) (dir : Dir) (uid : String) (tag wait : Nat) :
    pcTerm (.test n ph dir uid tag (wait + 1)) = pcTerm (.test n ph dir uid tag wait) + 1 := by
  cases ph <;> rfl

theorem lt_cnt {K T a b X : Nat} (ha : a < b) (h : K * T + b ≤ X) : K * T + a < X :=
  Nat.lt_of_lt_of_le (Nat.add_lt_add_left ha _) h

theorem isTest_of_final {pc : Pc} (h1 : pcFinal pc = true) (h2 : isOver pc = false) : pc.isTest = true := by
  cases pc <;> first | rfl | (cases h1; done) | cases h2

theorem startFrom_total {g : Graph} (hnr : ∀ n, (g.node n).objectRoot = false) {w : Nat} {s1 s' : State}
    (h : StartFrom g w s1 s') (hlen : s1.nodes.length = g.nodes.length) : total g s' = total g s1 + 1 := by
  cases h with
  | plain n dir s0 evs gv hgv hn hroot hdec e =>
    obtain ⟨a1, a2⟩ := startTest_nonpre_len g s1 n w .plain dir (by decide) (by rw [hlen]; exact hn)
    rw [e]
    exact total_succ hn a1 a2
  | pre n dir hn hroot e => rw [hnr n] at hroot; cases hroot

/-- settling a test proper keeps the number of results when its placeholder occurs once: the result replaces it -/
theorem total_settle_of_once {g : Graph} {s : State} {w n : Nat} {ph : Phase} {dir : Dir} {uid : String} {tag wait : Nat}
    (b : Basic g s All) (hpc : (s.wd w).pc = .test n ph dir uid tag wait) (hph : ph ≠ .pre) (res : Result)
    (hres : res.tag = 0) (h1 : ((s.nd n).results.filter (isPh tag)).length ≤ 1) :
    total g (settleNd s n res tag) = total g s := by
  refine sum_map_congr _ _ _ (fun j _ => ?_)
  rcases settleNd_results s n res tag j with h | ⟨hj, h⟩
  · rw [h]
  · subst hj
    rw [h]
    have ht := (b.pcOK w j ph dir uid tag wait trivial hpc).2.1
    have hl := settle_len (s.nd j).results res tag (isPh_res_false res tag hres ht)
    have h2 : 0 < ((s.nd j).results.filter (isPh tag)).length := by
      apply List.length_pos_of_mem (a := phOf (g.node j).name tag)
      refine List.mem_filter.mpr ⟨(b.placeholder w j ph dir uid tag wait trivial hpc).1 hph, ?_⟩
      rw [isPh_phOf]; simp
    omega

theorem total_settle {g : Graph} {s : State} {w n : Nat} {ph : Phase} {dir : Dir} {uid : String} {tag wait : Nat}
    (b : Basic g s All) (hpc : (s.wd w).pc = .test n ph dir uid tag wait) (hph : ph ≠ .pre)
    (hroot : (g.node n).objectRoot = false) (res : Result) (hres : res.tag = 0) :
    total g (settleNd s n res tag) = total g s :=
  total_settle_of_once b hpc hph res hres (b.tagsOnce n tag hroot (b.pcOK w n ph dir uid tag wait trivial hpc).2.1)

theorem tail_shape {g : Graph} (hnr : ∀ n, (g.node n).objectRoot = false) {w : Nat} {sd s' : State}
    (hlen : sd.nodes.length = g.nodes.length) (hw : w < sd.workers.length)
    (h : (Silent g w sd s' ∧ (s'.wd w).pc.isTest = false) ∨ ∃ s1, Silent g w sd s1 ∧ StartFrom g w s1 s') :
    (total g s' = total g sd ∧ (s'.wd w).pc.isTest = false) ∨
      (total g s' = total g sd + 1 ∧ ∃ n ph dir uid tag, (s'.wd w).pc = .test n ph dir uid tag 0) := by
  rcases h with ⟨a, hp⟩ | ⟨s1, a, hs⟩
  · exact Or.inl ⟨total_congr a.results, hp⟩
  · exact Or.inr ⟨by rw [startFrom_total hnr hs (by rw [a.nodesLen]; exact hlen), total_congr a.results],
      startFrom_pc hs (by rw [a.workersLen]; exact hw)⟩

/-- **the shape of a step**: nothing is appended and the worker ends outside a test; or one placeholder is appended and
the worker ends in a fresh test; or the step is a tick of the result wait -/
theorem resume_shape (g : Graph) (hwf : GraphWF g) (hnr : ∀ n, (g.node n).objectRoot = false) (s : State) (b : Basic g s All)
    (w : Nat) (hw : w < g.workers.length) (out : Outcome) (fuel : Nat) (hf : 0 < fuel) :
    (total g (resume g s w out fuel).1 = total g s ∧ ((resume g s w out fuel).1.wd w).pc.isTest = false) ∨
    (total g (resume g s w out fuel).1 = total g s + 1 ∧
      ∃ n ph dir uid tag, ((resume g s w out fuel).1.wd w).pc = .test n ph dir uid tag 0) ∨
    (total g (resume g s w out fuel).1 = total g s ∧ ∃ n ph dir uid tag wait,
      (s.wd w).pc = .test n ph dir uid tag wait ∧ ((resume g s w out fuel).1.wd w).pc = .test n ph dir uid tag (wait + 1)) := by
  have hws : w < s.workers.length := by rw [b.workersLen]; exact hw
  rcases resume_eff g hwf s w out fuel hf hws (b.paths w) with ⟨_, h⟩ | ⟨n, ph, dir, uid, tag, wait, hpc, sa, hrep, h⟩
  · exact (tail_shape hnr b.nodesLen hws h).imp id Or.inl
  · have hph : ph = .plain := (b.pcOK w n ph dir uid tag wait trivial hpc).2.2.2.1.mp (hnr n)
    subst hph
    have hsb : SameBook s sa := by
      rcases hrep with ⟨h, _⟩ | ⟨_, _, _, h, _⟩
      · rw [h]; exact ⟨rfl, rfl, rfl⟩
      · exact h
    have ba : Basic g sa All := b.sameBook hsb
    have hta : total g sa = total g s := total_congr (fun m => by rw [hsb.nd])
    have hwa : w < sa.workers.length := by rw [ba.workersLen]; exact hw
    -- the continuation after the awaited test, from `sc` with as many results as `s`
    have cont : ∀ {sc ok}, ContEff g w n .plain dir sc ok (resume g s w out fuel).1 → sc.nodes.length = g.nodes.length →
        w < sc.workers.length → total g sc = total g s →
        (total g (resume g s w out fuel).1 = total g s ∧ ((resume g s w out fuel).1.wd w).pc.isTest = false) ∨
          (total g (resume g s w out fuel).1 = total g s + 1 ∧
            ∃ n ph dir uid tag, ((resume g s w out fuel).1.wd w).pc = .test n ph dir uid tag 0) := by
      intro sc ok hc hlen hwc htc
      rcases hc with ⟨h, _⟩ | ⟨_, hrest⟩
      · cases h
      · simp only [reduceCtorEq, if_false] at hrest
        rw [← htc]
        exact tail_shape hnr hlen hwc hrest
    rcases h with ⟨e, _, sb, res, ok, hsab, _, ⟨hres, _⟩, hc⟩ | ⟨_, h | hc⟩
    · have bb : Basic g sb All := ba.sameBook hsab
      simp only [reduceCtorEq, if_false] at hc
      exact (cont hc (by unfold settleNd; rw [nodes_length_setNd]; exact bb.nodesLen)
        (by unfold settleNd; show w < sb.workers.length; rw [bb.workersLen]; exact hw)
        ((total_settle bb (by rw [hsab.wd, hsb.wd]; exact hpc) (by decide) (hnr n) res hres).trans
          ((total_congr (fun m => by rw [hsab.nd])).trans hta))).imp id Or.inl
    · refine Or.inr (Or.inr ⟨?_, n, .plain, dir, uid, tag, wait, hpc, ?_⟩)
      · rw [h]; exact (total_congr (fun m => rfl)).trans hta
      · rw [h, wd_setWd_eq sa w _ hwa]
    · exact (cont hc ba.nodesLen hwa hta).imp id Or.inl

/-- **every step that does not end the traversal raises the counter** (graphs without object roots) -/
theorem resume_cnt (g : Graph) (hwf : GraphWF g) (hnr : ∀ n, (g.node n).objectRoot = false) (s : State) (b : Basic g s All)
    (out : Outcome) (fuel : Nat) (hf : 0 < fuel) (hw0 : 0 < g.workers.length)
    (hwait : ∀ n ph dir uid tag wait, (s.wd 0).pc = .test n ph dir uid tag wait → wait ≤ 10)
    (hT : ((resume g s 0 out fuel).1.wd 0).pc.isTest = true) : cnt g s < cnt g (resume g s 0 out fuel).1 := by
  have hle := pcTerm_le hwait
  unfold cnt
  rcases resume_shape g hwf hnr s b 0 hw0 out fuel hf with ⟨_, h⟩ | ⟨h, _⟩ | ⟨h, n, ph, dir, uid, tag, wait, e, e'⟩
  · rw [hT] at h; cases h
  · rw [h, Nat.mul_succ]
    exact lt_cnt (Nat.lt_succ_of_le hle) (Nat.le_add_right _ _)
  · rw [e, e', h, pcTerm_succ]
    exact Nat.lt_succ_self _

theorem resume_over (g : Graph) (s : State) (w : Nat) (out : Outcome) (fuel : Nat) (h : isOver (s.wd w).pc = true) :
    (resume g s w out fuel).1 = s := by
  unfold resume
  cases hpc : (s.wd w).pc <;> rw [hpc] at h <;> first | rfl | cases h

theorem resumes_over (g : Graph) (w : Nat) (steps : List (Outcome × Nat)) (s : State) (h : isOver (s.wd w).pc = true) :
    steps.foldl (fun s st => (resume g s w st.1 st.2).1) s = s := by
  induction steps with
  | nil => rfl
  | cons a r ih => rw [List.foldl_cons, resume_over g s w a.1 a.2 h]; exact ih

/-- The steps of one worker `w` with fuel at least `F`, from a state satisfying an invariant `I` of such steps: `I` holds
at the end; what every step establishes (`Q`) holds after at least one step; and while the worker is not over at the end,
any counter `c` that grows with every step that does not end the traversal has grown by the number of steps (a worker
that is over stays over, so no earlier step ended the traversal either). -/
theorem resumes_run {g : Graph} {w : Nat} {I Q : State → Prop} {F : Nat}
    (step : ∀ s out fuel, I s → F ≤ fuel → I (resume g s w out fuel).1 ∧ Q (resume g s w out fuel).1)
    (steps : List (Outcome × Nat)) (s : State) (h : I s) (hfuel : ∀ x ∈ steps, F ≤ x.2) :
    I (steps.foldl (fun s st => (resume g s w st.1 st.2).1) s) ∧
    (steps ≠ [] → Q (steps.foldl (fun s st => (resume g s w st.1 st.2).1) s)) ∧
    ∀ c : State → Nat,
      (∀ s out fuel, I s → F ≤ fuel → isOver ((resume g s w out fuel).1.wd w).pc = false →
        c s < c (resume g s w out fuel).1) →
      isOver ((steps.foldl (fun s st => (resume g s w st.1 st.2).1) s).wd w).pc = false →
      c s + steps.length ≤ c (steps.foldl (fun s st => (resume g s w st.1 st.2).1) s) := by
  induction steps generalizing s with
  | nil => exact ⟨h, fun h0 => absurd rfl h0, fun _ _ _ => Nat.le_refl _⟩
  | cons a r ih =>
    have hfa := hfuel a List.mem_cons_self
    obtain ⟨x1, x2⟩ := step s a.1 a.2 h hfa
    obtain ⟨y1, y2, y3⟩ := ih _ x1 (fun x hx => hfuel x (List.mem_cons_of_mem _ hx))
    rw [List.foldl_cons]
    refine ⟨y1, fun _ => ?_, fun c hc hno => ?_⟩
    · cases r with
      | nil => exact x2
      | cons b r' => exact y2 (by simp)
    · have hov : isOver ((resume g s w a.1 a.2).1.wd w).pc = false := by
        cases hov : isOver ((resume g s w a.1 a.2).1.wd w).pc with
        | false => rfl
        | true => rw [resumes_over g w r _ hov, hov] at hno; cases hno
      have c1 := hc s a.1 a.2 h hfa hov
      rw [List.length_cons, Nat.add_succ, ← Nat.succ_add]
      exact Nat.le_trans (Nat.add_le_add_right c1 _) (y3 c hc hno)

theorem resumes_end {g : Graph} {w : Nat} {I : State → Prop} {F : Nat}
    (step : ∀ s out fuel, I s → F ≤ fuel → I (resume g s w out fuel).1)
    (steps : List (Outcome × Nat)) (s : State) (h : I s) (hfuel : ∀ x ∈ steps, F ≤ x.2) (c : State → Nat)
    (hc : ∀ s out fuel, I s → F ≤ fuel → isOver ((resume g s w out fuel).1.wd w).pc = false →
      c s < c (resume g s w out fuel).1)
    (B : Nat) (hB : ∀ s, I s → isOver (s.wd w).pc = false → c s ≤ B) (hlen : B < steps.length) :
    isOver ((steps.foldl (fun s st => (resume g s w st.1 st.2).1) s).wd w).pc = true := by
  cases hov : isOver ((steps.foldl (fun s st => (resume g s w st.1 st.2).1) s).wd w).pc with
  | true => rfl
  | false =>
    obtain ⟨y, _, hcnt⟩ := resumes_run (Q := fun _ => True) (fun s out fuel h hf => ⟨step s out fuel h hf, trivial⟩) steps s h hfuel
    exact absurd (Nat.le_trans (Nat.le_add_left _ _) (Nat.le_trans (hcnt c hc hov) (hB _ y hov))) (Nat.not_le.mpr hlen)

/-- static hypotheses: one worker, a pre-parsed (`noFlatB`: no flat node but the shared root) acyclic graph with edges
recorded at both ends and within range, registers for every class -/
structure Static (g : Graph) (ncls : Nat) : Prop where
  one : g.workers.length = 1
  ranked : Term.rankedB g = true
  sym : edgeSymB g = true
  flat : Term.noFlatB g = true
  wf : graphWF g = true
  cls : ∀ n, n < g.nodes.length → (g.node n).cls < ncls

/-- the run of the only worker: one `resume` per entry (outcome of the awaited test, fuel of the block) -/
def runSteps (g : Graph) (s : State) (steps : List (Outcome × Nat)) : State :=
  steps.foldl (fun s st => (resume g s 0 st.1 st.2).1) s

structure GInv (g : Graph) (ncls : Nat) (store : List (String × List (String × String))) (s : State) : Prop where
  reachP : ReachableP g ncls store s
  reachF : ReachableF g ncls store s
  occ : (s.wd 0).occAt = []
  wait : ∀ n ph dir uid tag wait, (s.wd 0).pc = .test n ph dir uid tag wait → wait ≤ 10

theorem ginv_init {g : Graph} {ncls : Nat} (st : Static g ncls) (store : List (String × List (String × String))) :
    GInv g ncls store (initState g ncls store []) := by
  have hwd : (initState g ncls store []).wd 0 = { path := [g.root] } := by
    have hv : 0 < g.workers.length := by rw [st.one]; exact Nat.one_pos
    unfold initState State.wd
    simp only [List.getD_eq_getElem?_getD, List.getElem?_map, List.getElem?_eq_getElem hv]
    rfl
  refine ⟨.init [], .init [], by rw [hwd], fun n ph dir uid tag wait e => ?_⟩
  rw [hwd] at e; cases e

theorem ginv_step {g : Graph} {ncls : Nat} (st : Static g ncls) {store : List (String × List (String × String))} {s : State}
    (h : GInv g ncls store s) (out : Outcome) (fuel : Nat) (hf : Term.bound g ≤ fuel) :
    GInv g ncls store (resume g s 0 out fuel).1 ∧ pcFinal ((resume g s 0 out fuel).1.wd 0).pc = true := by
  have hf0 : 0 < fuel := Nat.lt_of_lt_of_le (bound_pos g) hf
  have hw : 0 < g.workers.length := by rw [st.one]; exact Nat.one_pos
  have hsym := edgeSymB_sound st.sym
  have hr := Term.rankedB_sound st.ranked
  have b := h.reachP.reachableR.basic st.wf
  have hp := h.reachF.pinv hsym
  -- nobody else: every other index is beyond the workers
  have hq : GlobalN.Quiet 0 s := fun v hv => by
    rw [wd_default_of_ge s v (by rw [hp.wlen, st.one]; exact Nat.not_lt.mpr (Nat.pos_of_ne_zero hv))]; exact ⟨rfl, by simp⟩
  obtain ⟨_, x2, x3⟩ := GlobalN.resume_alone g hsym s 0 out fuel hf0 hw hp hq
  have x1 := x3 (Term.depth g) hr hf (Term.reachable_tinv hr hsym st.cls h.reachF) (Term.explored_of_noFlat st.flat s)
  refine ⟨⟨.step 0 out fuel h.reachP hw hf0 (not_overWaited_of_nil h.occ), .step s 0 out fuel h.reachF hw hf0, ?_, ?_⟩, x1⟩
  · rw [x2.occAt]; exact h.occ
  · exact resume_wait g (GraphWF.of_bool st.wf) s 0 out fuel hf0 (by rw [b.workersLen]; exact hw) (b.paths 0) h.wait

theorem runSteps_over (g : Graph) (steps : List (Outcome × Nat)) (s : State) (h : isOver (s.wd 0).pc = true) :
    runSteps g s steps = s := resumes_over g 0 steps s h

theorem run_ginv {g : Graph} {ncls : Nat} (st : Static g ncls) {store : List (String × List (String × String))}
    (steps : List (Outcome × Nat)) (s : State) (h : GInv g ncls store s) (hfuel : ∀ x ∈ steps, Term.bound g ≤ x.2) :
    GInv g ncls store (runSteps g s steps) ∧ (steps ≠ [] → pcFinal ((runSteps g s steps).wd 0).pc = true) :=
  have r := resumes_run (I := GInv g ncls store) (Q := fun s => pcFinal (s.wd 0).pc = true)
    (fun _ out fuel h hf => ginv_step st h out fuel hf)
    steps s h hfuel
  ⟨r.1, r.2.1⟩

/-- **Termination across suspensions, given a bound on the number of results**: when no reachable state has more than
`R` results, the worker is done or dead after any `23·R + 23` steps. -/
theorem run_over {g : Graph} {ncls : Nat} (st : Static g ncls) (hnr : noRootsB g = true)
    (store : List (String × List (String × String))) (R : Nat)
    (hR : ∀ s, ReachableP g ncls store s → total g s ≤ R)
    (steps : List (Outcome × Nat)) (hfuel : ∀ x ∈ steps, Term.bound g ≤ x.2) (hlen : 23 * R + 23 ≤ steps.length) :
    isOver ((runSteps g (initState g ncls store []) steps).wd 0).pc = true := by
  refine resumes_end (I := GInv g ncls store) (fun _ out fuel h hf => (ginv_step st h out fuel hf).1) steps _
    (ginv_init st store) hfuel (cnt g)
    (fun s out fuel h hf hno => ?_) (23 * R + 22) (fun s h _ => ?_) hlen
  · exact resume_cnt g (GraphWF.of_bool st.wf) (noRoots_spec hnr) s (h.reachP.reachableR.basic st.wf) out fuel
      (Nat.lt_of_lt_of_le (bound_pos g) hf) (by rw [st.one]; exact Nat.one_pos) h.wait
      (isTest_of_final (ginv_step st h out fuel hf).2 hno)
  · have h1 := hR s h.reachP
    have h2 := pcTerm_le h.wait
    unfold cnt
    omega

/-! ## the bound on the number of results (the retry budgets of C03), and on the steps

The theorem is `GlobalN.total_le_resultBoundN`, for any number of workers. -/

/-- every node lies in a class the budget theorems of C03 cover without further conditions on the state: a class of
stateless tests (no set states) without object roots whose copies agree on `max_tries`, or a class of setup tests
(`statefulClass`: set states, no object roots, agreement on `max_tries` and the scope shape, the result-name filter agrees
with the scope) whose `max_concurrent_tries` is unset or within `max(max_tries, 1)` -/
def classesOKB (g : Graph) : Bool :=
  (List.range g.nodes.length).all (fun n =>
    statelessClass g (g.node n).cls (g.node n).maxTries ||
    (statefulClass g (g.node n).cls (g.node n).maxTries (g.node n).shape &&
      mctWithin g (g.node n).cls (g.node n).maxTries))

/-- `Σ_n max(max_tries n, 1)` -/
def resultBound (g : Graph) : Nat :=
  ((List.range g.nodes.length).map (fun n => (max ((g.node n).maxTries.getD 1) 1).toNat)).sum

/-- the explicit bound on the number of `resume` steps of the only worker -/
def stepBound (g : Graph) : Nat := 23 * resultBound g + 23

end I2N.Trav.Global
