import I2N.Lemmas.TravMoves
/-!
Evaluation of runs on pre-parsed graphs.  `revealP`, `prepareP`, `iterLP`, `runLoopP`, `resumeTestP` and `resumeP` are
`reveal`, `prepare`, `iterL`, `runLoop`, `resumeTest` and `resume` with `g` written for every `vis g s` and `hidden` left
alone where `reveal` filters it; nothing else is changed.  They never touch `hidden` (`hidden_resumeP`), and while
`s.hidden = []` they agree with the model (`resume_eq_resumeP`, `runLoop_eq_runLoopP`).
Evaluating a concrete run through the model itself is slow: `vis g s` is a different term at every iteration, so whatever
the kernel has computed about the graph (above all `Graph.idIn g w n`, which decodes two strings) is computed again at each
iteration, whereas facts about the one term `g` are computed once per evaluation.
To move a goal about states `sX2 := (resume g sX1 …).1`, `sX1 := (resume g (initState g n st) …).1` over:
`rw [sX2, sX1]`, then `simp only [resume_eq_resumeP, hidden_resumeP, initState_hidden]`, then `decide +kernel`.
The states are unfolded by `rw`: `simp only [sX2, sX1]` evaluates the run while it unfolds them.
For a state given as a fold, `sX2 := runSched g fuel (initState g n st) l`: with
`have h := foldl_resume_eqP g fuel l _ (initState_hidden g n st)`, `rw [show sX2 = runSchedP g fuel _ _ from h.1]`, and a
further step from it by `resume_eq_resumeP h.2`.
-/
namespace I2N.Trav

def revealP (g : Graph) (s : State) (f w : Nat) : State :=
  let leaves := ((g.node f).cleanup.map (·.1)).filter (fun c => (g.node c).owner == some w)
  if leaves.isEmpty then { s with incompatible := s.incompatible ++ [(f, w)] }
  else s

def prepareP (g : Graph) (s : State) (w : Nat) : State :=
  match (s.wd w).path.getLast? with
  | none => s
  | some next =>
    let unexp := !(unexploredNodes g s).isEmpty
    let s := s.setWd w (fun d => { d with unexplored := unexp })
    if (g.node next).flat && !isUnrolled g s next (some w) && (unexp || shouldParse g s next) then revealP g s next w else s

def iterLP (g : Graph) (s : State) (w : Nat) : Step :=
  if isCleanupReady g s g.root w || (s.wd w).path.length ≤ 1 then iter g s w
  else
    let s1 := prepareP g s w
    iter g s1 w

def runLoopP (g : Graph) (w : Nat) : Nat → State → List Event → State × List Event
  | 0, s, evs => (s, evs ++ [Event.raise (g.worker w).id "fuel"])
  | fuel + 1, s, evs =>
    let s := s.setWd w (fun d => { d with pc := .loop })
    match iterLP g s w with
    | (s, e, .cont) => runLoopP g w fuel s (evs ++ e)
    | (s, e, .suspend) => (s, evs ++ e)
    | (s, e, .exit) => (s, evs ++ e)
    | (s, e, .raise what) =>
      (s.setWd w (fun d => { d with pc := .failed }), evs ++ e ++ [Event.raise (g.worker w).id what])

def resumeTestP (g : Graph) (s : State) (w n : Nat) (phase : Phase) (dir : Dir) (uid : String) (tag wait : Nat)
    (out : Outcome) (fuel : Nat) : State × List Event :=
  let wid := (g.worker w).id
  let name := if phase == .pre then (s.wd w).preName else (g.node n).name
  let (s, evs) :=
    if wait == 0 then
      match out.status with
      | some st =>
        let s := { s with jobResults := s.jobResults ++ [(name, uid, st, out.dur)] }
        let s := if (st == "PASS" || st == "WARN") && phase != .pre then produce g s n w else s
        (s, [Event.finish wid (clsName g n phase) uid st])
      | none => (s, [Event.finish wid (clsName g n phase) uid "NONE"])
    else (s, [])
  match s.jobResults.find? (fun r => r.1 == name && r.2.1 == uid) with
  | some (_, _, st0, dur) =>
    let prior := if phase == .pre then (s.wd w).preResults else (s.nd n).results
    let maxAllowed := ((prior.filter (·.status == "PASS")).map (·.dur)).foldl max 0
    let maxAllowed := if (prior.filter (·.status == "PASS")).isEmpty then dur else maxAllowed
    let st := if st0 == "PASS" && 4 * dur > 5 * maxAllowed then "WARN" else st0
    let s := if st != st0 then
        { s with jobResults := s.jobResults.map (fun r => if r.1 == name && r.2.1 == uid then (r.1, r.2.1, st, r.2.2.2) else r) }
      else s
    let res : Result := { name := name, status := st, uid := uid, dur := dur }
    let s :=
      if phase == .pre then
        s.setWd w (fun d => { d with preResults := (d.preResults ++ [res]).filter (fun r => !(r.status == "UNKNOWN" && r.tag == tag)) })
      else
        s.setNd n (fun d => { d with results := (d.results ++ [res]).filter (fun r => !(r.status == "UNKNOWN" && r.tag == tag)) })
    let ok := !(lower st == "error" || lower st == "fail")
    continueAfter s ok evs
  | none =>
    if wait + 1 < 10 then
      (s.setWd w (fun d => { d with pc := .test n phase dir uid tag (wait + 1) }), evs ++ [Event.sleep wid 3000])
    else if wait + 1 == 10 then
      (s.setWd w (fun d => { d with pc := .test n phase dir uid tag (wait + 1) }), evs ++ [Event.sleep wid 3000])
    else continueAfter s false evs
where
  continueAfter (s : State) (ok : Bool) (evs : List Event) : State × List Event :=
    let path := (s.wd w).path
    let prev := path.getD (path.length - 2) 0
    if phase == .pre && ok then
      let (s, e2, _) := startTest g s n w .main dir
      (s, evs ++ e2)
    else
      let s := if phase == .pre then
          s.setNd n (fun d => { d with results := d.results ++ (s.wd w).preResults.drop d.results.length })
        else s
      let s := finishTraverse s n w
      match afterTraverse g s w n prev dir with
      | (s, e2, .raise what) =>
        (s.setWd w (fun d => { d with pc := .failed }), evs ++ e2 ++ [Event.raise (g.worker w).id what])
      | (s, e2, _) => runLoopP g w fuel s (evs ++ e2)

def resumeP (g : Graph) (s : State) (w : Nat) (out : Outcome) (fuel : Nat := 100000) : State × List Event :=
  match (s.wd w).pc with
  | .loop => runLoopP g w fuel s []
  | .bounce => runLoopP g w fuel s []
  | .test n phase dir uid tag wait => resumeTestP g s w n phase dir uid tag wait out fuel
  | .done => (s, [])
  | .failed => (s, [])

/-! ### `hidden` is touched by `reveal` alone -/

theorem hidden_ite {c : Prop} [Decidable c] {a b s : State} (ha : a.hidden = s.hidden) (hb : b.hidden = s.hidden) :
    (if c then a else b).hidden = s.hidden := by
  split <;> assumption

theorem hidden_pickChild {g : Graph} {s : State} {n w : Nat} {r : Nat × State} (h : pickChild g s n w = some r) :
    r.2.hidden = s.hidden := by
  revert h
  fun_cases pickChild g s n w
  · intro h; cases h
  · intro h; cases h; rfl

theorem hidden_pickParent {g : Graph} {s : State} {n w : Nat} {r : Nat × State} (h : pickParent g s n w = some r) :
    r.2.hidden = s.hidden := by
  revert h
  fun_cases pickParent g s n w
  · intro h; cases h
  · intro h; cases h; rfl

theorem hidden_pullLocations (g : Graph) (s : State) (n : Nat) : (pullLocations g s n).hidden = s.hidden := by
  fun_cases pullLocations g s n
  · rfl
  · apply foldl_preserves (·.hidden)
    rintro s ⟨p, vms⟩
    apply foldl_preserves (·.hidden)
    intro s loc
    apply foldl_preserves (·.hidden)
    intro _ _
    rfl

theorem hidden_syncStates (g : Graph) (s : State) (n w : Nat) (vms : Option (List String)) :
    (syncStates g s n w vms).1.hidden = s.hidden := by
  fun_cases syncStates g s n w vms <;> rfl

theorem hidden_runDecision {g : Graph} {s s1 : State} {n w : Nat} {b : Bool} {e : List Event}
    (h : runDecision g s n w = .ok (b, s1, e)) : s1.hidden = s.hidden := by
  rcases runDecision_state g s n w b s1 e h with h | h <;> rw [h] <;> rfl

theorem hidden_reverseNode {g : Graph} {s : State} {n w : Nat} {r : State × List Event}
    (h : reverseNode g s n w = .ok r) : r.1.hidden = s.hidden := by
  revert h
  fun_cases reverseNode g s n w with
  | case1 => intro h; cases h; rfl
  | case2 => intro h; cases h
  | case3 _ s0 _ _ clean _ s2 evs hs =>
    intro h; cases h
    have := congrArg (·.1.hidden) hs
    split at this
    · exact this.symm.trans (hidden_syncStates g s0 n w none)
    · exact this.symm

theorem hidden_dropChildren (g : Graph) (s : State) (next w : Nat) (l : List (Nat × List String)) :
    (l.foldl (fun s (p, _) => dropChild g s p next w) s).hidden = s.hidden := by
  apply foldl_preserves (·.hidden)
  intro _ _
  rfl

theorem hidden_startTest (g : Graph) (s : State) (n w : Nat) (ph : Phase) (dir : Dir) :
    (startTest g s n w ph dir).1.hidden = s.hidden := by
  fun_cases startTest g s n w ph dir <;> rfl

theorem hidden_of_after {g : Graph} {s : State} {w next prev : Nat} {dir : Dir} {r : Step}
    (h : After g w next prev dir s r) : r.1.hidden = s.hidden := by
  cases h with
  | undecided => rfl
  | up run s1 evs _ hd => cases run <;> exact (hidden_runDecision hd :)
  | again s1 evs _ hd | postponed s1 evs _ hd | childless s1 evs _ hd => exact (hidden_runDecision hd :)
  | cleaned s1 evs s3 evs2 _ hd _ _ hr =>
    exact (hidden_reverseNode hr).trans ((hidden_dropChildren g s1 next w _).trans (hidden_runDecision hd))
  | uncleaned s1 evs e _ hd => exact (hidden_dropChildren g s1 next w _).trans (hidden_runDecision hd)
  | descend s1 evs c s2 _ hd _ hp => exact (hidden_pickChild hp).trans (hidden_runDecision hd)

theorem hidden_of_iter {g : Graph} {s : State} {w : Nat} {r : Step} (h : Iter g w s r) : r.1.hidden = s.hidden := by
  have entered : ∀ n, (entered g s w n).hidden = s.hidden := fun n => hidden_pullLocations g _ n
  cases h with
  | exit | lost => rfl
  | fromRoot n c s1 _ _ _ hp => exact hidden_pickChild hp
  | bounce n => exact hidden_ite (hidden_ite rfl rfl) rfl
  | toParent n _ p s1 _ _ _ hp => exact hidden_pickParent hp
  | undecided n => exact entered n
  | start n _ dir s1 evs _ hd => exact (hidden_startTest ..).trans ((hidden_runDecision hd).trans (entered n))
  | create n _ dir s1 evs _ hd => exact (hidden_startTest ..).trans ((hidden_runDecision hd).trans (entered n))
  | skip n _ _ s1 evs r _ hd ha => exact (hidden_of_after ha).trans ((hidden_runDecision hd).trans (entered n))

theorem hidden_afterTraverse {g : Graph} {s : State} {w next prev : Nat} {dir : Dir} {r : Step}
    (h : afterTraverse g s w next prev dir = r) : r.1.hidden = s.hidden :=
  hidden_of_after (h ▸ afterTraverse_after ..)

theorem hidden_iter {g : Graph} {s : State} {w : Nat} {r : Step} (h : iter g s w = r) : r.1.hidden = s.hidden :=
  hidden_of_iter (h ▸ iter_iter ..)

theorem hidden_prepareP (g : Graph) (s : State) (w : Nat) : (prepareP g s w).hidden = s.hidden := by
  fun_cases prepareP g s w
  · rfl
  · fun_cases revealP g _ _ w <;> rfl
  · rfl

theorem hidden_iterLP {g : Graph} {s : State} {w : Nat} {r : Step} (h : iterLP g s w = r) : r.1.hidden = s.hidden := by
  subst h
  fun_cases iterLP g s w
  · exact hidden_iter rfl
  · exact (hidden_iter rfl).trans (hidden_prepareP g s w)

theorem hidden_runLoopP (g : Graph) (w fuel : Nat) (s : State) (evs : List Event) :
    (runLoopP g w fuel s evs).1.hidden = s.hidden := by
  fun_induction runLoopP g w fuel s evs with
  | case1 => rfl
  | case2 fuel s evs s0 s1 e hi ih => exact ih.trans (hidden_iterLP hi)
  | case3 fuel s evs s0 s1 e hi => exact hidden_iterLP hi
  | case4 fuel s evs s0 s1 e hi => exact hidden_iterLP hi
  | case5 fuel s evs s0 s1 e what hi => exact hidden_iterLP hi

/-! ### agreement on pre-parsed graphs -/

theorem reveal_eq_revealP {g : Graph} {s : State} (f w : Nat) (h : s.hidden = []) : reveal g s f w = revealP g s f w := by
  rw [reveal, revealP, h]
  split
  · rfl
  · exact congrArg (fun l => { s with hidden := l }) h.symm

theorem prepare_eq_prepareP {g : Graph} {s : State} (w : Nat) (h : s.hidden = []) : prepare g s w = prepareP g s w := by
  rw [prepare, prepareP, vis_eq_of_hidden_nil h]
  simp only [reveal_eq_revealP _ w (show (s.setWd w _).hidden = [] from h)]
  rfl

theorem iterL_eq_iterLP {g : Graph} {s : State} (w : Nat) (h : s.hidden = []) : iterL g s w = iterLP g s w := by
  simp only [iterL, iterLP, vis_eq_of_hidden_nil h, prepare_eq_prepareP w h,
    vis_eq_of_hidden_nil ((hidden_prepareP g s w).trans h)]

theorem runLoop_eq_runLoopP {g : Graph} {s : State} (w fuel : Nat) (evs : List Event) (h : s.hidden = []) :
    runLoop g w fuel s evs = runLoopP g w fuel s evs := by
  induction fuel generalizing s evs with
  | zero => rfl
  | succ k ih =>
    rw [runLoop, runLoopP, iterL_eq_iterLP (s := s.setWd w (fun d => { d with pc := .loop })) w h]
    generalize hr : iterLP g _ w = r
    have hi := (hidden_iterLP hr).trans h
    obtain ⟨s1, e, f⟩ := r
    cases f
    · exact ih _ hi
    all_goals rfl

theorem hidden_continueAfterP (g : Graph) (s : State) (w n : Nat) (phase : Phase) (dir : Dir) (fuel : Nat) (ok : Bool)
    (evs : List Event) : (resumeTestP.continueAfter g w n phase dir fuel s ok evs).1.hidden = s.hidden := by
  fun_cases resumeTestP.continueAfter g w n phase dir fuel s ok evs with
  | case1 _ s1 e2 f hst => exact (congrArg (·.1.hidden) hst).symm.trans (hidden_startTest ..)
  | case2 path prev _ s1 s2 s3 e2 what hat =>
    exact (hidden_afterTraverse hat).trans (hidden_ite (s := s) rfl rfl)
  | case3 path prev _ s1 s2 s3 e2 f _ hat =>
    exact (hidden_runLoopP ..).trans ((hidden_afterTraverse hat).trans (hidden_ite (s := s) rfl rfl))

theorem continueAfter_eq_continueAfterP {g : Graph} {s : State} (w n : Nat) (phase : Phase) (dir : Dir) (fuel : Nat) (ok : Bool)
    (evs : List Event) (h : s.hidden = []) :
    resumeTest.continueAfter g w n phase dir fuel s ok evs = resumeTestP.continueAfter g w n phase dir fuel s ok evs := by
  rw [resumeTest.continueAfter, resumeTestP.continueAfter]
  dsimp only
  split
  · rfl
  · generalize hX : (if (phase == Phase.pre) = true then s.setNd n _ else s) = X
    have hXh : (finishTraverse X n w).hidden = [] := by subst hX; split <;> exact h
    rw [vis_eq_of_hidden_nil hXh]
    generalize hr : afterTraverse g (finishTraverse X n w) w n _ dir = r
    have ha := (hidden_afterTraverse hr).trans hXh
    obtain ⟨s1, e2, f⟩ := r
    cases f
    case raise => rfl
    all_goals exact runLoop_eq_runLoopP w fuel _ ha

/-- the step from the suspension of a test: agreement, and what `resumeTestP` does to `hidden`, by one walk -/
theorem resumeTest_agree (g : Graph) (s : State) (w n : Nat) (phase : Phase) (dir : Dir) (uid : String) (tag wait : Nat)
    (out : Outcome) (fuel : Nat) :
    (s.hidden = [] →
      resumeTest g s w n phase dir uid tag wait out fuel = resumeTestP g s w n phase dir uid tag wait out fuel) ∧
    (resumeTestP g s w n phase dir uid tag wait out fuel).1.hidden = s.hidden := by
  rw [resumeTest, resumeTestP]
  generalize hp : (if (wait == 0) = true then _ else (s, [])) = p
  have hph : p.1.hidden = s.hidden := by
    subst hp
    split
    · split
      · dsimp only
        split <;> rfl
      · rfl
    · rfl
  obtain ⟨s1, evs⟩ := p
  dsimp -zeta only at hph ⊢
  generalize List.find? _ s1.jobResults = fr
  cases fr with
  | none =>
    dsimp -zeta only
    split
    · exact ⟨fun _ => rfl, hph⟩
    · split
      · exact ⟨fun _ => rfl, hph⟩
      · exact ⟨fun h => continueAfter_eq_continueAfterP w n phase dir fuel false evs (hph.trans h),
          (hidden_continueAfterP ..).trans hph⟩
  | some r =>
    obtain ⟨a, b, st0, dur⟩ := r
    dsimp -zeta only
    extract_lets prior mA mA' st s2 res s3 ok
    have h2 : s2.hidden = s.hidden := hidden_ite hph hph
    have h3 : s3.hidden = s.hidden := hidden_ite h2 h2
    exact ⟨fun h => continueAfter_eq_continueAfterP w n phase dir fuel ok evs (h3.trans h), (hidden_continueAfterP ..).trans h3⟩

theorem resume_agree (g : Graph) (s : State) (w : Nat) (out : Outcome) (fuel : Nat) :
    (s.hidden = [] → resume g s w out fuel = resumeP g s w out fuel) ∧ (resumeP g s w out fuel).1.hidden = s.hidden := by
  rw [resume, resumeP]
  generalize (s.wd w).pc = pc
  cases pc
  case test => exact resumeTest_agree ..
  case done => exact ⟨fun _ => rfl, rfl⟩
  case failed => exact ⟨fun _ => rfl, rfl⟩
  all_goals exact ⟨runLoop_eq_runLoopP w fuel [], hidden_runLoopP ..⟩

theorem resume_eq_resumeP {g : Graph} {s : State} {w : Nat} {out : Outcome} {fuel : Nat} (h : s.hidden = []) :
    resume g s w out fuel = resumeP g s w out fuel := (resume_agree g s w out fuel).1 h

theorem hidden_resumeP (g : Graph) (s : State) (w : Nat) (out : Outcome) (fuel : Nat) :
    (resumeP g s w out fuel).1.hidden = s.hidden := (resume_agree g s w out fuel).2

/-- not by `rfl`: `simp` would then use it as a definitional step, and the side condition of `resume_eq_resumeP` it is
there to discharge would be closed by a proof of `[] = []`, which `simp` rejects -/
theorem initState_hidden (g : Graph) (ncls : Nat) (store : List (String × List (String × String))) :
    (initState g ncls store).hidden = [] := by
  rw [initState]

/-! ## schedules -/

/-- a list of resumes `(worker, outcome)` with one fuel, through the evaluator (`runSched` of `Lemmas/TravReady.lean` and
`runSchedule` of `Lemmas/TravExcl.lean` are this fold over `resume`) -/
def runSchedP (g : Graph) (fuel : Nat) (s : State) (l : List (Nat × Outcome)) : State :=
  l.foldl (fun s p => (resumeP g s p.1 p.2 fuel).1) s

theorem foldl_resume_eqP (g : Graph) (fuel : Nat) (l : List (Nat × Outcome)) :
    ∀ s : State, s.hidden = [] →
      l.foldl (fun s p => (resume g s p.1 p.2 fuel).1) s = runSchedP g fuel s l ∧ (runSchedP g fuel s l).hidden = [] := by
  induction l with
  | nil => exact fun s h => ⟨rfl, h⟩
  | cons p r ih =>
    intro s h
    have := ih (resumeP g s p.1 p.2 fuel).1 ((hidden_resumeP ..).trans h)
    simp only [runSchedP, List.foldl_cons, resume_eq_resumeP h] at this ⊢
    exact this

end I2N.Trav
