import I2N.Lemmas.TravBasic
/-!
What a step of a worker is made of.

`resume` runs through `resumeTest`, `runLoop`, `iterL`, `iter`, `traverseNode` and `afterTraverse`.  This file says once,
for each of them, which ways it can go, with the facts the model has tested on the way and the result as a composition of
the operations of `Model/Trav.lean` (`After`, `Iter`, `iterL_eq`, `Resumed`).  The dead branches are gone (`traverseNode`
is only called on a node that is not occupied), and the branches that raise without having changed anything are one.
The invariant files take their case analyses from here instead of walking the functions again.
-/
namespace I2N.Trav

/-! ### names for pieces of the model's expressions -/

/-- the name of the creation pre-step of object root `n` for worker `w` (the expression of `traverseNode`) -/
def preNameOf (g : Graph) (n w : Nat) : String :=
  "all.internal.stateless.noop.vms." ++ " ".intercalate (g.node n).objs ++ ".nets." ++
    (g.worker w).swarm ++ "." ++ ((g.worker w).id.splitOn ".").getLast!

/-- `traverse_node` up to the run decision: the node is marked as started by `w` and its locations are pulled -/
def entered (gv : Graph) (s : State) (w n : Nat) : State :=
  pullLocations gv (s.setNd n (fun d => { d with started := some w })) n

/-- the creation pre-step works on a copy of the results of the object root -/
def preset (gv : Graph) (s : State) (w n : Nat) : State :=
  s.setWd w (fun d => { d with preResults := (s.nd n).results, preName := preNameOf gv n w })

/-- `w` drops `n` at all its parents -/
def dropChildren (gv : Graph) (s : State) (n w : Nat) : State :=
  (gv.node n).setup.foldl (fun s (p, _) => dropChild gv s p n w) s

/-- the sleep of the back-off at node `n`, in hundredths of a second -/
def sleepQ (gv : Graph) (n : Nat) : Nat :=
  max ((((gv.node n).timeout : Int) * max ((gv.node n).maxTries.getD 1) 1).toNat / 10) 10

/-- the state after the back-off branch of `iter` at the occupied node `next` -/
def bounced (gv : Graph) (s : State) (w next : Nat) : State :=
  let dur : Int := (gv.node next).timeout * max ((gv.node next).maxTries.getD 1) 1
  let qf : Float := Float.ofNat (max (dur.toNat / 10) 10) / 100.0
  let s :=
    if (s.wd w).occAt.contains next then
      let s := if (s.wd w).occWait > Float.ofInt dur then s.setNd next (fun d => { d with bump := d.bump + 1 }) else s
      s.setWd w (fun d => { d with occWait := d.occWait + qf })
    else s.setWd w (fun d => { d with occWait := 0.0 })
  s.setWd w (fun d => { d with occAt := if d.occAt.contains next then d.occAt else d.occAt ++ [next],
                                path := [gv.root], pc := .bounce })

/-! ### the rest of the loop body after `traverse_node` -/

/-- The ways `afterTraverse gv s w n prev dir` can go.  `s1`, `evs` are state and events of the second run decision. -/
inductive After (gv : Graph) (w n prev : Nat) (dir : Dir) (s : State) : Step → Prop
  | undecided (e : String) (hd : runDecision gv s n w = .error e) : After gv w n prev dir s (s, [], .raise e)
  /-- upwards: back to the child we came from, which drops `n` unless `n` is to be run again -/
  | up (run : Bool) (s1 : State) (evs : List Event) (hdir : dir = .up) (hd : runDecision gv s n w = .ok (run, s1, evs)) :
      After gv w n prev dir s (popPath (if !run then dropParent gv s1 prev n w else s1) w, evs, .cont)
  | again (s1 : State) (evs : List Event) (hdir : dir = .down) (hd : runDecision gv s n w = .ok (true, s1, evs)) :
      After gv w n prev dir s (popPath s1 w, evs, .cont)
  /-- the cleanup of a composite node waits while flat nodes are unexplored -/
  | postponed (s1 : State) (evs : List Event) (hdir : dir = .down) (hd : runDecision gv s n w = .ok (false, s1, evs))
      (hc : isCleanupReady gv s1 n w = true) (hflat : (gv.node n).flat = false) (hun : (s1.wd w).unexplored = true) :
      After gv w n prev dir s (s1.setWd w (fun d => { d with path := [gv.root] }), evs, .cont)
  | cleaned (s1 : State) (evs : List Event) (s3 : State) (evs2 : List Event) (hdir : dir = .down)
      (hd : runDecision gv s n w = .ok (false, s1, evs)) (hc : isCleanupReady gv s1 n w = true)
      (hnow : ¬ ((gv.node n).flat = false ∧ (s1.wd w).unexplored = true))
      (hr : reverseNode gv (dropChildren gv s1 n w) n w = .ok (s3, evs2)) :
      After gv w n prev dir s (popPath s3 w, evs ++ evs2, .cont)
  | uncleaned (s1 : State) (evs : List Event) (e : String) (hdir : dir = .down)
      (hd : runDecision gv s n w = .ok (false, s1, evs)) (hc : isCleanupReady gv s1 n w = true)
      (hnow : ¬ ((gv.node n).flat = false ∧ (s1.wd w).unexplored = true))
      (hr : reverseNode gv (dropChildren gv s1 n w) n w = .error e) :
      After gv w n prev dir s (dropChildren gv s1 n w, evs, .raise e)
  | descend (s1 : State) (evs : List Event) (c : Nat) (s2 : State) (hdir : dir = .down)
      (hd : runDecision gv s n w = .ok (false, s1, evs)) (hc : isCleanupReady gv s1 n w = false)
      (hp : pickChild gv s1 n w = some (c, s2)) :
      After gv w n prev dir s (pushPath s2 w c, evs, .cont)
  | childless (s1 : State) (evs : List Event) (hdir : dir = .down)
      (hd : runDecision gv s n w = .ok (false, s1, evs)) (hc : isCleanupReady gv s1 n w = false)
      (hp : pickChild gv s1 n w = none) :
      After gv w n prev dir s (s1, evs, .raise "RuntimeError")

theorem afterTraverse_after (gv : Graph) (s : State) (w n prev : Nat) (dir : Dir) :
    After gv w n prev dir s (afterTraverse gv s w n prev dir) := by
  fun_cases afterTraverse gv s w n prev dir with
  | case1 _ e hd => exact .undecided e hd
  | case2 run s1 evs hd => exact .up run s1 evs rfl hd
  | case3 s1 evs hd => exact .again s1 evs rfl hd
  | case4 run s1 evs hd hrun hc hpost =>
    obtain rfl : run = false := by simpa using hrun
    simp only [Bool.and_eq_true, Bool.not_eq_true'] at hpost
    exact .postponed s1 evs rfl hd hc hpost.1 hpost.2
  | case5 run s1 evs hd hrun hc hpost _ e hr =>
    obtain rfl : run = false := by simpa using hrun
    exact .uncleaned s1 evs e rfl hd hc (by simpa using hpost) hr
  | case6 run s1 evs hd hrun hc hpost _ s3 evs2 hr =>
    obtain rfl : run = false := by simpa using hrun
    exact .cleaned s1 evs s3 evs2 rfl hd hc (by simpa using hpost) hr
  | case7 run s1 evs hd hrun hc hp =>
    obtain rfl : run = false := by simpa using hrun
    exact .childless s1 evs rfl hd (by simpa using hc) hp
  | case8 run s1 evs hd hrun hc c s2 hp =>
    obtain rfl : run = false := by simpa using hrun
    exact .descend s1 evs c s2 rfl hd (by simpa using hc) hp

/-! ### one iteration -/

/-- `w` stands at `n`, the last node of its path, which is longer than one; `prev` is the node before it -/
structure AtNode (gv : Graph) (s : State) (w n prev : Nat) : Prop where
  going : isCleanupReady gv s gv.root w = false
  last : (s.wd w).path.getLast? = some n
  long : (s.wd w).path.length ≠ 1
  before : prev = (s.wd w).path.getD ((s.wd w).path.length - 2) 0
  free : isOccupied gv s n w = false

/-- `w` traverses `n`: it came from a child (`up`) or from a parent (`down`), and `n` is setup-ready -/
structure Visit (gv : Graph) (s : State) (w n prev : Nat) (dir : Dir) : Prop extends AtNode gv s w n prev where
  ready : isSetupReady gv s n w = true
  from_ : match dir with
    | .up => prev ∈ (gv.node n).cleanup.map (·.1)
    | .down => prev ∉ (gv.node n).cleanup.map (·.1) ∧ prev ∈ (gv.node n).setup.map (·.1)

theorem AtNode.two_le {gv : Graph} {s : State} {w n prev : Nat} (h : AtNode gv s w n prev) : 2 ≤ (s.wd w).path.length := by
  have h1 := h.long
  have hl := h.last
  cases hp : (s.wd w).path with
  | nil => rw [hp] at hl; cases hl
  | cons a l => rw [hp] at h1; simp only [List.length_cons] at h1 ⊢; omega

theorem AtNode.mem_tail {gv : Graph} {s : State} {w n prev : Nat} (h : AtNode gv s w n prev) : n ∈ (s.wd w).path.tail := by
  have h2 := h.two_le
  have hl := h.last
  cases hp : (s.wd w).path with
  | nil => rw [hp] at hl; cases hl
  | cons a l =>
    rw [hp] at hl h2
    cases l with
    | nil => simp at h2
    | cons b l' => rw [List.getLast?_cons_cons] at hl; exact List.mem_of_getLast? hl

/-- only a worker with a record has a path -/
theorem AtNode.lt_workers {gv : Graph} {s : State} {w n prev : Nat} (h : AtNode gv s w n prev) : w < s.workers.length := by
  by_cases hl : w < s.workers.length
  · exact hl
  · have := h.last
    unfold State.wd at this
    rw [List.getD_eq_getElem?_getD, List.getElem?_eq_none (by omega)] at this
    cases this

/-- The ways an iteration raises without having changed anything: the path is not what it should be, or there is
nothing left to pick. -/
inductive Lost (gv : Graph) (w : Nat) (s : State) : String → Prop
  | notRoot (hc : isCleanupReady gv s gv.root w = true) (hp : (s.wd w).path ≠ [gv.root]) : Lost gv w s "AssertionError"
  | noPath (hc : isCleanupReady gv s gv.root w = false) (hl : (s.wd w).path.getLast? = none) : Lost gv w s "IndexError"
  | noChild (n : Nat) (hc : isCleanupReady gv s gv.root w = false) (hl : (s.wd w).path.getLast? = some n)
      (h1 : (s.wd w).path.length = 1) (hp : pickChild gv s n w = none) : Lost gv w s "RuntimeError"
  | noParent (n prev : Nat) (ha : AtNode gv s w n prev)
      (hadj : prev ∈ (gv.node n).cleanup.map (·.1) ∨ prev ∈ (gv.node n).setup.map (·.1))
      (hr : isSetupReady gv s n w = false) (hp : pickParent gv s n w = none) : Lost gv w s "RuntimeError"
  | astray (n prev : Nat) (ha : AtNode gv s w n prev) (hc : prev ∉ (gv.node n).cleanup.map (·.1))
      (hs : prev ∉ (gv.node n).setup.map (·.1)) : Lost gv w s "AssertionError"

/-- The ways `iter gv s w` can go.  In a visit (`Visit`), `s1`, `evs` are state and events of the first run decision,
taken in `entered gv s w n`. -/
inductive Iter (gv : Graph) (w : Nat) (s : State) : Step → Prop
  | exit (hc : isCleanupReady gv s gv.root w = true) (hp : (s.wd w).path = [gv.root]) :
      Iter gv w s (s.setWd w (fun d => { d with pc := .done, path := [] }), [Event.exit (gv.worker w).id], .exit)
  | lost (what : String) (h : Lost gv w s what) : Iter gv w s (s, [], .raise what)
  | fromRoot (n c : Nat) (s1 : State) (hc : isCleanupReady gv s gv.root w = false)
      (hl : (s.wd w).path.getLast? = some n) (h1 : (s.wd w).path.length = 1) (hp : pickChild gv s n w = some (c, s1)) :
      Iter gv w s (pushPath s1 w c, [], .cont)
  | bounce (n : Nat) (hc : isCleanupReady gv s gv.root w = false) (hl : (s.wd w).path.getLast? = some n)
      (h1 : (s.wd w).path.length ≠ 1) (ho : isOccupied gv s n w = true) :
      Iter gv w s (bounced gv s w n, [Event.sleep (gv.worker w).id (sleepQ gv n)], .suspend)
  | toParent (n prev p : Nat) (s1 : State) (ha : AtNode gv s w n prev)
      (hadj : prev ∈ (gv.node n).cleanup.map (·.1) ∨ prev ∈ (gv.node n).setup.map (·.1))
      (hr : isSetupReady gv s n w = false) (hp : pickParent gv s n w = some (p, s1)) :
      Iter gv w s (pushPath s1 w p, [], .cont)
  | undecided (n prev : Nat) (dir : Dir) (e : String) (hv : Visit gv s w n prev dir)
      (hd : runDecision gv (entered gv s w n) n w = .error e) :
      Iter gv w s (entered gv s w n, [], .raise e)
  | start (n prev : Nat) (dir : Dir) (s1 : State) (evs : List Event) (hv : Visit gv s w n prev dir)
      (hd : runDecision gv (entered gv s w n) n w = .ok (true, s1, evs)) (hroot : (gv.node n).objectRoot = false) :
      Iter gv w s ((startTest gv s1 n w .plain dir).1, evs ++ (startTest gv s1 n w .plain dir).2.1, .suspend)
  | create (n prev : Nat) (dir : Dir) (s1 : State) (evs : List Event) (hv : Visit gv s w n prev dir)
      (hd : runDecision gv (entered gv s w n) n w = .ok (true, s1, evs)) (hroot : (gv.node n).objectRoot = true) :
      Iter gv w s ((startTest gv (preset gv s1 w n) n w .pre dir).1,
        evs ++ (startTest gv (preset gv s1 w n) n w .pre dir).2.1, .suspend)
  | skip (n prev : Nat) (dir : Dir) (s1 : State) (evs : List Event) (r : Step) (hv : Visit gv s w n prev dir)
      (hd : runDecision gv (entered gv s w n) n w = .ok (false, s1, evs))
      (ha : After gv w n prev dir (finishTraverse s1 n w) r) :
      Iter gv w s (r.1, evs ++ r.2.1, r.2.2)

theorem traverseNode_iter {gv : Graph} {s : State} {w n prev : Nat} {dir : Dir} (hv : Visit gv s w n prev dir) :
    Iter gv w s (traverseNode gv s w n prev dir) := by
  fun_cases traverseNode gv s w n prev dir with
  | case1 ho => exact absurd ho (by simp [hv.free])
  | case2 _ _ _ e hd => exact .undecided n prev dir e hv hd
  | case3 _ _ _ s1 evs hroot _ s3 evs2 f hst hd =>
    have := Iter.create n prev dir s1 evs hv hd hroot
    rw [show startTest gv (preset gv s1 w n) n w .pre dir = _ from hst] at this
    rwa [show f = .suspend from (congrArg (·.2.2) hst).symm.trans (startTest_flow ..)]
  | case4 _ _ _ s1 evs hroot s2 evs2 f hst hd =>
    have := Iter.start n prev dir s1 evs hv hd (by simpa using hroot)
    rw [hst] at this
    rwa [show f = .suspend from (congrArg (·.2.2) hst).symm.trans (startTest_flow ..)]
  | case5 _ _ _ run s1 evs hd hrun s2 evs2 f hat =>
    obtain rfl : run = false := by simpa using hrun
    exact .skip n prev dir s1 evs _ hv hd (hat ▸ afterTraverse_after ..)

theorem iter_iter (gv : Graph) (s : State) (w : Nat) : Iter gv w s (iter gv s w) := by
  fun_cases iter gv s w with
  | case1 _ _ hc hp => exact .exit hc (by simpa using hp)
  | case5 _ hc n hl h1 c s1 hp => exact .fromRoot n c s1 (by simpa using hc) hl (by simpa using h1) hp
  | case6 _ _ hc n hl h1 ho => exact .bounce n (by simpa using hc) hl (by simpa using h1) ho
  | case7 _ hc n hl h1 prev ho hcl hr =>
    exact traverseNode_iter (prev := prev)
      ⟨⟨by simpa using hc, hl, by simpa using h1, rfl, by simpa using ho⟩, hr, List.contains_iff_mem.mp hcl⟩
  | case9 _ hc n hl h1 prev ho hcl hr p s1 hp =>
    exact .toParent n prev p s1 ⟨by simpa using hc, hl, by simpa using h1, rfl, by simpa using ho⟩
      (Or.inl (List.contains_iff_mem.mp hcl)) (by simpa using hr) hp
  | case11 _ hc n hl h1 prev ho hcl hsu hr p s1 hp =>
    exact .toParent n prev p s1 ⟨by simpa using hc, hl, by simpa using h1, rfl, by simpa using ho⟩
      (Or.inr (List.contains_iff_mem.mp hsu)) (by simpa using hr) hp
  | case12 _ hc n hl h1 prev ho hcl hsu hr =>
    exact traverseNode_iter (prev := prev) ⟨⟨by simpa using hc, hl, by simpa using h1, rfl, by simpa using ho⟩,
      by simpa using hr, fun h => hcl (List.contains_iff_mem.mpr h), List.contains_iff_mem.mp hsu⟩
  | case2 _ hc hp => exact .lost _ (.notRoot hc (by simpa using hp))
  | case3 _ hc hl => exact .lost _ (.noPath (by simpa using hc) hl)
  | case4 _ hc n hl h1 hp => exact .lost _ (.noChild n (by simpa using hc) hl (by simpa using h1) hp)
  | case8 _ hc n hl h1 prev ho hcl hr hp =>
    exact .lost _ (.noParent n prev ⟨by simpa using hc, hl, by simpa using h1, rfl, by simpa using ho⟩
      (Or.inl (List.contains_iff_mem.mp hcl)) (by simpa using hr) hp)
  | case10 _ hc n hl h1 prev ho hcl hsu hr hp =>
    exact .lost _ (.noParent n prev ⟨by simpa using hc, hl, by simpa using h1, rfl, by simpa using ho⟩
      (Or.inr (List.contains_iff_mem.mp hsu)) (by simpa using hr) hp)
  | case13 _ hc n hl h1 prev ho hcl hsu =>
    exact .lost _ (.astray n prev ⟨by simpa using hc, hl, by simpa using h1, rfl, by simpa using ho⟩
      (fun h => hcl (List.contains_iff_mem.mpr h)) (fun h => hsu (List.contains_iff_mem.mpr h)))

/-! ### the loop -/

/-- the optional lazy expansion in front of an iteration: `s1` is the state `iter` starts from -/
inductive Prepared (g : Graph) (w : Nat) (s : State) : State → Prop
  | stay (h : isCleanupReady (vis g s) s g.root w = true ∨ (s.wd w).path.length ≤ 1) : Prepared g w s s
  | expand (hc : isCleanupReady (vis g s) s g.root w = false) (h1 : 1 < (s.wd w).path.length) :
      Prepared g w s (prepare g s w)

theorem Prepared.cases {g : Graph} {w : Nat} {s s1 : State} (h : Prepared g w s s1) : s1 = s ∨ s1 = prepare g s w := by
  cases h
  · exact Or.inl rfl
  · exact Or.inr rfl

/-- the ways `iterL g s w` can go -/
def IterL (g : Graph) (w : Nat) (s : State) (r : Step) : Prop :=
  ∃ s1, Prepared g w s s1 ∧ Iter (vis g s1) w s1 r

theorem iterL_iterL (g : Graph) (s : State) (w : Nat) : IterL g w s (iterL g s w) := by
  fun_cases iterL g s w with
  | case1 h => exact ⟨s, .stay (by simpa using h), iter_iter ..⟩
  | case2 h s1 =>
    simp only [Bool.or_eq_true, decide_eq_true_eq, not_or, Bool.not_eq_true, Nat.not_le] at h
    exact ⟨s1, .expand h.1 h.2, iter_iter ..⟩

/-- The ways `runLoop g w fuel s evs` can go: iterations that continue, then one that suspends, exits or raises, unless
the fuel runs out before. -/
inductive Ran (g : Graph) (w : Nat) : Nat → State → List Event → State × List Event → Prop
  | dry (s : State) (evs : List Event) : Ran g w 0 s evs (s, evs ++ [Event.raise (g.worker w).id "fuel"])
  | cont {fuel : Nat} {s : State} {evs : List Event} {s1 : State} {e : List Event} {r : State × List Event}
      (hi : IterL g w (s.setWd w (fun d => { d with pc := .loop })) (s1, e, .cont)) (hr : Ran g w fuel s1 (evs ++ e) r) :
      Ran g w (fuel + 1) s evs r
  | stop {fuel : Nat} {s : State} {evs : List Event} {s1 : State} {e : List Event} {f : Flow}
      (hi : IterL g w (s.setWd w (fun d => { d with pc := .loop })) (s1, e, f)) (hf : f = .suspend ∨ f = .exit) :
      Ran g w (fuel + 1) s evs (s1, evs ++ e)
  | fail {fuel : Nat} {s : State} {evs : List Event} {s1 : State} {e : List Event} {what : String}
      (hi : IterL g w (s.setWd w (fun d => { d with pc := .loop })) (s1, e, .raise what)) :
      Ran g w (fuel + 1) s evs
        (s1.setWd w (fun d => { d with pc := .failed }), evs ++ e ++ [Event.raise (g.worker w).id what])

theorem runLoop_ran (g : Graph) (w fuel : Nat) (s : State) (evs : List Event) :
    Ran g w fuel s evs (runLoop g w fuel s evs) := by
  fun_induction runLoop g w fuel s evs with
  | case1 s evs => exact .dry s evs
  | case2 fuel s evs _ s1 e hi ih => exact .cont (hi ▸ iterL_iterL ..) ih
  | case3 fuel s evs _ s1 e hi => exact .stop (hi ▸ iterL_iterL ..) (Or.inl rfl)
  | case4 fuel s evs _ s1 e hi => exact .stop (hi ▸ iterL_iterL ..) (Or.inr rfl)
  | case5 fuel s evs _ s1 e what hi => exact .fail (hi ▸ iterL_iterL ..)

/-! ### the second half of `run_test_node`

`resumeTest` in three pieces (definitionally, `resumeTest_eq` is `rfl`): the stub's report, the replacement of the
placeholder by the found result, and the continuation. -/

/-- first block of the second half of `run_test_node`: the stub's report -/
def reportOutcome (g : Graph) (s : State) (w n : Nat) (phase : Phase) (uid : String) (wait : Nat) (out : Outcome) :
    State × List Event :=
  let wid := (g.worker w).id
  let name := if phase == .pre then (s.wd w).preName else (g.node n).name
  if wait == 0 then
    match out.status with
    | some st =>
      let s := { s with jobResults := s.jobResults ++ [(name, uid, st, out.dur)] }
      let s := if (st == "PASS" || st == "WARN") && phase != .pre then produce g s n w else s
      (s, [Event.finish wid (clsName g n phase) uid st])
    | none => (s, [Event.finish wid (clsName g n phase) uid "NONE"])
  else (s, [])

/-- the found result replaces the placeholder; returns the state and whether the status counts as success -/
def recordResult (s : State) (w n : Nat) (phase : Phase) (name uid : String) (tag : Nat) (st0 : String) (dur : Nat) :
    State × Bool :=
  let prior := if phase == .pre then (s.wd w).preResults else (s.nd n).results
  let maxAllowed := ((prior.filter (·.status == "PASS")).map (·.dur)).foldl max 0
  let maxAllowed := if (prior.filter (·.status == "PASS")).isEmpty then dur else maxAllowed
  let st := if st0 == "PASS" && 4 * dur > 5 * maxAllowed then "WARN" else st0
  let s := if st != st0 then
      { s with jobResults := s.jobResults.map (fun r => if r.1 == name && r.2.1 == uid then (r.1, r.2.1, st, r.2.2.2) else r) }
    else s
  let res : Result := { name := name, status := st, uid := uid, dur := dur }
  let s :=
    if phase == .pre then
      s.setWd w (fun d => { d with preResults := (d.preResults ++ [res]).filter (fun r => !(r.status == "UNKNOWN" && r.tag == tag)) })
    else
      s.setNd n (fun d => { d with results := (d.results ++ [res]).filter (fun r => !(r.status == "UNKNOWN" && r.tag == tag)) })
  (s, !(lower st == "error" || lower st == "fail"))

/-- the name under which the awaited test reports -/
def testName (g : Graph) (s : State) (w n : Nat) (ph : Phase) : String :=
  if ph == .pre then (s.wd w).preName else (g.node n).name

/-- a failed creation pre-step is accounted to the object root -/
def accounted (s : State) (w n : Nat) (ph : Phase) : State :=
  if ph == .pre then s.setNd n (fun d => { d with results := d.results ++ (s.wd w).preResults.drop d.results.length }) else s

/-- What is left of a test when `w` is resumed with outcome `out`, the lookup of the result not having ended in another
sleep: the state after report and record, and whether the test counts as passed. -/
inductive Ended (g : Graph) (w n : Nat) (ph : Phase) (uid : String) (tag wait : Nat) (out : Outcome) (s : State) :
    State → Bool → Prop
  | found (nm u st0 : String) (dur : Nat)
      (h : (reportOutcome g s w n ph uid wait out).1.jobResults.find?
        (fun r => r.1 == testName g s w n ph && r.2.1 == uid) = some (nm, u, st0, dur)) :
      Ended g w n ph uid tag wait out s
        (recordResult (reportOutcome g s w n ph uid wait out).1 w n ph (testName g s w n ph) uid tag st0 dur).1
        (recordResult (reportOutcome g s w n ph uid wait out).1 w n ph (testName g s w n ph) uid tag st0 dur).2
  /-- the result never came -/
  | lost (h : (reportOutcome g s w n ph uid wait out).1.jobResults.find?
        (fun r => r.1 == testName g s w n ph && r.2.1 == uid) = none) (hw : 10 < wait + 1) :
      Ended g w n ph uid tag wait out s (reportOutcome g s w n ph uid wait out).1 false

/-- The ways `resume g s w out fuel` can go.  After a test (`Ended`: state `sc`), the traversal of the node ends in
`sF` and the loop body goes on from there. -/
inductive Resumed (g : Graph) (w : Nat) (out : Outcome) (fuel : Nat) (s : State) : State × List Event → Prop
  | over (h : (s.wd w).pc = .done ∨ (s.wd w).pc = .failed) : Resumed g w out fuel s (s, [])
  | loop (r : State × List Event) (h : (s.wd w).pc = .loop ∨ (s.wd w).pc = .bounce) (hr : Ran g w fuel s [] r) :
      Resumed g w out fuel s r
  | wait (n : Nat) (ph : Phase) (dir : Dir) (uid : String) (tag wait : Nat)
      (hpc : (s.wd w).pc = .test n ph dir uid tag wait)
      (h : (reportOutcome g s w n ph uid wait out).1.jobResults.find?
        (fun r => r.1 == testName g s w n ph && r.2.1 == uid) = none) (hw : wait + 1 ≤ 10) :
      Resumed g w out fuel s
        ((reportOutcome g s w n ph uid wait out).1.setWd w (fun d => { d with pc := .test n ph dir uid tag (wait + 1) }),
          (reportOutcome g s w n ph uid wait out).2 ++ [Event.sleep (g.worker w).id 3000])
  /-- the creation pre-step has passed: the test proper starts -/
  | created (n : Nat) (dir : Dir) (uid : String) (tag wait : Nat) (sc : State)
      (hpc : (s.wd w).pc = .test n .pre dir uid tag wait) (hs : Ended g w n .pre uid tag wait out s sc true) :
      Resumed g w out fuel s ((startTest g sc n w .main dir).1,
        (reportOutcome g s w n .pre uid wait out).2 ++ (startTest g sc n w .main dir).2.1)
  | stuck (n : Nat) (ph : Phase) (dir : Dir) (uid : String) (tag wait : Nat) (sc : State) (ok : Bool)
      (s1 : State) (e : List Event) (what : String)
      (hpc : (s.wd w).pc = .test n ph dir uid tag wait) (hs : Ended g w n ph uid tag wait out s sc ok)
      (hne : ¬ (ph = .pre ∧ ok = true))
      (ha : After (vis g (finishTraverse (accounted sc w n ph) n w)) w n
        ((sc.wd w).path.getD ((sc.wd w).path.length - 2) 0) dir (finishTraverse (accounted sc w n ph) n w)
        (s1, e, .raise what)) :
      Resumed g w out fuel s (s1.setWd w (fun d => { d with pc := .failed }),
        (reportOutcome g s w n ph uid wait out).2 ++ e ++ [Event.raise (g.worker w).id what])
  | back (n : Nat) (ph : Phase) (dir : Dir) (uid : String) (tag wait : Nat) (sc : State) (ok : Bool)
      (s1 : State) (e : List Event) (f : Flow) (r : State × List Event)
      (hpc : (s.wd w).pc = .test n ph dir uid tag wait) (hs : Ended g w n ph uid tag wait out s sc ok)
      (hne : ¬ (ph = .pre ∧ ok = true))
      (ha : After (vis g (finishTraverse (accounted sc w n ph) n w)) w n
        ((sc.wd w).path.getD ((sc.wd w).path.length - 2) 0) dir (finishTraverse (accounted sc w n ph) n w) (s1, e, f))
      (hf : ∀ what, f ≠ .raise what)
      (hr : Ran g w fuel s1 ((reportOutcome g s w n ph uid wait out).2 ++ e) r) :
      Resumed g w out fuel s r

theorem resumeTest_eq (g : Graph) (s : State) (w n : Nat) (phase : Phase) (dir : Dir) (uid : String) (tag wait : Nat)
    (out : Outcome) (fuel : Nat) :
    resumeTest g s w n phase dir uid tag wait out fuel =
      (match (reportOutcome g s w n phase uid wait out).1.jobResults.find?
          (fun r => r.1 == (if phase == .pre then (s.wd w).preName else (g.node n).name) && r.2.1 == uid) with
       | some (_, _, st0, dur) =>
         resumeTest.continueAfter g w n phase dir fuel
           (recordResult (reportOutcome g s w n phase uid wait out).1 w n phase
             (if phase == .pre then (s.wd w).preName else (g.node n).name) uid tag st0 dur).1
           (recordResult (reportOutcome g s w n phase uid wait out).1 w n phase
             (if phase == .pre then (s.wd w).preName else (g.node n).name) uid tag st0 dur).2
           (reportOutcome g s w n phase uid wait out).2
       | none =>
         if wait + 1 < 10 then
           ((reportOutcome g s w n phase uid wait out).1.setWd w (fun d => { d with pc := .test n phase dir uid tag (wait + 1) }),
            (reportOutcome g s w n phase uid wait out).2 ++ [Event.sleep (g.worker w).id 3000])
         else if wait + 1 == 10 then
           ((reportOutcome g s w n phase uid wait out).1.setWd w (fun d => { d with pc := .test n phase dir uid tag (wait + 1) }),
            (reportOutcome g s w n phase uid wait out).2 ++ [Event.sleep (g.worker w).id 3000])
         else resumeTest.continueAfter g w n phase dir fuel (reportOutcome g s w n phase uid wait out).1 false
           (reportOutcome g s w n phase uid wait out).2) := by
  unfold resumeTest; rfl

theorem phase_beq_pre (ph : Phase) : (ph == Phase.pre) = true ↔ ph = Phase.pre := by cases ph <;> decide

theorem continueAfter_resumed {g : Graph} {w : Nat} {out : Outcome} {fuel : Nat} {s : State} {n : Nat} {ph : Phase}
    {dir : Dir} {uid : String} {tag wait : Nat} {sc : State} {ok : Bool}
    (hpc : (s.wd w).pc = .test n ph dir uid tag wait) (hs : Ended g w n ph uid tag wait out s sc ok) :
    Resumed g w out fuel s
      (resumeTest.continueAfter g w n ph dir fuel sc ok (reportOutcome g s w n ph uid wait out).2) := by
  fun_cases resumeTest.continueAfter g w n ph dir fuel sc ok (reportOutcome g s w n ph uid wait out).2 with
  | case1 h s1 e2 f hst =>
    obtain ⟨rfl, rfl⟩ : ph = .pre ∧ ok = true := by rwa [Bool.and_eq_true, phase_beq_pre] at h
    have := Resumed.created (fuel := fuel) n dir uid tag wait sc hpc hs
    rwa [hst] at this
  | case2 _ prev h _ sF s1 e2 what hat =>
    exact .stuck n ph dir uid tag wait sc ok s1 e2 what hpc hs (by rwa [Bool.and_eq_true, phase_beq_pre] at h) (hat ▸ afterTraverse_after ..)
  | case3 _ prev h _ sF s1 e2 f hf hat =>
    exact .back n ph dir uid tag wait sc ok s1 e2 f _ hpc hs (by rwa [Bool.and_eq_true, phase_beq_pre] at h) (hat ▸ afterTraverse_after ..)
      (fun what hw => hf what hw) (runLoop_ran ..)

theorem resume_resumed (g : Graph) (s : State) (w : Nat) (out : Outcome) (fuel : Nat) :
    Resumed g w out fuel s (resume g s w out fuel) := by
  fun_cases resume g s w out fuel with
  | case1 h => exact .loop _ (Or.inl h) (runLoop_ran ..)
  | case2 h => exact .loop _ (Or.inr h) (runLoop_ran ..)
  | case3 n ph dir uid tag wait hpc =>
    rw [resumeTest_eq]
    split
    · next nm u st0 dur h => exact continueAfter_resumed hpc (.found nm u st0 dur h)
    · next h =>
      by_cases h9 : wait + 1 < 10
      · rw [if_pos h9]; exact .wait n ph dir uid tag wait hpc h (by omega)
      · rw [if_neg h9]
        by_cases h10 : (wait + 1 == 10) = true
        · rw [if_pos h10]; exact .wait n ph dir uid tag wait hpc h (by simp at h10; omega)
        · rw [if_neg h10]; exact continueAfter_resumed hpc (.lost h (by simp at h10; omega))
  | case4 h => exact .over (Or.inl h)
  | case5 h => exact .over (Or.inr h)

/-! ### what the pieces of a resumption and the back-off write -/

/-- the report of the stub changes the job results and (produce-on-PASS) the store, nothing else -/
theorem reportOutcome_writes (g : Graph) (s : State) (w n : Nat) (ph : Phase) (uid : String) (wait : Nat) (out : Outcome) :
    ∃ st j, (reportOutcome g s w n ph uid wait out).1 = { s with store := st, jobResults := j } := by
  fun_cases reportOutcome g s w n ph uid wait out with
  | case1 _ _ _ _ _ _ s2 => unfold s2 produce; split <;> exact ⟨_, _, rfl⟩
  | case2 | case3 => exact ⟨_, _, rfl⟩

/-- recording the found result relabels job results and replaces the placeholder: in `w`'s copy of the results during a
creation pre-step, in the results of `n` otherwise -/
theorem recordResult_writes (s : State) (w n : Nat) (ph : Phase) (name uid : String) (tag : Nat) (st0 : String) (dur : Nat) :
    ∃ j res, res.name = name ∧ res.uid = uid ∧ res.dur = dur ∧ res.tag = 0 ∧ (res.status = st0 ∨ res.status = "WARN") ∧
      (recordResult s w n ph name uid tag st0 dur).1 =
        if ph == .pre then
          ({ s with jobResults := j }).setWd w (fun d =>
            { d with preResults := (d.preResults ++ [res]).filter (fun r => !(r.status == "UNKNOWN" && r.tag == tag)) })
        else
          ({ s with jobResults := j }).setNd n (fun d =>
            { d with results := (d.results ++ [res]).filter (fun r => !(r.status == "UNKNOWN" && r.tag == tag)) }) := by
  fun_cases recordResult s w n ph name uid tag st0 dur with
  | case1 prior _ mA st s1 res s2 =>
    have hst : st = st0 ∨ st = "WARN" := by unfold st; split; exact Or.inr rfl; exact Or.inl rfl
    have hj : ∃ j, s1 = { s with jobResults := j } := by unfold s1; split; exact ⟨_, rfl⟩; exact ⟨_, rfl⟩
    obtain ⟨j, hj⟩ := hj
    exact ⟨j, res, rfl, rfl, rfl, rfl, hst, by unfold s2; rw [hj]⟩

/-- the account of a failed creation pre-step appends to the results of the object root -/
theorem accounted_writes (s : State) (w n : Nat) (ph : Phase) :
    ∃ l : NodeD → List Result, accounted s w n ph = s.setNd n (fun d => { d with results := d.results ++ l d }) := by
  unfold accounted
  split
  · exact ⟨_, rfl⟩
  · exact ⟨fun _ => [], by simp only [List.append_nil]; exact (setNd_id s n).symm⟩

theorem setWd_setWd (s : State) (w : Nat) (f f' : WorkerD → WorkerD) : (s.setWd w f).setWd w f' = s.setWd w (f' ∘ f) := by
  simp [State.setWd, List.modify_modify_eq]

/-- the back-off bumps the occupied node at most, and rewrites `w`'s record: back to the root, asleep -/
theorem bounced_writes (gv : Graph) (s : State) (w n : Nat) :
    ∃ (c : Bool) (f : WorkerD → WorkerD),
      (∀ d, (f d).path = [gv.root] ∧ (f d).pc = .bounce ∧ (f d).preResults = d.preResults ∧ (f d).preName = d.preName ∧
        (f d).unexplored = d.unexplored) ∧
      bounced gv s w n =
        ((if c then s.setNd n (fun d => { d with bump := d.bump + 1 }) else s).setWd w f) := by
  unfold bounced
  dsimp only
  split
  · split
    · rw [setWd_setWd]
      refine ⟨true, _, ?_, rfl⟩
      exact fun _ => ⟨rfl, rfl, rfl, rfl, rfl⟩
    · rw [setWd_setWd]
      refine ⟨false, _, ?_, rfl⟩
      exact fun _ => ⟨rfl, rfl, rfl, rfl, rfl⟩
  · rw [setWd_setWd]
    refine ⟨false, _, ?_, rfl⟩
    exact fun _ => ⟨rfl, rfl, rfl, rfl, rfl⟩

end I2N.Trav
