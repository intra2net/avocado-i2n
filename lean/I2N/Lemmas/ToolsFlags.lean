import I2N.Model.Tools
/-!
Lemmas about `flag_children` / `flag_intersection` (C15): what one flagging pass does to the policy tables.
-/
namespace I2N.Tools

theorem bind_ok {α β : Type} {x : Except Err α} {f : α → Except Err β} {y : β} (h : (x >>= f) = .ok y) :
    ∃ a, x = .ok a ∧ f a = .ok y := by
  cases x with
  | error e => simp [bind, Except.bind] at h
  | ok a => exact ⟨a, rfl, h⟩

theorem set_get_same (fl : Flags) (ty : FlagType) (p : Pol) (n m : Nat) :
    (fl.set ty p n).get ty m = if m = n then p else fl.get ty m := by
  cases ty <;> simp [Flags.set, Flags.get, upd]

theorem set_get_other (fl : Flags) (ty ty' : FlagType) (p : Pol) (n m : Nat) (h : ty ≠ ty') :
    (fl.set ty p n).get ty' m = fl.get ty' m := by
  cases ty <;> cases ty' <;> simp_all [Flags.set, Flags.get]

/-- a loop whose body, at node `i`, either assigns `p` to `i` (when `sel i`) or leaves the table alone -/
theorem foldlM_set_get {ty : FlagType} {p : Pol} {step : Flags → Nat → Except Err Flags} {sel : Nat → Bool}
    (hstep : ∀ f i f', step f i = .ok f' → f' = if sel i then f.set ty p i else f) :
    ∀ (l : List Nat) (fl fl' : Flags), l.foldlM step fl = .ok fl' →
      (∀ m, fl'.get ty m = if m ∈ l ∧ sel m = true then p else fl.get ty m) ∧
      (∀ ty' m, ty ≠ ty' → fl'.get ty' m = fl.get ty' m)
  | [], fl, fl', h => by
    cases h
    simp
  | a :: l, fl, fl', h => by
    rw [List.foldlM_cons] at h
    obtain ⟨f1, hf1, h⟩ := bind_ok h
    have ih := foldlM_set_get hstep l f1 fl' h
    rw [hstep fl a f1 hf1] at ih
    refine ⟨fun m => ?_, fun ty' m hne => ?_⟩
    · rw [ih.1 m]
      cases hs : sel a
      · by_cases hma : m = a
        · simp [hma, hs]
        · simp [hma]
      · rw [if_pos rfl, set_get_same]
        by_cases hma : m = a
        · simp [hma, hs]
        · simp [hma]
    · rw [ih.2 ty' m hne]
      split
      · exact set_get_other _ _ _ _ _ _ hne
      · rfl

/-- `k`-step reachability along the cleanup edges -/
inductive Steps (g : UGraph) : Nat → Nat → Nat → Prop
  | zero (a : Nat) : Steps g 0 a a
  | succ {k a b c : Nat} : b ∈ (g.node a).children → Steps g k b c → Steps g (k + 1) a c

theorem mem_reachWithin (g : UGraph) : ∀ (k : Nat) (cur : List Nat) (m : Nat),
    m ∈ reachWithin g k cur ↔ ∃ c ∈ cur, ∃ j, j ≤ k ∧ Steps g j c m
  | 0, cur, m => by
    simp only [reachWithin]
    constructor
    · intro h; exact ⟨m, h, 0, Nat.le_refl 0, Steps.zero m⟩
    · rintro ⟨c, hc, j, hj, hs⟩
      have : j = 0 := by omega
      subst this
      cases hs
      exact hc
  | k + 1, cur, m => by
    simp only [reachWithin, List.mem_append]
    rw [mem_reachWithin g k _ m]
    constructor
    · rintro (h | ⟨b, hb, j, hj, hs⟩)
      · exact ⟨m, h, 0, by omega, Steps.zero m⟩
      · obtain ⟨a, ha, hba⟩ := List.mem_flatMap.mp hb
        exact ⟨a, ha, j + 1, by omega, Steps.succ hba hs⟩
    · rintro ⟨c, hc, j, hj, hs⟩
      cases hs with
      | zero => exact Or.inl hc
      | succ hb hs' => exact Or.inr ⟨_, List.mem_flatMap.mpr ⟨c, hc, hb⟩, _, by omega, hs'⟩

/-- the nodes `flag_children` flags, given its unique root -/
def flaggedBy (g : UGraph) (r : Nat) (skipParents skipChildren : Bool) : List Nat :=
  let start := if skipParents then (g.node r).children else [r]
  if skipChildren then start else reachWithin g g.nodes.length start

theorem flagChildren_ok {g : UGraph} {fl fl' : Flags} {nodeName : List String} {objectName : String}
    {sel : Option (String × String)} {ty : FlagType} {p : Pol} {sp sc : Bool}
    (h : flagChildren g fl nodeName objectName sel ty p sp sc = .ok fl') :
    ∃ r, selectRoots g nodeName objectName sel = [r] ∧
      (∀ m, fl'.get ty m = if m ∈ flaggedBy g r sp sc then p else fl.get ty m) ∧
      (∀ ty' m, ty ≠ ty' → fl'.get ty' m = fl.get ty' m) := by
  revert h
  fun_cases flagChildren g fl nodeName objectName sel ty p sp sc with
  | case1 r hr start all =>
    intro h
    cases h
    -- the assignments are a loop that flags every node it meets
    have := foldlM_set_get (ty := ty) (p := p) (step := fun f n => pure (f.set ty p n)) (sel := fun _ => true)
      (fun f i f' hf => by cases hf; rfl) all fl _ (List.foldlM_pure ..)
    exact ⟨r, hr, fun m => by rw [this.1 m]; simp only [and_true]; rfl, this.2⟩
  | case2 => nofun

theorem flagChildren_error {g : UGraph} {fl : Flags} {nodeName : List String} {objectName : String}
    {sel : Option (String × String)} {ty : FlagType} {p : Pol} {sp sc : Bool}
    (h : (selectRoots g nodeName objectName sel).length ≠ 1) :
    flagChildren g fl nodeName objectName sel ty p sp sc = .error .assertionError := by
  fun_cases flagChildren g fl nodeName objectName sel ty p sp sc with
  | case1 r hr => rw [hr] at h; simp at h
  | case2 => rfl

/-- the matches of a node in the other graph -/
def matchesOf (g : UGraph) (otherNames : List String) (i : Nat) : List String :=
  otherNames.filter (fun nm => endsWithStr nm (g.node i).setless)

/-- whether `flag_intersection` assigns the policy to node `i` -/
def hit (g : UGraph) (otherNames : List String) (so ss : Bool) (i : Nat) : Bool :=
  (matchesOf g otherNames i).length == 1 &&
    !(((g.node i).sharedRoot && ss) || (!(g.node i).objectRoot.isEmpty && so))

/-- the body of the loop of the hand model `flagIntersection` (its anonymous step function, named) -/
def fiStep (g : UGraph) (otherNames : List String) (ty : FlagType) (p : Pol) (skipObjectRoots skipSharedRoot : Bool)
    (f : Flags) (i : Nat) : Except Err Flags :=
  let nd := g.node i
  match otherNames.filter (fun nm => endsWithStr nm nd.setless) with
  | [] => .ok f
  | [_] => if (nd.sharedRoot && skipSharedRoot) || (!nd.objectRoot.isEmpty && skipObjectRoots) then .ok f
           else .ok (f.set ty p i)
  | _ :: _ :: _ => .error .valueError

theorem flagIntersection_eq_foldlM (g : UGraph) (fl : Flags) (otherNames : List String) (ty : FlagType) (p : Pol)
    (so ss : Bool) :
    flagIntersection g fl otherNames ty p so ss = (List.range g.nodes.length).foldlM (fiStep g otherNames ty p so ss) fl :=
  rfl

/-- **what `flag_intersection` does**: it succeeds only if no node has several matches; then exactly the nodes with one
match (minus the skipped roots) get the policy, everything else keeps what it had -/
theorem flagIntersection_ok {g : UGraph} {fl fl' : Flags} {otherNames : List String} {ty : FlagType} {p : Pol}
    {so ss : Bool} (h : flagIntersection g fl otherNames ty p so ss = .ok fl') :
    (∀ m, m < g.nodes.length → fl'.get ty m = if hit g otherNames so ss m = true then p else fl.get ty m) ∧
    (∀ m, g.nodes.length ≤ m → fl'.get ty m = fl.get ty m) ∧
    (∀ ty' m, ty ≠ ty' → fl'.get ty' m = fl.get ty' m) := by
  have := foldlM_set_get (ty := ty) (p := p) (step := fiStep g otherNames ty p so ss) (sel := hit g otherNames so ss)
    (fun f i f' hf => ?_)
    (List.range g.nodes.length) fl fl' h
  · refine ⟨fun m hm => ?_, fun m hm => ?_, this.2⟩
    · rw [this.1 m]; simp [List.mem_range, hm]
    · rw [this.1 m]
      have : ¬ m < g.nodes.length := by omega
      simp [List.mem_range, this]
  · -- one iteration: no match, one match (assigned unless a skipped root), several (an error)
    simp only [hit, matchesOf]
    unfold fiStep at hf
    dsimp only at hf
    split at hf
    · next hm => cases hf; simp [hm]
    · next hm =>
      split at hf
      · next hs => cases hf; simp [hm, hs]
      · next hs => cases hf; simp [hm, hs]
    · cases hf

theorem mapAssertion_ok {r : Except Err Flags} {fl : Flags} (h : mapAssertion r = .ok fl) : r = .ok fl := by
  unfold mapAssertion at h
  split at h
  · simp at h
  · exact h

end I2N.Tools
