import I2N.Lemmas.Graph
import I2N.Lemmas.Walk
/-!
Completeness of the verified graph checker `Graph.wellFormed` (property C06): with the acyclicity clause every
clause of the checker is *decided* by its Prop-level statement (the others: `I2N/Lemmas/Graph.lean`), so the checker
is an exact decision procedure of `WF'`.

`WF` (of `I2N/Lemmas/Graph.lean`) is strictly weaker than what the checker demands in three places (net object
first, clone pairs irreflexive, every flagged clone source has a clone); `WF'` adds exactly these.

The hard clause is acyclicity: `checkAcyclic` computes `size` relaxation rounds from the all-zero rank and checks
that the result strictly decreases along every setup edge.  On an acyclic graph with in-range edges a value that
still changes in round `k+1` yields a setup walk of `k+1` edges (`walk_of_change`); an acyclic graph with `size`
nodes has no walk of more than `size` edges (`walk_le_size`: it would pass twice through a node, `StepsR.repeats`);
so round `size+1` changes nothing, and a rank that is its own relaxation strictly decreases along every edge.
-/
set_option linter.dupNamespace false

namespace I2N.Graph

theorem foldl_max_le (l : List Nat) (a b : Nat) : l.foldl max a ≤ b ↔ a ≤ b ∧ ∀ x ∈ l, x ≤ b := by
  induction l generalizing a with
  | nil => simp
  | cons y ys ih => simp only [List.foldl_cons, ih, Nat.max_le, List.forall_mem_cons, and_assoc]

theorem foldl_max_eq : ∀ (l : List Nat) (a : Nat), l.foldl max a = a ∨ l.foldl max a ∈ l
  | [], _ => Or.inl rfl
  | y :: ys, a => by
    simp only [List.foldl_cons, List.mem_cons]
    rcases foldl_max_eq ys (max a y) with h | h
    · rw [h]
      rcases Nat.le_total a y with hay | hay
      · right; left; exact Nat.max_eq_right hay
      · left; exact Nat.max_eq_left hay
    · right; right; exact h

theorem relax_length (g : Graph) (r : List Nat) : (g.relax r).length = g.size := by
  simp [Graph.relax]

theorem relax_getD (g : Graph) (r : List Nat) (c : Nat) (hc : c < g.size) :
    (g.relax r).getD c 0 = ((g.parents c).map (fun p => r.getD p 0 + 1)).foldl max 0 := by
  simp [Graph.relax, List.getD_eq_getElem?_getD, List.getElem?_map, List.getElem?_range hc]

theorem relaxN_succ (g : Graph) : ∀ (k : Nat) (r : List Nat), g.relaxN (k + 1) r = g.relax (g.relaxN k r)
  | 0, _ => rfl
  | k + 1, r => by
    show g.relaxN (k + 1) (g.relax r) = g.relax (g.relaxN k (g.relax r))
    exact relaxN_succ g k (g.relax r)

/-- the relaxed value dominates every parent's old value plus one -/
theorem relax_ge (g : Graph) (r : List Nat) (c p : Nat) (hc : c < g.size) (hp : p ∈ g.parents c) :
    r.getD p 0 + 1 ≤ (g.relax r).getD c 0 := by
  rw [relax_getD g r c hc]
  exact ((foldl_max_le _ 0 _).mp (Nat.le_refl _)).2 _ (List.mem_map.mpr ⟨p, hp, rfl⟩)

/-- a positive relaxed value is attained at some parent -/
theorem relax_attained (g : Graph) (r : List Nat) (c : Nat) (hc : c < g.size)
    (hpos : 0 < (g.relax r).getD c 0) : ∃ p ∈ g.parents c, r.getD p 0 + 1 = (g.relax r).getD c 0 := by
  rw [relax_getD g r c hc] at hpos ⊢
  rcases foldl_max_eq ((g.parents c).map (fun p => r.getD p 0 + 1)) 0 with h | h
  · omega
  · obtain ⟨p, hp, he⟩ := List.mem_map.mp h
    exact ⟨p, hp, he⟩

/-- the in-range clause of `WF` (without irreflexivity) -/
def Graph.InRange (g : Graph) : Prop := ∀ e ∈ g.setup, e.child < g.size ∧ e.parent < g.size

theorem Graph.InRange.parent_lt {g : Graph} (h : g.InRange) {c p : Nat} (he : g.IsEdge c p) : p < g.size := by
  obtain ⟨e, hm, _, hp⟩ := he
  exact hp ▸ (h e hm).2

theorem Graph.InRange.child_lt {g : Graph} (h : g.InRange) {c p : Nat} (he : g.IsEdge c p) : c < g.size := by
  obtain ⟨e, hm, hc, _⟩ := he
  exact hc ▸ (h e hm).1

theorem reach_lt {g : Graph} (h : g.InRange) {c a : Nat} (hr : g.Reach c a) : a < g.size := by
  induction hr with
  | edge he => exact h.parent_lt he
  | step _ _ ih => exact ih

/-- the rank after `k` rounds -/
def Graph.rankAt (g : Graph) (k : Nat) : List Nat := g.relaxN k (List.replicate g.size 0)

theorem rankAt_succ (g : Graph) (k : Nat) : g.rankAt (k + 1) = g.relax (g.rankAt k) := relaxN_succ g k _

theorem rank_eq_rankAt (g : Graph) : g.rank = g.rankAt g.size := rfl

/-- a value that still grows in round `k+1` is the start of a walk of `k+1` edges -/
theorem walk_of_change (g : Graph) (hr : g.InRange) : ∀ (k c : Nat), c < g.size →
    (g.rankAt k).getD c 0 < (g.rankAt (k + 1)).getD c 0 → ∃ z, StepsR g.IsEdge (k + 1) c z
  | 0, c, hc, hlt => by
    rw [rankAt_succ] at hlt
    obtain ⟨p, hp, _⟩ := relax_attained g (g.rankAt 0) c hc (by omega)
    exact ⟨p, .succ ((mem_parents g c p).mp hp) (.zero p)⟩
  | k + 1, c, hc, hlt => by
    rw [rankAt_succ g (k + 1)] at hlt
    obtain ⟨p, hp, he⟩ := relax_attained g (g.rankAt (k + 1)) c hc (by omega)
    have hedge := (mem_parents g c p).mp hp
    have hold : (g.rankAt k).getD p 0 + 1 ≤ (g.rankAt (k + 1)).getD c 0 := by
      rw [rankAt_succ g k]; exact relax_ge g _ c p hc hp
    obtain ⟨z, hz⟩ := walk_of_change g hr k p (hr.parent_lt hedge) (by omega)
    exact ⟨z, .succ hedge hz⟩

theorem reach_of_steps {g : Graph} : ∀ {k x z : Nat}, StepsR g.IsEdge (k + 1) x z → g.Reach x z
  | 0, _, _, .succ he (.zero _) => .edge he
  | _ + 1, _, _, .succ he h => .step he (reach_of_steps h)

/-- an acyclic graph has no walk with more edges than it has nodes: it would pass twice through one of them -/
theorem walk_le_size (g : Graph) (hr : g.InRange) (hac : ∀ n, ¬ g.Reach n n) {k c z : Nat}
    (hw : StepsR g.IsEdge k c z) : k ≤ g.size := by
  refine Nat.le_of_not_lt fun hk => ?_
  obtain ⟨_, _, _, y, _, _, hloop, _⟩ := hw.repeats (fun _ _ => hr.child_lt) hk
  exact hac y (reach_of_steps hloop)

/-- the relaxation has converged after `size` rounds on an acyclic graph: the next round raises nothing -/
theorem rank_converged (g : Graph) (hr : g.InRange) (hac : ∀ n, ¬ g.Reach n n) (c : Nat) (hc : c < g.size) :
    (g.relax g.rank).getD c 0 ≤ g.rank.getD c 0 := by
  rw [rank_eq_rankAt, ← rankAt_succ]
  apply Nat.le_of_not_lt
  intro hlt
  obtain ⟨z, hz⟩ := walk_of_change g hr g.size c hc hlt
  have := walk_le_size g hr hac hz
  omega

/-- Completeness of the acyclicity clause: on a graph whose setup edges are in range and which has no cycle (of any
length) the rank computed by `size` relaxation rounds strictly decreases along every setup edge. -/
theorem checkAcyclic_complete (g : Graph) (hr : g.InRange) (hac : ∀ n, ¬ g.Reach n n) :
    g.checkAcyclic = true := by
  simp only [Graph.checkAcyclic, Graph.rankOK, List.all_eq_true, decide_eq_true_eq]
  intro e he
  have hc := (hr e he).1
  have hp : e.parent ∈ g.parents e.child := (mem_parents g _ _).mpr ⟨e, he, rfl, rfl⟩
  have h1 := relax_ge g g.rank e.child e.parent hc hp
  have h2 := rank_converged g hr hac e.child hc
  omega

/-- the acyclicity clause decides acyclicity (given in-range edges) -/
theorem checkAcyclic_iff (g : Graph) (hr : g.InRange) : g.checkAcyclic = true ↔ ∀ n, ¬ g.Reach n n :=
  ⟨rankOK_acyclic g g.rank, checkAcyclic_complete g hr⟩

/-! ## `WF'`: what the checker decides -/

/-- `WF` plus the three demands of the checker that `WF` does not state:
  * `net_first`     — the one net object is the *first* of a composite node's objects (`Node.checkObjects`,
                      `TestNode.validate`: "the net has to be the first object");
  * `clones_irrefl` — no node is recorded as a clone of itself (`Graph.checkClones`);
  * `clone_flag`    — every node flagged as a clone source has at least one recorded clone (`Graph.checkClones`:
                      flag and relation agree in *both* directions; `WF.clone_sources` has one direction). -/
structure WF' (g : Graph) : Prop extends WF g where
  net_first : ∀ n ∈ g.nodes, n.flat = false → ∃ o rest, n.objs = o :: rest ∧ o.key = "nets"
  clones_irrefl : ∀ sc ∈ g.clones, sc.1 ≠ sc.2
  clone_flag : ∀ i n, g.nodes[i]? = some n → n.cloneSource = true → ∃ sc ∈ g.clones, sc.1 = i

theorem Graph.InRange.of_irrefl {g : Graph}
    (h : ∀ e ∈ g.setup, e.child < g.size ∧ e.parent < g.size ∧ e.child ≠ e.parent) : g.InRange :=
  fun e he => ⟨(h e he).1, (h e he).2.1⟩

theorem WF.inRange {g : Graph} (h : WF g) : g.InRange := .of_irrefl h.in_range

/-- the checker accepts every graph satisfying `WF'` -/
theorem wellFormed_complete' (g : Graph) (h : WF' g) : g.wellFormed = true := by
  have hids : g.checkIds = true := (checkIds_iff g).mpr h.ids_nodup
  have hrange : g.checkRange = true :=
    (checkRange_iff g).mpr ⟨h.in_range, fun e he => h.toWF.inRange e ((h.symmetric e).mpr he)⟩
  have hsym : g.checkSymmetric = true := (checkSymmetric_iff g).mpr h.symmetric
  have hac : g.checkAcyclic = true := checkAcyclic_complete g h.toWF.inRange h.acyclic
  have hroot : g.checkRoot = true := by
    obtain ⟨r, h1, h2, _, h4⟩ := h.single_root
    exact (checkRoot_iff g).mpr ⟨r, h1, h2, h4⟩
  have hprod : g.checkProducers = true := (checkProducers_iff g).mpr h.unique_producer
  have hedge : g.checkEdgeObjects = true :=
    (checkEdgeObjects_iff g).mpr (edgeObjectsOK_of g h.in_range h.edge_objects)
  have hobj : g.checkObjects = true :=
    (checkObjects_iff g).mpr fun n hn hf => ⟨h.one_net n hn hf, h.net_first n hn hf⟩
  have hcl : g.checkClones = true := by
    refine (checkClones_iff g).mpr ⟨fun sc hsc => ?_, h.clone_flag⟩
    obtain ⟨s, c, h1, h2, h3, h4, h5, h6⟩ := h.clone_sources.2 sc hsc
    exact ⟨s, c, h1, h2, h3, h4, h5, h6, h.clones_irrefl sc hsc⟩
  simp only [Graph.wellFormed, hids, hrange, hsym, hac, hroot, hprod, hedge, hobj, hcl, Bool.and_self]

/-- an accepted graph satisfies `WF'` -/
theorem wellFormed_sound' (g : Graph) (h : g.wellFormed = true) : WF' g := by
  have hwf := wellFormed_sound g h
  simp only [Graph.wellFormed, Bool.and_eq_true] at h
  obtain ⟨⟨_, hobj⟩, hcl⟩ := h
  have hobj' := (checkObjects_iff g).mp hobj
  have hcl' := (checkClones_iff g).mp hcl
  exact { toWF := hwf
          net_first := fun n hn hf => (hobj' n hn hf).2
          clones_irrefl := fun sc hsc => by
            obtain ⟨_, _, _, _, _, _, _, _, h7⟩ := hcl'.1 sc hsc
            exact h7
          clone_flag := hcl'.2 }

/-- The checker is an exact decision procedure of `WF'`. -/
theorem wellFormed_iff' (g : Graph) : g.wellFormed = true ↔ WF' g :=
  ⟨wellFormed_sound' g, wellFormed_complete' g⟩

/-- a rejection by the acyclicity clause alone (edges being in range) proves a cycle -/
theorem cycle_of_rejected (g : Graph) (hrg : g.checkRange = true) (hac : g.checkAcyclic = false) :
    ∃ n, g.Reach n n := by
  refine Classical.byContradiction fun hne => ?_
  rw [checkAcyclic_complete g (.of_irrefl ((checkRange_iff g).mp hrg).1) (fun n hn => hne ⟨n, hn⟩)] at hac
  cases hac

end I2N.Graph
