import I2N.Lemmas.Trav
/-!
# Support for the translator tie of `pick_parent` / `pick_child` / `is_*_ready`

* a search loop behind a `continue` guard is an `all`;
* Python sorts three times with a stable sort (`sorted(…, key=…)`), least significant key first; the hand model sorts
  once with the lexicographic key.  `stableSort_comp`: a stable sort by a key after a stable sort by a total preorder
  is the stable sort by the lexicographic combination — for the insertion sort of the model, any list.
-/
namespace I2N.PyGenSort
open I2N.Trav

/-- a search loop for a counterexample behind a `continue` guard is an `all` -/
theorem find_guard_all (l : List Nat) (skip bad : Nat → Bool) :
    ((l.filter (fun p => !skip p)).find? bad).isNone = l.all (fun p => skip p || !bad p) := by
  induction l with
  | nil => rfl
  | cons a r ih =>
    cases hs : skip a
    · have h1 : (a :: r).filter (fun p => !skip p) = a :: r.filter (fun p => !skip p) := by
        simp [hs]
      rw [h1, List.find?_cons]
      cases hb : bad a
      · simp only [List.all_cons, hs, hb, Bool.false_or, Bool.not_false, Bool.true_and]; exact ih
      · simp [List.all_cons, hs, hb]
    · have h1 : (a :: r).filter (fun p => !skip p) = r.filter (fun p => !skip p) := by
        simp [hs]
      rw [h1]; simp only [List.all_cons, hs, Bool.true_or, Bool.true_and]; exact ih

/-- the order of a stable sort by key `k` -/
def keyOrd (k : Nat → Nat) (a b : Nat) : Bool := decide (k a ≤ k b)

/-- key `k` first, ties by `le` -/
def lexLe (k : Nat → Nat) (le : Nat → Nat → Bool) (a b : Nat) : Bool :=
  decide (k a < k b) || (k a == k b && le a b)

theorem stableSort_cons (le : Nat → Nat → Bool) (a : Nat) (l : List Nat) :
    stableSort le (a :: l) = insertBy le a (stableSort le l) := rfl

/-- inserting where the two orders agree on every element of the list -/
theorem insertBy_congr (le le' : Nat → Nat → Bool) (a : Nat) (l : List Nat) (h : ∀ x ∈ l, le a x = le' a x) :
    insertBy le a l = insertBy le' a l := by
  induction l with
  | nil => rfl
  | cons b r ih =>
    simp only [insertBy]
    rw [h b (by simp), ih (fun x hx => h x (by simp [hx]))]

/-- the two insertions commute when `b` (inserted by key only) comes strictly before `a` in the tie order -/
theorem insertBy_comm (k : Nat → Nat) (le : Nat → Nat → Bool) (a b : Nat) (hab : le a b = false) (m : List Nat) :
    insertBy (keyOrd k) b (insertBy (lexLe k le) a m) = insertBy (lexLe k le) a (insertBy (keyOrd k) b m) := by
  -- by where `c`, the head of `m`, stands against `a` and against `b`: four cases of arithmetic on the keys
  induction m with
  | nil => grind [insertBy, keyOrd, lexLe]
  | cons c r ih => grind [insertBy, keyOrd, lexLe]

/-- sorted for the purpose of insertion: every element is `le`-below all later ones -/
def SortedBy (le : Nat → Nat → Bool) : List Nat → Prop
  | [] => True
  | a :: l => (∀ x ∈ l, le a x = true) ∧ SortedBy le l

theorem sortedBy_insertBy (le : Nat → Nat → Bool) (htot : ∀ a b, le a b = false → le b a = true)
    (htr : ∀ a b c, le a b = true → le b c = true → le a c = true) (a : Nat) (l : List Nat) (h : SortedBy le l) :
    SortedBy le (insertBy le a l) := by
  induction l with
  | nil => simp [insertBy, SortedBy]
  | cons b r ih =>
    simp only [insertBy]
    by_cases hab : le a b = true
    · simp only [hab, if_true]
      refine ⟨?_, h⟩
      intro x hx
      rcases List.mem_cons.1 hx with rfl | hx
      · exact hab
      · exact htr _ _ _ hab (h.1 x hx)
    · simp only [hab, if_false]
      have hba : le b a = true := htot _ _ (by simpa using hab)
      refine ⟨?_, ih h.2⟩
      intro x hx
      rcases mem_insertBy le a x r hx with rfl | hx
      · exact hba
      · exact h.1 x hx

theorem sortedBy_stableSort (le : Nat → Nat → Bool) (htot : ∀ a b, le a b = false → le b a = true)
    (htr : ∀ a b c, le a b = true → le b c = true → le a c = true) (l : List Nat) : SortedBy le (stableSort le l) := by
  induction l with
  | nil => simp [stableSort, SortedBy]
  | cons a r ih => rw [stableSort_cons]; exact sortedBy_insertBy le htot htr a _ ih

/-- sorting by key a list into which `a` was inserted by `le` = inserting `a` lexicographically into the sorted list -/
theorem stableSort_insertBy (k : Nat → Nat) (le : Nat → Nat → Bool)
    (htr : ∀ a b c, le a b = true → le b c = true → le a c = true) (a : Nat) (l : List Nat) (h : SortedBy le l) :
    stableSort (keyOrd k) (insertBy le a l) = insertBy (lexLe k le) a (stableSort (keyOrd k) l) := by
  induction l with
  | nil => rfl
  | cons b r ih =>
    simp only [insertBy]
    by_cases hab : le a b = true
    · simp only [hab, if_true]
      rw [stableSort_cons (keyOrd k) a (b :: r)]
      apply insertBy_congr
      intro x hx
      have hax : le a x = true := by
        rcases List.mem_cons.1 (mem_stableSort _ x _ hx) with rfl | hx'
        · exact hab
        · exact htr _ _ _ hab (h.1 x hx')
      grind [keyOrd, lexLe]
    · have hab' : le a b = false := by simpa using hab
      simp only [hab', Bool.false_eq_true, if_false]
      rw [stableSort_cons, ih h.2, stableSort_cons, insertBy_comm k le a b hab']

/-- **three sorts are one**: a stable sort by a key after a stable sort by a total preorder is the stable sort by the
lexicographic combination -/
theorem stableSort_comp (k : Nat → Nat) (le : Nat → Nat → Bool) (htot : ∀ a b, le a b = false → le b a = true)
    (htr : ∀ a b c, le a b = true → le b c = true → le a c = true) (l : List Nat) :
    stableSort (keyOrd k) (stableSort le l) = stableSort (lexLe k le) l := by
  induction l with
  | nil => rfl
  | cons a r ih =>
    rw [stableSort_cons le, stableSort_insertBy k le htr a _ (sortedBy_stableSort le htot htr r), ih, stableSort_cons]

theorem keyOrd_total (k : Nat → Nat) (a b : Nat) (h : keyOrd k a b = false) : keyOrd k b a = true := by
  simp only [keyOrd, decide_eq_false_iff_not, decide_eq_true_eq] at *; omega

theorem keyOrd_trans (k : Nat → Nat) (a b c : Nat) (h1 : keyOrd k a b = true) (h2 : keyOrd k b c = true) :
    keyOrd k a c = true := by
  simp only [keyOrd, decide_eq_true_eq] at *; omega

theorem lexLe_total (k : Nat → Nat) (le : Nat → Nat → Bool) (htot : ∀ a b, le a b = false → le b a = true) (a b : Nat)
    (h : lexLe k le a b = false) : lexLe k le b a = true := by
  grind [lexLe]

theorem lexLe_trans (k : Nat → Nat) (le : Nat → Nat → Bool)
    (htr : ∀ a b c, le a b = true → le b c = true → le a c = true) (a b c : Nat)
    (h1 : lexLe k le a b = true) (h2 : lexLe k le b c = true) : lexLe k le a c = true := by
  grind [lexLe]

end I2N.PyGenSort
