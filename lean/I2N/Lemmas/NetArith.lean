import I2N.Model.Net
/-! Helper lemmas for C18: IPv4 arithmetic of `I2N.Model.Net`. -/
namespace I2N.Net

theorem tz_zero (w : Nat) : tz w 0 = w := by
  induction w with
  | zero => rfl
  | succ w ih => simp [tz, ih]

theorem tz_two_mul (w m : Nat) : tz (w + 1) (2 * m) = tz w m + 1 := by
  rw [tz, if_pos (Nat.mul_mod_right 2 m), Nat.mul_div_cancel_left m (by decide)]

theorem tz_pow_mul_odd (j : Nat) : ∀ (w q : Nat), j ≤ w → q % 2 = 1 → tz w (2 ^ j * q) = j := by
  induction j with
  | zero =>
    intro w q _ hq
    cases w with
    | zero => rfl
    | succ w => rw [Nat.pow_zero, Nat.one_mul, tz, if_neg (by omega)]
  | succ j ih =>
    intro w q hw hq
    cases w with
    | zero => omega
    | succ w => rw [Nat.pow_succ, Nat.mul_comm (2 ^ j), Nat.mul_assoc, tz_two_mul, ih w q (by omega) hq]

theorem pow_split (b : Nat) (hb : b ≤ 32) : 2 ^ (32 - b) * 2 ^ b = 2 ^ 32 := by
  rw [← Nat.pow_add]; congr 1; omega

theorem netmaskOfBits_eq_mul (b : Nat) (hb : b ≤ 32) :
    netmaskOfBits b = 2 ^ (32 - b) * (2 ^ b - 1) := by
  unfold netmaskOfBits
  rw [Nat.mul_sub, pow_split b hb, Nat.mul_one]

theorem two_pow_sub_one_odd (b : Nat) (hb : 1 ≤ b) : (2 ^ b - 1) % 2 = 1 := by
  obtain ⟨k, rfl⟩ : ∃ k, b = k + 1 := ⟨b - 1, by omega⟩
  have := Nat.two_pow_pos k
  rw [Nat.pow_succ]; omega

theorem maskBit_netmaskOfBits (b : Nat) (hb : b ≤ 32) : maskBit (netmaskOfBits b) = b := by
  unfold maskBit
  by_cases h0 : b = 0
  · subst h0; simp [netmaskOfBits, tz_zero]
  · rw [netmaskOfBits_eq_mul b hb, tz_pow_mul_odd (32 - b) 32 _ (by omega) (two_pow_sub_one_odd b (by omega))]
    omega

theorem tz_le (w m : Nat) : tz w m ≤ w := by
  induction w generalizing m with
  | zero => simp [tz]
  | succ w ih =>
    simp only [tz]
    split
    · have := ih (m / 2); omega
    · omega

theorem maskBit_le (m : Nat) : maskBit m ≤ 32 := by unfold maskBit; omega

/-- the network address is the start of the block of `2^(32-b)` addresses that contains `ip` -/
theorem networkIp_eq_mul_div (ip b : Nat) : networkIp ip b = 2 ^ (32 - b) * (ip / 2 ^ (32 - b)) := by
  unfold networkIp
  have := Nat.div_add_mod ip (2 ^ (32 - b))
  omega

theorem networkIp_le (ip b : Nat) : networkIp ip b ≤ ip := by unfold networkIp; omega

theorem networkIp_mod (ip b : Nat) : networkIp ip b % 2 ^ (32 - b) = 0 := by
  rw [networkIp_eq_mul_div]; exact Nat.mul_mod_right _ _

theorem lt_networkIp_add (ip b : Nat) : ip < networkIp ip b + 2 ^ (32 - b) := by
  rw [networkIp_eq_mul_div]; exact Nat.lt_mul_div_succ ip (Nat.two_pow_pos _)

/-- the network address is characterised by alignment and the interval -/
theorem networkIp_eq_of (ip b n : Nat) (hal : n % 2 ^ (32 - b) = 0) (h1 : n ≤ ip) (h2 : ip < n + 2 ^ (32 - b)) :
    networkIp ip b = n := by
  obtain ⟨q, rfl⟩ := Nat.dvd_of_mod_eq_zero hal
  rw [networkIp_eq_mul_div, Nat.div_eq_of_lt_le (by rwa [Nat.mul_comm]) (by rwa [Nat.succ_mul, Nat.mul_comm])]

theorem networkIp_idem (ip b : Nat) : networkIp (networkIp ip b) b = networkIp ip b :=
  networkIp_eq_of _ _ _ (networkIp_mod ip b) (Nat.le_refl _) (Nat.lt_add_of_pos_right (Nat.two_pow_pos _))

theorem networkIp_eq_iff (ip b n : Nat) (hal : n % 2 ^ (32 - b) = 0) :
    networkIp ip b = n ↔ n ≤ ip ∧ ip < n + 2 ^ (32 - b) := by
  constructor
  · intro h; subst h; exact ⟨networkIp_le ip b, lt_networkIp_add ip b⟩
  · intro ⟨h1, h2⟩; exact networkIp_eq_of ip b n hal h1 h2

/-- a multiple of `2^(32-b)` below `2^32` leaves room for a whole block -/
theorem block_fits (t b : Nat) (ht : t < 2 ^ 32) (hal : t % 2 ^ (32 - b) = 0) : t + 2 ^ (32 - b) ≤ 2 ^ 32 := by
  obtain ⟨q, rfl⟩ := Nat.dvd_of_mod_eq_zero hal
  obtain ⟨p, hp⟩ := Nat.pow_dvd_pow 2 (show 32 - b ≤ 32 by omega)
  rw [hp] at ht ⊢
  exact Nat.mul_succ _ _ ▸ Nat.mul_le_mul_left _ (Nat.lt_of_mul_lt_mul_left ht)

end I2N.Net
