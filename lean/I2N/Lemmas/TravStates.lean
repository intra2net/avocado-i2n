import I2N.Lemmas.TravClean
import I2N.Lemmas.TravLoc
/-!
The semantic core of C01 in a restricted setting: under explicit hypotheses on the graph (`SemHyp`) and on the initial
store (`InitShared`), a test is started only when every state it gets from a parsed producer is in the shared pool, in
the pool of a worker it is told (`get_location`), or the producing class has a result that did not pass.

First what does not depend on the invariant and serves `TravStatesRm.lean` as well: `Inert` pieces of a step, and the
step of a worker, by cases over the moves of `TravMoves.lean`, for any invariant its pieces keep (`Loop`).  Then `Sem` =
`Prov` (every state in a pool was there initially or was produced by the pool's worker on a copy that has a result) ∧
`FinSrc` (the states set by a traversed parsed copy are sourced: shared pool, pool of a listed worker, or a non-passing
result of the class), the provenance of `start` events (`StartSem`), and `Sem` as an instance of `Loop`.
-/
namespace I2N.Trav

/-! ## the store -/

theorem find?_map_key {β} (st : List (String × β)) (upd : String × β → String × β) (hk : ∀ e, (upd e).1 = e.1) (loc : String) :
    (st.map upd).find? (·.1 == loc) = (st.find? (·.1 == loc)).map upd := by
  induction st with
  | nil => rfl
  | cons a r ih =>
    simp only [List.map_cons, List.find?_cons, hk]
    cases h : (a.1 == loc)
    · simp only [ih]
    · rfl

theorem storeGet_storeSet (st : List (String × List (String × String))) (loc : String) (l : List (String × String))
    (loc' : String) : storeGet (storeSet st loc l) loc' = if loc' = loc then l else storeGet st loc' := by
  unfold storeGet storeSet
  by_cases hany : st.any (·.1 == loc) = true
  · simp only [hany, if_true]
    rw [find?_map_key st (fun e => if e.1 == loc then (loc, l) else e) (by intro e; by_cases h : e.1 = loc <;> simp [h])]
    by_cases hl : loc' = loc
    · subst hl
      simp only [if_true]
      rw [List.any_eq_true] at hany
      obtain ⟨e, he, hk⟩ := hany
      cases hf : st.find? (·.1 == loc') with
      | none =>
        rw [List.find?_eq_none] at hf
        exact absurd hk (hf e he)
      | some e' =>
        have := List.find?_some hf
        simp only [Option.map_some, this, if_true]
    · simp only [hl, if_false]
      cases hf : st.find? (·.1 == loc') with
      | none => rfl
      | some e' =>
        have h1 := List.find?_some hf
        simp only [beq_iff_eq] at h1
        have : ¬ e'.1 = loc := by rw [h1]; exact hl
        simp [this]
  · simp only [hany, Bool.false_eq_true, if_false, List.find?_append]
    have hnone : st.find? (·.1 == loc) = none := by
      rw [List.find?_eq_none]
      intro e he hk
      exact hany (List.any_eq_true.mpr ⟨e, he, hk⟩)
    by_cases hl : loc' = loc
    · subst hl
      simp [hnone]
    · simp only [hl, if_false]
      have : (loc == loc') = false := by simpa using (Ne.symm hl)
      cases hf : st.find? (·.1 == loc') <;> simp [List.find?, this]

theorem netOf_owner {g : Graph} {n w : Nat} (h : (g.node n).owner = some w) : g.netOf n w = w := by
  unfold Graph.netOf; rw [h]; rfl

/-- what `produce` adds: the set states of the node, to the own pool of the worker the copy was parsed for (`netOf`) -/
theorem mem_storeGet_produce (g : Graph) (s : State) (n w : Nat) (loc : String) (vs : String × String) :
    vs ∈ storeGet (produce g s n w).store loc ↔
      vs ∈ storeGet s.store loc ∨ (loc = (g.worker (g.netOf n w)).id ∧ vs ∈ (g.node n).sets) := by
  unfold produce
  dsimp only
  rw [storeGet_storeSet]
  by_cases hl : loc = (g.worker (g.netOf n w)).id
  · subst hl
    simp only [if_true, List.mem_append, List.mem_filter, true_and]
    constructor
    · rintro (h | ⟨h, _⟩)
      · exact Or.inl h
      · exact Or.inr h
    · rintro (h | h)
      · exact Or.inl h
      · by_cases hin : vs ∈ storeGet s.store (g.worker (g.netOf n w)).id
        · exact Or.inl hin
        · exact Or.inr ⟨h, by simpa using hin⟩
  · simp [hl]

/-- the initial store has entries under the location `shared` only (excludes finding F5) -/
def InitShared (store : List (String × List (String × String))) : Prop := ∀ e ∈ store, e.1 = "shared"

instance (store : List (String × List (String × String))) : Decidable (InitShared store) := by
  unfold InitShared; infer_instance

theorem InitShared.get {store : List (String × List (String × String))} (h : InitShared store) (loc : String)
    (vs : String × String) (hv : vs ∈ storeGet store loc) : loc = "shared" := by
  unfold storeGet at hv
  cases hf : store.find? (·.1 == loc) with
  | none => rw [hf] at hv; simp at hv
  | some e =>
    have h1 := List.find?_some hf
    simp only [beq_iff_eq] at h1
    rw [← h1]; exact h e (List.mem_of_find?_eq_some hf)

/-! ## `sync_states` -/

theorem foldl_ind {α β} (f : β → α → β) (P : β → Prop) (l : List α) (b : β) (h0 : P b)
    (hs : ∀ b a, a ∈ l → P b → P (f b a)) : P (l.foldl f b) := by
  induction l generalizing b with
  | nil => exact h0
  | cons a r ih =>
    exact ih _ (hs b a List.mem_cons_self h0) (fun b' a' ha' => hs b' a' (List.mem_cons_of_mem _ ha'))

theorem syncStep_cases (nd : Node) (rv : Option (List String)) (acc : SyncAcc) (vs : String × String) :
    syncStep nd rv acc vs = acc ∨
    ((unsetModeOf nd vs.1).toList.head? = some 'f' ∧
      syncStep nd rv acc vs = (true, "unset", acc.2.2.1 ++ [vs], acc.2.2.2.1, false)) ∨
    ((nd.poolFilter = "reuse" ∨ nd.poolFilter = "block") ∧
      syncStep nd rv acc vs = (false, acc.2.1, acc.2.2.1, acc.2.2.2.1, true)) ∨
    (¬ (nd.poolFilter = "reuse" ∨ nd.poolFilter = "block") ∧
      syncStep nd rv acc vs = (true, "get", acc.2.2.1, acc.2.2.2.1 ++ [vs], false)) := by
  fun_cases syncStep nd rv acc vs with
  | case1 | case2 | case3 => exact Or.inl rfl
  | case4 _ _ _ _ h => exact Or.inr (Or.inl ⟨by simpa using h, rfl⟩)
  | case5 _ _ _ _ _ h => exact Or.inr (Or.inr (Or.inl ⟨by simpa using h, rfl⟩))
  | case6 _ _ _ _ _ h => exact Or.inr (Or.inr (Or.inr ⟨by simpa using h, rfl⟩))

/-- invariant of the loop of `sync_states`: every state queued for removal is marked `f.`; states are
queued for a copy only when the pool filter is neither `reuse` nor `block`; the action names what was queued -/
def AccOk (nd : Node) (acc : SyncAcc) : Prop :=
  (∀ vs ∈ acc.2.2.1, (unsetModeOf nd vs.1).toList.head? = some 'f') ∧
  (acc.2.2.2.1 ≠ [] → ¬ (nd.poolFilter = "reuse" ∨ nd.poolFilter = "block")) ∧
  (acc.2.1 = "unset" → acc.2.2.1 ≠ []) ∧ (acc.2.1 = "get" → acc.2.2.2.1 ≠ []) ∧
  (acc.1 = true → acc.2.1 = "unset" ∨ acc.2.1 = "get") ∧
  (∀ vs ∈ acc.2.2.1, vs ∈ nd.sets)

theorem syncStep_accOk (nd : Node) (rv : Option (List String)) (acc : SyncAcc) (vs : String × String)
    (hvs : vs ∈ nd.sets) (h : AccOk nd acc) : AccOk nd (syncStep nd rv acc vs) := by
  obtain ⟨h1, h2, h3, h4, h5, h6⟩ := h
  have snoc : ∀ (P : String × String → Prop), (∀ x ∈ acc.2.2.1, P x) → P vs → ∀ x ∈ acc.2.2.1 ++ [vs], P x :=
    fun P ha hv x hx => (List.mem_append.mp hx).elim (ha x) (fun h => List.mem_singleton.mp h ▸ hv)
  rcases syncStep_cases nd rv acc vs with e | ⟨hm, e⟩ | ⟨_, e⟩ | ⟨hp, e⟩
  · rw [e]; exact ⟨h1, h2, h3, h4, h5, h6⟩
  · rw [e]; exact ⟨snoc _ h1 hm, h2, by simp, by simp, by simp, snoc _ h6 hvs⟩
  · rw [e]; exact ⟨h1, h2, h3, h4, by simp, h6⟩
  · rw [e]; exact ⟨h1, fun _ => hp, by simp, by simp, by simp, h6⟩

theorem syncAcc_accOk (nd : Node) (rv : Option (List String)) : AccOk nd (syncAcc nd rv) :=
  foldl_ind _ (AccOk nd) _ _ ⟨by simp, by simp, by simp, by simp, by simp, by simp⟩
    (fun acc vs hvs h => syncStep_accOk nd rv acc vs hvs h)

/-- the node asks for no removal and no copy while backing out -/
def NodeNR (nd : Node) : Prop :=
  (nd.poolFilter = "reuse" ∨ nd.poolFilter = "block") ∧ ∀ e ∈ nd.unsetMode, e.2.toList.head? ≠ some 'f'

instance (nd : Node) : Decidable (NodeNR nd) := by unfold NodeNR; infer_instance

theorem NodeNR.mode {nd : Node} (h : NodeNR nd) (vm : String) : (unsetModeOf nd vm).toList.head? ≠ some 'f' := by
  unfold unsetModeOf
  cases hf : nd.unsetMode.find? (·.1 == vm) with
  | none => simp only; decide
  | some e => exact h.2 e (List.mem_of_find?_eq_some hf)

theorem syncStates_noop (g : Graph) (s : State) (n w : Nat) (rv : Option (List String)) (h : NodeNR (g.node n)) :
    syncStates g s n w rv = (s, []) := by
  have hacc : (syncAcc (g.node n) rv).1 = false := by
    refine foldl_ind _ (fun acc : SyncAcc => acc.1 = false) _ _ rfl (fun acc vs _ ha => ?_)
    rcases syncStep_cases (g.node n) rv acc vs with e | ⟨hm, _⟩ | ⟨_, e⟩ | ⟨hp, _⟩
    · rw [e]; exact ha
    · exact absurd hm (h.mode vs.1)
    · rw [e]
    · exact absurd h.1 hp
  unfold syncStates
  simp [hacc]

/-! ## pieces of a step that touch neither the store, nor a result list, nor a `finished` mark -/

structure Frame (s s' : State) : Prop where
  store : s'.store = s.store
  results : ∀ m, (s'.nd m).results = (s.nd m).results
  fin : ∀ m, (s'.nd m).finished = (s.nd m).finished

theorem Frame.refl (s : State) : Frame s s := ⟨rfl, fun _ => rfl, fun _ => rfl⟩

theorem Frame.trans {s s1 s2 : State} (a : Frame s s1) (b : Frame s1 s2) : Frame s s2 :=
  ⟨b.store.trans a.store, fun m => (b.results m).trans (a.results m), fun m => (b.fin m).trans (a.fin m)⟩

/-- … and that only add to the `droppedCleanup` registers: the relation generated by the elementary updates which the
loop is made of apart from starting a test, recording a result, marking a node traversed and removing states -/
inductive Inert : State → State → Prop
  | other {s s' : State} : s'.store = s.store → s'.nodes = s.nodes → s'.regs = s.regs → Inert s s'
  | setNd (s : State) (m : Nat) (f : NodeD → NodeD) :
      (∀ d, (f d).results = d.results) → (∀ d, (f d).finished = d.finished) → Inert s (s.setNd m f)
  | setCr (s : State) (c : Nat) (f : ClassRegs → ClassRegs) :
      (∀ r c' u, u ∈ regWorkers r.droppedCleanup (some c') → u ∈ regWorkers (f r).droppedCleanup (some c')) →
      Inert s (s.setCr c f)
  | trans {s s1 s2 : State} : Inert s s1 → Inert s1 s2 → Inert s s2

theorem Inert.refl (s : State) : Inert s s := .other rfl rfl rfl

/-- an update of a node's record that keeps the result list and the `finished` mark by definition -/
theorem Inert.nd (s : State) (m : Nat) (f : NodeD → NodeD) (hr : ∀ d, (f d).results = d.results := by intro _; rfl)
    (hf : ∀ d, (f d).finished = d.finished := by intro _; rfl) : Inert s (s.setNd m f) := .setNd s m f hr hf

theorem Inert.setWd (s : State) (w : Nat) (f : WorkerD → WorkerD) : Inert s (s.setWd w f) := .other rfl rfl rfl

theorem Inert.frame {s s' : State} (a : Inert s s') : Frame s s' := by
  induction a with
  | other h1 h2 _ => exact ⟨h1, fun m => by unfold State.nd; rw [h2], fun m => by unfold State.nd; rw [h2]⟩
  | setNd s m f hr hf => exact ⟨rfl, fun i => nd_setNd_proj (·.results) s m f hr i, fun i => nd_setNd_proj (·.finished) s m f hf i⟩
  | setCr => exact ⟨rfl, fun _ => rfl, fun _ => rfl⟩
  | trans _ _ ih1 ih2 => exact ih1.trans ih2

/-- the `droppedCleanup` registers only grow -/
def MonoC (s s' : State) : Prop :=
  ∀ cp c u, u ∈ regWorkers (s.cr cp).droppedCleanup (some c) → u ∈ regWorkers (s'.cr cp).droppedCleanup (some c)

theorem MonoC.refl (s : State) : MonoC s s := fun _ _ _ h => h
theorem MonoC.trans {s s1 s2 : State} (a : MonoC s s1) (b : MonoC s1 s2) : MonoC s s2 := fun cp c u h => b cp c u (a cp c u h)

theorem MonoC.ready {s s' : State} (a : MonoC s s') (g : Graph) (n v : Nat) (h : isCleanupReady g s n v = true) :
    isCleanupReady g s' n v = true :=
  Clean.isCleanupReady_mono g s s' n v (fun cp c h => a cp c v h) h

theorem MonoC.of_quiet {w : Nat} {s s' : State} (a : Clean.Quiet w s s') : MonoC s s' := fun cp c u h => by rw [a.dc cp]; exact h
theorem MonoC.of_same {w : Nat} {s s' : State} (a : Clean.Same w s s') : MonoC s s' := MonoC.of_quiet a.1
theorem MonoC.of_fr {w : Nat} {s s' : State} (a : Clean.Fr w s s') : MonoC s s' := a.monoC

theorem Inert.monoC {s s' : State} (a : Inert s s') : MonoC s s' := by
  induction a with
  | other _ _ h3 => intro cp c u h; unfold State.cr at h ⊢; rw [h3]; exact h
  | setNd => exact MonoC.refl _
  | setCr s c f hf =>
    intro cp c' u h
    rcases cr_setCr_cases s c f cp with h' | ⟨_, h'⟩
    · rw [h']; exact h
    · rw [h']; exact hf _ _ _ h
  | trans _ _ ih1 ih2 => exact ih1.trans ih2

theorem Inert.foldl {β} (f : State → β → State) (h : ∀ s b, Inert s (f s b)) (l : List β) (s : State) :
    Inert s (l.foldl f s) :=
  foldl_ind f (Inert s) l s (Inert.refl s) (fun s' b _ a => a.trans (h s' b))

theorem inert_pullLocations (g : Graph) (s : State) (n : Nat) : Inert s (pullLocations g s n) := by
  obtain ⟨l, h⟩ := pullLocations_setNd g s n
  rw [h]
  exact .nd s n _

theorem inert_runDecision (g : Graph) (s : State) (n v : Nat) (b : Bool) (s1 : State) (e1 : List Event)
    (h : runDecision g s n v = .ok (b, s1, e1)) : Inert s s1 := by
  rcases runDecision_state g s n v b s1 e1 h with h | h
  · rw [h]; exact Inert.refl s
  · rw [h]; exact .nd s n _

theorem inert_pickChild (g : Graph) (s : State) (n w c : Nat) (s' : State) (h : pickChild g s n w = some (c, s')) :
    Inert s (pushPath s' w c) := by
  rw [(pickChild_rel g s n w c s' h).2.2]
  refine .trans ?_ (.setWd _ w _)
  exact .setCr s _ _ (fun _ _ _ h => h)

theorem inert_pickParent (g : Graph) (s : State) (n w c : Nat) (s' : State) (h : pickParent g s n w = some (c, s')) :
    Inert s (pushPath s' w c) := by
  rw [(pickParent_rel g s n w c s' h).2.2]
  refine .trans ?_ (.setWd _ w _)
  exact .setCr s _ _ (fun _ _ _ h => h)

theorem inert_dropChild (g : Graph) (s : State) (parent child w : Nat) : Inert s (dropChild g s parent child w) :=
  .setCr s _ _ (fun _ _ _ h => (mem_regWorkers_regAdd _ _ _ _ _).mpr (Or.inl h))

theorem inert_reveal (g : Graph) (s : State) (f v : Nat) : Inert s (reveal g s f v) := by
  unfold reveal
  dsimp only
  split <;> exact .other rfl rfl rfl

theorem inert_prepare (g : Graph) (s : State) (w : Nat) : Inert s (prepare g s w) := by
  unfold prepare
  dsimp only
  cases (s.wd w).path.getLast? with
  | none => exact Inert.refl s
  | some next =>
    dsimp only
    split
    · exact (Inert.setWd s w _).trans (inert_reveal g _ next w)
    · exact .setWd s w _

/-! ## the run decision does not read edges -/

theorem shouldRerun_sameNodes {gv g : Graph} (h : SameNodes gv g) (s : State) (n w : Nat) :
    shouldRerun gv s n w = shouldRerun g s n w := by
  unfold shouldRerun
  simp only [h.dryRun, h.flat, h.cloneSource, idIn_sameNodes h, h.rerunStatus, h.maxTries, h.sets, h.stopStatus,
    sharedResults_sameNodes h, sharedFilteredResults_sameNodes h]

theorem netOf_sameNodes {gv g : Graph} (h : SameNodes gv g) (n w : Nat) : gv.netOf n w = g.netOf n w := by
  unfold Graph.netOf; rw [h.owner]

theorem scanStates_sameNodes {gv g : Graph} (h : SameNodes gv g) (s : State) (n w : Nat) :
    scanStates gv s n w = scanStates g s n w := by
  unfold scanStates
  simp only [h.sets, h.scope, h.worker, netOf_sameNodes h]

theorem runDecision_sameNodes {gv g : Graph} (h : SameNodes gv g) (s : State) (n w : Nat) :
    runDecision gv s n w = runDecision g s n w := by
  unfold runDecision runDecisionStateless runDecisionStateful runDecisionStatefulCore
  simp only [h.sharedRoot, h.dryRun, h.flat, h.cloneSource, idIn_sameNodes h, h.sets, sharedResults_sameNodes h,
    shouldRerun_sameNodes h, scanStates_sameNodes h, isFinished_sameNodes h, sharedFilteredResults_sameNodes h]

theorem sharedResultWorkerIds_sameNodes {gv g : Graph} (h : SameNodes gv g) (s : State) (n : Nat) :
    sharedResultWorkerIds gv s n = sharedResultWorkerIds g s n := by
  unfold sharedResultWorkerIds
  simp only [sharedResults_sameNodes h, h.workers, h.worker]

/-! ## the shape of the loop body -/

/-- not the start of a test -/
def NS (e : Event) : Prop := ∀ wid cname uid locs k, e ≠ .start wid cname uid locs k

theorem inert_entered (gv : Graph) (s : State) (w n : Nat) : Inert s (entered gv s w n) :=
  (Inert.nd s n _).trans (inert_pullLocations gv _ n)

/-- `traverse_node` up to and including the run decision: `w`'s own doing, and an inert piece -/
theorem entered_decided (g : Graph) (H0 : List Nat) {gv : Graph} {s : State} {w n : Nat} {run : Bool} {s1 : State}
    {evs : List Event} (hd : runDecision gv (entered gv s w n) n w = .ok (run, s1, evs)) : Upd g H0 w s s1 ∧ Inert s s1 :=
  ⟨((upd_setNd g H0 w s n (fun d => { d with started := some w }) (fun _ => rfl)).trans
      (upd_pullLocations g H0 w _ _ n)).trans (upd_runDecision g H0 w _ _ n w run s1 evs hd),
    (inert_entered gv s w n).trans (inert_runDecision _ _ n w run s1 evs hd)⟩

theorem reverseNode_noRemoval (g : Graph) (s : State) (n v : Nat) (s' : State) (evs : List Event) (hnr : NodeNR (g.node n))
    (h : reverseNode g s n v = .ok (s', evs)) : Inert s s' ∧ evs = [] := by
  rcases reverseNode_eq_ok h with ⟨_, rfl, rfl⟩ | ⟨_, clean, s2, _, hs, rfl⟩
  · exact ⟨.refl _, rfl⟩
  · rw [syncStates_noop g _ n v none hnr, ite_self] at hs
    cases hs
    exact ⟨.trans (.nd s n _) (.nd _ n _), rfl⟩

/-- the rest of the loop body after `traverse_node` keeps what inert pieces and `reverse_node` on a cleanup-ready node
keep, and starts nothing -/
theorem after_inv {gv : Graph} {s : State} {w n prev : Nat} {dir : Dir} {r : Step} {J : State → Prop}
    (hJ : ∀ {s s'}, J s → Inert s s' → J s')
    (hrev : ∀ {s s' evs}, J s → isCleanupReady gv s n w = true → reverseNode gv s n w = .ok (s', evs) →
      J s' ∧ ∀ e ∈ evs, NS e)
    (j : J s) (h : After gv w n prev dir s r) : J r.1 ∧ ∀ e ∈ r.2.1, NS e := by
  have hrun : ∀ {run s1 evs}, runDecision gv s n w = .ok (run, s1, evs) → J s1 ∧ ∀ e ∈ evs, NS e := fun hd =>
    ⟨hJ j (inert_runDecision gv s n w _ _ _ hd), fun e he => ((runDecision_events gv s n w _ _ _ hd).1 e he).2⟩
  have drop : ∀ s1, Inert s1 (dropChildren gv s1 n w) := fun s1 =>
    Inert.foldl _ (fun s (x : Nat × List String) => inert_dropChild gv s x.1 n w) _ s1
  cases h with
  | undecided => exact ⟨j, nofun⟩
  | up run s1 evs _ hd =>
    refine ⟨hJ (hrun hd).1 (.trans ?_ (.setWd _ w _)), (hrun hd).2⟩
    split
    · exact .setCr s1 _ _ (fun _ _ _ h => h)
    · exact .refl s1
  | again s1 evs _ hd => exact ⟨hJ (hrun hd).1 (.setWd _ w _), (hrun hd).2⟩
  | postponed s1 evs _ hd => exact ⟨hJ (hrun hd).1 (.setWd _ w _), (hrun hd).2⟩
  | cleaned s1 evs s3 evs2 _ hd hc _ hr =>
    obtain ⟨j3, hev3⟩ := hrev (hJ (hrun hd).1 (drop s1)) ((drop s1).monoC.ready gv n w hc) hr
    exact ⟨hJ j3 (.setWd _ w _), fun e he => (List.mem_append.mp he).elim ((hrun hd).2 e) (hev3 e)⟩
  | uncleaned s1 evs e _ hd => exact ⟨hJ (hrun hd).1 (drop s1), (hrun hd).2⟩
  | descend s1 evs c s2 _ hd _ hp => exact ⟨hJ (hrun hd).1 (inert_pickChild gv s1 n w c s2 hp), (hrun hd).2⟩
  | childless s1 evs _ hd => exact hrun hd

/-! ## the loop and the end of a test, for an invariant that the pieces keep -/

/-- the events of a piece of the loop body: no start, or the piece suspends in the state the start refers to -/
def EvOf (E : State → Event → Prop) (r : Step) : Prop :=
  ∀ e ∈ r.2.1, NS e ∨ (r.2.2 = Flow.suspend ∧ E r.1 e)

/-- what the loop of worker `w` needs of an invariant `J`: inert pieces keep it; the start of a test after a positive run
decision (on a setup-ready node of the worker's path, on the graph visible with `hid` hidden) keeps it, and the start
satisfies `E` relative to the state in which the worker suspends; a node may be marked traversed after a negative run
decision, and a node `n` with `F s n` in any case; `reverse_node` on a cleanup-ready node keeps it and starts nothing;
the placeholder of a running test gives `F`; "the stub reports, the result replaces the placeholder" (the store gains the
set states of `n` in `w`'s pool iff `produced`; the placeholder `tag` of `n` is replaced by `res`, which passes only if
`produced`) keeps `J` and gives `F` -/
structure Loop (g : Graph) (H0 : List Nat) (w : Nat) (J : State → Prop) (F : State → Nat → Prop)
    (E : State → Event → Prop) : Prop where
  wf : GraphWF g
  root : (g.node g.root).flat = true
  names : OwnerNames g
  plain : ∀ n, n < g.nodes.length → (g.node n).flat = false → (g.node n).objectRoot = false ∧ good g n = true
  inert : ∀ {s s'}, J s → Inert s s' → J s'
  start : ∀ {hid s n dir s1 evs}, Ctx g H0 hid → (∀ h ∈ s.hidden, h ∈ hid) → n < g.nodes.length → Trv g H0 s → J s →
    isSetupReady (visH g hid) s n w = true →
    runDecision (visH g hid) (entered (visH g hid) s w n) n w = .ok (true, s1, evs) →
    J (startTest (visH g hid) s1 n w .plain dir).1 ∧
      ∀ e ∈ (startTest (visH g hid) s1 n w .plain dir).2.1, E (startTest (visH g hid) s1 n w .plain dir).1 e
  skip : ∀ {s n s1 evs}, n < g.nodes.length → J s → runDecision g s n w = .ok (false, s1, evs) → J (finishTraverse s1 n w)
  finish : ∀ s n, J s → F s n → J (finishTraverse s n w)
  back : ∀ {hid s n s' evs}, Ctx g H0 hid → n < g.nodes.length → J s → isCleanupReady (visH g hid) s n w = true →
    reverseNode (visH g hid) s n w = .ok (s', evs) → J s' ∧ ∀ e ∈ evs, NS e
  placeholder : ∀ s n tag, n < g.nodes.length → (g.node n).flat = false →
    phOf (g.node n).name tag ∈ (s.nd n).results → F s n
  record : ∀ {s sb : State} (n tag : Nat) (res : Result) (produced : Prop), J s →
    n < g.nodes.length → (g.node n).flat = false → (g.node n).owner = some w → 1 ≤ tag →
    (∀ loc vs, vs ∈ storeGet sb.store loc ↔
      vs ∈ storeGet s.store loc ∨ (produced ∧ loc = (g.worker w).id ∧ vs ∈ (g.node n).sets)) →
    (∀ m, (sb.nd m).finished = (s.nd m).finished) →
    (∀ m, m ≠ n → (sb.nd m).results = (s.nd m).results) →
    (sb.nd n).results = ((s.nd n).results ++ [res]).filter (fun r => !(r.status == "UNKNOWN" && r.tag == tag)) →
    res.name = (g.node n).name → res.tag = 0 → (res.status = "PASS" → produced) → MonoC s sb → J sb ∧ F sb n

theorem Loop.iter {g : Graph} {H0 : List Nat} {w : Nat} {J : State → Prop} {F : State → Nat → Prop}
    {E : State → Event → Prop} (L : Loop g H0 w J F E) {hid : List Nat} {s : State} {r : Step} (ctx : Ctx g H0 hid)
    (hsub : ∀ h ∈ s.hidden, h ∈ hid) (t : Trv g H0 s) (j : J s) (h : Iter (visH g hid) w s r) : J r.1 ∧ EvOf E r := by
  have hsn := sameNodes_visH g hid
  have quiet : ∀ {s' evs f}, Inert s s' → (∀ e ∈ evs, NS e) → J s' ∧ EvOf E (s', evs, f) := fun a hev =>
    ⟨L.inert j a, fun e he => Or.inl (hev e he)⟩
  have one : ∀ {e : Event}, Plain e → ∀ e' ∈ [e], NS e' := fun h e' he => List.mem_singleton.mp he ▸ h.2
  have hlt : ∀ {n prev dir}, Visit (visH g hid) s w n prev dir → n < g.nodes.length := fun hv =>
    (t.path w _ (List.mem_of_getLast? hv.last)).1
  have decided : ∀ {n run s1 evs}, runDecision (visH g hid) (entered (visH g hid) s w n) n w = .ok (run, s1, evs) →
      ∀ e ∈ evs, NS e := fun hd e he => ((runDecision_events _ _ _ w _ _ _ hd).1 e he).2
  cases h with
  | exit => exact quiet (.setWd s w _) (one (plain_exit _))
  | lost => exact quiet (.refl s) nofun
  | fromRoot n c s1 _ _ _ hp => exact quiet (inert_pickChild _ s n w c s1 hp) nofun
  | bounce n =>
    refine quiet (.trans ?_ (.setWd _ w _)) (one (plain_sleep _ _))
    split
    · refine .trans ?_ (.setWd _ w _)
      split
      · exact .nd s n _
      · exact .refl s
    · exact .setWd s w _
  | toParent n _ p s1 _ _ _ hp => exact quiet (inert_pickParent _ s n w p s1 hp) nofun
  | undecided n => exact quiet (inert_entered _ s w n) nofun
  | start n _ dir s1 evs hv hd =>
    obtain ⟨j1, e1⟩ := L.start (dir := dir) ctx hsub (hlt hv) t j hv.ready hd
    exact ⟨j1, fun e he => (List.mem_append.mp he).imp (decided hd e) (fun he => ⟨rfl, e1 e he⟩)⟩
  | create n _ dir s1 evs hv hd hroot =>
    -- a parsed node is no object root
    obtain ⟨hfl, _⟩ := (runDecision_events _ _ n w _ s1 evs hd).2 rfl
    rw [hsn.objectRoot, (L.plain n (hlt hv) (hsn.flat n ▸ hfl)).1] at hroot
    cases hroot
  | skip n _ dir s1 evs r hv hd ha =>
    obtain ⟨j3, e3⟩ := after_inv L.inert (L.back ctx (hlt hv))
      (L.skip (hlt hv) (L.inert j (inert_entered _ s w n)) ((runDecision_sameNodes hsn _ n w).symm.trans hd)) ha
    exact ⟨j3, fun e he => Or.inl ((List.mem_append.mp he).elim (decided hd e) (e3 e))⟩

theorem Loop.iterL {g : Graph} {H0 : List Nat} {w : Nat} {J : State → Prop} {F : State → Nat → Prop}
    {E : State → Event → Prop} (L : Loop g H0 w J F E) {s : State} {r : Step} (t : Trv g H0 s) (j : J s)
    (h : IterL g w s r) : J r.1 ∧ EvOf E r := by
  obtain ⟨s1, hp, hi⟩ := h
  have h1 : Trv g H0 s1 ∧ J s1 := by
    cases hp with
    | stay => exact ⟨t, j⟩
    | expand => exact ⟨t.upd L.names.uniq (upd_prepare g H0 w s), L.inert j (inert_prepare g s w)⟩
  exact L.iter ⟨L.wf, L.root, h1.1.hidden⟩ (fun _ h => h) h1.1 h1.2 hi

theorem Loop.ran {g : Graph} {H0 : List Nat} {w : Nat} {J : State → Prop} {F : State → Nat → Prop}
    {E : State → Event → Prop} (L : Loop g H0 w J F E) {fuel : Nat} {s : State} {evs : List Event}
    {r : State × List Event} (t : Trv g H0 s) (j : J s) (h : Ran g w fuel s evs r) :
    J r.1 ∧ ∀ e ∈ r.2, e ∈ evs ∨ NS e ∨ E r.1 e := by
  have round : ∀ {s s1 e f}, Trv g H0 s → J s → IterL g w (s.setWd w (fun d => { d with pc := .loop })) (s1, e, f) →
      Trv g H0 s1 ∧ J s1 ∧ EvOf E (s1, e, f) := fun {s _ _ _} t j hi =>
    have t0 := t.upd L.names.uniq (upd_setPc g H0 w s .loop rfl)
    have he := L.iterL t0 (L.inert j (.setWd s w _)) hi
    ⟨t0.upd L.names.uniq (ok_of_iterL L.wf L.root t0.hidden t0.nodesLen (t0.path w) hi).1, he.1, he.2⟩
  have raised : ∀ {what x}, x ∈ [Event.raise (g.worker w).id what] → NS x := fun hx => by
    rw [List.mem_singleton.mp hx]; exact (plain_raise _ _).2
  induction h with
  | dry s evs =>
    exact ⟨j, fun x hx => (List.mem_append.mp hx).imp id (fun hx => Or.inl (raised hx))⟩
  | cont hi _ ih =>
    obtain ⟨t1, j1, he⟩ := round t j hi
    -- only a suspending iteration starts a test
    exact ⟨(ih t1 j1).1, fun x hx => ((ih t1 j1).2 x hx).elim (fun hx => (List.mem_append.mp hx).imp id
      (fun hx => Or.inl ((he x hx).resolve_right (fun h => nomatch h.1)))) Or.inr⟩
  | stop hi =>
    obtain ⟨_, j1, he⟩ := round t j hi
    exact ⟨j1, fun x hx => (List.mem_append.mp hx).imp id (fun hx => (he x hx).imp id (·.2))⟩
  | fail hi =>
    obtain ⟨_, j1, he⟩ := round t j hi
    refine ⟨L.inert j1 (.setWd _ w _), fun x hx => ?_⟩
    rcases List.mem_append.mp hx with hx | hx
    · exact (List.mem_append.mp hx).imp id (fun hx => Or.inl ((he x hx).resolve_right (fun h => nomatch h.1)))
    · exact Or.inr (Or.inl (raised hx))

/-- what recording does to the fields the invariants read -/
theorem recordResultR_eff (sa : State) (w n : Nat) (name uid : String) (tag : Nat) (st0 : String) (dur : Nat)
    (hn : n < sa.nodes.length) :
    ∃ res : Result, res.name = name ∧ res.tag = 0 ∧ (res.status = "PASS" → st0 = "PASS") ∧
      (recordResult sa w n .plain name uid tag st0 dur).1.store = sa.store ∧
      (∀ m, ((recordResult sa w n .plain name uid tag st0 dur).1.nd m).finished = (sa.nd m).finished) ∧
      (∀ m, m ≠ n → ((recordResult sa w n .plain name uid tag st0 dur).1.nd m).results = (sa.nd m).results) ∧
      ((recordResult sa w n .plain name uid tag st0 dur).1.nd n).results =
        ((sa.nd n).results ++ [res]).filter (fun r => !(r.status == "UNKNOWN" && r.tag == tag)) := by
  unfold recordResult
  have e1 : (Phase.plain == Phase.pre) = false := rfl
  simp only [e1, Bool.false_eq_true, if_false]
  generalize hst : (if (st0 == "PASS" && decide (4 * dur > 5 * _)) = true then "WARN" else st0) = st'
  have hw : ∀ c : Bool, (if c = true then "WARN" else st0) = "PASS" → st0 = "PASS" := by
    intro c h
    cases c
    · simpa using h
    · simp at h
  have hpass : st' = "PASS" → st0 = "PASS" := by
    intro h
    rw [← hst] at h
    exact hw _ h
  generalize hX : (if (st' != st0) = true then
      { sa with jobResults := sa.jobResults.map (fun r => if (r.1 == name && r.2.1 == uid) = true then (r.1, r.2.1, st', r.2.2.2) else r) }
    else sa) = X
  have hXs : X.store = sa.store ∧ X.nodes = sa.nodes := by
    rw [← hX]; split <;> exact ⟨rfl, rfl⟩
  have hXnd : ∀ m, X.nd m = sa.nd m := fun m => by unfold State.nd; rw [hXs.2]
  refine ⟨{ name := name, status := st', uid := uid, dur := dur }, rfl, rfl, hpass, hXs.1, fun m => ?_, fun m hm => ?_, ?_⟩
  · rw [← hXnd m]
    refine nd_setNd_proj (·.finished) X n _ ?_ m
    exact fun _ => rfl
  · rw [← hXnd m]
    show ((X.setNd n _).nd m).results = _
    rw [nd_setNd_ne X n m _ hm]
  · show ((X.setNd n _).nd n).results = _
    rw [nd_setNd_eq X n _ (by rw [hXs.2]; exact hn), hXnd n]

/-- what the report of status `st` at `wait = 0` does to the fields the invariants read -/
theorem reportOutcomeR_eff (g : Graph) (s : State) (w n : Nat) (uid st : String) (dur : Nat)
    (ho : (g.node n).owner = some w) :
    (reportOutcome g s w n .plain uid 0 ⟨some st, dur⟩).1.nodes = s.nodes ∧
    ∀ loc vs, vs ∈ storeGet (reportOutcome g s w n .plain uid 0 ⟨some st, dur⟩).1.store loc ↔
      vs ∈ storeGet s.store loc ∨ (((st == "PASS" || st == "WARN") = true) ∧ loc = (g.worker w).id ∧ vs ∈ (g.node n).sets) := by
  unfold reportOutcome
  have e1 : (Phase.plain == Phase.pre) = false := rfl
  have e2 : (Phase.plain != Phase.pre) = true := rfl
  simp only [e1, e2, Bool.false_eq_true, if_false, BEq.rfl, if_true, Bool.and_true]
  by_cases hp : (st == "PASS" || st == "WARN") = true
  · simp only [hp, if_true, true_and]
    refine ⟨rfl, fun loc vs => ?_⟩
    have := mem_storeGet_produce g { s with jobResults := s.jobResults ++ [((g.node n).name, uid, st, dur)] } n w loc vs
    rw [netOf_owner ho] at this
    exact this
  · simp only [hp, Bool.false_eq_true, if_false]
    exact ⟨trivial, fun loc vs => ⟨Or.inl, fun h => h.elim id (fun h' => h'.1.elim)⟩⟩

theorem reportOutcomeR_idle (g : Graph) (s : State) (w n : Nat) (ph : Phase) (uid : String) (wait : Nat) (out : Outcome)
    (h : ¬ (wait = 0 ∧ ∃ st, out.status = some st)) : (reportOutcome g s w n ph uid wait out).1 = s := by
  unfold reportOutcome
  dsimp only
  by_cases hw : wait = 0
  · subst hw
    cases hst : out.status with
    | none => simp
    | some st => exact absurd ⟨rfl, st, hst⟩ h
  · have : (wait == 0) = false := by simpa using hw
    simp [this]

theorem reportOutcomeR_jobResults (g : Graph) (s : State) (w n : Nat) (uid st : String) (dur : Nat) :
    (reportOutcome g s w n .plain uid 0 ⟨some st, dur⟩).1.jobResults = s.jobResults ++ [((g.node n).name, uid, st, dur)] := by
  unfold reportOutcome
  have e1 : (Phase.plain == Phase.pre) = false := rfl
  simp only [e1, Bool.false_eq_true, if_false, BEq.rfl, if_true]
  split <;> rfl

/-- the state after "the stub reports `st`, the record is found and replaces the placeholder" -/
def recorded (g : Graph) (s : State) (w n : Nat) (uid : String) (tag : Nat) (st : String) (dur : Nat) : State :=
  (recordResult (reportOutcome g s w n .plain uid 0 ⟨some st, dur⟩).1 w n .plain (g.node n).name uid tag st dur).1

/-- … and what it does to the fields the invariants read: the hypotheses of `Sem.record` -/
theorem recorded_eff (g : Graph) (s : State) (w n : Nat) (uid : String) (tag : Nat) (st : String) (dur : Nat)
    (ho : (g.node n).owner = some w) (hn : n < s.nodes.length) :
    ∃ res : Result, res.name = (g.node n).name ∧ res.tag = 0 ∧
      (res.status = "PASS" → (st == "PASS" || st == "WARN") = true) ∧
      (∀ loc vs, vs ∈ storeGet (recorded g s w n uid tag st dur).store loc ↔
        vs ∈ storeGet s.store loc ∨ ((st == "PASS" || st == "WARN") = true ∧ loc = (g.worker w).id ∧ vs ∈ (g.node n).sets)) ∧
      (∀ m, ((recorded g s w n uid tag st dur).nd m).finished = (s.nd m).finished) ∧
      (∀ m, m ≠ n → ((recorded g s w n uid tag st dur).nd m).results = (s.nd m).results) ∧
      ((recorded g s w n uid tag st dur).nd n).results =
        ((s.nd n).results ++ [res]).filter (fun r => !(r.status == "UNKNOWN" && r.tag == tag)) := by
  obtain ⟨hnodes, hstore⟩ := reportOutcomeR_eff g s w n uid st dur ho
  have hnd : ∀ m, (reportOutcome g s w n .plain uid 0 ⟨some st, dur⟩).1.nd m = s.nd m := fun m => by
    unfold State.nd; rw [hnodes]
  obtain ⟨res, hname, hrtag, hpass, hst2, hfin2, hres2, hresn2⟩ :=
    recordResultR_eff (reportOutcome g s w n .plain uid 0 ⟨some st, dur⟩).1 w n (g.node n).name uid tag st dur
      (by rw [hnodes]; exact hn)
  unfold recorded
  exact ⟨res, hname, hrtag, fun h => by rw [hpass h]; rfl, fun loc vs => by rw [hst2]; exact hstore loc vs,
    fun m => by rw [hfin2, hnd], fun m hm => by rw [hres2 m hm, hnd], by rw [hresn2, hnd]⟩

/-- The awaited test proper has not been reported before (`Uids`), so the record looked up is the one the stub reports
now, if it reports. -/
theorem Loop.lookup {g : Graph} {H0 : List Nat} {w : Nat} {J : State → Prop} {F : State → Nat → Prop}
    {E : State → Event → Prop} (L : Loop g H0 w J F E) {s : State} {n : Nat} {dir : Dir} {uid : String} {tag wait : Nat}
    (u : Uids g s All) (t : Trv g H0 s) (hpc : (s.wd w).pc = .test n .plain dir uid tag wait) (out : Outcome) :
    (∃ st, wait = 0 ∧ out.status = some st ∧
      (reportOutcome g s w n .plain uid wait out).1.jobResults.find?
        (fun r => r.1 == testName g s w n .plain && r.2.1 == uid) = some ((g.node n).name, uid, st, out.dur)) ∨
    ((reportOutcome g s w n .plain uid wait out).1 = s ∧
      (reportOutcome g s w n .plain uid wait out).1.jobResults.find?
        (fun r => r.1 == testName g s w n .plain && r.2.1 == uid) = none) := by
  obtain ⟨hn, _, hfl, _⟩ := t.pc w n .plain dir uid tag wait hpc
  rw [show testName g s w n .plain = (g.node n).name from rfl]
  have hnone : s.jobResults.find? (fun r => r.1 == (g.node n).name && r.2.1 == uid) = none := by
    rw [List.find?_eq_none]
    intro x hx hp
    simp only [Bool.and_eq_true, beq_iff_eq] at hp
    apply u.unreported w n dir uid tag wait trivial hpc (L.plain n hn hfl).2
    unfold keys
    exact List.mem_map.mpr ⟨x, hx, by rw [hp.1, hp.2]⟩
  by_cases hrep : wait = 0 ∧ ∃ st, out.status = some st
  · obtain ⟨rfl, st, hst⟩ := hrep
    refine Or.inl ⟨st, rfl, hst, ?_⟩
    obtain ⟨_, odur⟩ := out
    cases hst
    rw [reportOutcomeR_jobResults, List.find?_append, hnone]
    simp
  · rw [reportOutcomeR_idle g s w n .plain uid wait out hrep]
    exact Or.inr ⟨rfl, hnone⟩

/-- "report and record" of the awaited test proper, from a state with the bookkeeping and identifier invariants of C03
(`Basic`, `Uids`): the invariant survives the report with `F`, and `F` follows from the placeholder when nothing is
reported -/
theorem Loop.ended {g : Graph} {H0 : List Nat} {w : Nat} {J : State → Prop} {F : State → Nat → Prop}
    {E : State → Event → Prop} (L : Loop g H0 w J F E) {s : State} {n : Nat} {dir : Dir} {uid : String} {tag wait : Nat}
    {out : Outcome} {sc : State} {ok : Bool} (b : Basic g s All) (u : Uids g s All) (t : Trv g H0 s) (j : J s)
    (hpc : (s.wd w).pc = .test n .plain dir uid tag wait) (h : Ended g w n .plain uid tag wait out s sc ok) :
    J sc ∧ F sc n := by
  obtain ⟨hn, hid, hfl, _⟩ := t.pc w n .plain dir uid tag wait hpc
  have hm : MonoC s sc := .of_same h.passive.same
  rcases L.lookup u t hpc out with ⟨st, rfl, hst, hfind⟩ | ⟨hs, hfind⟩
  · -- reported now: the record found is the one just appended
    obtain ⟨_, odur⟩ := out
    cases hst
    cases h with
    | lost h => rw [hfind] at h; cases h
    | found nm u' st0 dur h =>
      rw [hfind] at h
      cases h
      have ho := (L.names w n hn hfl).mp hid
      obtain ⟨res, hname, hrtag, hpass, hstore, hfin, hres, hresn⟩ :=
        recorded_eff g s w n uid tag st odur ho (by rw [b.nodesLen]; exact hn)
      exact L.record n tag res _ j hn hfl ho (b.pcOK w n .plain dir uid tag 0 trivial hpc).2.1 hstore hfin hres hresn hname
        hrtag hpass hm
  · -- nothing reported now: no record, the placeholder stays
    cases h with
    | found nm u' st0 dur h => rw [hfind] at h; cases h
    | lost =>
      rw [hs]
      exact ⟨j, L.placeholder s n tag hn hfl ((b.placeholder w n .plain dir uid tag wait trivial hpc).1 (by simp))⟩

/-- one scheduler step, from a state with `Basic`, `Uids`, `Trv` and `J` -/
theorem Loop.resumed {g : Graph} {H0 : List Nat} {w : Nat} {J : State → Prop} {F : State → Nat → Prop}
    {E : State → Event → Prop} (L : Loop g H0 w J F E) {s : State} {out : Outcome} {fuel : Nat} {r : State × List Event}
    (b : Basic g s All) (u : Uids g s All) (t : Trv g H0 s) (j : J s) (h : Resumed g w out fuel s r) :
    J r.1 ∧ ∀ e ∈ r.2, NS e ∨ E r.1 e := by
  -- a parsed node is no object root: the awaited test is a test proper
  have plain : ∀ {n ph dir uid tag wait}, (s.wd w).pc = .test n ph dir uid tag wait → ph = .plain := fun hpc =>
    (b.pcOK w _ _ _ _ _ _ trivial hpc).2.2.2.1.mp
      (L.plain _ (t.pc w _ _ _ _ _ _ hpc).1 (t.pc w _ _ _ _ _ _ hpc).2.2.1).1
  have rep : ∀ {n ph uid wait}, ∀ e ∈ (reportOutcome g s w n ph uid wait out).2, NS e := fun e he =>
    ((reportOutcomeR_ok g H0 s w _ _ _ _ out).2 e he).2
  -- the traversal of the node of the finished test ends
  have tail : ∀ {n dir uid tag wait sc ok prev r}, (s.wd w).pc = .test n .plain dir uid tag wait →
      Ended g w n .plain uid tag wait out s sc ok →
      After (vis g (finishTraverse sc n w)) w n prev dir (finishTraverse sc n w) r →
      Trv g H0 r.1 ∧ J r.1 ∧ ∀ e ∈ r.2.1, NS e := by
    intro n dir uid tag wait sc ok prev r hpc hs ha
    obtain ⟨hn, hid, _⟩ := t.pc w n .plain dir uid tag wait hpc
    obtain ⟨jc, hF⟩ := L.ended b u t j hpc hs
    have tc := t.upd L.names.uniq hs.passive.upd
    have tF := tc.upd L.names.uniq (upd_finishTraverse g H0 w sc n hn (relevant_of_idIn hid))
    have ctx : Ctx g H0 (finishTraverse sc n w).hidden := ⟨L.wf, L.root, tF.hidden⟩
    have h3 := ok_of_after ctx (fun _ h => h) tF.nodesLen hn (relevant_of_idIn hid)
      (fun _ => by unfold finishTraverse; rw [nd_setNd_eq sc n _ (by rw [tc.nodesLen]; exact hn)]) ha
    exact ⟨tF.upd L.names.uniq h3.1, after_inv L.inert (L.back ctx hn) (L.finish sc n jc hF) ha⟩
  cases h with
  | over => exact ⟨j, nofun⟩
  | loop r _ hr => exact ⟨(L.ran t j hr).1, fun e he => ((L.ran t j hr).2 e he).resolve_left nofun⟩
  | wait n ph dir uid tag wait hpc hnone =>
    obtain rfl := plain hpc
    rcases L.lookup u t hpc out with ⟨st, _, _, hfind⟩ | ⟨hs, _⟩
    · rw [hfind] at hnone; cases hnone
    · rw [hs]
      exact ⟨L.inert j (.setWd s w _), fun e he => Or.inl ((List.mem_append.mp he).elim (rep e)
        (fun he => List.mem_singleton.mp he ▸ (plain_sleep _ _).2))⟩
  | created n dir uid tag wait sc hpc => exact nomatch plain hpc
  | stuck n ph dir uid tag wait sc ok s1 e what hpc hs _ ha =>
    obtain rfl := plain hpc
    obtain ⟨_, j1, e1⟩ := tail hpc hs ha
    refine ⟨L.inert j1 (.setWd s1 w _), fun x hx => Or.inl ?_⟩
    rcases List.mem_append.mp hx with hx | hx
    · exact (List.mem_append.mp hx).elim (rep x) (e1 x)
    · exact List.mem_singleton.mp hx ▸ (plain_raise _ _).2
  | back n ph dir uid tag wait sc ok s1 e f r hpc hs _ ha _ hr =>
    obtain rfl := plain hpc
    obtain ⟨t1, j1, e1⟩ := tail hpc hs ha
    exact ⟨(L.ran t1 j1 hr).1, fun x hx => ((L.ran t1 j1 hr).2 x hx).elim
      (fun hx => Or.inl ((List.mem_append.mp hx).elim (rep x) (e1 x))) id⟩

/-! ## hypotheses on the graph (all decidable) -/

/-- every parsed node shares its results and setup globally and may use its own and the shared pool
(excludes the scope-narrowing configurations, among them the known finding witnessed by
`Props/C01.lean: f10_swarm_scope_disabled`) -/
def FullScope (g : Graph) : Prop :=
  ∀ n, n < g.nodes.length → (g.node n).flat = false →
    (g.node n).shape = .global ∧ (g.node n).scope.contains "own" = true ∧ (g.node n).scope.contains "shared" = true ∧
      (g.node n).scope.contains "swarm" = true ∧ (g.node n).scope.contains "cluster" = true

/-- parsed nodes are ordinary tests: not the shared root, no dry run, no clone source, no object root
(modelling gaps: the creation of objects and cloning are not covered by the statement) -/
def PlainNodes (g : Graph) : Prop :=
  ∀ n, n < g.nodes.length → (g.node n).flat = false →
    (g.node n).sharedRoot = false ∧ (g.node n).dryRun = false ∧ (g.node n).cloneSource = false ∧ (g.node n).objectRoot = false

/-- no node removes or copies states while backing out (C05's concern, excluded here) -/
def NoRemoval (g : Graph) : Prop := ∀ n, n < g.nodes.length → NodeNR (g.node n)

/-- a parsed parent sets what its child gets through the edge (C07's job on real graphs) -/
def ProducerSetsAt (g : Graph) (n : Nat) : Prop :=
  ∀ e ∈ (g.node n).setup, ∀ vs ∈ (g.node n).gets, (g.node e.1).flat = false → vs.1 ∈ e.2 → vs ∈ (g.node e.1).sets

instance (g : Graph) (n : Nat) : Decidable (ProducerSetsAt g n) := by unfold ProducerSetsAt; infer_instance

def ProducerSets (g : Graph) : Prop := ∀ n, n < g.nodes.length → ProducerSetsAt g n

/-- a state is set by the copies of one class only (otherwise a worker may skip a producer because it holds the state
from another class, and nobody is told its pool) -/
def UniqueProducerAt (g : Graph) (q p : Nat) : Prop :=
  ∀ vs ∈ (g.node q).sets, (g.node q).flat = false → (g.node p).flat = false → vs ∈ (g.node p).sets →
    (g.node q).cls = (g.node p).cls

instance (g : Graph) (q p : Nat) : Decidable (UniqueProducerAt g q p) := by unfold UniqueProducerAt; infer_instance

def UniqueProducer (g : Graph) : Prop :=
  ∀ q, q < g.nodes.length → ∀ p, p < g.nodes.length → UniqueProducerAt g q p

/-- the copies of a class set the same states -/
def SetsClass (g : Graph) : Prop :=
  ∀ q, q < g.nodes.length → ∀ p, p < g.nodes.length → (g.node q).cls = (g.node p).cls → (g.node q).sets = (g.node p).sets

/-- owners are workers of the run -/
def OwnersReal (g : Graph) : Prop :=
  ∀ n, n < g.nodes.length → (g.node n).owner.all (fun u => decide (u < g.workers.length)) = true

instance (g : Graph) : Decidable (FullScope g) := by unfold FullScope; infer_instance
instance (g : Graph) : Decidable (PlainNodes g) := by unfold PlainNodes; infer_instance
instance (g : Graph) : Decidable (NoRemoval g) := by unfold NoRemoval; infer_instance
instance (g : Graph) : Decidable (ProducerSets g) := by unfold ProducerSets; infer_instance
instance (g : Graph) : Decidable (UniqueProducer g) := by unfold UniqueProducer; infer_instance
instance (g : Graph) : Decidable (SetsClass g) := by unfold SetsClass; infer_instance
instance (g : Graph) : Decidable (OwnersReal g) := by unfold OwnersReal; infer_instance

structure SemHyp (g : Graph) : Prop where
  fullScope : FullScope g
  plainNodes : PlainNodes g
  noRemoval : NoRemoval g
  producerSets : ProducerSets g
  uniqueProducer : UniqueProducer g
  setsClass : SetsClass g
  ownersReal : OwnersReal g

theorem OwnersReal.lt {g : Graph} (h : OwnersReal g) {n u : Nat} (hn : n < g.nodes.length) (ho : (g.node n).owner = some u) :
    u < g.workers.length := by
  have := h n hn
  rw [ho] at this
  simpa using this

/-! ## results, listed workers, classes -/

theorem find?_range_unique (p : Nat → Bool) (n u : Nat) (hu : u < n) (hp : p u = true)
    (huniq : ∀ x, x < n → p x = true → x = u) : (List.range n).find? p = some u := by
  cases h : (List.range n).find? p with
  | none =>
    rw [List.find?_eq_none] at h
    exact absurd hp (h u (List.mem_range.mpr hu))
  | some x =>
    have h1 := List.find?_some h
    have h2 := List.mem_range.mp (List.mem_of_find?_eq_some h)
    rw [huniq x h2 h1]

/-- a passing result under the name of a parsed copy lists the owner of the copy -/
theorem listed_of_pass {g : Graph} (hO : OwnerNames g) (hR : OwnersReal g) {s : State} {p q u : Nat} {r : Result}
    (hq : q < g.nodes.length) (hfq : (g.node q).flat = false) (ho : (g.node q).owner = some u)
    (hr : r ∈ sharedResults g s p) (hn : r.name = (g.node q).name) (hs : r.status = "PASS") :
    u ∈ sharedResultWorkerIds g s p := by
  rw [mem_sharedResultWorkerIds]
  refine ⟨r, hr, hs, ?_⟩
  rw [hn]
  refine find?_range_unique (fun w => g.idIn w q) _ u (hR.lt hq ho) ((hO u q hq hfq).mpr ho) ?_
  intro x _ hx
  have := (hO x q hq hfq).mp hx
  rw [ho] at this
  exact (Option.some.inj this).symm

/-- the shared results of two parsed copies of one class are the same (as sets) -/
theorem sharedResults_class (g : Graph) (s : State) (p p' : Nat) (hp : p < g.nodes.length) (hp' : p' < g.nodes.length)
    (hf : (g.node p).flat = false) (hf' : (g.node p').flat = false) (hc : (g.node p).cls = (g.node p').cls) (r : Result)
    (h : r ∈ sharedResults g s p) : r ∈ sharedResults g s p' := by
  rw [mem_sharedResults_iff] at h ⊢
  obtain ⟨i, hi, hr⟩ := h
  rw [mem_copies g p i hp hf] at hi
  exact ⟨i, (mem_copies g p' i hp' hf').mpr ⟨hi.1, hi.2.trans hc⟩, hr⟩

/-! ## the semantic invariant -/

/-- the parsed copy `q` has a result (or a placeholder) under its own name -/
def HasRes (g : Graph) (s : State) (q : Nat) : Prop := ∃ r ∈ (s.nd q).results, r.name = (g.node q).name

/-- provenance of the pools: what is in a pool was there initially or was produced by the pool's worker on one of its
own parsed copies, which has a result -/
def Prov (g : Graph) (store0 : List (String × List (String × String))) (s : State) : Prop :=
  ∀ loc vs, vs ∈ storeGet s.store loc → vs ∈ storeGet store0 loc ∨
    ∃ u q, loc = (g.worker u).id ∧ q < g.nodes.length ∧ (g.node q).flat = false ∧ (g.node q).owner = some u ∧
      vs ∈ (g.node q).sets ∧ HasRes g s q

/-- the state `vs` of the class of `p` is sourced: it is in the shared pool, or in the pool of a worker that
`pull_locations` names for `p`, or the class has a result that did not pass -/
def Src (g : Graph) (s : State) (p : Nat) (vs : String × String) : Prop :=
  vs ∈ storeGet s.store "shared" ∨
  (∃ u ∈ sharedResultWorkerIds g s p, vs ∈ storeGet s.store (g.worker u).id) ∨
  (∃ r ∈ sharedResults g s p, r.status ≠ "PASS")

/-- the states set by a traversed parsed copy are sourced -/
def FinSrc (g : Graph) (s : State) : Prop :=
  ∀ p, p < g.nodes.length → (g.node p).flat = false → (s.nd p).finished.isSome = true → ∀ vs ∈ (g.node p).sets, Src g s p vs

structure Sem (g : Graph) (store0 : List (String × List (String × String))) (s : State) : Prop where
  prov : Prov g store0 s
  fin : FinSrc g s

theorem Src.congr {g : Graph} {s : State} {p p' : Nat} {vs : String × String} (hp : p < g.nodes.length)
    (hp' : p' < g.nodes.length) (hf : (g.node p).flat = false) (hf' : (g.node p').flat = false)
    (hc : (g.node p).cls = (g.node p').cls) (h : Src g s p vs) : Src g s p' vs := by
  rcases h with h | ⟨u, hu, h⟩ | ⟨r, hr, h⟩
  · exact Or.inl h
  · refine Or.inr (Or.inl ⟨u, ?_, h⟩)
    rw [mem_sharedResultWorkerIds] at hu ⊢
    obtain ⟨r, hr, h1, h2⟩ := hu
    exact ⟨r, sharedResults_class g s p p' hp hp' hf hf' hc r hr, h1, h2⟩
  · exact Or.inr (Or.inr ⟨r, sharedResults_class g s p p' hp hp' hf hf' hc r hr, h⟩)

theorem Src.mono {g : Graph} {s s' : State} {p : Nat} {vs : String × String}
    (hst : ∀ loc, vs ∈ storeGet s.store loc → vs ∈ storeGet s'.store loc)
    (hres : ∀ r, r ∈ sharedResults g s p → r ∈ sharedResults g s' p) (h : Src g s p vs) : Src g s' p vs := by
  rcases h with h | ⟨u, hu, h⟩ | ⟨r, hr, h⟩
  · exact Or.inl (hst _ h)
  · refine Or.inr (Or.inl ⟨u, ?_, hst _ h⟩)
    rw [mem_sharedResultWorkerIds] at hu ⊢
    obtain ⟨r, hr, h1, h2⟩ := hu
    exact ⟨r, hres r hr, h1, h2⟩
  · exact Or.inr (Or.inr ⟨r, hres r hr, h⟩)

theorem sharedResults_mono {g : Graph} {s s' : State} (h : ∀ m r, r ∈ (s.nd m).results → r ∈ (s'.nd m).results) (p : Nat)
    (r : Result) (hr : r ∈ sharedResults g s p) : r ∈ sharedResults g s' p := by
  rw [mem_sharedResults_iff] at hr ⊢
  obtain ⟨i, hi, hr⟩ := hr
  exact ⟨i, hi, h i r hr⟩

theorem Prov.mono {g : Graph} {store0 : List (String × List (String × String))} {s s' : State} (j : Prov g store0 s)
    (hst : s'.store = s.store) (hres : ∀ m r, r ∈ (s.nd m).results → r ∈ (s'.nd m).results) : Prov g store0 s' := by
  intro loc vs h
  rw [hst] at h
  rcases j loc vs h with h' | ⟨u, q, h1, h2, h3, h4, h5, r, hr, hn⟩
  · exact Or.inl h'
  · exact Or.inr ⟨u, q, h1, h2, h3, h4, h5, r, hres q r hr, hn⟩

/-- the shape of `FinSrc` (and of `FinSrcR`, `FinRes` of `TravStatesRm.lean`): a condition on every traversed parsed copy -/
def Fin (C : State → Nat → Prop) (g : Graph) (s : State) : Prop :=
  ∀ p, p < g.nodes.length → (g.node p).flat = false → (s.nd p).finished.isSome = true → C s p

theorem Fin.mono {C : State → Nat → Prop} {g : Graph} {s s' : State} (j : Fin C g s)
    (hfin : ∀ m, (s'.nd m).finished = (s.nd m).finished) (hC : ∀ p, C s p → C s' p) : Fin C g s' :=
  fun p hp hf h => hC p (j p hp hf (by rw [← hfin]; exact h))

theorem Fin.finish {C : State → Nat → Prop} {g : Graph} {s : State} (j : Fin C g s) (p w : Nat)
    (hC : ∀ q, C s q → C (finishTraverse s p w) q) (hp : p < g.nodes.length → (g.node p).flat = false → C s p) :
    Fin C g (finishTraverse s p w) := by
  intro q hq hf hfin
  by_cases hqp : q = p
  · subst hqp; exact hC q (hp hq hf)
  · have : ((finishTraverse s p w).nd q).finished = (s.nd q).finished := by
      unfold finishTraverse; rw [nd_setNd_ne s p q _ hqp]
    rw [this] at hfin
    exact hC q (j q hq hf hfin)

theorem results_finishTraverse (s : State) (p w m : Nat) : ((finishTraverse s p w).nd m).results = (s.nd m).results :=
  nd_setNd_proj (·.results) s p (fun d => { d with finished := some w, started := none }) (fun _ => rfl) m

/-- same store, same `finished` marks, result lists only gain members -/
structure Grow (s s' : State) : Prop where
  store : s'.store = s.store
  fin : ∀ m, (s'.nd m).finished = (s.nd m).finished
  results : ∀ m r, r ∈ (s.nd m).results → r ∈ (s'.nd m).results

theorem Frame.grow {s s' : State} (a : Frame s s') : Grow s s' :=
  ⟨a.store, a.fin, fun m r h => by rw [a.results m]; exact h⟩

theorem Grow.sharedResults {s s' : State} (a : Grow s s') (g : Graph) (p : Nat) (r : Result)
    (h : r ∈ sharedResults g s p) : r ∈ sharedResults g s' p :=
  sharedResults_mono a.results p r h

theorem Grow.src {s s' : State} (a : Grow s s') {g : Graph} {p : Nat} {vs : String × String} (h : Src g s p vs) :
    Src g s' p vs :=
  h.mono (fun _ h => by rw [a.store]; exact h) (a.sharedResults g p)

theorem Sem.grow {g : Graph} {store0 : List (String × List (String × String))} {s s' : State} (j : Sem g store0 s)
    (a : Grow s s') : Sem g store0 s' :=
  ⟨j.prov.mono a.store a.results,
    Fin.mono (C := fun s p => ∀ vs ∈ (g.node p).sets, Src g s p vs) j.fin a.fin (fun _ h vs hvs => a.src (h vs hvs))⟩

theorem Sem.frame {g : Graph} {store0 : List (String × List (String × String))} {s s' : State} (j : Sem g store0 s)
    (a : Frame s s') : Sem g store0 s' := j.grow a.grow

theorem Sem.inert {g : Graph} {store0 : List (String × List (String × String))} {s s' : State} (j : Sem g store0 s)
    (a : Inert s s') : Sem g store0 s' := j.frame a.frame

theorem Src.finish {g : Graph} {s : State} {q : Nat} {vs : String × String} (p w : Nat) (h : Src g s q vs) :
    Src g (finishTraverse s p w) q vs :=
  Src.mono (s := s) (fun _ h => h)
    (sharedResults_mono (fun m r h => by rw [results_finishTraverse]; exact h) q) h

/-- the end of `traverse_node` on a copy whose set states are sourced -/
theorem Sem.finish {g : Graph} {store0 : List (String × List (String × String))} {s : State} (j : Sem g store0 s)
    (p w : Nat) (hsrc : p < g.nodes.length → (g.node p).flat = false → ∀ vs ∈ (g.node p).sets, Src g s p vs) :
    Sem g store0 (finishTraverse s p w) :=
  ⟨j.prov.mono rfl (fun m r h => by rw [results_finishTraverse]; exact h),
    Fin.finish (C := fun s p => ∀ vs ∈ (g.node p).sets, Src g s p vs) j.fin p w (fun _ h vs hvs => (h vs hvs).finish p w) hsrc⟩

/-! ## the run decision on a parsed copy -/

theorem runDecision_plain {g : Graph} (hP : PlainNodes g) {p : Nat} (hp : p < g.nodes.length) (hf : (g.node p).flat = false)
    {s : State} {w : Nat} {r : Bool × State × List Event} (h : runDecision g s p w = .ok r) :
    g.idIn w p = true ∧
      (if (g.node p).sets.isEmpty then runDecisionStateless g s p w else runDecisionStateful g s p w) = .ok r := by
  obtain ⟨p1, p2, p3, _⟩ := hP p hp hf
  unfold runDecision at h
  simp only [p1, p2, p3, hf, Bool.false_eq_true, if_false] at h
  by_cases hid : g.idIn w p = true
  · simp only [hid, Bool.not_true, Bool.false_eq_true, if_false] at h
    exact ⟨hid, h⟩
  · simp [hid] at h

theorem isFinished_one_iff (g : Graph) (s : State) (n w : Nat) (hf : (g.node n).flat = false)
    (hshape : (g.node n).shape = .global) :
    isFinished g s n w 1 = true ↔ ∃ i ∈ g.copies n, (s.nd i).finished.isSome = true := by
  unfold isFinished scopeCount
  have e1 : ((1 : Int) == -1) = false := by decide
  simp only [hf, Bool.false_eq_true, if_false, hshape, e1, decide_eq_true_eq, ge_iff_le]
  constructor
  · intro h
    obtain ⟨x, hx⟩ := List.exists_mem_of_length_pos (by omega : 0 < (sharedFinished g s n).length)
    obtain ⟨i, hi, hfi⟩ := (mem_sharedFinished g s n x).mp hx
    exact ⟨i, hi, by rw [hfi]; rfl⟩
  · rintro ⟨i, hi, hfi⟩
    cases hv : (s.nd i).finished with
    | none => rw [hv] at hfi; cases hfi
    | some v =>
      have := List.length_pos_of_mem ((mem_sharedFinished g s n v).mpr ⟨i, hi, hv⟩)
      omega

theorem runDecision_false_stateful {g : Graph} (hP : PlainNodes g) (hS : FullScope g) {p : Nat} (hp : p < g.nodes.length)
    (hf : (g.node p).flat = false) {s : State} {w : Nat} {s1 : State} {evs : List Event}
    (h : runDecision g s p w = .ok (false, s1, evs)) {vs : String × String} (hvs : vs ∈ (g.node p).sets) :
    (∃ i, i < g.nodes.length ∧ (g.node i).cls = (g.node p).cls ∧ (s.nd i).finished.isSome = true) ∨
      vs ∈ storeGet s.store (g.worker (g.netOf p w)).id ∨ vs ∈ storeGet s.store "shared" := by
  obtain ⟨hshape, hown, hshared, _, _⟩ := hS p hp hf
  have hne : (g.node p).sets.isEmpty = false := List.isEmpty_eq_false_iff_exists_mem.mpr ⟨vs, hvs⟩
  have h := (runDecision_plain hP hp hf h).2
  simp only [hne, Bool.false_eq_true, if_false] at h
  unfold runDecisionStateful runDecisionStatefulCore at h
  by_cases hfin : isFinished g s p w 1 = true
  · obtain ⟨i, hi, hfi⟩ := (isFinished_one_iff g s p w hf hshape).mp hfin
    exact Or.inl ⟨i, ((mem_copies g p i hp hf).mp hi).1, ((mem_copies g p i hp hf).mp hi).2, hfi⟩
  · right
    have hfin' : isFinished g s p w 1 = false := by simpa using hfin
    simp only [hfin', Bool.not_false, Bool.true_and, if_true] at h
    by_cases hsc : (scanStates g s p w).1 = true
    · simp only [hsc, if_true, Except.ok.injEq, Prod.mk.injEq] at h
      exact absurd h.1 (by simp)
    · have hsc' : (scanStates g s p w).1 = false := by simpa using hsc
      unfold scanStates at hsc'
      simp only [hne, Bool.false_eq_true, if_false, Bool.not_eq_false'] at hsc'
      rw [List.all_eq_true] at hsc'
      simpa only [hown, hshared, Bool.true_and, Bool.or_eq_true, List.contains_iff_mem] using hsc' vs hvs

/-- what is found in a pool is sourced for the class that sets it: it was there initially, hence is shared, or it was
produced on a copy of the class, whose result names the producer if it passed -/
theorem Prov.src {g : Graph} {store0 : List (String × List (String × String))} {s : State} (j : Prov g store0 s)
    (hO : OwnerNames g) (hR : OwnersReal g) (hU : UniqueProducer g) (hI : InitShared store0) {p : Nat}
    (hp : p < g.nodes.length) (hf : (g.node p).flat = false) {vs : String × String} (hvs : vs ∈ (g.node p).sets)
    {loc : String} (hin : vs ∈ storeGet s.store loc) : Src g s p vs := by
  rcases j loc vs hin with h0 | ⟨u, q, hloc, hq, hfq, hoq, hsq, r, hr, hrn⟩
  · left
    rw [← hI.get _ vs h0]; exact hin
  · have hc : (g.node q).cls = (g.node p).cls := hU q hq p hp vs hsq hfq hf hvs
    have hrs : r ∈ sharedResults g s p := mem_sharedResults g s q p r hq hf hc hr
    by_cases hst : r.status = "PASS"
    · exact Or.inr (Or.inl ⟨u, listed_of_pass hO hR hq hfq hoq hrs hrn hst, by rw [← hloc]; exact hin⟩)
    · exact Or.inr (Or.inr ⟨r, hrs, hst⟩)

/-! ## the start of a test -/

structure SemCtx (g : Graph) (store0 : List (String × List (String × String))) : Prop where
  hy : SemHyp g
  hO : OwnerNames g
  hF : FlatClass g
  hI : InitShared store0

/-- a negative run decision on a parsed stateful copy: its states are sourced -/
theorem runDecision_false_src {g : Graph} {store0 : List (String × List (String × String))} (sc : SemCtx g store0)
    {s : State} (j : Sem g store0 s) {p w : Nat} (hp : p < g.nodes.length) (hf : (g.node p).flat = false) {s1 : State}
    {evs : List Event} (h : runDecision g s p w = .ok (false, s1, evs)) : ∀ vs ∈ (g.node p).sets, Src g s p vs := by
  intro vs hvs
  rcases runDecision_false_stateful sc.hy.plainNodes sc.hy.fullScope hp hf h hvs with ⟨i, hil, hic, hfi⟩ | hin | hin
  · have hfli : (g.node i).flat = false := by rw [sc.hF i hil p hp hic]; exact hf
    exact (j.fin i hil hfli hfi vs (by rw [sc.hy.setsClass i hil p hp hic]; exact hvs)).congr hil hp hfli hf hic
  · exact j.prov.src sc.hO sc.hy.ownersReal sc.hy.uniqueProducer sc.hI hp hf hvs hin
  · exact Or.inl hin

/-- what C01 asks for at the start of `n` by `w` in state `sd`, for the setup edges of `n` in `gv`: every state `n` gets
through an edge from a parsed parent relevant to `w` is in the shared pool, or in the pool of a worker whose location is
contained in the `get_location` entry of its vm, or the parent's class has a result that did not pass -/
def Avail (g gv : Graph) (sd : State) (w n : Nat) : Prop :=
  ∀ e ∈ (gv.node n).setup, (g.node e.1).flat = false → relevant g w e.1 = true →
    ∀ vs ∈ (g.node n).gets, vs.1 ∈ e.2 →
      vs ∈ storeGet sd.store "shared" ∨
      (∃ u, vs ∈ storeGet sd.store (g.worker u).id ∧ HasLoc (sd.nd n).getLoc vs.1 (workerLoc g u)) ∨
      (∃ r ∈ sharedResults g sd e.1, r.status ≠ "PASS")

/-- provenance of a `start` event of worker `w`: the test proper of an own node `n`, started in a state `sd` that
satisfies both invariants, told the locations `(sd.nd n).getLoc`, with `Avail` on the graph visible then -/
def StartSem (g : Graph) (H0 : List Nat) (store0 : List (String × List (String × String))) (w : Nat) (e : Event) : Prop :=
  ∀ wid cname uid locs k, e = .start wid cname uid locs k →
    ∃ n sd hid, cname = clsName g n .plain ∧ locs = (sd.nd n).getLoc ∧ n < g.nodes.length ∧ g.idIn w n = true ∧
      (g.node n).flat = false ∧ (∀ h ∈ sd.hidden, h ∈ hid) ∧ (∀ h ∈ hid, h ∈ H0) ∧ Trv g H0 sd ∧ Sem g store0 sd ∧ Avail g (visH g hid) sd w n

theorem StartSem.of_ns {g : Graph} {H0 : List Nat} {store0 : List (String × List (String × String))} {w : Nat} {e : Event}
    (h : NS e) : StartSem g H0 store0 w e :=
  fun wid cname uid locs k he => absurd he (h wid cname uid locs k)

theorem grow_startTest (g : Graph) (s : State) (n w : Nat) (ph : Phase) (dir : Dir) : Grow s (startTest g s n w ph dir).1 := by
  refine ⟨?_, fun m => ?_, fun m r hr => ?_⟩
  · unfold startTest; dsimp only; split <;> rfl
  · by_cases hph : ph = .pre
    · subst hph; rfl
    · rw [startTest_nonpre_fst g s n w ph dir hph]
      refine nd_setNd_proj (·.finished) { s with nextTag := s.nextTag + 1 } n _ ?_ m
      exact fun _ => rfl
  · rcases startTest_results g s n w ph dir m with h | ⟨_, _, _, h⟩
    · rw [h]; exact hr
    · rw [h]; exact List.mem_append_left _ hr

theorem startTest_plain_event (g : Graph) (s : State) (n w : Nat) (dir : Dir) :
    ∀ e ∈ (startTest g s n w .plain dir).2.1,
      ∃ uid k, e = .start (g.worker w).id (clsName g n .plain) uid (s.nd n).getLoc k := by
  intro e he
  unfold startTest at he
  have e1 : (Phase.plain == Phase.pre) = false := rfl
  simp only [e1, Bool.false_eq_true, if_false, List.mem_singleton] at he
  have hgl : ∀ (f : NodeD → NodeD) (f' : WorkerD → WorkerD), (∀ d, (f d).getLoc = d.getLoc) →
      ((({ s with nextTag := s.nextTag + 1 }.setNd n f).setWd w f').nd n).getLoc = (s.nd n).getLoc :=
    fun f f' hf => nd_setNd_proj (·.getLoc) { s with nextTag := s.nextTag + 1 } n f hf n
  rw [he, hgl]
  · exact ⟨_, _, rfl⟩
  · exact fun _ => rfl

/-- a worker that is setup-ready for `next` has dropped the classes of the relevant parents, which it does only once a
copy of the class is traversed: a state `next` gets through the edge from a parsed parent is a set state of that copy -/
theorem parent_traversed {gv g : Graph} (hsn : SameNodes gv g) {H0 : List Nat} {s : State} (t : Trv g H0 s)
    (hF : FlatClass g) (hPS : ProducerSets g) (hSC : SetsClass g) {next w : Nat} (hn : next < g.nodes.length)
    (hready : isSetupReady gv s next w = true) {e : Nat × List String} (hemem : e ∈ (gv.node next).setup)
    (heg : e ∈ (g.node next).setup) (hpl : e.1 < g.nodes.length) (hfp : (g.node e.1).flat = false)
    (hrelp : relevant g w e.1 = true) {vs : String × String} (hvs : vs ∈ (g.node next).gets) (hvm : vs.1 ∈ e.2) :
    ∃ p', p' < g.nodes.length ∧ (g.node p').flat = false ∧ (g.node p').cls = (g.node e.1).cls ∧
      (s.nd p').finished.isSome = true ∧ vs ∈ (g.node p').sets := by
  have hdrop := (setup_ready_iff' gv s next w).mp hready e hemem (by rw [relevant_sameNodes hsn]; exact hrelp)
  rw [hsn.cls, hsn.cls] at hdrop
  obtain ⟨p', hp'l, hp'c, _, hp'f⟩ := t.dropS _ _ w hdrop
  have hp'flat : (g.node p').flat = false := by rw [hF p' hp'l e.1 hpl hp'c]; exact hfp
  exact ⟨p', hp'l, hp'flat, hp'c, by rw [hp'f hp'flat]; rfl,
    by rw [hSC p' hp'l e.1 hpl hp'c]; exact hPS next hn e heg vs hvs hfp hvm⟩

/-- a sourced state of a parent is at hand when the child `next` is started after a positive run decision: the store and
the results are those of `s`, and the locations `pull_locations` has told `next` cover the workers listed for the parent -/
theorem Src.at_start {gv g : Graph} (hsn : SameNodes gv g) {s s1 : State} {next w : Nat} {evs : List Event}
    (hflat : (gv.node next).flat = false) (hn : next < s.nodes.length)
    (hd : runDecision gv (entered gv s w next) next w = .ok (true, s1, evs)) {e : Nat × List String} (hemem : e ∈ (gv.node next).setup) {vs : String × String} (hvm : vs.1 ∈ e.2)
    (hsrc : Src g s e.1 vs) :
    vs ∈ storeGet s1.store "shared" ∨
    (∃ u, u < g.workers.length ∧ vs ∈ storeGet s1.store (g.worker u).id ∧
      HasLoc (s1.nd next).getLoc vs.1 (workerLoc g u)) ∨
    (∃ r ∈ sharedResults g s1 e.1, r.status ≠ "PASS") := by
  have fA : Frame s (s.setNd next (fun d => { d with started := some w })) :=
    (Inert.nd s next _).frame
  have f1 : Frame s s1 := ((inert_entered gv s w next).trans (inert_runDecision gv _ next w true s1 evs hd)).frame
  rcases fA.grow.src hsrc with h | ⟨u, hu, h⟩ | ⟨r, hr, h⟩
  · left
    rw [f1.store, ← fA.store]; exact h
  · right; left
    have hult : u < g.workers.length := by
      obtain ⟨_, _, _, hfind⟩ := (mem_sharedResultWorkerIds g _ e.1 u).mp hu
      exact List.mem_range.mp (List.mem_of_find?_eq_some hfind)
    refine ⟨u, hult, by rw [f1.store, ← fA.store]; exact h, ?_⟩
    have hloc : workerLoc gv u ∈ locsOf gv (s.setNd next (fun d => { d with started := some w })) e.1 := by
      unfold locsOf
      rw [sharedResultWorkerIds_sameNodes hsn]
      exact List.mem_cons_of_mem _ (List.mem_map.mpr ⟨u, hu, rfl⟩)
    have hc := pullLocations_complete gv (s.setNd next (fun d => { d with started := some w })) next hflat
      (by rw [nodes_length_setNd]; exact hn) e.1 e.2 hemem vs.1 hvm _ hloc
    have hwl : workerLoc gv u = workerLoc g u := by unfold workerLoc; rw [hsn.worker]
    rw [hwl] at hc
    have hgl : (s1.nd next).getLoc = ((entered gv s w next).nd next).getLoc := by
      rcases runDecision_state _ _ next w true s1 evs hd with h' | h'
      · rw [h']
      · rw [h']; exact nd_disableRerun_proj (·.getLoc) (fun _ => rfl) _ next next
    rw [hgl]; exact hc
  · right; right
    refine ⟨r, ?_, h⟩
    rw [sharedResults_congr g s s1 e.1 f1.results, ← sharedResults_congr g s _ e.1 fA.results]
    exact hr

theorem NoRemoval.sameNodes {gv g : Graph} (h : NoRemoval g) (hsn : SameNodes gv g) {n : Nat} (hn : n < g.nodes.length) :
    NodeNR (gv.node n) := by
  have := h n hn
  unfold NodeNR at this ⊢
  rw [hsn.poolFilter, hsn.unsetMode]; exact this

/-- the start of a test keeps `Sem`, and the test has everything it gets from traversed parents at hand -/
theorem Sem.start {g : Graph} {H0 hid0 : List Nat} (ctx : Ctx g H0 hid0) {store0 : List (String × List (String × String))}
    (sc : SemCtx g store0) {w : Nat} {s : State} {n : Nat} {dir : Dir} {s1 : State} {evs : List Event}
    (hsub : ∀ h ∈ s.hidden, h ∈ hid0) (hn : n < g.nodes.length) (t : Trv g H0 s) (j : Sem g store0 s)
    (hready : isSetupReady (visH g hid0) s n w = true)
    (hd : runDecision (visH g hid0) (entered (visH g hid0) s w n) n w = .ok (true, s1, evs)) :
    Sem g store0 (startTest (visH g hid0) s1 n w .plain dir).1 ∧
      ∀ e ∈ (startTest (visH g hid0) s1 n w .plain dir).2.1, StartSem g H0 store0 w e := by
  have hsn := sameNodes_visH g hid0
  obtain ⟨hflat, hid⟩ := (runDecision_events _ _ n w _ s1 evs hd).2 rfl
  obtain ⟨h1, f1⟩ := entered_decided g H0 hd
  have j1 : Sem g store0 s1 := j.inert f1
  refine ⟨j1.grow (grow_startTest _ s1 n w .plain dir), fun e he => ?_⟩
  obtain ⟨uid, k, rfl⟩ := startTest_plain_event _ s1 n w dir e he
  intro wid cname uid' locs k' hev
  cases hev
  refine ⟨n, s1, hid0, clsName_sameNodes hsn n .plain, rfl, hn, by rw [← idIn_sameNodes hsn]; exact hid,
    by rw [← hsn.flat]; exact hflat, fun h hh => hsub h (h1.hidden h hh), ctx.sub0, t.upd sc.hO.uniq h1, j1, ?_⟩
  intro e hemem hfp hrelp vs hvs hvm
  have heg : e ∈ (g.node n).setup := visH_setup_sub g hid0 n e hemem
  have hpl : e.1 < g.nodes.length := ctx.wf.setup_lt n e heg
  obtain ⟨p', hp'l, hp'flat, hp'c, hp'fin, hp's⟩ := parent_traversed hsn t sc.hF sc.hy.producerSets sc.hy.setsClass hn
    hready hemem heg hpl hfp hrelp hvs hvm
  have hsrc : Src g s e.1 vs := (j.fin p' hp'l hp'flat hp'fin vs hp's).congr hp'l hpl hp'flat hfp hp'c
  rcases hsrc.at_start hsn hflat (by rw [t.nodesLen]; exact hn) hd hemem hvm with h | ⟨u, _, h⟩ | h
  · exact Or.inl h
  · exact Or.inr (Or.inl ⟨u, h⟩)
  · exact Or.inr (Or.inr h)

/-! ## the end of a test: report, record, continue -/

/-- the abstract effect of "the stub reports, the result replaces the placeholder": the store gains the set states of
`n` in `w`'s pool iff `produced`; the placeholder `tag` of `n` is replaced by `res`, which passes only if `produced`.
Afterwards the pools still have their provenance, `res` is a result of the class of `n`, whose set states are sourced,
and nothing is lost for the other classes. -/
theorem Prov.record {g : Graph} {store0 : List (String × List (String × String))} {s sb : State} (hO : OwnerNames g)
    (hR : OwnersReal g) (j : Prov g store0 s) (w n tag : Nat) (res : Result) (produced : Prop)
    (hn : n < g.nodes.length) (hf : (g.node n).flat = false) (ho : (g.node n).owner = some w) (htag : 1 ≤ tag)
    (hstore : ∀ loc vs, vs ∈ storeGet sb.store loc ↔
      vs ∈ storeGet s.store loc ∨ (produced ∧ loc = (g.worker w).id ∧ vs ∈ (g.node n).sets))
    (hres : ∀ m, m ≠ n → (sb.nd m).results = (s.nd m).results)
    (hresn : (sb.nd n).results = ((s.nd n).results ++ [res]).filter (fun r => !(r.status == "UNKNOWN" && r.tag == tag)))
    (hname : res.name = (g.node n).name) (hrtag : res.tag = 0) (hpass : res.status = "PASS" → produced) :
    Prov g store0 sb ∧ res ∈ sharedResults g sb n ∧ (∀ vs ∈ (g.node n).sets, Src g sb n vs) ∧
      ∀ p, p < g.nodes.length → (g.node p).flat = false → (g.node n).cls ≠ (g.node p).cls →
        (∀ r, r ∈ sharedResults g s p → r ∈ sharedResults g sb p) ∧ ∀ vs, Src g s p vs → Src g sb p vs := by
  have hresmem : res ∈ (sb.nd n).results := by
    rw [hresn]
    refine List.mem_filter.mpr ⟨List.mem_append_right _ (List.mem_singleton.mpr rfl), ?_⟩
    have : (res.tag == tag) = false := by rw [hrtag]; simp; omega
    simp [this]
  have hresS : res ∈ sharedResults g sb n := mem_sharedResults g sb n n res hn hf rfl hresmem
  refine ⟨fun loc vs h => ?_, hresS, fun vs hvs => ?_, fun p hp hfp hc => ?_⟩
  · rcases (hstore loc vs).mp h with h | ⟨_, h1, h2⟩
    · rcases j loc vs h with h' | ⟨u, q, h1, h2, h3, h4, h5, r, hr, hrn⟩
      · exact Or.inl h'
      · refine Or.inr ⟨u, q, h1, h2, h3, h4, h5, ?_⟩
        by_cases hq : q = n
        · subst hq; exact ⟨res, hresmem, hname⟩
        · exact ⟨r, by rw [hres q hq]; exact hr, hrn⟩
    · exact Or.inr ⟨w, n, h1, hn, hf, ho, h2, res, hresmem, hname⟩
  · by_cases hst : res.status = "PASS"
    · exact Or.inr (Or.inl ⟨w, listed_of_pass hO hR hn hf ho hresS hname hst,
        (hstore _ vs).mpr (Or.inr ⟨hpass hst, rfl, hvs⟩)⟩)
    · exact Or.inr (Or.inr ⟨res, hresS, hst⟩)
  · -- no copy of another class is `n`
    have hsame : ∀ r, r ∈ sharedResults g s p → r ∈ sharedResults g sb p := by
      intro r hr
      rw [mem_sharedResults_iff] at hr ⊢
      obtain ⟨i, hi, hri⟩ := hr
      have hin : i ≠ n := fun hin => hc ((mem_copies g p n hp hfp).mp (hin ▸ hi)).2
      exact ⟨i, hi, by rw [hres i hin]; exact hri⟩
    exact ⟨hsame, fun vs h => h.mono (fun loc h => (hstore loc vs).mpr (Or.inl h)) hsame⟩

/-- … on `Sem`: it holds again, and the set states of `n` are sourced -/
theorem Sem.record {g : Graph} {store0 : List (String × List (String × String))} {s sb : State} (sc : SemCtx g store0)
    (j : Sem g store0 s) (w n tag : Nat) (res : Result) (produced : Prop)
    (hn : n < g.nodes.length) (hf : (g.node n).flat = false) (ho : (g.node n).owner = some w) (htag : 1 ≤ tag)
    (hstore : ∀ loc vs, vs ∈ storeGet sb.store loc ↔
      vs ∈ storeGet s.store loc ∨ (produced ∧ loc = (g.worker w).id ∧ vs ∈ (g.node n).sets))
    (hfin : ∀ m, (sb.nd m).finished = (s.nd m).finished)
    (hres : ∀ m, m ≠ n → (sb.nd m).results = (s.nd m).results)
    (hresn : (sb.nd n).results = ((s.nd n).results ++ [res]).filter (fun r => !(r.status == "UNKNOWN" && r.tag == tag)))
    (hname : res.name = (g.node n).name) (hrtag : res.tag = 0) (hpass : res.status = "PASS" → produced) :
    Sem g store0 sb ∧ ∀ vs ∈ (g.node n).sets, Src g sb n vs := by
  obtain ⟨hprov, _, hsrcn, hother⟩ :=
    j.prov.record sc.hO sc.hy.ownersReal w n tag res produced hn hf ho htag hstore hres hresn hname hrtag hpass
  refine ⟨⟨hprov, fun p hp hfp hfinp vs hvs => ?_⟩, hsrcn⟩
  by_cases hc : (g.node n).cls = (g.node p).cls
  · exact (hsrcn vs (by rw [sc.hy.setsClass n hn p hp hc]; exact hvs)).congr hn hp hf hfp hc
  · rw [hfin] at hfinp
    exact (hother p hp hfp hc).2 vs (j.fin p hp hfp hfinp vs hvs)

theorem PlainNodes.goodPlain {g : Graph} (hP : PlainNodes g) (hF : FlatClass g) (n : Nat) (hn : n < g.nodes.length)
    (hf : (g.node n).flat = false) : (g.node n).objectRoot = false ∧ good g n = true := by
  refine ⟨(hP n hn hf).2.2.2, ?_⟩
  unfold good goodClass
  simp only [hn, decide_true, hf, Bool.not_false, Bool.true_and, List.all_eq_true, Bool.not_eq_true']
  intro j hj
  obtain ⟨hjl, hjc⟩ := (mem_classNodes g _ j).mp hj
  have hfj : (g.node j).flat = false := by rw [hF j hjl n hn hjc]; exact hf
  exact (hP j hjl hfj).2.2.2

theorem Sem.loop {g : Graph} (H0 : List Nat) (hwf : GraphWF g) (hroot : (g.node g.root).flat = true)
    {store0 : List (String × List (String × String))} (sc : SemCtx g store0) (w : Nat) :
    Loop g H0 w (Sem g store0) (fun s n => ∀ vs ∈ (g.node n).sets, Src g s n vs) (fun _ => StartSem g H0 store0 w) where
  wf := hwf
  root := hroot
  names := sc.hO
  plain := sc.hy.plainNodes.goodPlain sc.hF
  inert := Sem.inert
  start := fun ctx => Sem.start ctx sc
  skip := fun {s n s1 evs} hn j hd =>
    have fD := inert_runDecision g s n w false s1 evs hd
    (j.inert fD).finish n w (fun _ hfl vs hvs => fD.frame.grow.src (runDecision_false_src sc j hn hfl hd vs hvs))
  finish := fun _ n j h => j.finish n w (fun _ _ => h)
  back := fun {hid _ n _ _} _ hn j _ hr => by
    obtain ⟨a, rfl⟩ := reverseNode_noRemoval _ _ n w _ _ (sc.hy.noRemoval.sameNodes (sameNodes_visH g hid) hn) hr
    exact ⟨j.inert a, nofun⟩
  placeholder := fun s n tag hn hfl hph vs _ => Or.inr (Or.inr
    ⟨phOf (g.node n).name tag, mem_sharedResults g s n n _ hn hfl rfl hph, by show "UNKNOWN" ≠ "PASS"; decide⟩)
  record := fun n tag res produced j hn hf ho htag hstore hfin hres hresn hname hrtag hpass _ =>
    Sem.record sc j w n tag res produced hn hf ho htag hstore hfin hres hresn hname hrtag hpass

/-- one scheduler step from a state with the invariants of C03 (`Basic`, `Uids`), `Trv` and `Sem` -/
theorem resume_sem (g : Graph) (H0 : List Nat) (hwf : GraphWF g) (hroot : (g.node g.root).flat = true)
    {store0 : List (String × List (String × String))} (sc : SemCtx g store0) (s : State) (w : Nat) (out : Outcome)
    (fuel : Nat) (b : Basic g s All) (u : Uids g s All) (t : Trv g H0 s) (j : Sem g store0 s) :
    Sem g store0 (resume g s w out fuel).1 ∧ ∀ e ∈ (resume g s w out fuel).2, StartSem g H0 store0 w e :=
  have h := (Sem.loop H0 hwf hroot sc w).resumed b u t j (resume_resumed g s w out fuel)
  ⟨h.1, fun e he => (h.2 e he).elim .of_ns id⟩

theorem finished_initState (g : Graph) (ncls : Nat) (store : List (String × List (String × String))) (H0 : List Nat)
    (p : Nat) : ((initState g ncls store H0).nd p).finished = none := by
  unfold initState State.nd
  simp only [List.getD_eq_getElem?_getD, List.getElem?_map]
  cases g.nodes[p]? <;> rfl

theorem Sem.init (g : Graph) (ncls : Nat) (store : List (String × List (String × String))) (H0 : List Nat) :
    Sem g store (initState g ncls store H0) :=
  ⟨fun _ _ h => Or.inl h, fun p _ _ h => by rw [finished_initState] at h; cases h⟩

/-! ## reachability with real workers and fuel (what the identifier invariant of C03 needs) -/

/-- `ReachH` restricted to steps of workers of the run with positive fuel (= `ReachableR` of `TravResults.lean` with the
initially hidden set recorded) -/
inductive ReachS (g : Graph) (ncls : Nat) (store : List (String × List (String × String))) (H0 : List Nat) : State → Prop
  | init : ReachS g ncls store H0 (initState g ncls store H0)
  | step (s : State) (w : Nat) (out : Outcome) (fuel : Nat) :
      ReachS g ncls store H0 s → w < g.workers.length → 0 < fuel → ReachS g ncls store H0 (resume g s w out fuel).1

theorem ReachS.reachH {g : Graph} {ncls : Nat} {store : List (String × List (String × String))} {H0 : List Nat} {s : State}
    (h : ReachS g ncls store H0 s) : ReachH g ncls store H0 s := by
  induction h with
  | init => exact ReachH.init
  | step s w out fuel _ _ _ ih => exact ReachH.step s w out fuel ih

theorem ReachS.reachR {g : Graph} {ncls : Nat} {store : List (String × List (String × String))} {H0 : List Nat} {s : State}
    (h : ReachS g ncls store H0 s) : ReachableR g ncls store s := by
  induction h with
  | init => exact ReachableR.init H0
  | step s w out fuel _ hw hf ih => exact ReachableR.step w out fuel ih hw hf

theorem ReachS.sem {g : Graph} (hwf : graphWF g = true) (hroot : (g.node g.root).flat = true) {ncls : Nat}
    {store : List (String × List (String × String))} (sc : SemCtx g store) (hN : NamesInj g) (hP : PreNamesFresh g)
    {H0 : List Nat} {s : State} (h : ReachS g ncls store H0 s) : Sem g store s := by
  induction h with
  | init => exact Sem.init g ncls store H0
  | step s w out fuel hs _ _ ih =>
    exact (resume_sem g H0 (GraphWF.of_bool hwf) hroot sc s w out fuel (hs.reachR.basic hwf) (hs.reachR.uids hwf hN hP)
      (hs.reachH.trv (GraphWF.of_bool hwf) hroot sc.hO.uniq) ih).1

theorem runSched_reachS (g : Graph) (ncls : Nat) (store : List (String × List (String × String))) (H0 : List Nat) (fuel : Nat)
    (hf : 0 < fuel) (l : List (Nat × Outcome)) (hl : ∀ p ∈ l, p.1 < g.workers.length) (s : State)
    (h : ReachS g ncls store H0 s) : ReachS g ncls store H0 (runSched g fuel s l) := by
  induction l generalizing s with
  | nil => exact h
  | cons p l ih =>
    exact ih (fun q hq => hl q (List.mem_cons_of_mem _ hq)) _ (ReachS.step s p.1 p.2 fuel h (hl p List.mem_cons_self) hf)

/-- may worker `w`, running its copy `n`, fetch from the pool of worker `v` under the node's pool scope -/
def mayUse (g : Graph) (n w v : Nat) : Bool :=
  if v == w then (g.node n).scope.contains "own"
  else if (g.worker v).swarm == (g.worker w).swarm then (g.node n).scope.contains "swarm"
  else (g.node n).scope.contains "cluster"

theorem mayUse_full {g : Graph} (h : FullScope g) {n : Nat} (hn : n < g.nodes.length) (hf : (g.node n).flat = false)
    (w v : Nat) : mayUse g n w v = true := by
  obtain ⟨_, h1, _, h3, h4⟩ := h n hn hf
  unfold mayUse
  split
  · exact h1
  · split
    · exact h3
    · exact h4

/-! ## instances for `Props/C01.lean`: test `a` sets `vm1/a` (copies for both workers), test `b` of net2 gets it -/

def exStGraph (scope : List String) : Graph :=
  { workers := [{ id := "net1", swarm := "localhost" }, { id := "net2", swarm := "localhost" }],
    nodes := [
      { cls := 0, owner := some 0, name := "a.net1", pfx := "1a1", objs := ["vm1"],
        sets := [("vm1", "a")], scope := scope, setup := [(3, ["vm1"])] },
      { cls := 0, owner := some 1, name := "a.net2", pfx := "1a1", objs := ["vm1"],
        sets := [("vm1", "a")], scope := scope, setup := [(3, ["vm1"])], cleanup := [(2, ["vm1"])] },
      { cls := 1, owner := some 1, name := "b.net2", pfx := "2a1", objs := ["vm1"],
        gets := [("vm1", "a")], scope := scope, setup := [(1, ["vm1"])] },
      { cls := 2, owner := none, name := "noop", pfx := "1", flat := true, sharedRoot := true,
        cleanup := [(0, ["vm1"]), (1, ["vm1"])] }],
    root := 3 }

/-- all four scopes enabled -/
def exSt : Graph := exStGraph ["own", "swarm", "cluster", "shared"]
/-- the `swarm` scope disabled (for `Props/C01.lean: f10_swarm_scope_disabled`) -/
def exSt10 : Graph := exStGraph ["own", "shared"]
/-- the state exists initially, in net1's own pool only (finding F5) -/
def exStore5 : List (String × List (String × String)) := [("net1", [("vm1", "a")])]

/-- net1 ran `a` and passed -/
def exSt2 : State := runSched exSt 100 (initState exSt 3 [] []) [(0, exNoOut), (0, exPass)]
def exSt10_2 : State := runSched exSt10 100 (initState exSt10 3 [] []) [(0, exNoOut), (0, exPass)]
/-- net1 found the state in its own pool and skipped `a` -/
def exSt5_1 : State := runSched exSt 100 (initState exSt 3 exStore5 []) [(0, exNoOut)]

end I2N.Trav
