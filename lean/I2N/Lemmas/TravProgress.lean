import I2N.Lemmas.TravExcl
import I2N.Lemmas.TravLoc
/-!
Progress-related reachable-state invariants of the traversal model (properties C02 and C08):
the shape of the workers' paths (start at the root, consecutive entries adjacent in the visible graph, every entry
after the root relevant to the worker), the meaning of the `started` mark (its holder is inside a test execution
of that copy, or died with an exception), ownership of what a worker executes.

An effect description of an iteration (`StepOK`) is established by cases over the ways it can go
(`Lemmas/TravMoves.lean`); from it the invariant `PInv` is carried through the loop and the resumption, and so to every
state of `ReachableF`.
-/
namespace I2N.Trav

/-- the copy a worker is executing (suspended inside the test or its result wait) -/
def Pc.node? : Pc → Option Nat
  | .test n .. => some n
  | _ => none

def Pc.isFailed : Pc → Bool
  | .failed => true
  | _ => false

/-- `prev` and `next` are joined by an edge of `gv` as the walk requires it (`prev` is a parent or a child of `next`) -/
def Adj (gv : Graph) (prev next : Nat) : Prop :=
  prev ∈ (gv.node next).setup.map (·.1) ∨ prev ∈ (gv.node next).cleanup.map (·.1)

/-- the edges are recorded on both ends (`setup_nodes` of the child, `cleanup_nodes` of the parent) -/
def EdgeSym (g : Graph) : Prop :=
  ∀ a b, a ∈ (g.node b).setup.map (·.1) ↔ b ∈ (g.node a).cleanup.map (·.1)

/-- a path built by the operations of the walk: it starts at the root and grows by adjacent, relevant nodes -/
inductive PathOK (R : Nat → Nat → Prop) (P : Nat → Prop) (root : Nat) : List Nat → Prop
  | root : PathOK R P root [root]
  | push (p : List Nat) (last c : Nat) : PathOK R P root p → p.getLast? = some last → R last c → P c →
      PathOK R P root (p ++ [c])

namespace PathOK
variable {R R' : Nat → Nat → Prop} {P : Nat → Prop} {root : Nat}

theorem mono (h : ∀ a b, R a b → R' a b) {p : List Nat} (hp : PathOK R P root p) : PathOK R' P root p := by
  induction hp with
  | root => exact .root
  | push p last c _ hl hr hc ih => exact .push p last c ih hl (h _ _ hr) hc

theorem ne_nil {p : List Nat} (hp : PathOK R P root p) : p ≠ [] := by
  cases hp <;> simp

theorem head {p : List Nat} (hp : PathOK R P root p) : p.head? = some root := by
  induction hp with
  | root => rfl
  | push p last c hp' _ _ _ ih =>
    rw [List.head?_append, ih]; rfl

theorem dropLast {p : List Nat} (hp : PathOK R P root p) : p.dropLast = [] ∨ PathOK R P root p.dropLast := by
  cases hp with
  | root => left; rfl
  | push p last c hp' _ _ _ => right; rw [List.dropLast_concat]; exact hp'

theorem tail {p : List Nat} (hp : PathOK R P root p) : ∀ x ∈ p.tail, P x := by
  induction hp with
  | root => intro x hx; simp at hx
  | push p last c hp' _ _ hc ih =>
    intro x hx
    rw [List.tail_append_of_ne_nil hp'.ne_nil] at hx
    rcases List.mem_append.mp hx with hx | hx
    · exact ih x hx
    · rw [List.mem_singleton.mp hx]; exact hc

theorem length_one {p : List Nat} (hp : PathOK R P root p) (h : p.length = 1) : p = [root] := by
  cases hp with
  | root => rfl
  | push p last c hp' _ _ _ =>
    have := hp'.ne_nil
    cases p with
    | nil => exact absurd rfl this
    | cons a r => simp at h

theorem last_two {p : List Nat} (hp : PathOK R P root p) (h : p.length ≠ 1) (next : Nat) (hn : p.getLast? = some next) :
    R (p.getD (p.length - 2) 0) next ∧ P next := by
  cases hp with
  | root => simp at h
  | push p last c hp' hl hr hc =>
    rw [List.getLast?_concat] at hn
    cases hn
    refine ⟨?_, hc⟩
    obtain ⟨k, hk⟩ : ∃ k, p.length = k + 1 := Nat.exists_eq_succ_of_ne_zero (fun h0 => hp'.ne_nil (List.eq_nil_of_length_eq_zero h0))
    rw [List.getLast?_eq_getElem?, hk, Nat.add_sub_cancel] at hl
    rw [List.getD_eq_getElem?_getD, List.length_append, List.length_singleton, hk,
      List.getElem?_append_left (by rw [hk]; exact Nat.lt_succ_self k), show k + 1 + 1 - 2 = k from rfl, hl]
    exact hr

theorem consecutive {p : List Nat} (hp : PathOK R P root p) :
    ∀ i a b, p[i]? = some a → p[i + 1]? = some b → R a b := by
  induction hp with
  | root => intro i a b _ h2; simp at h2
  | push p last c hp' hl hr hc ih =>
    intro i a b h1 h2
    rw [List.getLast?_eq_getElem?] at hl
    rcases Nat.lt_or_ge (i + 1) p.length with hi | hi
    · rw [List.getElem?_append_left (Nat.lt_of_succ_lt hi)] at h1
      rw [List.getElem?_append_left hi] at h2
      exact ih i a b h1 h2
    · -- `b` is the new entry and `a` the old last one
      have hlen := (List.getElem?_eq_some_iff.mp h2).1
      rw [List.length_append, List.length_singleton] at hlen
      have hi' : i + 1 = p.length := Nat.le_antisymm (Nat.le_of_lt_succ hlen) hi
      rw [List.getElem?_append_left (by rw [← hi']; exact Nat.lt_succ_self i)] at h1
      rw [← hi', Nat.add_sub_cancel, h1] at hl
      rw [hi', List.getElem?_concat_length] at h2
      rw [Option.some.inj hl, ← Option.some.inj h2]
      exact hr

end PathOK

theorem vis_worker (g : Graph) (s : State) (w : Nat) : (vis g s).worker w = g.worker w := by
  unfold Graph.worker; rw [(sameStatic_vis g s).workers]

theorem vis_name (g : Graph) (s : State) (i : Nat) : ((vis g s).node i).name = (g.node i).name :=
  vis_node_proj g s (·.name) (fun _ _ _ => rfl) i

theorem vis_flat (g : Graph) (s : State) (i : Nat) : ((vis g s).node i).flat = (g.node i).flat :=
  (sameStatic_vis g s).flat i

theorem vis_root (g : Graph) (s : State) : (vis g s).root = g.root := by
  unfold vis; split <;> rfl

theorem vis_idIn (g : Graph) (s : State) (w n : Nat) : (vis g s).idIn w n = g.idIn w n := by
  unfold Graph.idIn; rw [vis_worker, vis_name]

theorem vis_relevant (g : Graph) (s : State) (w n : Nat) : relevant (vis g s) w n = relevant g w n := by
  unfold relevant; rw [vis_flat, vis_idIn]

theorem vis_clsName (g : Graph) (s : State) (n : Nat) (ph : Phase) : clsName (vis g s) n ph = clsName g n ph := by
  unfold clsName; rw [(sameStatic_vis g s).cls]

theorem vis_dryRun (g : Graph) (s : State) (i : Nat) : ((vis g s).node i).dryRun = (g.node i).dryRun :=
  vis_node_proj g s (·.dryRun) (fun _ _ _ => rfl) i

/-- the edges of the visible graph: those of the full graph between two parsed nodes that are not hidden themselves
(`edgeCode`: the edge below a flat node appears when that flat node is expanded) -/
theorem mem_vis_edges (g : Graph) (s : State) (b : Nat) (e : Nat × List String) :
    (e ∈ ((vis g s).node b).setup ↔ e ∈ (g.node b).setup ∧ s.hidden.contains b = false ∧ s.hidden.contains e.1 = false ∧
      s.hidden.contains (edgeCode g e.1 b) = false) ∧
    (e ∈ ((vis g s).node b).cleanup ↔ e ∈ (g.node b).cleanup ∧ s.hidden.contains b = false ∧ s.hidden.contains e.1 = false ∧
      s.hidden.contains (edgeCode g b e.1) = false) := by
  unfold vis
  by_cases he : s.hidden.isEmpty = true
  · have : s.hidden = [] := List.isEmpty_iff.mp he
    simp [he, this]
  · simp only [he, Bool.false_eq_true, if_false]
    unfold Graph.node
    simp only [List.getD_eq_getElem?_getD, List.getElem?_map, List.getElem?_zipIdx]
    cases hn : g.nodes[b]? with
    | none => simp
    | some nd =>
      simp only [Option.map_some, Option.getD_some, Nat.zero_add]
      by_cases hb : b ∈ s.hidden
      · simp [hb]
      · simp [hb, List.mem_filter]

/-- adjacency in the direction it is recorded: `a` is a parent of `b` through an edge that is not hidden, or a child -/
def AdjE (g : Graph) (s : State) (a b : Nat) : Prop :=
  (a ∈ (g.node b).setup.map (·.1) ∧ s.hidden.contains (edgeCode g a b) = false) ∨
  (a ∈ (g.node b).cleanup.map (·.1) ∧ s.hidden.contains (edgeCode g b a) = false)

theorem adj_vis_iff (g : Graph) (s : State) (a b : Nat) :
    Adj (vis g s) a b ↔ AdjE g s a b ∧ s.hidden.contains b = false ∧ s.hidden.contains a = false := by
  unfold Adj AdjE
  simp only [List.mem_map]
  constructor
  · rintro (⟨e, he, rfl⟩ | ⟨e, he, rfl⟩)
    · have := ((mem_vis_edges g s b e).1).mp he
      exact ⟨Or.inl ⟨⟨e, this.1, rfl⟩, this.2.2.2⟩, this.2.1, this.2.2.1⟩
    · have := ((mem_vis_edges g s b e).2).mp he
      exact ⟨Or.inr ⟨⟨e, this.1, rfl⟩, this.2.2.2⟩, this.2.1, this.2.2.1⟩
  · rintro ⟨⟨⟨e, he, rfl⟩, hc⟩ | ⟨⟨e, he, rfl⟩, hc⟩, h⟩
    · exact Or.inl ⟨e, ((mem_vis_edges g s b e).1).mpr ⟨he, h.1, h.2, hc⟩, rfl⟩
    · exact Or.inr ⟨e, ((mem_vis_edges g s b e).2).mpr ⟨he, h.1, h.2, hc⟩, rfl⟩

theorem not_hidden_mono {s s' : State} (h : ∀ x, x ∈ s'.hidden → x ∈ s.hidden) (x : Nat)
    (hx : s.hidden.contains x = false) : s'.hidden.contains x = false := by
  cases hc : s'.hidden.contains x
  · rfl
  · have := h x (by simpa using hc)
    simp at hx
    exact absurd this hx

theorem adj_vis_mono (g : Graph) (s s' : State) (h : ∀ x, x ∈ s'.hidden → x ∈ s.hidden) (a b : Nat)
    (hab : Adj (vis g s) a b) : Adj (vis g s') a b := by
  rw [adj_vis_iff] at hab ⊢
  refine ⟨?_, not_hidden_mono h _ hab.2.1, not_hidden_mono h _ hab.2.2⟩
  rcases hab.1 with ⟨h1, h2⟩ | ⟨h1, h2⟩
  · exact Or.inl ⟨h1, not_hidden_mono h _ h2⟩
  · exact Or.inr ⟨h1, not_hidden_mono h _ h2⟩

theorem edgeSym_vis (g : Graph) (s : State) (h : EdgeSym g) : EdgeSym (vis g s) := by
  intro a b
  simp only [List.mem_map]
  constructor
  · rintro ⟨e, he, rfl⟩
    have h1 := ((mem_vis_edges g s b e).1).mp he
    have h2 := (h e.1 b).mp (List.mem_map.mpr ⟨e, h1.1, rfl⟩)
    obtain ⟨e', he', hb⟩ := List.mem_map.mp h2
    exact ⟨e', ((mem_vis_edges g s e.1 e').2).mpr ⟨he', h1.2.2.1, by rw [hb]; exact h1.2.1, by rw [hb]; exact h1.2.2.2⟩, hb⟩
  · rintro ⟨e, he, rfl⟩
    have h1 := ((mem_vis_edges g s a e).2).mp he
    have h2 := (h a e.1).mpr (List.mem_map.mpr ⟨e, h1.1, rfl⟩)
    obtain ⟨e', he', hb⟩ := List.mem_map.mp h2
    exact ⟨e', ((mem_vis_edges g s e.1 e').1).mpr ⟨he', h1.2.2.1, by rw [hb]; exact h1.2.1, by rw [hb]; exact h1.2.2.2⟩, hb⟩

def Event.isDoor : Event → Bool
  | .door .. => true
  | _ => false

def Event.isStart : Event → Bool
  | .start .. => true
  | _ => false

def DoorsOnly (evs : List Event) : Prop := ∀ e ∈ evs, e.isDoor = true

/-- what a start event of worker `w` must look like: it carries `w`'s id and the class of a copy parsed for `w` -/
def startOK (g : Graph) (w : Nat) : Event → Prop
  | .start wid cls _ _ _ => wid = (g.worker w).id ∧ ∃ n ph, cls = clsName g n ph ∧ g.idIn w n = true
  | _ => True

def StartsOK (g : Graph) (w : Nat) (evs : List Event) : Prop := ∀ e ∈ evs, startOK g w e

theorem startOK_of_not_start (g : Graph) (w : Nat) (e : Event) (h : e.isStart = false) : startOK g w e := by
  cases e <;> first | trivial | simp [Event.isStart] at h

theorem DoorsOnly.nil : DoorsOnly [] := fun _ h => by simp at h

theorem DoorsOnly.append {a b : List Event} (ha : DoorsOnly a) (hb : DoorsOnly b) : DoorsOnly (a ++ b) :=
  fun e he => (List.mem_append.mp he).elim (ha e) (hb e)

theorem DoorsOnly.startsOK {evs : List Event} (h : DoorsOnly evs) (g : Graph) (w : Nat) : StartsOK g w evs := by
  intro e he
  have := h e he
  cases e <;> first | trivial | simp [Event.isDoor] at this

theorem StartsOK.nil (g : Graph) (w : Nat) : StartsOK g w [] := fun _ h => by simp at h

theorem StartsOK.append {g : Graph} {w : Nat} {a b : List Event} (ha : StartsOK g w a) (hb : StartsOK g w b) :
    StartsOK g w (a ++ b) :=
  fun e he => (List.mem_append.mp he).elim (ha e) (hb e)

theorem DoorsOnly.singleton {e : Event} (h : e.isDoor = true) : DoorsOnly [e] :=
  fun e' he => by rw [List.mem_singleton.mp he]; exact h

theorem StartsOK.singleton {g : Graph} {w : Nat} {e : Event} (h : startOK g w e) : StartsOK g w [e] :=
  fun e' he => by rw [List.mem_singleton.mp he]; exact h

theorem scanStates_doors (g : Graph) (s : State) (n w : Nat) : DoorsOnly (scanStates g s n w).2 := by
  fun_cases scanStates g s n w with
  | case1 => exact DoorsOnly.nil
  | case2 => exact DoorsOnly.singleton rfl

/-- the run decision talks to the state control only (`check` requests) -/
theorem runDecision_doors (g : Graph) (s : State) (n w : Nat) (b : Bool) (s1 : State) (e1 : List Event)
    (h : runDecision g s n w = .ok (b, s1, e1)) : DoorsOnly e1 := by
  revert h
  fun_cases runDecision g s n w with
  | case1 | case2 | case3 | case4 => intro h; cases h; exact DoorsOnly.nil
  | case5 => intro h; cases h
  | case6 => intro h; rw [runDecisionStateless_events g s n w b s1 e1 h]; exact DoorsOnly.nil
  | case7 =>
    intro h
    rw [runDecisionStatefulCore_events g s n w _ _ b s1 e1 h]
    split
    · exact scanStates_doors g s n w
    · exact DoorsOnly.nil

/-- a positive run decision is only taken for a copy parsed for the deciding worker -/
theorem runDecision_true_own (g : Graph) (s : State) (n w : Nat) (s1 : State) (e1 : List Event)
    (h : runDecision g s n w = .ok (true, s1, e1)) : g.idIn w n = true ∧ (g.node n).flat = false ∧ (g.node n).dryRun = false := by
  revert h
  fun_cases runDecision g s n w with
  | case1 | case2 | case3 | case4 | case5 => intro h; cases h
  | case6 _ _ h2 h3 _ h5 | case7 _ _ h2 h3 _ h5 =>
    intro _; exact ⟨by simpa using h5, by simpa using h3, by simpa using h2⟩

theorem syncStates_doors (g : Graph) (s : State) (n w : Nat) (r : Option (List String)) :
    DoorsOnly (syncStates g s n w r).2 := by
  fun_cases syncStates g s n w r with
  | case1 => exact DoorsOnly.nil
  | case2 | case3 => exact DoorsOnly.singleton rfl

/-- a piece of worker `w`'s step that changes no worker record and not the set of parsed nodes; `started` marks are
only removed, except that the copy `X` may get marked for `w` -/
structure Qt (w : Nat) (X : Option Nat) (s s' : State) : Prop where
  workers : s'.workers = s.workers
  hidden : s'.hidden = s.hidden
  nodesLen : s'.nodes.length = s.nodes.length
  marks : ∀ i, (s'.nd i).started = (s.nd i).started ∨ (s'.nd i).started = none ∨
    (X = some i ∧ (s'.nd i).started = some w)

theorem marks_trans {w i : Nat} {X : Option Nat} {a b c : Option Nat}
    (hab : b = a ∨ b = none ∨ (X = some i ∧ b = some w)) (hbc : c = b ∨ c = none ∨ (X = some i ∧ c = some w)) :
    c = a ∨ c = none ∨ (X = some i ∧ c = some w) := by
  rcases hbc with h | h | h
  · rw [h]; exact hab
  · exact Or.inr (Or.inl h)
  · exact Or.inr (Or.inr h)

theorem Qt.refl (w : Nat) (X : Option Nat) (s : State) : Qt w X s s := ⟨rfl, rfl, rfl, fun _ => Or.inl rfl⟩

theorem Qt.trans {w : Nat} {X : Option Nat} {s s1 s2 : State} (a : Qt w X s s1) (b : Qt w X s1 s2) : Qt w X s s2 :=
  ⟨b.workers.trans a.workers, b.hidden.trans a.hidden, b.nodesLen.trans a.nodesLen, fun i => marks_trans (a.marks i) (b.marks i)⟩

theorem Qt.weaken {w : Nat} {X : Option Nat} {s s' : State} (a : Qt w none s s') : Qt w X s s' :=
  ⟨a.workers, a.hidden, a.nodesLen, fun i => (a.marks i).imp id (Or.imp id (fun h => absurd h.1 (by simp)))⟩

theorem Qt.of_le {w : Nat} {X : Option Nat} {s s' : State} (hw : s'.workers = s.workers) (hh : s'.hidden = s.hidden)
    (hn : s'.nodes.length = s.nodes.length) (h : Le s s') : Qt w X s s' :=
  ⟨hw, hh, hn, fun i => (h i).1.imp id Or.inl⟩

theorem Qt.wd {w : Nat} {X : Option Nat} {s s' : State} (a : Qt w X s s') (v : Nat) : s'.wd v = s.wd v := by
  unfold State.wd; rw [a.workers]

theorem qt_setNd (w : Nat) (X : Option Nat) (s : State) (m : Nat) (f : NodeD → NodeD)
    (hf : ∀ d, (f d).started = d.started ∨ (f d).started = none) : Qt w X s (s.setNd m f) := by
  refine ⟨rfl, rfl, nodes_length_setNd s m f, fun i => ?_⟩
  rcases nd_setNd_cases s m f i with h | ⟨_, _, h⟩
  · rw [h]; exact Or.inl rfl
  · rw [h]
    rcases hf (s.nd i) with h' | h'
    · exact Or.inl h'
    · exact Or.inr (Or.inl h')

theorem qt_enter (w : Nat) (s : State) (n : Nat) : Qt w (some n) s (s.setNd n (fun d => { d with started := some w })) := by
  refine ⟨rfl, rfl, nodes_length_setNd s n _, fun i => ?_⟩
  rcases nd_setNd_cases s n (fun d => { d with started := some w }) i with h | ⟨h1, _, h⟩
  · rw [h]; exact Or.inl rfl
  · rw [h]; exact Or.inr (Or.inr ⟨by rw [h1], rfl⟩)

theorem qt_setCr (w : Nat) (X : Option Nat) (s : State) (c : Nat) (f : ClassRegs → ClassRegs) : Qt w X s (s.setCr c f) :=
  ⟨rfl, rfl, rfl, fun _ => Or.inl rfl⟩

theorem qt_foldl {β} (w : Nat) (X : Option Nat) (f : State → β → State) (h : ∀ s b, Qt w X s (f s b)) (l : List β) (s : State) :
    Qt w X s (l.foldl f s) := by
  induction l generalizing s with
  | nil => exact Qt.refl w X s
  | cons a r ih => simp only [List.foldl_cons]; exact (h s a).trans (ih _)

theorem qt_disableRerun (w : Nat) (X : Option Nat) (s : State) (n : Nat) : Qt w X s (disableRerun s n) :=
  qt_setNd w X s n _ (fun _ => Or.inl rfl)

theorem qt_runDecision (w : Nat) (X : Option Nat) (g : Graph) (s : State) (n v : Nat) (b : Bool) (s1 : State) (e1 : List Event)
    (h : runDecision g s n v = .ok (b, s1, e1)) : Qt w X s s1 := by
  rcases runDecision_state g s n v b s1 e1 h with h | h
  · rw [h]; exact Qt.refl w X s
  · rw [h]; exact qt_disableRerun w X s n

theorem qt_pullLocations (w : Nat) (X : Option Nat) (g : Graph) (s : State) (n : Nat) : Qt w X s (pullLocations g s n) := by
  obtain ⟨l, h⟩ := pullLocations_setNd g s n
  rw [h]
  exact qt_setNd w X s n _ (fun _ => Or.inl rfl)

theorem qt_syncStates (w : Nat) (X : Option Nat) (g : Graph) (s : State) (n v : Nat) (r : Option (List String)) :
    Qt w X s (syncStates g s n v r).1 := by
  obtain ⟨h1, h2, h3⟩ := syncStates_frame g s n v r
  exact Qt.of_le h2 h3 (by rw [h1]) (le_syncStates g s n v r)

theorem qt_finishTraverse (w : Nat) (X : Option Nat) (s : State) (n v : Nat) : Qt w X s (finishTraverse s n v) :=
  qt_setNd w X s n _ (fun _ => Or.inr rfl)

theorem qt_dropChildren (w : Nat) (X : Option Nat) (g : Graph) (s : State) (next v : Nat) (l : List (Nat × List String)) :
    Qt w X s (l.foldl (fun s (p, _) => dropChild g s p next v) s) := by
  apply qt_foldl
  rintro s ⟨p, _⟩
  exact qt_setCr w X s _ _

/-- marking the copy `n`, some quiet pieces, taking the mark back: the net effect is quiet -/
theorem qt_unmark (w : Nat) (s s1 : State) (n v : Nat) (f : NodeD → NodeD) (hf : ∀ d, (f d).started = none)
    (q : Qt w none (s.setNd n (fun d => { d with started := some v })) s1) : Qt w none s (s1.setNd n f) := by
  have hlen : s1.nodes.length = s.nodes.length := by rw [q.nodesLen, nodes_length_setNd]
  refine ⟨q.workers, q.hidden, by rw [nodes_length_setNd, hlen], fun i => ?_⟩
  by_cases hi : i = n ∧ n < s.nodes.length
  · right; left
    rw [nd_setNd, if_pos (by rw [hlen]; exact hi)]; exact hf _
  · rw [nd_setNd, if_neg (by rw [hlen]; exact hi)]
    rcases q.marks i with h | h | h
    · left; rw [h, nd_setNd, if_neg hi]
    · exact Or.inr (Or.inl h)
    · exact absurd h.1 (by simp)

theorem reverseNode_qt (w : Nat) (g : Graph) (s : State) (n v : Nat) (s' : State) (evs : List Event)
    (h : reverseNode g s n v = .ok (s', evs)) : Qt w none s s' ∧ DoorsOnly evs := by
  rcases reverseNode_eq_ok h with ⟨_, rfl, rfl⟩ | ⟨_, clean, s2, _, hsy, rfl⟩
  · exact ⟨Qt.refl w none _, DoorsOnly.nil⟩
  · have h2 : Qt w none (s.setNd n (fun d => { d with started := some v })) s2 ∧ DoorsOnly evs := by
      split at hsy
      · rw [← show _ = s2 from congrArg Prod.fst hsy, ← show _ = evs from congrArg Prod.snd hsy]
        exact ⟨qt_syncStates w none g _ n v none, syncStates_doors g _ n v none⟩
      · cases hsy; exact ⟨Qt.refl w none _, DoorsOnly.nil⟩
    exact ⟨qt_unmark w s s2 n v _ (fun _ => rfl) h2.1, h2.2⟩

theorem pickChild_rel (g : Graph) (s : State) (n w c : Nat) (s' : State) (h : pickChild g s n w = some (c, s')) :
    relevant g w c = true ∧ c ∈ (g.node n).cleanup.map (·.1) :=
  ⟨(pickChild_eq_some h).2.1, (pickChild_eq_some h).1⟩

theorem pickParent_rel (g : Graph) (s : State) (n w c : Nat) (s' : State) (h : pickParent g s n w = some (c, s')) :
    relevant g w c = true ∧ c ∈ (g.node n).setup.map (·.1) :=
  ⟨(pickParent_eq_some h).2.1, (pickParent_eq_some h).1⟩

theorem pickChild_qt (w : Nat) (X : Option Nat) (g : Graph) (s : State) (n v c : Nat) (s' : State)
    (h : pickChild g s n v = some (c, s')) : Qt w X s s' := by
  rw [(pickChild_eq_some h).2.2.2]
  exact qt_setCr w X s _ _

theorem pickParent_qt (w : Nat) (X : Option Nat) (g : Graph) (s : State) (n v c : Nat) (s' : State)
    (h : pickParent g s n v = some (c, s')) : Qt w X s s' := by
  rw [(pickParent_eq_some h).2.2.2]
  exact qt_setCr w X s _ _

/-- what a piece of `w`'s step does outside `w`'s own record -/
structure Eff (w : Nat) (X : Option Nat) (s s' : State) : Prop where
  workersLen : s'.workers.length = s.workers.length
  nodesLen : s'.nodes.length = s.nodes.length
  hidden : s'.hidden = s.hidden
  others : ∀ v, v ≠ w → s'.wd v = s.wd v
  marks : ∀ i, (s'.nd i).started = (s.nd i).started ∨ (s'.nd i).started = none ∨
    (X = some i ∧ (s'.nd i).started = some w)

theorem Eff.refl (w : Nat) (X : Option Nat) (s : State) : Eff w X s s := ⟨rfl, rfl, rfl, fun _ _ => rfl, fun _ => Or.inl rfl⟩

theorem Eff.trans {w : Nat} {X : Option Nat} {s s1 s2 : State} (a : Eff w X s s1) (b : Eff w X s1 s2) : Eff w X s s2 :=
  ⟨b.workersLen.trans a.workersLen, b.nodesLen.trans a.nodesLen, b.hidden.trans a.hidden,
    fun v hv => (b.others v hv).trans (a.others v hv), fun i => marks_trans (a.marks i) (b.marks i)⟩

theorem Eff.weaken {w : Nat} {X : Option Nat} {s s' : State} (a : Eff w none s s') : Eff w X s s' :=
  ⟨a.workersLen, a.nodesLen, a.hidden, a.others, fun i => (a.marks i).imp id (Or.imp id (fun h => absurd h.1 (by simp)))⟩

theorem Qt.eff {w : Nat} {X : Option Nat} {s s' : State} (a : Qt w X s s') : Eff w X s s' :=
  ⟨by rw [a.workers], a.nodesLen, a.hidden, fun v _ => a.wd v, a.marks⟩

theorem eff_setWd (w : Nat) (X : Option Nat) (s : State) (f : WorkerD → WorkerD) : Eff w X s (s.setWd w f) :=
  ⟨by simp [State.setWd], rfl, rfl, fun v hv => wd_setWd_ne s w v f hv, fun _ => Or.inl rfl⟩

theorem Eff.setWd {w : Nat} {X : Option Nat} {s s1 : State} (a : Eff w X s s1) (f : WorkerD → WorkerD) :
    Eff w X s (s1.setWd w f) := a.trans (eff_setWd w X s1 f)

theorem Eff.wd_setWd {w : Nat} {X : Option Nat} {s s1 : State} (a : Eff w X s s1) (hw : w < s.workers.length)
    (f : WorkerD → WorkerD) : (s1.setWd w f).wd w = f (s1.wd w) :=
  wd_setWd_eq s1 w f (by rw [a.workersLen]; exact hw)

/-- how a piece of the walk may change the path -/
def PathEff (gv : Graph) (w : Nat) (p p' : List Nat) : Prop :=
  p' = p ∨ (p' = p.dropLast ∧ 2 ≤ p.length) ∨ p' = [gv.root] ∨
    ∃ last c, p.getLast? = some last ∧ p' = p ++ [c] ∧ relevant gv w c = true ∧ Adj gv last c

/-- a piece in which nothing is entered: the pc stays and the path changes by one of the moves -/
def MoveOK (gv : Graph) (w : Nat) (s s' : State) : Prop :=
  Eff w none s s' ∧ (s'.wd w).pc = (s.wd w).pc ∧ PathEff gv w (s.wd w).path (s'.wd w).path

theorem Qt.move {gv : Graph} {w : Nat} {s s2 : State} (q : Qt w none s s2) (hw : w < s.workers.length)
    (f : WorkerD → WorkerD) (hpc : ∀ d, (f d).pc = d.pc) (hp : PathEff gv w (s.wd w).path (f (s.wd w)).path) :
    MoveOK gv w s (s2.setWd w f) := by
  unfold MoveOK
  rw [q.eff.wd_setWd hw, q.wd w]
  exact ⟨q.eff.setWd f, hpc _, hp⟩

theorem Qt.stay {gv : Graph} {w : Nat} {s s2 : State} (q : Qt w none s s2) : MoveOK gv w s s2 :=
  ⟨q.eff, by rw [q.wd w], by rw [q.wd w]; exact Or.inl rfl⟩

theorem Qt.pop {gv : Graph} {w : Nat} {s s2 : State} (q : Qt w none s s2) (hw : w < s.workers.length)
    (hlen : 2 ≤ (s.wd w).path.length) : MoveOK gv w s (popPath s2 w) :=
  q.move hw (fun d => { d with path := d.path.dropLast }) (fun _ => rfl) (Or.inr (Or.inl ⟨rfl, hlen⟩))

theorem Qt.push {gv : Graph} {w : Nat} {s s2 : State} (q : Qt w none s s2) (hw : w < s.workers.length) {last : Nat} (c : Nat)
    (hl : (s.wd w).path.getLast? = some last) (hrel : relevant gv w c = true) (hadj : Adj gv last c) :
    MoveOK gv w s (pushPath s2 w c) :=
  q.move hw (fun d => { d with path := d.path ++ [c] }) (fun _ => rfl)
    (Or.inr (Or.inr (Or.inr ⟨last, c, hl, rfl, hrel, hadj⟩)))

theorem evs_of_after {gv : Graph} {s : State} {w next prev : Nat} {dir : Dir} {r : Step}
    (h : After gv w next prev dir s r) : DoorsOnly r.2.1 := by
  cases h with
  | undecided => exact DoorsOnly.nil
  | up _ _ _ _ hd | again _ _ _ hd | postponed _ _ _ hd | uncleaned _ _ _ _ hd | descend _ _ _ _ _ hd
  | childless _ _ _ hd => exact runDecision_doors gv s next w _ _ _ hd
  | cleaned s1 evs s3 evs2 _ hd _ _ hr =>
    exact (runDecision_doors gv s next w _ _ _ hd).append (reverseNode_qt w gv _ next w s3 evs2 hr).2

theorem ok_of_after (gv : Graph) (hsym : EdgeSym gv) (s : State) (w next prev : Nat) (dir : Dir)
    (hw : w < s.workers.length) (hlast : (s.wd w).path.getLast? = some next) (hlen : 2 ≤ (s.wd w).path.length) {r : Step}
    (h : After gv w next prev dir s r) :
    Eff w none s r.1 ∧ (r.1.wd w).pc = (s.wd w).pc ∧ PathEff gv w (s.wd w).path (r.1.wd w).path ∧ DoorsOnly r.2.1 := by
  have rd : ∀ {run s1 evs}, runDecision gv s next w = .ok (run, s1, evs) → Qt w none s s1 :=
    fun h => qt_runDecision w none gv s next w _ _ _ h
  have main : MoveOK gv w s r.1 := by
    cases h with
    | undecided => exact (Qt.refl w none s).stay
    | up run s1 evs _ hd =>
      have q2 : Qt w none s (if !run then dropParent gv s1 prev next w else s1) := by
        split
        · exact (rd hd).trans (qt_setCr w none s1 _ _)
        · exact rd hd
      exact q2.pop hw hlen
    | again s1 evs _ hd => exact (rd hd).pop hw hlen
    | postponed s1 evs _ hd =>
      exact (rd hd).move hw (fun d => { d with path := [gv.root] }) (fun _ => rfl) (Or.inr (Or.inr (Or.inl rfl)))
    | cleaned s1 evs s3 evs2 _ hd _ _ hr =>
      exact (((rd hd).trans (qt_dropChildren w none gv s1 next w _)).trans (reverseNode_qt w gv _ next w s3 evs2 hr).1).pop
        hw hlen
    | uncleaned s1 evs e _ hd => exact ((rd hd).trans (qt_dropChildren w none gv s1 next w _)).stay
    | descend s1 evs c s2 _ hd _ hp =>
      obtain ⟨hrel, hmem⟩ := pickChild_rel gv s1 next w c s2 hp
      exact ((rd hd).trans (pickChild_qt w none gv s1 next w c s2 hp)).push hw c hlast hrel
        (Or.inl ((hsym next c).mpr hmem))
    | childless s1 evs _ hd => exact (rd hd).stay
  exact ⟨main.1, main.2.1, main.2.2, evs_of_after h⟩

theorem afterTraverse_ok (gv : Graph) (hsym : EdgeSym gv) (s : State) (w next prev : Nat) (dir : Dir)
    (hw : w < s.workers.length) (hlast : (s.wd w).path.getLast? = some next) (hlen : 2 ≤ (s.wd w).path.length) :
    Eff w none s (afterTraverse gv s w next prev dir).1 ∧
    ((afterTraverse gv s w next prev dir).1.wd w).pc = (s.wd w).pc ∧
    PathEff gv w (s.wd w).path ((afterTraverse gv s w next prev dir).1.wd w).path ∧
    DoorsOnly (afterTraverse gv s w next prev dir).2.1 :=
  ok_of_after gv hsym s w next prev dir hw hlast hlen (afterTraverse_after gv s w next prev dir)

theorem startTest_starts (g : Graph) (s : State) (n w : Nat) (ph : Phase) (dir : Dir) (hid : g.idIn w n = true) :
    StartsOK g w (startTest g s n w ph dir).2.1 := by
  fun_cases startTest g s n w ph dir <;> exact StartsOK.singleton ⟨rfl, n, ph, rfl, hid⟩

theorem startTest_ok (g : Graph) (s : State) (n w : Nat) (ph : Phase) (dir : Dir) (hw : w < s.workers.length) :
    Eff w none s (startTest g s n w ph dir).1 ∧
    ((startTest g s n w ph dir).1.wd w).path = (s.wd w).path ∧
    (∃ uid tag, ((startTest g s n w ph dir).1.wd w).pc = .test n ph dir uid tag 0) ∧
    (g.idIn w n = true → StartsOK g w (startTest g s n w ph dir).2.1) := by
  -- the placeholder is booked in a quiet piece `s1`, then `w`'s record is updated
  have fin : ∀ s1 uid tag (f : WorkerD → WorkerD), Qt w none s s1 → (∀ d, (f d).path = d.path) →
      (∀ d, (f d).pc = .test n ph dir uid tag 0) →
      Eff w none s (s1.setWd w f) ∧ ((s1.setWd w f).wd w).path = (s.wd w).path ∧
        ∃ uid tag, ((s1.setWd w f).wd w).pc = .test n ph dir uid tag 0 := by
    intro s1 uid tag f q hp hpc
    rw [q.eff.wd_setWd hw, q.wd w]
    exact ⟨q.eff.setWd f, hp _, uid, tag, hpc _⟩
  have tagged : Qt w none s { s with nextTag := s.nextTag + 1 } := ⟨rfl, rfl, rfl, fun _ => Or.inl rfl⟩
  have main : Eff w none s (startTest g s n w ph dir).1 ∧ ((startTest g s n w ph dir).1.wd w).path = (s.wd w).path ∧
      ∃ uid tag, ((startTest g s n w ph dir).1.wd w).pc = .test n ph dir uid tag 0 := by
    fun_cases startTest g s n w ph dir with
    | case1 => exact fin _ _ _ _ tagged (fun _ => by rfl) (fun _ => by rfl)
    | case2 =>
      exact fin _ _ _ _ (tagged.trans (qt_setNd w none _ n _ (fun _ => Or.inl rfl))) (fun _ => by rfl) (fun _ => by rfl)
  exact ⟨main.1, main.2.1, main.2.2, startTest_starts g s n w ph dir⟩

/-- what one iteration of worker `w` (or the first part of it) does: either nothing is entered — marks only disappear,
the path changes by one of the four moves (or the worker exits), the pc stays or becomes `bounce`/`done` — or the last
node `next` of the path is entered and the piece ends inside its execution or with an exception -/
def StepOK (gv : Graph) (w : Nat) (s : State) (r : Step) : Prop :=
  StartsOK gv w r.2.1 ∧
  ((Eff w none s r.1 ∧
      ((PathEff gv w (s.wd w).path (r.1.wd w).path ∧ ((r.1.wd w).pc = (s.wd w).pc ∨ (r.1.wd w).pc = .bounce)) ∨
       ((r.1.wd w).path = [] ∧ (r.1.wd w).pc = .done ∧ r.2.2 = .exit))) ∨
   (∃ next, (s.wd w).path.getLast? = some next ∧ 2 ≤ (s.wd w).path.length ∧ Eff w (some next) s r.1 ∧
      (r.1.wd w).path = (s.wd w).path ∧
      ((∃ what, r.2.2 = .raise what ∧ (r.1.wd w).pc = (s.wd w).pc) ∨
       (r.2.2 = .suspend ∧ gv.idIn w next = true ∧ ∃ ph dir uid tag, (r.1.wd w).pc = .test next ph dir uid tag 0))))

theorem StepOK.unchanged (gv : Graph) (w : Nat) (s : State) (f : Flow) : StepOK gv w s (s, [], f) :=
  ⟨StartsOK.nil gv w, Or.inl ⟨Eff.refl _ _ _, Or.inl ⟨Or.inl rfl, Or.inl rfl⟩⟩⟩

theorem StepOK.quiet {gv : Graph} {w : Nat} {s : State} {r : Step} (h : MoveOK gv w s r.1) (hd : DoorsOnly r.2.1) :
    StepOK gv w s r :=
  ⟨hd.startsOK gv w, Or.inl ⟨h.1, Or.inl ⟨h.2.2, Or.inl h.2.1⟩⟩⟩

theorem enter_finish_qt (w : Nat) (s s1 : State) (next : Nat)
    (q : Qt w none (s.setNd next (fun d => { d with started := some w })) s1) :
    Qt w none s (finishTraverse s1 next w) :=
  qt_unmark w s s1 next w _ (fun _ => rfl) q

theorem lt_of_path_ne_nil (s : State) (w : Nat) (h : (s.wd w).path ≠ []) : w < s.workers.length := by
  by_cases hl : w < s.workers.length
  · exact hl
  · exfalso; apply h
    unfold State.wd
    rw [List.getD_eq_getElem?_getD, List.getElem?_eq_none (by omega)]; rfl

theorem ok_of_iter (gv : Graph) (hsym : EdgeSym gv) (s : State) (w : Nat) {r : Step} (h : Iter gv w s r) :
    StepOK gv w s r := by
  have hw : ∀ {n}, (s.wd w).path.getLast? = some n → w < s.workers.length := fun hl =>
    lt_of_path_ne_nil s w (by intro h; rw [h] at hl; cases hl)
  have hlen : ∀ {n}, (s.wd w).path.getLast? = some n → (s.wd w).path.length ≠ 1 → 2 ≤ (s.wd w).path.length :=
    fun hl h1 => by
      have h0 : (s.wd w).path ≠ [] := by intro h; rw [h] at hl; cases hl
      have := List.length_pos_iff.mpr h0
      omega
  -- the decision after `n` has been entered and its locations pulled
  have rd : ∀ {n run s1 evs}, runDecision gv (entered gv s w n) n w = .ok (run, s1, evs) →
      Qt w none (s.setNd n (fun d => { d with started := some w })) s1 ∧ DoorsOnly evs := fun h =>
    ⟨(qt_pullLocations w none gv _ _).trans (qt_runDecision w none gv _ _ w _ _ _ h), runDecision_doors gv _ _ w _ _ _ h⟩
  -- `n` entered, the step ends inside a test started from `sa`
  have start : ∀ {n prev dir sa evs ph}, Visit gv s w n prev dir → Eff w (some n) s sa → (sa.wd w).path = (s.wd w).path →
      DoorsOnly evs → gv.idIn w n = true →
      StepOK gv w s ((startTest gv sa n w ph dir).1, evs ++ (startTest gv sa n w ph dir).2.1, .suspend) := by
    intro n prev dir sa evs ph hv e hp hd hid
    obtain ⟨a, b, ⟨uid, tag, c⟩, d⟩ := startTest_ok gv sa n w ph dir (by rw [e.workersLen]; exact hw hv.last)
    exact ⟨(hd.startsOK gv w).append (d hid), Or.inr ⟨n, hv.last, hlen hv.last hv.long, e.trans a.weaken, b.trans hp,
      Or.inr ⟨rfl, hid, ph, dir, uid, tag, c⟩⟩⟩
  cases h with
  | exit _ hp =>
    refine ⟨StartsOK.singleton trivial, Or.inl ⟨eff_setWd w none s _, Or.inr ?_⟩⟩
    rw [(Eff.refl w none s).wd_setWd (lt_of_path_ne_nil s w (by rw [hp]; simp))]
    exact ⟨rfl, rfl, rfl⟩
  | lost => exact StepOK.unchanged gv w s _
  | fromRoot n c s1 _ hl _ hp =>
    obtain ⟨hrel, hmem⟩ := pickChild_rel gv s n w c s1 hp
    exact StepOK.quiet ((pickChild_qt w none gv s n w c s1 hp).push (hw hl) c hl hrel (Or.inl ((hsym n c).mpr hmem)))
      DoorsOnly.nil
  | bounce n _ hl =>
    -- back to the root, the pc becomes `bounce`; `s1` is the state before the last write to `w`'s record
    have fin : ∀ s1 (f : WorkerD → WorkerD), Eff w none s s1 → (∀ d, (f d).path = [gv.root]) → (∀ d, (f d).pc = .bounce) →
        StepOK gv w s (s1.setWd w f, [Event.sleep (gv.worker w).id (sleepQ gv n)], .suspend) := by
      intro s1 f e1 hp hpc
      refine ⟨StartsOK.singleton trivial, Or.inl ⟨e1.setWd f, Or.inl ?_⟩⟩
      rw [e1.wd_setWd (hw hl)]
      exact ⟨Or.inr (Or.inr (Or.inl (hp _))), Or.inr (hpc _)⟩
    refine fin _ _ ?_ (fun _ => rfl) (fun _ => rfl)
    split
    · refine Eff.setWd ?_ _
      split
      · refine (qt_setNd w none s n _ ?_).eff
        exact fun _ => Or.inl rfl
      · exact Eff.refl _ _ _
    · exact eff_setWd w none s _
  | toParent n _ p s1 ha _ _ hp =>
    obtain ⟨hrel, hmem⟩ := pickParent_rel gv s n w p s1 hp
    exact StepOK.quiet ((pickParent_qt w none gv s n w p s1 hp).push (hw ha.last) p ha.last hrel
      (Or.inr ((hsym p n).mp hmem))) DoorsOnly.nil
  | undecided n _ _ e hv =>
    have q : Qt w (some n) s (entered gv s w n) := (qt_enter w s n).trans (qt_pullLocations w none gv _ n).weaken
    exact ⟨StartsOK.nil gv w, Or.inr ⟨n, hv.last, hlen hv.last hv.long, q.eff, by rw [q.wd w],
      Or.inl ⟨e, rfl, by rw [q.wd w]⟩⟩⟩
  | start n _ _ s1 _ hv hd =>
    have q : Qt w (some n) s s1 := (qt_enter w s n).trans (rd hd).1.weaken
    exact start hv q.eff (by rw [q.wd w]) (rd hd).2 (runDecision_true_own gv _ n w s1 _ hd).1
  | create n _ _ s1 _ hv hd =>
    have q : Qt w (some n) s s1 := (qt_enter w s n).trans (rd hd).1.weaken
    exact start hv (q.eff.setWd _) (by unfold preset; rw [q.eff.wd_setWd (hw hv.last), q.wd w]) (rd hd).2
      (runDecision_true_own gv _ n w s1 _ hd).1
  | skip n prev dir s1 _ r hv hd ha =>
    have qF : Qt w none s (finishTraverse s1 n w) := enter_finish_qt w s s1 n (rd hd).1
    obtain ⟨a, b, c, d⟩ := ok_of_after gv hsym _ w n prev dir (by rw [qF.workers]; exact hw hv.last)
      (by rw [qF.wd w]; exact hv.last) (by rw [qF.wd w]; exact hlen hv.last hv.long) ha
    rw [qF.wd w] at b c
    exact StepOK.quiet ⟨qF.eff.trans a, b, c⟩ ((rd hd).2.append d)

theorem iter_ok (gv : Graph) (hsym : EdgeSym gv) (s : State) (w : Nat) : StepOK gv w s (iter gv s w) :=
  ok_of_iter gv hsym s w (iter_iter gv s w)

/-- the path of a real worker: empty once it has left the loop, otherwise a walk from the root through the visible
graph whose entries after the root are relevant to the worker -/
def PathInv (g : Graph) (s : State) (v : Nat) : Prop :=
  ((s.wd v).path = [] ∧ (s.wd v).pc = .done) ∨
    PathOK (Adj (vis g s)) (fun x => relevant g v x = true) g.root (s.wd v).path

/-- the part of the invariant that does not concern worker `w` itself (`w` is in the middle of a step and holds
no mark) -/
structure PInvO (g : Graph) (s : State) (w : Nat) : Prop where
  wlen : s.workers.length = g.workers.length
  path : ∀ v, v ≠ w → v < s.workers.length → PathInv g s v
  markRel : ∀ n v, (s.nd n).started = some v → relevant g v n = true
  markPc : ∀ n v, (s.nd n).started = some v → v ≠ w ∧ ((s.wd v).pc.node? = some n ∨ (s.wd v).pc = .failed)
  testOwn : ∀ v, v ≠ w → ∀ n, (s.wd v).pc.node? = some n →
    g.idIn v n = true ∧ (s.wd v).path.getLast? = some n ∧ 2 ≤ (s.wd v).path.length

/-- the invariant between steps -/
structure PInv (g : Graph) (s : State) : Prop where
  wlen : s.workers.length = g.workers.length
  path : ∀ v, v < s.workers.length → PathInv g s v
  markRel : ∀ n v, (s.nd n).started = some v → relevant g v n = true
  markPc : ∀ n v, (s.nd n).started = some v → (s.wd v).pc.node? = some n ∨ (s.wd v).pc = .failed
  testOwn : ∀ v n, (s.wd v).pc.node? = some n →
    g.idIn v n = true ∧ (s.wd v).path.getLast? = some n ∧ 2 ≤ (s.wd v).path.length

theorem PathOK.vis_mono {g : Graph} {s s' : State} {v : Nat} {p : List Nat}
    (hp : PathOK (Adj (vis g s)) (fun x => relevant g v x = true) g.root p) (hhid : ∀ x, x ∈ s'.hidden → x ∈ s.hidden) :
    PathOK (Adj (vis g s')) (fun x => relevant g v x = true) g.root p :=
  hp.mono (fun a b => adj_vis_mono g s s' hhid a b)

theorem hidden_sub {s s' : State} (h : s'.hidden = s.hidden) : ∀ x, x ∈ s'.hidden → x ∈ s.hidden := fun _ hx => h ▸ hx

theorem Eff.marks_none {w : Nat} {s s' : State} (e : Eff w none s s') (i : Nat) :
    (s'.nd i).started = (s.nd i).started ∨ (s'.nd i).started = none :=
  (e.marks i).imp id (fun h => h.elim id (fun h => absurd h.1 (by simp)))

theorem started_back {a b : Option Nat} {v : Nat} (h : a = b ∨ a = none) (hs : a = some v) : b = some v := by
  rcases h with h | h
  · rw [← h]; exact hs
  · rw [h] at hs; cases hs

theorem PathInv.transfer {g : Graph} {s s' : State} {v : Nat} (h : PathInv g s v)
    (hhid : ∀ x, x ∈ s'.hidden → x ∈ s.hidden) (hp : (s'.wd v).path = (s.wd v).path)
    (hd : (s.wd v).pc = .done → (s'.wd v).pc = .done) : PathInv g s' v := by
  unfold PathInv
  rw [hp]
  rcases h with h' | h'
  · exact Or.inl ⟨h'.1, hd h'.2⟩
  · exact Or.inr (h'.vis_mono hhid)

theorem PInvO.transfer {g : Graph} {s s' : State} {w : Nat} (h : PInvO g s w)
    (hlen : s'.workers.length = s.workers.length)
    (hhid : ∀ x, x ∈ s'.hidden → x ∈ s.hidden)
    (hoth : ∀ v, v ≠ w → (s'.wd v).path = (s.wd v).path ∧ (s'.wd v).pc = (s.wd v).pc)
    (hmarks : ∀ i, (s'.nd i).started = (s.nd i).started ∨ (s'.nd i).started = none) : PInvO g s' w := by
  refine ⟨hlen.trans h.wlen,
    fun v hv hvl => (h.path v hv (hlen ▸ hvl)).transfer hhid (hoth v hv).1 (fun hd => (hoth v hv).2 ▸ hd),
    fun n v hs => h.markRel n v (started_back (hmarks n) hs), fun n v hs => ?_, fun v hv n hn => ?_⟩
  · obtain ⟨hv, hpc⟩ := h.markPc n v (started_back (hmarks n) hs)
    rw [(hoth v hv).2]
    exact ⟨hv, hpc⟩
  · rw [(hoth v hv).1]; rw [(hoth v hv).2] at hn
    exact h.testOwn v hv n hn

theorem PInvO.eff {g : Graph} {s s' : State} {w : Nat} (h : PInvO g s w) (e : Eff w none s s') : PInvO g s' w :=
  h.transfer e.workersLen (hidden_sub e.hidden) (fun v hv => by rw [e.others v hv]; exact ⟨rfl, rfl⟩) e.marks_none

theorem PInv.ofO {g : Graph} {s : State} {w : Nat} (h : PInvO g s w) (hp : w < s.workers.length → PathInv g s w)
    (hpc : (s.wd w).pc.node? = none) : PInv g s := by
  refine ⟨h.wlen, fun v hv => ?_, h.markRel, fun n v hs => (h.markPc n v hs).2, fun v n hn => ?_⟩
  · by_cases hvw : v = w
    · subst hvw; exact hp hv
    · exact h.path v hvw hv
  · by_cases hvw : v = w
    · subst hvw; rw [hpc] at hn; cases hn
    · exact h.testOwn v hvw n hn

theorem PInv.toO' {g : Graph} {s : State} {w : Nat} (h : PInv g s) (hnm : ∀ n, (s.nd n).started ≠ some w) : PInvO g s w :=
  ⟨h.wlen, fun v _ hv => h.path v hv, h.markRel, fun n v hs => ⟨fun e => hnm n (e ▸ hs), h.markPc n v hs⟩,
    fun v _ n hn => h.testOwn v n hn⟩

theorem PInv.toO {g : Graph} {s : State} {w : Nat} (h : PInv g s) (hpc : (s.wd w).pc.node? = none)
    (hnf : (s.wd w).pc ≠ .failed) : PInvO g s w :=
  h.toO' (fun n hs => by
    rcases h.markPc n w hs with h' | h'
    · rw [hpc] at h'; cases h'
    · exact hnf h')

theorem pathOK_eff (g : Graph) (s1 s' : State) (w : Nat) (p p' : List Nat)
    (hhid : ∀ x, x ∈ s'.hidden → x ∈ s1.hidden)
    (hp : PathOK (Adj (vis g s1)) (fun x => relevant g w x = true) g.root p)
    (he : PathEff (vis g s1) w p p') :
    PathOK (Adj (vis g s')) (fun x => relevant g w x = true) g.root p' := by
  have hp' := hp.vis_mono hhid
  rcases he with h | ⟨h, hl⟩ | h | ⟨last, c, hl, h, hrel, hadj⟩
  · rw [h]; exact hp'
  · rw [h]
    rcases hp'.dropLast with h0 | h0
    · exfalso
      have := congrArg List.length h0
      simp at this
      omega
    · exact h0
  · rw [h, vis_root]; exact .root
  · rw [h]
    exact .push p last c hp' hl (adj_vis_mono g s1 s' hhid _ _ hadj) (by rw [← vis_relevant g s1]; exact hrel)

/-- worker `w` has entered the last node of its path and ends its step inside the execution or dead -/
theorem PInvO.enter {g : Graph} {s s' : State} {w next : Nat} (h : PInvO g s w)
    (hp : PathOK (Adj (vis g s)) (fun x => relevant g w x = true) g.root (s.wd w).path)
    (he : Eff w (some next) s s') (hpath : (s'.wd w).path = (s.wd w).path)
    (hlast : (s.wd w).path.getLast? = some next) (hlen : 2 ≤ (s.wd w).path.length)
    (hpc : (s'.wd w).pc = .failed ∨ ((s'.wd w).pc.node? = some next ∧ g.idIn w next = true)) : PInv g s' := by
  have hrel : relevant g w next = true := (hp.last_two (by omega) next hlast).2
  -- a mark is an old one of another worker or the new one of `w` on `next`
  have mark : ∀ n v, (s'.nd n).started = some v → (s.nd n).started = some v ∨ (n = next ∧ v = w) := by
    intro n v hs
    rcases he.marks n with h' | h' | ⟨h1, h2⟩
    · rw [h'] at hs; exact Or.inl hs
    · rw [h'] at hs; cases hs
    · rw [h2] at hs; exact Or.inr ⟨(Option.some.inj h1).symm, (Option.some.inj hs).symm⟩
  refine ⟨he.workersLen.trans h.wlen, fun v hv => ?_, fun n v hs => ?_, fun n v hs => ?_, fun v n hn => ?_⟩
  · by_cases hvw : v = w
    · subst hvw
      right
      rw [hpath]
      exact hp.vis_mono (hidden_sub he.hidden)
    · exact (h.path v hvw (he.workersLen ▸ hv)).transfer (hidden_sub he.hidden) (by rw [he.others v hvw])
        (fun hd => by rw [he.others v hvw]; exact hd)
  · rcases mark n v hs with h' | ⟨rfl, rfl⟩
    · exact h.markRel n v h'
    · exact hrel
  · rcases mark n v hs with h' | ⟨rfl, rfl⟩
    · obtain ⟨hv, hpc'⟩ := h.markPc n v h'
      rw [he.others v hv]; exact hpc'
    · rcases hpc with h5 | h5
      · exact Or.inr h5
      · exact Or.inl h5.1
  · by_cases hvw : v = w
    · subst hvw
      rcases hpc with h5 | h5
      · rw [h5] at hn; cases hn
      · rw [h5.1] at hn
        have : next = n := Option.some.inj hn
        rw [← this, hpath]
        exact ⟨h5.2, hlast, hlen⟩
    · rw [he.others v hvw] at hn ⊢
      exact h.testOwn v hvw n hn

theorem PInvO.fail {g : Graph} {sx : State} {w : Nat} (ho : PInvO g sx w)
    (hp : PathOK (Adj (vis g sx)) (fun x => relevant g w x = true) g.root (sx.wd w).path) (hw : w < sx.workers.length) :
    PInv g (sx.setWd w (fun d => { d with pc := .failed })) := by
  have hwd := wd_setWd_eq sx w (fun d => { d with pc := .failed }) hw
  refine PInv.ofO (ho.eff (eff_setWd w none sx _)) (fun _ => Or.inr ?_) (by rw [hwd]; rfl)
  rw [hwd]
  exact hp.vis_mono (fun _ hx => hx)

theorem ok_of_iterL (g : Graph) (hsym : EdgeSym g) (s : State) (w : Nat) {r : Step} (h : IterL g w s r) :
    ∃ s1, (s1 = s ∨ s1 = prepare g s w) ∧ StepOK (vis g s1) w s1 r := by
  obtain ⟨s1, hp, hi⟩ := h
  refine ⟨s1, ?_, ok_of_iter (vis g s1) (edgeSym_vis g s1 hsym) s1 w hi⟩
  cases hp with
  | stay => exact Or.inl rfl
  | expand => exact Or.inr rfl

theorem iterL_ok (g : Graph) (hsym : EdgeSym g) (s : State) (w : Nat) :
    ∃ s1, (s1 = s ∨ s1 = prepare g s w) ∧ StepOK (vis g s1) w s1 (iterL g s w) :=
  ok_of_iterL g hsym s w (iterL_iterL g s w)

theorem inv_of_iterL (g : Graph) (hsym : EdgeSym g) (s : State) (w : Nat) (ho : PInvO g s w)
    (hp : PathOK (Adj (vis g s)) (fun x => relevant g w x = true) g.root (s.wd w).path)
    (hpc : (s.wd w).pc.node? = none) {r : Step} (h : IterL g w s r) :
    r.1.workers.length = s.workers.length ∧
    (r.2.2 = .cont → PInvO g r.1 w ∧
      PathOK (Adj (vis g r.1)) (fun x => relevant g w x = true) g.root (r.1.wd w).path ∧ (r.1.wd w).pc.node? = none) ∧
    (r.2.2 = .suspend ∨ r.2.2 = .exit → PInv g r.1) ∧
    (∀ what, r.2.2 = .raise what → PInv g (r.1.setWd w (fun d => { d with pc := .failed }))) := by
  obtain ⟨s1, hs1, _, hok⟩ := ok_of_iterL g hsym s w h
  -- the state after the expansion step
  have pre : s1.workers.length = s.workers.length ∧ PInvO g s1 w ∧
      PathOK (Adj (vis g s1)) (fun x => relevant g w x = true) g.root (s1.wd w).path ∧ (s1.wd w).pc.node? = none := by
    rcases hs1 with h | h
    · rw [h]; exact ⟨rfl, ho, hp, hpc⟩
    · obtain ⟨h1, h2, h3, h4⟩ := prepare_frame g s w
      rw [h]
      refine ⟨h2, ho.transfer h2 h4 (fun v _ => h3 v) (fun i => Or.inl (by rw [nd_of_nodes_eq h1])), ?_, ?_⟩
      · rw [(h3 w).1]; exact hp.vis_mono h4
      · rw [(h3 w).2]; exact hpc
  obtain ⟨hl1, ho1, hp1, hpc1⟩ := pre
  have hw1 : w < s1.workers.length := lt_of_path_ne_nil s1 w hp1.ne_nil
  refine ⟨?_, ?_⟩
  · rcases hok with ⟨he, _⟩ | ⟨_, _, _, he, _⟩
    · rw [he.workersLen, hl1]
    · rw [he.workersLen, hl1]
  rcases hok with ⟨he, hq⟩ | ⟨next, hlast, hlen, he, hpath, hfl⟩
  · -- nothing entered
    have ho' : PInvO g r.1 w := ho1.eff he
    rcases hq with ⟨hpe, hpc'⟩ | ⟨hnil, hdone, hexit⟩
    · have hp' := pathOK_eff g s1 r.1 w _ _ (hidden_sub he.hidden) hp1 hpe
      have hpcn : (r.1.wd w).pc.node? = none := by
        rcases hpc' with h | h
        · rw [h]; exact hpc1
        · rw [h]; rfl
      exact ⟨fun _ => ⟨ho', hp', hpcn⟩, fun _ => PInv.ofO ho' (fun _ => Or.inr hp') hpcn,
        fun _ _ => ho'.fail hp' (he.workersLen ▸ hw1)⟩
    · refine ⟨fun h => ?_, fun _ => PInv.ofO ho' (fun _ => Or.inl ⟨hnil, hdone⟩) (by rw [hdone]; rfl), fun what h => ?_⟩
      · rw [hexit] at h; cases h
      · rw [hexit] at h; cases h
  · -- the last node of the path entered
    refine ⟨fun h => ?_, fun h => ?_, fun what h => ?_⟩
    · rcases hfl with ⟨_, h', _⟩ | ⟨h', _⟩ <;> rw [h'] at h <;> cases h
    · rcases hfl with ⟨_, h', _⟩ | ⟨_, hid, ph, dir, uid, tag, hpcx⟩
      · rcases h with h | h <;> rw [h'] at h <;> cases h
      · refine ho1.enter hp1 he hpath hlast hlen (Or.inr ⟨by rw [hpcx]; rfl, ?_⟩)
        rw [← vis_idIn g s1]; exact hid
    · have hwd := wd_setWd_eq r.1 w (fun d => { d with pc := .failed }) (he.workersLen ▸ hw1)
      exact ho1.enter hp1 (he.setWd _) (by rw [hwd]; exact hpath) hlast hlen (Or.inl (by rw [hwd]))

theorem iterL_inv (g : Graph) (hsym : EdgeSym g) (s : State) (w : Nat) (ho : PInvO g s w)
    (hp : PathOK (Adj (vis g s)) (fun x => relevant g w x = true) g.root (s.wd w).path)
    (hpc : (s.wd w).pc.node? = none) :
    (iterL g s w).1.workers.length = s.workers.length ∧
    ((iterL g s w).2.2 = .cont → PInvO g (iterL g s w).1 w ∧
      PathOK (Adj (vis g (iterL g s w).1)) (fun x => relevant g w x = true) g.root ((iterL g s w).1.wd w).path ∧
      ((iterL g s w).1.wd w).pc.node? = none) ∧
    ((iterL g s w).2.2 = .suspend ∨ (iterL g s w).2.2 = .exit → PInv g (iterL g s w).1) ∧
    (∀ what, (iterL g s w).2.2 = .raise what → PInv g ((iterL g s w).1.setWd w (fun d => { d with pc := .failed }))) :=
  inv_of_iterL g hsym s w ho hp hpc (iterL_iterL g s w)

theorem inv_of_ran (g : Graph) (hsym : EdgeSym g) (w : Nat) {fuel : Nat} {s : State} {evs : List Event}
    {r : State × List Event} (ho : PInvO g s w)
    (hp : PathOK (Adj (vis g s)) (fun x => relevant g w x = true) g.root (s.wd w).path) (hw : w < s.workers.length)
    (hpc : fuel = 0 → (s.wd w).pc.node? = none) (h : Ran g w fuel s evs r) : PInv g r.1 := by
  -- an iteration, after the loop has reset the pc
  have body := fun {s s1 : State} {e : List Event} {f : Flow} (ho : PInvO g s w)
      (hp : PathOK (Adj (vis g s)) (fun x => relevant g w x = true) g.root (s.wd w).path) (hw : w < s.workers.length)
      (hi : IterL g w (s.setWd w (fun d => { d with pc := .loop })) (s1, e, f)) =>
    have hwd := wd_setWd_eq s w (fun d => { d with pc := .loop }) hw
    inv_of_iterL g hsym _ w (ho.eff (eff_setWd w none s _)) (by rw [hwd]; exact hp.vis_mono (fun _ hx => hx))
      (by rw [hwd]; rfl) hi
  induction h with
  | dry => exact PInv.ofO ho (fun _ => Or.inr hp) (hpc rfl)
  | cont hi _ ih =>
    obtain ⟨hl, hcont, _, _⟩ := body ho hp hw hi
    obtain ⟨a, b, c⟩ := hcont rfl
    exact ih a b (by rw [hl, workers_length_setWd]; exact hw) (fun _ => c)
  | stop hi hf => exact (body ho hp hw hi).2.2.1 hf
  | fail hi => exact (body ho hp hw hi).2.2.2 _ rfl

/-- a change that keeps every path, every pc up to the phase and wait counter, and removes marks at most -/
theorem PInv.transfer {g : Graph} {s s' : State} (h : PInv g s)
    (hlen : s'.workers.length = s.workers.length)
    (hhid : ∀ x, x ∈ s'.hidden → x ∈ s.hidden)
    (hwd : ∀ v, (s'.wd v).path = (s.wd v).path ∧ (s'.wd v).pc.node? = (s.wd v).pc.node? ∧
      ((s.wd v).pc = .failed → (s'.wd v).pc = .failed) ∧ ((s.wd v).pc = .done → (s'.wd v).pc = .done))
    (hmarks : ∀ i, (s'.nd i).started = (s.nd i).started ∨ (s'.nd i).started = none) : PInv g s' := by
  refine ⟨hlen.trans h.wlen, fun v hvl => (h.path v (hlen ▸ hvl)).transfer hhid (hwd v).1 (hwd v).2.2.2,
    fun n v hs => h.markRel n v (started_back (hmarks n) hs), fun n v hs => ?_, fun v n hn => ?_⟩
  · obtain ⟨_, hn, hf, _⟩ := hwd v
    rcases h.markPc n v (started_back (hmarks n) hs) with h' | h'
    · left; rw [hn]; exact h'
    · right; exact hf h'
  · obtain ⟨hp, hn', _, _⟩ := hwd v
    rw [hp]; rw [hn'] at hn
    exact h.testOwn v n hn

/-- leaving the copy `n` the worker was executing: afterwards it holds no mark -/
theorem PInv.finish {g : Graph} {s s2 : State} {w n : Nat} (h : PInv g s) (hpcw : (s.wd w).pc.node? = some n)
    (q : Qt w none s s2) :
    PInvO g (finishTraverse s2 n w) w ∧
    PathOK (Adj (vis g (finishTraverse s2 n w))) (fun x => relevant g w x = true) g.root ((finishTraverse s2 n w).wd w).path ∧
    ((finishTraverse s2 n w).wd w).path.getLast? = some n ∧ 2 ≤ ((finishTraverse s2 n w).wd w).path.length ∧
    w < (finishTraverse s2 n w).workers.length ∧ g.idIn w n = true := by
  have qF : Qt w none s (finishTraverse s2 n w) := q.trans (qt_finishTraverse w none s2 n w)
  obtain ⟨hid, hlast, hlen⟩ := h.testOwn w n hpcw
  have hw : w < s.workers.length := lt_of_path_ne_nil s w (by intro h0; rw [h0] at hlen; simp at hlen)
  have hF : PInv g (finishTraverse s2 n w) := h.transfer (by rw [qF.workers]) (hidden_sub qF.hidden)
    (fun v => by rw [qF.wd v]; exact ⟨rfl, rfl, id, id⟩) qF.eff.marks_none
  refine ⟨hF.toO' (fun i hs => ?_), ?_, by rw [qF.wd w]; exact hlast, by rw [qF.wd w]; exact hlen,
    by rw [qF.workers]; exact hw, hid⟩
  · -- a mark of `w` could only be on `n`, and that one is gone
    rcases hF.markPc i w hs with h' | h' <;> rw [qF.wd w] at h'
    · rw [hpcw] at h'
      obtain rfl := Option.some.inj h'
      unfold finishTraverse at hs
      by_cases hl : n < s2.nodes.length
      · rw [nd_setNd_eq s2 n _ hl] at hs; cases hs
      · have hd : s2.nd n = {} := by
          unfold State.nd
          rw [List.getD_eq_getElem?_getD, List.getElem?_eq_none (by omega)]; rfl
        rw [nd_setNd, if_neg (fun h => hl h.2), hd] at hs; cases hs
    · rw [h'] at hpcw; cases hpcw
  · rcases hF.path w (by rw [qF.workers]; exact hw) with h' | h'
    · have := h'.1
      rw [qF.wd w] at this
      rw [this] at hlen; simp at hlen
    · exact h'

/-- updating `w`'s own record inside a test execution (phase, wait counter) -/
theorem PInv.setPc {g : Graph} {s s1 : State} {w n : Nat} (h : PInv g s) (hpcw : (s.wd w).pc.node? = some n)
    (e : Eff w none s s1) (hp : (s1.wd w).path = (s.wd w).path) (hpc : (s1.wd w).pc.node? = some n) : PInv g s1 := by
  refine h.transfer e.workersLen (hidden_sub e.hidden) (fun v => ?_) e.marks_none
  by_cases hvw : v = w
  · subst hvw
    refine ⟨hp, by rw [hpc, hpcw], fun hx => ?_, fun hx => ?_⟩
    · rw [hx] at hpcw; cases hpcw
    · rw [hx] at hpcw; cases hpcw
  · rw [e.others v hvw]; exact ⟨rfl, rfl, fun hx => hx, fun hx => hx⟩

/-- a change of book-keeping fields only -/
structure BookOnly (s s' : State) : Prop where
  workersLen : s'.workers.length = s.workers.length
  hidden : s'.hidden = s.hidden
  wd : ∀ v, (s'.wd v).path = (s.wd v).path ∧ (s'.wd v).pc = (s.wd v).pc
  started : ∀ i, (s'.nd i).started = (s.nd i).started

theorem bookOnly_tail (s sj : State) (hn : sj.nodes = s.nodes) (hw : sj.workers = s.workers) (hh : sj.hidden = s.hidden)
    (w n : Nat) (fW : WorkerD → WorkerD) (hfW : ∀ d, (fW d).path = d.path ∧ (fW d).pc = d.pc)
    (fN : NodeD → NodeD) (hfN : ∀ d, (fN d).started = d.started) (c : Bool) :
    BookOnly s (if c = true then sj.setWd w fW else sj.setNd n fN) := by
  have hwd : ∀ v, sj.wd v = s.wd v := by intro v; unfold State.wd; rw [hw]
  have hnd : ∀ i, sj.nd i = s.nd i := by intro i; unfold State.nd; rw [hn]
  cases c
  · simp only [Bool.false_eq_true, if_false]
    refine ⟨by show sj.workers.length = _; rw [hw], hh, fun v => by rw [wd_setNd, hwd]; exact ⟨rfl, rfl⟩,
      fun i => ?_⟩
    rw [nd_setNd_proj (·.started) sj n fN hfN i, hnd]
  · simp only [if_true]
    refine ⟨by rw [workers_length_setWd, hw], hh, fun v => ?_, fun i => by show (sj.nd i).started = _; rw [hnd]⟩
    rw [wd_setWd_proj (·.path) sj w fW (fun d => (hfW d).1) v, wd_setWd_proj (·.pc) sj w fW (fun d => (hfW d).2) v, hwd]
    exact ⟨rfl, rfl⟩

theorem recordResult_frame (s : State) (w n : Nat) (phase : Phase) (name uid : String) (tag : Nat) (st0 : String) (dur : Nat) :
    BookOnly s (recordResult s w n phase name uid tag st0 dur).1 := by
  unfold recordResult
  dsimp only
  have hX : ∀ (c : Bool) (jr : List (String × String × String × Nat)),
      (if c = true then { s with jobResults := jr } else s).nodes = s.nodes ∧
      (if c = true then { s with jobResults := jr } else s).workers = s.workers ∧
      (if c = true then { s with jobResults := jr } else s).hidden = s.hidden := by
    intro c jr; cases c <;> exact ⟨rfl, rfl, rfl⟩
  refine bookOnly_tail s _ ?_ ?_ ?_ w n _ ?_ _ ?_ _
  · exact (hX _ _).1
  · exact (hX _ _).2.1
  · exact (hX _ _).2.2
  · intro d; exact ⟨rfl, rfl⟩
  · intro d; rfl

theorem PInv.bookOnly {g : Graph} {s s' : State} (h : PInv g s) (b : BookOnly s s') : PInv g s' :=
  h.transfer b.workersLen (fun x hx => by rw [← b.hidden]; exact hx)
    (fun v => ⟨(b.wd v).1, by rw [(b.wd v).2], fun hx => by rw [(b.wd v).2]; exact hx, fun hx => by rw [(b.wd v).2]; exact hx⟩)
    (fun i => Or.inl (b.started i))

theorem reportOutcome_bookOnly (g : Graph) (s : State) (w n : Nat) (phase : Phase) (uid : String) (wait : Nat)
    (out : Outcome) : BookOnly s (reportOutcome g s w n phase uid wait out).1 := by
  obtain ⟨r1, r2, r3⟩ := reportOutcome_frame g s w n phase uid wait out
  exact ⟨by rw [r2], r3, fun v => by unfold State.wd; rw [r2]; exact ⟨rfl, rfl⟩, fun i => by unfold State.nd; rw [r1]⟩

theorem PInv.book {g : Graph} {s s' : State} {w n : Nat} (h : PInv g s) (b : BookOnly s s')
    (hpc : (s.wd w).pc.node? = some n) : PInv g s' ∧ (s'.wd w).pc.node? = some n :=
  ⟨h.bookOnly b, by rw [(b.wd w).2]; exact hpc⟩

theorem inv_of_ended {g : Graph} {w n : Nat} {ph : Phase} {uid : String} {tag wait : Nat} {out : Outcome} {s sc : State}
    {ok : Bool} (h : PInv g s) (hpc : (s.wd w).pc.node? = some n) (he : Ended g w n ph uid tag wait out s sc ok) :
    PInv g sc ∧ (sc.wd w).pc.node? = some n := by
  obtain ⟨hA, hpcA⟩ := h.book (reportOutcome_bookOnly g s w n ph uid wait out) hpc
  cases he with
  | found => exact hA.book (recordResult_frame _ w n ph _ uid tag _ _) hpcA
  | lost => exact ⟨hA, hpcA⟩

theorem inv_of_resumed (g : Graph) (hsym : EdgeSym g) (s : State) (w : Nat) (out : Outcome) (fuel : Nat) (hf : 0 < fuel)
    (hw : w < g.workers.length) (h : PInv g s) {r : State × List Event} (hr : Resumed g w out fuel s r) : PInv g r.1 := by
  have hws : w < s.workers.length := by rw [h.wlen]; exact hw
  -- after the copy is left and the loop body has continued: ready for the loop
  have back : ∀ {n ph dir uid tag wait sc ok prev r}, (s.wd w).pc = .test n ph dir uid tag wait →
      Ended g w n ph uid tag wait out s sc ok →
      After (vis g (finishTraverse (accounted sc w n ph) n w)) w n prev dir (finishTraverse (accounted sc w n ph) n w) r →
      PInvO g r.1 w ∧ PathOK (Adj (vis g r.1)) (fun x => relevant g w x = true) g.root (r.1.wd w).path ∧
        w < r.1.workers.length := by
    intro n ph dir uid tag wait sc ok prev r hpc hs ha
    obtain ⟨hc, hpcc⟩ := inv_of_ended h (by rw [hpc]; rfl) hs
    have q2 : Qt w none sc (accounted sc w n ph) := by
      unfold accounted
      split
      · exact qt_setNd w none sc n _ (fun _ => Or.inl rfl)
      · exact Qt.refl _ _ _
    obtain ⟨hoF, hpF, hlF, hnF, hwF, _⟩ := hc.finish hpcc q2
    obtain ⟨a, _, c, _⟩ := ok_of_after (vis g _) (edgeSym_vis g _ hsym) _ w n prev dir hwF hlF hnF ha
    exact ⟨hoF.eff a, pathOK_eff g _ r.1 w _ _ (hidden_sub a.hidden) hpF c, by rw [a.workersLen]; exact hwF⟩
  cases hr with
  | over => exact h
  | loop r hpc hr =>
    have hn : (s.wd w).pc.node? = none ∧ (s.wd w).pc ≠ .failed ∧ (s.wd w).pc ≠ .done := by
      rcases hpc with h' | h' <;> rw [h'] <;> exact ⟨rfl, by simp, by simp⟩
    refine inv_of_ran g hsym w (h.toO hn.1 hn.2.1) ?_ hws (fun h0 => by omega) hr
    rcases h.path w hws with h' | h'
    · exact absurd h'.2 hn.2.2
    · exact h'
  | wait n ph dir uid tag wait hpc =>
    have bA := reportOutcome_bookOnly g s w n ph uid wait out
    obtain ⟨hA, hpcA⟩ := h.book bA (by rw [hpc]; rfl)
    have hwd := wd_setWd_eq (reportOutcome g s w n ph uid wait out).1 w
      (fun d => { d with pc := .test n ph dir uid tag (wait + 1) }) (by rw [bA.workersLen]; exact hws)
    exact hA.setPc hpcA (eff_setWd w none _ _) (by rw [hwd]) (by rw [hwd]; rfl)
  | created n dir uid tag wait sc hpc hs =>
    -- the test proper follows its creation pre-step
    obtain ⟨hc, hpcc⟩ := inv_of_ended h (by rw [hpc]; rfl) hs
    obtain ⟨a, b, ⟨_, _, c⟩, _⟩ := startTest_ok g sc n w .main dir (by rw [hc.wlen]; exact hw)
    exact hc.setPc hpcc a b (by rw [c]; rfl)
  | stuck n ph dir uid tag wait sc ok s1 e what hpc hs _ ha =>
    obtain ⟨ho', hp', hw'⟩ := back hpc hs ha
    exact ho'.fail hp' hw'
  | back n ph dir uid tag wait sc ok s1 e f r hpc hs _ ha _ hr =>
    obtain ⟨ho', hp', hw'⟩ := back hpc hs ha
    exact inv_of_ran g hsym w ho' hp' hw' (fun h0 => by omega) hr

theorem resume_inv (g : Graph) (hsym : EdgeSym g) (s : State) (w : Nat) (out : Outcome) (fuel : Nat) (hf : 0 < fuel)
    (hw : w < g.workers.length) (h : PInv g s) : PInv g (resume g s w out fuel).1 :=
  inv_of_resumed g hsym s w out fuel hf hw h (resume_resumed g s w out fuel)

theorem PInv.init (g : Graph) (ncls : Nat) (store : List (String × List (String × String))) (hidden : List Nat) :
    PInv g (initState g ncls store hidden) := by
  have hnd := started_initState g ncls store hidden
  have hwd : ∀ v, v < (initState g ncls store hidden).workers.length →
      (initState g ncls store hidden).wd v = { path := [g.root] } := by
    intro v hv
    unfold initState at hv
    unfold initState State.wd
    simp only [List.length_map] at hv
    simp only [List.getD_eq_getElem?_getD, List.getElem?_map, List.getElem?_eq_getElem hv]
    rfl
  have hpc : ∀ v, ((initState g ncls store hidden).wd v).pc.node? = none := by
    intro v
    by_cases hv : v < (initState g ncls store hidden).workers.length
    · rw [hwd v hv]; rfl
    · unfold State.wd
      rw [List.getD_eq_getElem?_getD, List.getElem?_eq_none (by omega)]; rfl
  refine ⟨by simp [initState], fun v hv => ?_, fun n v hs => ?_, fun n v hs => ?_, fun v n hn => ?_⟩
  · right; rw [hwd v hv]; exact .root
  · rw [hnd] at hs; cases hs
  · rw [hnd] at hs; cases hs
  · rw [hpc] at hn; cases hn

/-- the states the scheduler can produce by steps of real workers with fuel (with fuel `0` a step of the model stops
before the loop resets the pc: an artefact of the driver's bound, excluded here) -/
inductive ReachableF (g : Graph) (ncls : Nat) (store : List (String × List (String × String))) : State → Prop
  | init (hidden : List Nat) : ReachableF g ncls store (initState g ncls store hidden)
  | step (s : State) (w : Nat) (out : Outcome) (fuel : Nat) :
      ReachableF g ncls store s → w < g.workers.length → 0 < fuel → ReachableF g ncls store (resume g s w out fuel).1

theorem ReachableF.reachable {g : Graph} {ncls : Nat} {store : List (String × List (String × String))} {s : State}
    (h : ReachableF g ncls store s) : Reachable g ncls store s := by
  induction h with
  | init hidden => exact .init hidden
  | step s w out fuel _ _ _ ih => exact .step s w out fuel ih

theorem ReachableF.pinv {g : Graph} (hsym : EdgeSym g) {ncls : Nat} {store : List (String × List (String × String))} {s : State}
    (h : ReachableF g ncls store s) : PInv g s := by
  induction h with
  | init hidden => exact PInv.init g ncls store hidden
  | step s w out fuel _ hw hf ih => exact resume_inv g hsym s w out fuel hf hw ih

theorem startOK_vis (g : Graph) (s : State) (w : Nat) (e : Event) (h : startOK (vis g s) w e) : startOK g w e := by
  cases e with
  | start wid cls uid locs unk =>
    obtain ⟨h1, n, ph, h2, h3⟩ := h
    exact ⟨by rw [h1, vis_worker], n, ph, by rw [h2, vis_clsName], by rw [← vis_idIn g s]; exact h3⟩
  | _ => trivial

theorem StartsOK.of_vis {g : Graph} {s : State} {w : Nat} {evs : List Event} (h : StartsOK (vis g s) w evs) : StartsOK g w evs :=
  fun e he => startOK_vis g s w e (h e he)

theorem StartsOK.raise {g : Graph} {w : Nat} {evs : List Event} (h : StartsOK g w evs) (wid what : String) :
    StartsOK g w (evs ++ [Event.raise wid what]) :=
  h.append (StartsOK.singleton trivial)

theorem reportOutcome_starts (g : Graph) (s : State) (w n : Nat) (phase : Phase) (uid : String) (wait : Nat) (out : Outcome) :
    StartsOK g w (reportOutcome g s w n phase uid wait out).2 := by
  fun_cases reportOutcome g s w n phase uid wait out with
  | case1 | case2 => exact StartsOK.singleton trivial
  | case3 => exact StartsOK.nil g w

theorem starts_of_ran (g : Graph) (hsym : EdgeSym g) (w : Nat) {fuel : Nat} {s : State} {evs : List Event}
    {r : State × List Event} (h0 : StartsOK g w evs) (h : Ran g w fuel s evs r) : StartsOK g w r.2 := by
  have body : ∀ {s s1 e f}, IterL g w s (s1, e, f) → StartsOK g w e := fun hi =>
    let ⟨_, _, hst, _⟩ := ok_of_iterL g hsym _ w hi
    hst.of_vis
  induction h with
  | dry => exact h0.raise _ _
  | cont hi _ ih => exact ih (h0.append (body hi))
  | stop hi => exact h0.append (body hi)
  | fail hi => exact (h0.append (body hi)).raise _ _

theorem starts_of_resumed (g : Graph) (hsym : EdgeSym g) (s : State) (w : Nat) (out : Outcome) (fuel : Nat) (h : PInv g s)
    {r : State × List Event} (hr : Resumed g w out fuel s r) : StartsOK g w r.2 := by
  cases hr with
  | over => exact StartsOK.nil g w
  | loop r _ hr => exact starts_of_ran g hsym w (StartsOK.nil g w) hr
  | wait n ph dir uid tag wait =>
    exact (reportOutcome_starts g s w n ph uid wait out).append (StartsOK.singleton trivial)
  | created n dir uid tag wait sc hpc =>
    exact (reportOutcome_starts g s w n .pre uid wait out).append
      (startTest_starts g sc n w .main dir (h.testOwn w n (by rw [hpc]; rfl)).1)
  | stuck n ph dir uid tag wait sc ok s1 e what _ _ _ ha =>
    exact ((reportOutcome_starts g s w n ph uid wait out).append ((evs_of_after ha).startsOK g w)).raise _ _
  | back n ph dir uid tag wait sc ok s1 e f r _ _ _ ha _ hr =>
    exact starts_of_ran g hsym w ((reportOutcome_starts g s w n ph uid wait out).append ((evs_of_after ha).startsOK g w)) hr

/-- every start event of a step of worker `w` carries `w`'s id and the class of a copy whose name contains `w`'s id -/
theorem resume_starts (g : Graph) (hsym : EdgeSym g) (s : State) (w : Nat) (out : Outcome) (fuel : Nat) (h : PInv g s) :
    StartsOK g w (resume g s w out fuel).2 :=
  starts_of_resumed g hsym s w out fuel h (resume_resumed g s w out fuel)

theorem occupied_has_holder (g gv : Graph) (hs : SameStatic g gv) (s : State) (n w : Nat)
    (hocc : isOccupied gv s n w = true) : ∃ v m, m ∈ g.copies n ∧ (s.nd m).started = some v := by
  rw [isOccupied_iff] at hocc
  obtain ⟨_, hm⟩ := hocc
  -- a count that reaches the threshold (which is at least one) has a member
  have cnt : limit gv s n ≤ scopedCount gv s n w → ∃ v, v ∈ sharedStarted gv s n := fun hle => by
    obtain ⟨x, hx⟩ := List.exists_mem_of_length_pos (Nat.lt_of_lt_of_le (one_le_limit gv s n) hle)
    exact ⟨x, (List.mem_filter.mp hx).1⟩
  have : ∃ v, v ∈ sharedStarted gv s n := by
    cases hsh : (gv.node n).shape <;> simp only [hsh] at hm
    · exact ⟨w, hm⟩
    · exact cnt hm
    · exact cnt hm
  obtain ⟨v, hv⟩ := this
  rw [hs.sharedStarted_eq, mem_sharedStarted] at hv
  obtain ⟨i, hi, hst⟩ := hv
  exact ⟨v, i, hi, hst⟩

theorem SameStatic.refl (g : Graph) : SameStatic g g :=
  ⟨rfl, rfl, fun _ => rfl, fun _ => rfl, fun _ => rfl, fun _ => rfl, fun _ => rfl⟩

def edgeSymB (g : Graph) : Bool :=
  (List.range g.nodes.length).all (fun b =>
    (g.node b).setup.all (fun e => decide (e.1 < g.nodes.length) && ((g.node e.1).cleanup.map (·.1)).contains b) &&
    (g.node b).cleanup.all (fun e => decide (e.1 < g.nodes.length) && ((g.node e.1).setup.map (·.1)).contains b))

theorem edgeSymB_sound {g : Graph} (h : edgeSymB g = true) : EdgeSym g := by
  unfold edgeSymB at h
  simp only [List.all_eq_true, List.mem_range, Bool.and_eq_true, decide_eq_true_eq, List.contains_iff_mem] at h
  intro a b
  simp only [List.mem_map]
  constructor
  · rintro ⟨e, he, rfl⟩
    by_cases hb : b < g.nodes.length
    · have := ((h b hb).1 e he).2
      simpa [List.mem_map] using this
    · rw [(node_edges_of_ge g b hb).1] at he; simp at he
  · rintro ⟨e, he, rfl⟩
    by_cases ha : a < g.nodes.length
    · have := ((h a ha).2 e he).2
      simpa [List.mem_map] using this
    · rw [(node_edges_of_ge g a ha).2] at he; simp at he

end I2N.Trav
