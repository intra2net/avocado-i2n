import I2N.Lemmas.Tools
/-!
Termination of the star traversal of the manual steps (C20).

Per worker the measure `mu g s w = 2·|candidates g s w| + [w is idle]` is lowered by every slice of `w` while `w` is
not done, and is not touched by the slices of the other workers.  A slice of a done worker (or of an index that is no
worker of the graph) is a no-op.  Hence, for EVERY schedule, the number of slices that change anything is bounded
(`effSlices_bound`), and a schedule that gives every worker `2·|its nodes|` slices ends with every worker done
(`allDone_of_counts`) — no assumption on names (`NamesWF`) is needed for that.

The only invariant used for this is `PcCand`: the node a worker awaits is still one of its candidates.  The exact
count (`effSlices_exact`: two slices per execution) also uses `FinDropped`.
-/
namespace I2N.Tools

/-- the measure of one worker: twice the nodes it may still pick, plus one while it is idle (not awaiting a test) -/
def mu (g : Star) (s : SState) (w : Nat) : Nat :=
  2 * (candidates g s w).length + (if (s.pc w).isNone then 1 else 0)

/-- the node a worker is awaiting is one of its candidates (relevant to it, class not yet dropped) -/
def PcCand (g : Star) (s : SState) : Prop := ∀ w n, s.pc w = some n → n ∈ candidates g s w

/-- `f 0 + … + f (n-1)` -/
def sumTo : Nat → (Nat → Nat) → Nat
  | 0, _ => 0
  | n + 1, f => sumTo n f + f n

/-- the measure of the whole traversal -/
def totMu (g : Star) (s : SState) : Nat := sumTo g.workers.length (mu g s)

/-- number of nodes relevant to a worker (its candidates before anything ran) -/
def relCount (g : Star) (w : Nat) : Nat := (candidates g {} w).length

/-- the slices of a schedule that are not spent on a done worker -/
def effSlices (g : Star) : List Nat → SState → Nat
  | [], _ => 0
  | w :: rest, s => (if workerDone g s w then 0 else 1) + effSlices g rest (micro g .star s w)

theorem pcCand_init (g : Star) : PcCand g {} := by
  intro w n h; simp at h

theorem sumTo_le {f h : Nat → Nat} : ∀ (n : Nat), (∀ i, i < n → f i ≤ h i) → sumTo n f ≤ sumTo n h
  | 0, _ => Nat.le_refl _
  | n + 1, hle => Nat.add_le_add (sumTo_le n fun i hi => hle i (Nat.lt_succ_of_lt hi)) (hle n (Nat.lt_succ_self n))

theorem sumTo_congr {f h : Nat → Nat} (n : Nat) (heq : ∀ i, i < n → f i = h i) : sumTo n f = sumTo n h :=
  Nat.le_antisymm (sumTo_le n fun i hi => Nat.le_of_eq (heq i hi)) (sumTo_le n fun i hi => Nat.le_of_eq (heq i hi).symm)

theorem sumTo_const (c : Nat) : ∀ (n : Nat), sumTo n (fun _ => c) = n * c
  | 0 => (Nat.zero_mul c).symm
  | n + 1 => by rw [sumTo, sumTo_const c n, Nat.succ_mul]

theorem sumTo_affine (f : Nat → Nat) : ∀ (n : Nat), sumTo n (fun i => 2 * f i + 1) = 2 * sumTo n f + n
  | 0 => rfl
  | n + 1 => by rw [sumTo, sumTo_affine f n, sumTo, Nat.mul_add, Nat.add_add_add_comm]

/-- two families that differ at one index `w < n` only: their sums differ by what the summands at `w` differ -/
theorem sumTo_update {f h : Nat → Nat} (w : Nat) : ∀ (n : Nat), w < n → (∀ i, i ≠ w → f i = h i) →
    sumTo n f + h w = sumTo n h + f w
  | 0, hw, _ => absurd hw (Nat.not_lt_zero w)
  | n + 1, hw, heq => by
    simp only [sumTo]
    by_cases hn : w = n
    · subst hn
      rw [sumTo_congr (f := f) (h := h) w fun i hi => heq i (Nat.ne_of_lt hi), Nat.add_right_comm]
    · rw [heq n fun e => hn e.symm, Nat.add_right_comm, sumTo_update w n (by omega) heq, Nat.add_right_comm]

theorem sumTo_lt {f h : Nat → Nat} (w n : Nat) (hw : w < n) (hlt : f w < h w) (heq : ∀ i, i ≠ w → f i = h i) :
    sumTo n f < sumTo n h := by
  have := sumTo_update w n hw heq
  omega

theorem sumTo_add_one {f h : Nat → Nat} (w n : Nat) (hw : w < n) (h1 : h w = f w + 1) (heq : ∀ i, i ≠ w → f i = h i) :
    sumTo n h = sumTo n f + 1 := by
  have := sumTo_update w n hw heq
  omega

/-- at most one summand is 1, the others 0 -/
theorem sumTo_indicator_le_one (p : Nat → Bool) : ∀ (n : Nat), (∀ i j, i < n → j < n → p i = true → p j = true → i = j) →
    sumTo n (fun i => if p i then 1 else 0) ≤ 1
  | 0, _ => by simp [sumTo]
  | n + 1, huniq => by
    simp only [sumTo]
    have ih := sumTo_indicator_le_one p n (fun i j hi hj => huniq i j (by omega) (by omega))
    by_cases hp : p n = true
    · have : sumTo n (fun i => if p i then 1 else 0) = sumTo n (fun _ => 0) := by
        apply sumTo_congr
        intro i hi
        by_cases hpi : p i = true
        · have := huniq i n (by omega) (by omega) hpi hp; omega
        · simp [hpi]
      rw [this, sumTo_const]; simp [hp]
    · simp [hp]; exact ih

theorem candidates_congr {g : Star} {s s' : SState} {v : Nat} (h : ∀ k, s'.dropped k v = s.dropped k v) :
    candidates g s' v = candidates g s v := by
  simp only [candidates, h]

theorem candidates_length_le (g : Star) (s : SState) (w : Nat) : (candidates g s w).length ≤ g.nodes.length := by
  have := List.length_filter_le (fun n => relevant g w n && !s.dropped (keyOf g n) w) (List.range g.nodes.length)
  simpa [candidates] using this

/-- the candidates of `w` after the end of a visit of `n`: those of another class -/
theorem candidates_finish_self (g : Star) (s : SState) (n w : Nat) :
    candidates g (finish g .star s n w) w = (candidates g s w).filter (fun m => keyOf g m != keyOf g n) := by
  rw [finish_star]
  simp only [candidates, List.filter_filter]
  apply List.filter_congr
  intro m _
  cases hb : (keyOf g m == keyOf g n) <;> simp [hb, bne]

theorem candidates_finish_lt {g : Star} {s : SState} {n w : Nat} (hc : n ∈ candidates g s w) :
    (candidates g (finish g .star s n w) w).length < (candidates g s w).length := by
  rw [candidates_finish_self]
  exact List.length_filter_lt_length_iff_exists.mpr ⟨n, hc, by simp⟩

theorem pc_finish (g : Star) (s : SState) (n w : Nat) : (finish g .star s n w).pc = upd s.pc w none := by
  rw [finish_star]

theorem candidates_out_of_range (g : Star) (s : SState) {w : Nat} (hw : g.workers.length ≤ w) :
    candidates g s w = [] := by
  simp only [candidates, List.filter_eq_nil_iff]
  intro n _
  have : g.workers[w]? = none := List.getElem?_eq_none hw
  simp [relevant, this]

theorem micro_done {g : Star} {s : SState} {w : Nat} (hd : workerDone g s w = true) : micro g .star s w = s := by
  simp only [workerDone, Bool.and_eq_true, Option.isNone_iff_eq_none] at hd
  simp [micro, hd.1, hd.2]

/-- a slice of `w` changes `w`'s row only: what every other worker awaits and has dropped stays -/
theorem micro_other (g : Star) (s : SState) {w v : Nat} (hv : v ≠ w) :
    (micro g .star s w).pc v = s.pc v ∧ ∀ k, (micro g .star s w).dropped k v = s.dropped k v := by
  have fin : ∀ n, (finish g .star s n w).pc v = s.pc v ∧ ∀ k, (finish g .star s n w).dropped k v = s.dropped k v :=
    fun n => by rw [finish_star]; simp [upd_other _ _ _ _ hv, hv]
  fun_cases micro g .star s w with
  | case1 n _ => exact fin n
  | case2 => exact ⟨rfl, fun _ => rfl⟩
  | case3 _ n _ _ => exact ⟨upd_other _ _ _ _ hv, fun _ => rfl⟩
  | case4 _ n _ _ => exact fin n

theorem workerDone_iff_mu {g : Star} {s : SState} (h : PcCand g s) (w : Nat) :
    workerDone g s w = true ↔ mu g s w ≤ 1 := by
  simp only [workerDone, Bool.and_eq_true, Option.isNone_iff_eq_none, mu, pickChild]
  constructor
  · rintro ⟨h1, h2⟩
    have := minByRank_none g _ h2
    simp [this, h1]
  · intro hm
    cases hpc : s.pc w with
    | some n =>
      have := List.length_pos_of_mem (h w n hpc)
      simp [hpc] at hm
      omega
    | none =>
      simp [hpc] at hm
      refine ⟨rfl, ?_⟩
      have : candidates g s w = [] := List.eq_nil_of_length_eq_zero (by omega)
      simp [this, minByRank]

theorem mu_pos {g : Star} {s : SState} (h : PcCand g s) (w : Nat) : 1 ≤ mu g s w := by
  unfold mu
  cases hpc : s.pc w with
  | some n => have := List.length_pos_of_mem (h w n hpc); omega
  | none => simp

theorem workerDone_out_of_range {g : Star} {s : SState} (h : PcCand g s) {w : Nat} (hw : g.workers.length ≤ w) :
    workerDone g s w = true := by
  rw [workerDone_iff_mu h]
  have hc := candidates_out_of_range g s hw
  unfold mu
  cases hpc : s.pc w with
  | some n => have := h w n hpc; rw [hc] at this; simp at this
  | none => simp [hc]

theorem lt_of_not_done {g : Star} {s : SState} (h : PcCand g s) {w : Nat} (hnd : workerDone g s w = false) :
    w < g.workers.length :=
  Nat.lt_of_not_le fun hw => Bool.false_ne_true (hnd ▸ workerDone_out_of_range h hw)

/-- the slices of `w` do not touch the measure of the other workers -/
theorem mu_micro_other (g : Star) (s : SState) {w v : Nat} (hv : v ≠ w) :
    mu g (micro g .star s w) v = mu g s v := by
  simp only [mu, candidates_congr (micro_other g s hv).2, (micro_other g s hv).1]

/-- every slice of a worker that is not done strictly lowers its measure -/
theorem mu_micro_lt {g : Star} {s : SState} (h : PcCand g s) {w : Nat} (hnd : workerDone g s w = false) :
    mu g (micro g .star s w) w < mu g s w := by
  have fin : ∀ n, n ∈ candidates g s w → mu g (finish g .star s n w) w < mu g s w := fun n hc => by
    have := candidates_finish_lt hc
    simp only [mu, pc_finish, upd_same, Option.isNone_none, if_true]
    omega
  fun_cases micro g .star s w with
  | case1 n hpc => exact fin n (h w n hpc)
  | case2 hpc hp => simp [workerDone, hpc, hp] at hnd
  | case3 hpc n hp _ =>
    -- starting a test: the candidates stay, the worker is no longer idle
    have := List.length_pos_of_mem (pickChild_mem hp)
    simp only [mu, upd_same, hpc, Option.isNone_some, Option.isNone_none, if_true]
    show 2 * (candidates g s w).length + _ < _
    simp
  | case4 _ n hp _ => exact fin n (pickChild_mem hp)

theorem pcCand_micro {g : Star} {s : SState} (h : PcCand g s) (w : Nat) : PcCand g (micro g .star s w) := by
  intro v m hm
  by_cases hv : v = w
  · subst hv
    revert hm
    fun_cases micro g .star s v with
    | case1 n _ => rw [pc_finish, upd_same]; nofun
    | case2 => exact h v m
    | case3 _ n hp _ => simp only [upd_same, Option.some.injEq]; rintro rfl; exact pickChild_mem hp
    | case4 _ n _ _ => rw [pc_finish, upd_same]; nofun
  · rw [(micro_other g s hv).1] at hm
    rw [candidates_congr (micro_other g s hv).2]
    exact h v m hm

theorem pcCand_runSched {g : Star} (sched : List Nat) (s : SState) (h : PcCand g s) :
    PcCand g (runSched g .star sched s) :=
  runSched_preserves (P := PcCand g) (fun _ w h => pcCand_micro h w) sched s h

theorem runSched_cons (g : Star) (p : Policy) (w : Nat) (rest : List Nat) (s : SState) :
    runSched g p (w :: rest) s = runSched g p rest (micro g p s w) := by
  simp [runSched]

theorem runSched_append (g : Star) (p : Policy) (a b : List Nat) (s : SState) :
    runSched g p (a ++ b) s = runSched g p b (runSched g p a s) := by
  simp [runSched]

/-- `PcCand` holds in every state a schedule reaches from the start -/
theorem pcCand_reach (g : Star) (pre : List Nat) : PcCand g (runSched g .star pre {}) :=
  pcCand_runSched pre {} (pcCand_init g)

theorem runSched_snoc (g : Star) (p : Policy) (pre : List Nat) (w : Nat) (s : SState) :
    runSched g p (pre ++ [w]) s = micro g p (runSched g p pre s) w := by
  rw [runSched_append, runSched_cons]; rfl

/-- a slice of `w` leaves `w` done or lowers its measure -/
theorem mu_micro_self_le {g : Star} {s : SState} (h : PcCand g s) (w : Nat) :
    mu g (micro g .star s w) w ≤ 1 ∨ mu g (micro g .star s w) w + 1 ≤ mu g s w := by
  cases hd : workerDone g s w with
  | true => rw [micro_done hd]; exact Or.inl ((workerDone_iff_mu h w).mp hd)
  | false => exact Or.inr (mu_micro_lt h hd)

/-- per worker: after a schedule the worker is done, or its measure has gone down by the number of slices it got -/
theorem mu_runSched_le {g : Star} (w : Nat) : ∀ (sched : List Nat) (s : SState), PcCand g s →
    mu g (runSched g .star sched s) w ≤ 1 ∨ mu g (runSched g .star sched s) w + sched.count w ≤ mu g s w
  | [], _, _ => Or.inr (Nat.le_refl _)
  | v :: rest, s, h => by
    rw [runSched_cons]
    have ih := mu_runSched_le w rest _ (pcCand_micro h v)
    by_cases hv : v = w
    · subst hv
      have := mu_micro_self_le h v
      rw [List.count_cons_self]
      omega
    · rw [mu_micro_other g s (fun e => hv e.symm)] at ih
      rw [List.count_cons_of_ne hv]
      exact ih

theorem mu_runSched_mono {g : Star} (w : Nat) (sched : List Nat) (s : SState) (h : PcCand g s) :
    mu g (runSched g .star sched s) w ≤ mu g s w := by
  have := mu_runSched_le w sched s h
  have := mu_pos h w
  omega

/-- a worker that got `mu − 1` slices is done, whatever the other workers did in between -/
theorem workerDone_of_count {g : Star} {s : SState} (h : PcCand g s) (sched : List Nat) (w : Nat)
    (hc : mu g s w - 1 ≤ sched.count w) : workerDone g (runSched g .star sched s) w = true := by
  rw [workerDone_iff_mu (pcCand_runSched sched s h)]
  have := mu_runSched_le w sched s h
  omega

theorem workerDone_stable {g : Star} {s : SState} (h : PcCand g s) (sched : List Nat) (w : Nat)
    (hd : workerDone g s w = true) : workerDone g (runSched g .star sched s) w = true := by
  have hm : mu g s w ≤ 1 := (workerDone_iff_mu h w).mp hd
  exact workerDone_of_count h sched w (by omega)

theorem allDone_iff {g : Star} {s : SState} :
    allDone g s = true ↔ ∀ w, w < g.workers.length → workerDone g s w = true := by
  simp [allDone, List.all_eq_true, List.mem_range]

theorem mu_init (g : Star) (w : Nat) : mu g {} w = 2 * relCount g w + 1 := by
  simp [mu, relCount]

/-- a schedule that gives every worker twice as many slices as there are nodes relevant to it ends with every worker
done — from any reachable state (`s` with `PcCand`), whatever the order of the slices -/
theorem allDone_of_counts {g : Star} {s : SState} (h : PcCand g s) (sched : List Nat)
    (hc : ∀ w, w < g.workers.length → mu g s w - 1 ≤ sched.count w) :
    allDone g (runSched g .star sched s) = true :=
  allDone_iff.mpr fun w hw => workerDone_of_count h sched w (hc w hw)

/-- once all workers are done no slice changes anything any more -/
theorem runSched_allDone {g : Star} : ∀ (sched : List Nat) (s : SState), PcCand g s → allDone g s = true →
    runSched g .star sched s = s
  | [], _, _, _ => rfl
  | w :: rest, s, h, hd => by
    rw [runSched_cons]
    have hw : workerDone g s w = true := by
      by_cases hlt : w < g.workers.length
      · exact allDone_iff.mp hd w hlt
      · exact workerDone_out_of_range h (by omega)
    rw [micro_done hw]
    exact runSched_allDone rest s h hd

/-- the total measure is lowered by every slice that is not spent on a done worker -/
theorem totMu_micro_lt {g : Star} {s : SState} (h : PcCand g s) {w : Nat} (hnd : workerDone g s w = false) :
    totMu g (micro g .star s w) < totMu g s := by
  have hw := lt_of_not_done h hnd
  exact sumTo_lt w _ hw (mu_micro_lt h hnd) (fun i hi => mu_micro_other g s hi)

/-- every schedule: the slices not spent on done workers plus what is left of the measure fit into the measure at the
start -/
theorem effSlices_le {g : Star} : ∀ (sched : List Nat) (s : SState), PcCand g s →
    effSlices g sched s + totMu g (runSched g .star sched s) ≤ totMu g s
  | [], _, _ => by simp [effSlices, runSched]
  | w :: rest, s, h => by
    rw [runSched_cons]
    have ih := effSlices_le rest _ (pcCand_micro h w)
    simp only [effSlices]
    cases hd : workerDone g s w with
    | true => rw [micro_done hd] at ih ⊢; simpa using ih
    | false =>
      have := totMu_micro_lt h hd
      simp only [Bool.false_eq_true, if_false]
      omega

theorem totMu_ge {g : Star} {s : SState} (h : PcCand g s) : g.workers.length ≤ totMu g s := by
  have := sumTo_le (f := fun _ => 1) (h := mu g s) g.workers.length (fun i _ => mu_pos h i)
  rw [sumTo_const] at this
  simpa [totMu] using this

theorem totMu_init (g : Star) : totMu g {} = 2 * sumTo g.workers.length (relCount g) + g.workers.length := by
  unfold totMu
  rw [← sumTo_affine]
  exact sumTo_congr _ (fun i _ => mu_init g i)

/-- every schedule: at most `2·Σ_w |nodes relevant to w|` slices are not spent on done workers -/
theorem effSlices_bound (g : Star) (sched : List Nat) :
    effSlices g sched {} ≤ 2 * sumTo g.workers.length (relCount g) := by
  have h1 := effSlices_le (g := g) sched {} (pcCand_init g)
  have h2 := totMu_ge (pcCand_runSched sched {} (pcCand_init g))
  rw [totMu_init] at h1
  omega

theorem relCount_le (g : Star) (w : Nat) : relCount g w ≤ g.nodes.length := candidates_length_le g {} w

theorem sum_relCount_le_mul (g : Star) :
    sumTo g.workers.length (relCount g) ≤ g.workers.length * g.nodes.length := by
  have := sumTo_le (f := relCount g) (h := fun _ => g.nodes.length) g.workers.length (fun i _ => relCount_le g i)
  rwa [sumTo_const] at this

/-- `Σ_{w<W} |{n < L : p w n}| ≤ L` when every `n` satisfies `p w n` for at most one `w < W` -/
theorem sumTo_filter_le (p : Nat → Nat → Bool) (W : Nat)
    (huniq : ∀ n i j, i < W → j < W → p i n = true → p j n = true → i = j) : ∀ (L : Nat),
    sumTo W (fun w => ((List.range L).filter (p w)).length) ≤ L
  | 0 => by
    have : sumTo W (fun w => ((List.range 0).filter (p w)).length) = sumTo W (fun _ => 0) :=
      sumTo_congr _ (fun i _ => by simp)
    rw [this, sumTo_const]; simp
  | L + 1 => by
    have ih := sumTo_filter_le p W huniq L
    have h1 := sumTo_indicator_le_one (fun w => p w L) W (fun i j hi hj => huniq L i j hi hj)
    have hsplit : ∀ (n : Nat) (f h : Nat → Nat), sumTo n (fun w => f w + h w) = sumTo n f + sumTo n h := by
      intro n f h
      induction n with
      | zero => rfl
      | succ n ih => simp only [sumTo, ih]; omega
    have : sumTo W (fun w => ((List.range (L + 1)).filter (p w)).length) =
        sumTo W (fun w => ((List.range L).filter (p w)).length + (if p w L then 1 else 0)) := by
      apply sumTo_congr
      intro w _
      rw [List.range_succ, List.filter_append, List.length_append]
      by_cases hp : p w L = true <;> simp [hp]
    rw [this, hsplit]
    omega

theorem owns_unique {g : Star} {w w' n : Nat} (h : owns g w n) (h' : owns g w' n) : w = w' := by
  obtain ⟨nd, h1, h2⟩ := h
  obtain ⟨nd', h1', h2'⟩ := h'
  rw [h1] at h1'
  cases h1'
  omega

/-- with well-formed names the nodes relevant to the workers are disjoint: together at most all nodes -/
theorem sum_relCount_le (g : Star) (hwf : NamesWF g) : sumTo g.workers.length (relCount g) ≤ g.nodes.length := by
  have := sumTo_filter_le (fun w n => relevant g w n) g.workers.length
    (fun n i j _ _ hi hj => owns_unique ((hwf i n).mp hi) ((hwf j n).mp hj)) g.nodes.length
  have heq : ∀ w, relCount g w = ((List.range g.nodes.length).filter (fun n => relevant g w n)).length := by
    intro w
    simp [relCount, candidates]
  rw [sumTo_congr (h := fun w => ((List.range g.nodes.length).filter (fun n => relevant g w n)).length) _
    (fun i _ => heq i)]
  exact this

/-- `k` rounds over the workers `0 … W-1` -/
def roundRobin (W k : Nat) : List Nat := (List.replicate k (List.range W)).flatten

theorem roundRobin_length (W k : Nat) : (roundRobin W k).length = k * W := by
  simp [roundRobin]

/-- a schedule made of rounds, each of which contains `w`, has at least as many slices of `w` as rounds -/
theorem count_flatten_ge {w : Nat} : ∀ (rounds : List (List Nat)), (∀ r ∈ rounds, w ∈ r) →
    rounds.length ≤ rounds.flatten.count w
  | [], _ => Nat.zero_le _
  | r :: rest, h => by
    have ih := count_flatten_ge rest (fun r' hr' => h r' (List.mem_cons_of_mem _ hr'))
    have h1 : 0 < r.count w := List.count_pos_iff.mpr (h r List.mem_cons_self)
    simp only [List.flatten_cons, List.count_append, List.length_cons]
    omega

theorem roundRobin_count {W w : Nat} (hw : w < W) (k : Nat) : k ≤ (roundRobin W k).count w := by
  have := count_flatten_ge (w := w) (List.replicate k (List.range W)) fun r hr =>
    List.eq_of_mem_replicate hr ▸ List.mem_range.2 hw
  rwa [List.length_replicate] at this

/-- the slices of a schedule that are not spent on a done worker, as a schedule -/
def effSub (g : Star) : List Nat → SState → List Nat
  | [], _ => []
  | w :: rest, s => (if workerDone g s w then [] else [w]) ++ effSub g rest (micro g .star s w)

theorem effSub_length (g : Star) : ∀ (sched : List Nat) (s : SState),
    (effSub g sched s).length = effSlices g sched s
  | [], _ => rfl
  | w :: rest, s => by
    simp only [effSub, effSlices, List.length_append, effSub_length g rest]
    split <;> simp

theorem effSub_sublist (g : Star) : ∀ (sched : List Nat) (s : SState), (effSub g sched s).Sublist sched
  | [], _ => List.Sublist.refl _
  | w :: rest, s => by
    simp only [effSub]
    split
    · exact (effSub_sublist g rest _).cons _
    · exact (effSub_sublist g rest _).cons_cons _

/-- leaving out the slices of done workers does not change the outcome -/
theorem runSched_effSub (g : Star) : ∀ (sched : List Nat) (s : SState),
    runSched g .star (effSub g sched s) s = runSched g .star sched s
  | [], _ => rfl
  | w :: rest, s => by
    simp only [effSub, runSched_cons]
    cases hd : workerDone g s w with
    | true =>
      simp only [if_true, List.nil_append]
      have ih := runSched_effSub g rest (micro g .star s w)
      rw [micro_done hd] at ih ⊢
      exact ih
    | false =>
      simp only [Bool.false_eq_true, if_false, List.singleton_append, runSched_cons]
      exact runSched_effSub g rest _

/-- … and in what is left no slice is wasted -/
theorem effSlices_effSub (g : Star) : ∀ (sched : List Nat) (s : SState),
    effSlices g (effSub g sched s) s = (effSub g sched s).length
  | [], _ => rfl
  | w :: rest, s => by
    simp only [effSub]
    cases hd : workerDone g s w with
    | true =>
      simp only [if_true, List.nil_append]
      have ih := effSlices_effSub g rest (micro g .star s w)
      rw [micro_done hd] at ih ⊢
      exact ih
    | false =>
      simp only [Bool.false_eq_true, if_false, List.singleton_append, effSlices, hd, List.length_cons]
      rw [effSlices_effSub g rest _]
      omega

/-- number of workers that await the end of a test -/
def busyC (g : Star) (s : SState) : Nat := sumTo g.workers.length (fun w => if (s.pc w).isSome then 1 else 0)

/-- a slice of a worker that is not done either starts a test (one more execution, one more busy worker) or ends one
(one busy worker less) -/
theorem micro_account {g : Star} {s : SState} (h : PcCand g s) (hf : FinDropped g s) {w : Nat}
    (hnd : workerDone g s w = false) :
    2 * (micro g .star s w).execs.length + busyC g s = 2 * s.execs.length + busyC g (micro g .star s w) + 1 := by
  have hw := lt_of_not_done h hnd
  fun_cases micro g .star s w with
  | case1 n hpc =>
    have hb : busyC g s = busyC g (finish g .star s n w) + 1 := by
      apply sumTo_add_one w _ hw
      · simp [pc_finish, upd_same, hpc]
      · intro i hi; simp [pc_finish, upd_other _ _ _ _ hi]
    have he : (finish g .star s n w).execs = s.execs := by rw [finish_star]
    rw [he]; omega
  | case2 hpc hp => simp [workerDone, hpc, hp] at hnd
  | case3 hpc n hp _ =>
    have hb : busyC g { s with pc := upd s.pc w (some n), execs := s.execs ++ [(w, n)] } = busyC g s + 1 := by
      apply sumTo_add_one w _ hw
      · simp [upd_same, hpc]
      · intro i hi; simp [upd_other _ _ _ _ hi]
    rw [hb]
    simp only [List.length_append, List.length_singleton]
    omega
  | case4 _ n hp hr => exact absurd (runFlag_of_candidate hf (pickChild_mem hp)) hr

/-- every schedule: the slices not spent on done workers are two per finished execution and one per running one -/
theorem effSlices_exact {g : Star} : ∀ (sched : List Nat) (s : SState), PcCand g s → FinDropped g s →
    2 * (runSched g .star sched s).execs.length + busyC g s =
      2 * s.execs.length + busyC g (runSched g .star sched s) + effSlices g sched s
  | [], _, _, _ => by simp [effSlices, runSched]
  | w :: rest, s, h, hf => by
    rw [runSched_cons]
    have ih := effSlices_exact rest _ (pcCand_micro h w) (finDropped_micro hf w)
    simp only [effSlices]
    cases hd : workerDone g s w with
    | true => rw [micro_done hd] at ih ⊢; simpa using ih
    | false =>
      have := micro_account h hf hd
      simp only [Bool.false_eq_true, if_false]
      omega

theorem busyC_init (g : Star) : busyC g {} = 0 := by
  unfold busyC
  rw [sumTo_congr (h := fun _ => 0) _ (fun i _ => by simp), sumTo_const]; simp

theorem busyC_allDone {g : Star} {s : SState} (hd : allDone g s = true) : busyC g s = 0 := by
  unfold busyC
  rw [sumTo_congr (h := fun _ => 0) _ (fun i hi => ?_), sumTo_const]; simp
  have := allDone_iff.mp hd i hi
  simp only [workerDone, Bool.and_eq_true, Option.isNone_iff_eq_none] at this
  simp [this.1]

/-- decidable form of `NamesWF`: on the workers and nodes of the graph the substring test is ownership, and every
owner is a worker of the graph -/
def namesOk (g : Star) : Bool :=
  ((List.range g.workers.length).all fun w => (List.range g.nodes.length).all fun n =>
    relevant g w n == (match g.nodes[n]? with | some nd => nd.owner == w | none => false)) &&
  g.nodes.all (fun nd => nd.owner < g.workers.length)

theorem namesWF_of_namesOk {g : Star} (h : namesOk g = true) : NamesWF g := by
  simp only [namesOk, Bool.and_eq_true, List.all_eq_true, List.mem_range, beq_iff_eq, decide_eq_true_eq] at h
  obtain ⟨h1, h2⟩ := h
  intro w n
  constructor
  · intro hrel
    obtain ⟨hw, hn⟩ := relevant_lt hrel
    have := h1 w hw n hn
    rw [hrel, List.getElem?_eq_getElem hn] at this
    exact ⟨_, List.getElem?_eq_getElem hn, beq_iff_eq.1 this.symm⟩
  · rintro ⟨nd, hnd, rfl⟩
    obtain ⟨hn, rfl⟩ := List.getElem?_eq_some_iff.mp hnd
    have := h1 _ (h2 _ (List.getElem_mem hn)) n hn
    rw [hnd] at this
    simpa using this

end I2N.Tools
