import Mathlib.Data.Finset.Card
/-!
Walks of a counted number of steps along a relation on `Nat`, and the pigeonhole for them: where every step starts
below `n`, a walk of more than `n` steps passes twice through one vertex (`StepsR.repeats`).  The graph checker reads
it as "an acyclic graph has no long walk" (`I2N/Lemmas/GraphComplete.lean`), the cleanup flags as "a long walk can be
cut short" (`I2N/Lemmas/ToolsReach.lean`).
-/
namespace I2N

/-- a walk of exactly `k` steps of `R` from `x` to `z` -/
inductive StepsR (R : Nat → Nat → Prop) : Nat → Nat → Nat → Prop
  | zero (x : Nat) : StepsR R 0 x x
  | succ {k x y z : Nat} : R x y → StepsR R k y z → StepsR R (k + 1) x z

variable {R : Nat → Nat → Prop}

theorem StepsR.trans : ∀ {a b x y z : Nat}, StepsR R a x y → StepsR R b y z → StepsR R (a + b) x z
  | _, _, _, _, _, .zero _, h2 => by simpa using h2
  | _, _, _, _, _, .succ hb hs, h2 => by rw [Nat.add_right_comm]; exact .succ hb (hs.trans h2)

/-- either the walk passes twice through some `y`, or the vertices its `k` steps start from are `k` different ones
(collected from the far end: a new start that is already in the set closes a loop) -/
theorem StepsR.loop_or_distinct {k x z : Nat} (h : StepsR R k x z) :
    (∃ a b c y, a + (b + 1) + c = k ∧ StepsR R a x y ∧ StepsR R (b + 1) y y ∧ StepsR R c y z) ∨
    ∃ S : Finset Nat, S.card = k ∧
      ∀ v ∈ S, ∃ a c, a + (c + 1) = k ∧ StepsR R a x v ∧ StepsR R (c + 1) v z := by
  induction h with
  | zero x => exact .inr ⟨∅, rfl, fun _ hv => absurd hv (Finset.notMem_empty _)⟩
  | @succ k x y z hxy hyz ih =>
    rcases ih with ⟨a, b, c, v, hk, h1, h2, h3⟩ | ⟨S, hcard, hS⟩
    · exact .inl ⟨a + 1, b, c, v, by omega, .succ hxy h1, h2, h3⟩
    · by_cases hx : x ∈ S
      · obtain ⟨a, c, hk, h1, h2⟩ := hS x hx
        exact .inl ⟨0, a, c + 1, x, by omega, .zero x, .succ hxy h1, h2⟩
      · refine .inr ⟨insert x S, by rw [Finset.card_insert_of_notMem hx, hcard], fun v hv => ?_⟩
        rcases Finset.mem_insert.mp hv with rfl | hv
        · exact ⟨0, k, by omega, .zero _, .succ hxy hyz⟩
        · obtain ⟨a, c, hk, h1, h2⟩ := hS v hv
          exact ⟨a + 1, c, by omega, .succ hxy h1, h2⟩

theorem StepsR.repeats {n k x z : Nat} (hR : ∀ a b, R a b → a < n) (h : StepsR R k x z) (hk : n < k) :
    ∃ a b c y, a + (b + 1) + c = k ∧ StepsR R a x y ∧ StepsR R (b + 1) y y ∧ StepsR R c y z := by
  refine h.loop_or_distinct.resolve_right fun ⟨S, hcard, hS⟩ => ?_
  have hsub : S ⊆ Finset.range n := fun v hv => by
    obtain ⟨_, _, _, _, h2⟩ := hS v hv
    cases h2 with
    | succ hvb _ => exact Finset.mem_range.mpr (hR _ _ hvb)
  have := Finset.card_le_card hsub
  rw [Finset.card_range, hcard] at this
  omega

end I2N
