import I2N.Lemmas.TravMoves
import Batteries.Data.List.Perm
/-!
Mutual exclusion of the traversal model (property C04): the number of workers within one reuse scope
that hold the `started` mark of a class never exceeds the class' threshold.  This file contains the
specification vocabulary (`scopedCount`, `limit`, `classLimit`, `Inv`), the bridge between
`isOccupied` and the count, and the preservation of `Inv` by a step of a worker, whichever way it goes.
-/
namespace I2N.Trav

/-- is worker `v` within the reuse scope of observer `w` for a node of scope shape `sh`
(`own`: only `w` itself, `swarm`: the workers of `w`'s swarm, `global`: everybody) -/
def inScopeOf (sh : Shape) (g : Graph) (w v : Nat) : Bool :=
  match sh with
  | .own => v == w
  | .swarm => (g.worker v).swarm == (g.worker w).swarm
  | .global => true

/-- the number `is_started` compares with its threshold for node `n` and worker `w`: the workers within
`w`'s scope that have some copy of `n`'s class started -/
def scopedCount (g : Graph) (s : State) (n w : Nat) : Nat :=
  ((sharedStarted g s n).filter (inScopeOf (g.node n).shape g w)).length

/-- the static threshold of `is_occupied` for copy `n` (no bump) -/
def limit0 (g : Graph) (n : Nat) : Nat :=
  (max ((g.node n).mct.getD ((g.node n).maxTries.getD 1)) 1).toNat

/-- the threshold of `is_occupied` currently in force for copy `n` (includes the re-entrancy bumps) -/
def limit (g : Graph) (s : State) (n : Nat) : Nat := (max (mctOf g s n) 1).toNat

/-- the largest threshold that has been in force for copy `n` so far.  The threshold of a copy runs through
`limit0, mct₀+1, mct₀+2, …` (`mct₀` = the configured `max_concurrent_tries` or 0): the first bump *lowers*
it when `max_concurrent_tries` is unset and `max_tries > 1`, so the current `limit` is not monotone;
`peakLimit` is. Without a bump and whenever `max_concurrent_tries` is configured, `peakLimit = limit`. -/
def peakLimit (g : Graph) (s : State) (n : Nat) : Nat := max (limit0 g n) (limit g s n)

/-- the maximum of the thresholds over all copies of class `c` -/
def classLimit (g : Graph) (s : State) (c : Nat) : Nat :=
  ((g.classNodes c).map (peakLimit g s)).foldr max 0

/-- the copies of one class agree on the scope shape, and flat nodes are not bridged with parsed ones -/
def Homog (g : Graph) : Prop :=
  ∀ n, n < g.nodes.length → ∀ m, m < g.nodes.length → (g.node n).cls = (g.node m).cls →
    (g.node n).shape = (g.node m).shape ∧ (g.node n).flat = (g.node m).flat

instance (g : Graph) : Decidable (Homog g) := by unfold Homog; infer_instance

/-- the exclusion invariant: for every parsed copy and every observer, the number of workers in the
observer's scope holding the class started is at most the class threshold -/
def Inv (g : Graph) (s : State) : Prop :=
  ∀ n, n < g.nodes.length → (g.node n).flat = false → ∀ w, scopedCount g s n w ≤ classLimit g s (g.node n).cls

theorem nodup_dedupNat (l : List Nat) : (dedupNat l).Nodup := by
  induction l with
  | nil => simp [dedupNat]
  | cons b l ih =>
    unfold dedupNat
    by_cases h : l.contains b = true
    · simp only [h, if_true]; exact ih
    · simp only [h, Bool.false_eq_true, if_false, List.nodup_cons]
      refine ⟨?_, ih⟩
      rw [mem_dedupNat]
      simpa using h

theorem length_le_of_nodup_subset {l l' : List Nat} (hd : l.Nodup) (hs : ∀ x ∈ l, x ∈ l') : l.length ≤ l'.length :=
  (List.subperm_of_subset hd hs).length_le

theorem le_foldr_max (l : List Nat) (a : Nat) (h : a ∈ l) : a ≤ l.foldr max 0 := by
  induction l with
  | nil => simp at h
  | cons b l ih =>
    simp only [List.foldr_cons]
    rcases List.mem_cons.mp h with rfl | h'
    · exact Nat.le_max_left _ _
    · exact Nat.le_trans (ih h') (Nat.le_max_right _ _)

theorem nat_max_le_max {a b c d : Nat} (h1 : a ≤ c) (h2 : b ≤ d) : max a b ≤ max c d :=
  Nat.max_le.mpr ⟨Nat.le_trans h1 (Nat.le_max_left _ _), Nat.le_trans h2 (Nat.le_max_right _ _)⟩

theorem foldr_max_mono {α} (l : List α) (f f' : α → Nat) (h : ∀ x ∈ l, f x ≤ f' x) :
    (l.map f).foldr max 0 ≤ (l.map f').foldr max 0 := by
  induction l with
  | nil => simp
  | cons b l ih =>
    simp only [List.map_cons, List.foldr_cons]
    exact nat_max_le_max (h b (List.mem_cons_self ..)) (ih (fun x hx => h x (List.mem_cons_of_mem _ hx)))

theorem foldr_max_le {α} (l : List α) (f : α → Nat) (B : Nat) (h : ∀ x ∈ l, f x ≤ B) : (l.map f).foldr max 0 ≤ B := by
  induction l with
  | nil => simp
  | cons b l ih =>
    simp only [List.map_cons, List.foldr_cons]
    exact Nat.max_le.mpr ⟨h b (List.mem_cons_self ..), ih (fun x hx => h x (List.mem_cons_of_mem _ hx))⟩

theorem mem_sharedStarted (g : Graph) (s : State) (n v : Nat) :
    v ∈ sharedStarted g s n ↔ ∃ i, i ∈ g.copies n ∧ (s.nd i).started = some v := by
  unfold sharedStarted
  rw [mem_dedupNat]
  simp [List.mem_filterMap]

theorem nodup_sharedStarted (g : Graph) (s : State) (n : Nat) : (sharedStarted g s n).Nodup := nodup_dedupNat _

theorem peakLimit_le_classLimit (g : Graph) (s : State) (n : Nat) (hn : n < g.nodes.length) :
    peakLimit g s n ≤ classLimit g s (g.node n).cls := by
  unfold classLimit
  apply le_foldr_max
  exact List.mem_map.mpr ⟨n, (mem_classNodes g _ n).mpr ⟨hn, rfl⟩, rfl⟩

theorem one_le_limit (g : Graph) (s : State) (n : Nat) : 1 ≤ limit g s n := by
  unfold limit; omega

theorem limit_le_peakLimit (g : Graph) (s : State) (n : Nat) : limit g s n ≤ peakLimit g s n := Nat.le_max_right _ _

theorem isOccupied_iff (g : Graph) (s : State) (n w : Nat) :
    isOccupied g s n w = true ↔
      (g.node n).flat = false ∧
        (match (g.node n).shape with
         | .own => w ∈ sharedStarted g s n
         | .swarm => limit g s n ≤ scopedCount g s n w
         | .global => limit g s n ≤ scopedCount g s n w) := by
  unfold isOccupied isStarted scopeCount scopedCount limit
  cases hf : (g.node n).flat
  · simp only [Bool.false_eq_true, if_false, true_and]
    have h1 : (max (mctOf g s n) 1 == -1) = false := by
      simp only [beq_eq_false_iff_ne, ne_eq]; omega
    cases hs : (g.node n).shape
    · simp
    · have h2 : inScopeOf Shape.swarm g w = fun v => (g.worker v).swarm == (g.worker w).swarm := rfl
      simp only [h1, Bool.false_eq_true, if_false, decide_eq_true_eq, h2, ge_iff_le]
      rw [Int.toNat_le]
    · have h2 : inScopeOf Shape.global g w = fun _ => true := rfl
      have h3 : ∀ l : List Nat, l.filter (fun _ => true) = l := fun l => by simp
      simp only [h1, Bool.false_eq_true, if_false, decide_eq_true_eq, h2, ge_iff_le, h3]
      rw [Int.toNat_le]
  · simp

theorem room_of_not_occupied (g : Graph) (s : State) (n w : Nat) (hf : (g.node n).flat = false)
    (h : isOccupied g s n w = false) : scopedCount g s n w < limit g s n := by
  have h' : ¬ (isOccupied g s n w = true) := by simp [h]
  rw [isOccupied_iff] at h'
  simp only [hf, true_and] at h'
  cases hs : (g.node n).shape
  · simp only [hs] at h'
    have : scopedCount g s n w = 0 := by
      unfold scopedCount
      simp only [hs, inScopeOf, List.length_eq_zero_iff, List.filter_eq_nil_iff, beq_iff_eq]
      intro a ha hc; exact h' (hc ▸ ha)
    have := one_le_limit g s n
    omega
  · simp only [hs] at h'; omega
  · simp only [hs] at h'; omega

/-- `s'` holds no mark that `s` does not hold, and no copy has been bumped less often -/
def Le (s s' : State) : Prop :=
  ∀ i, ((s'.nd i).started = (s.nd i).started ∨ (s'.nd i).started = none) ∧ (s.nd i).bump ≤ (s'.nd i).bump

theorem Le.refl (s : State) : Le s s := fun _ => ⟨Or.inl rfl, Nat.le_refl _⟩

theorem Le.trans {s s' s'' : State} (h1 : Le s s') (h2 : Le s' s'') : Le s s'' := fun i =>
  ⟨(h2 i).1.elim (fun e => by rw [e]; exact (h1 i).1) Or.inr, Nat.le_trans (h1 i).2 (h2 i).2⟩

theorem Le.of_nd_eq {s s' : State} (h : ∀ i, s'.nd i = s.nd i) : Le s s' := by
  intro i; rw [h i]; exact ⟨Or.inl rfl, Nat.le_refl _⟩

theorem Le.setNd (s : State) (m : Nat) (f : NodeD → NodeD)
    (hf : ∀ d, ((f d).started = d.started ∨ (f d).started = none) ∧ d.bump ≤ (f d).bump) : Le s (s.setNd m f) := by
  intro i
  rcases nd_setNd_cases s m f i with h | ⟨_, _, h⟩
  · rw [h]; exact ⟨Or.inl rfl, Nat.le_refl _⟩
  · rw [h]; exact hf _

theorem Le.ite {s a b : State} {c : Prop} [Decidable c] (ha : Le s a) (hb : Le s b) : Le s (if c then a else b) := by
  split
  · exact ha
  · exact hb

theorem limit_noBump (g : Graph) (s : State) (n : Nat) (h : (s.nd n).bump = 0) : limit g s n = limit0 g n := by
  unfold limit limit0 mctOf
  simp [h]

theorem limit_bumped (g : Graph) (s : State) (n : Nat) (h : 0 < (s.nd n).bump) :
    limit g s n = (max ((g.node n).mct.getD 0 + ((s.nd n).bump : Int)) 1).toNat := by
  unfold limit mctOf
  simp [h]

theorem toNat_max_one_mono {x y : Int} (h : x ≤ y) : (max x 1).toNat ≤ (max y 1).toNat :=
  Int.toNat_le_toNat (Int.max_le.mpr ⟨Int.le_trans h (Int.le_max_left _ _), Int.le_max_right _ _⟩)

theorem peakLimit_mono (g : Graph) (s s' : State) (n : Nat) (h : (s.nd n).bump ≤ (s'.nd n).bump) :
    peakLimit g s n ≤ peakLimit g s' n := by
  unfold peakLimit
  rcases Nat.eq_zero_or_pos (s.nd n).bump with h0 | h0
  · rw [limit_noBump g s n h0, Nat.max_self]; exact Nat.le_max_left _ _
  · rw [limit_bumped g s n h0, limit_bumped g s' n (by omega)]
    exact nat_max_le_max (Nat.le_refl _) (toNat_max_one_mono (by omega))

theorem classLimit_mono (g : Graph) (s s' : State) (c : Nat) (h : ∀ i, (s.nd i).bump ≤ (s'.nd i).bump) :
    classLimit g s c ≤ classLimit g s' c := by
  unfold classLimit
  exact foldr_max_mono _ _ _ (fun n _ => peakLimit_mono g s s' n (h n))

theorem inScopeOf_trans (sh : Shape) (g : Graph) (v w x : Nat) (h : inScopeOf sh g v w = true) :
    inScopeOf sh g v x = inScopeOf sh g w x := by
  cases sh
  · simp only [inScopeOf, beq_iff_eq] at h ⊢; rw [h]
  · simp only [inScopeOf, beq_iff_eq] at h ⊢; rw [h]
  · rfl

theorem scopedCount_le_length (g : Graph) (s : State) (n v : Nat) (l : List Nat)
    (h : ∀ x ∈ sharedStarted g s n, inScopeOf (g.node n).shape g v x = true → x ∈ l) : scopedCount g s n v ≤ l.length :=
  length_le_of_nodup_subset ((nodup_sharedStarted g s n).filter _) (fun x hx =>
    h x (List.mem_filter.mp hx).1 (List.mem_filter.mp hx).2)

theorem scopedCount_le (g : Graph) (s s' : State) (n v : Nat)
    (h : ∀ x ∈ sharedStarted g s' n, inScopeOf (g.node n).shape g v x = true → x ∈ sharedStarted g s n) :
    scopedCount g s' n v ≤ scopedCount g s n v :=
  scopedCount_le_length g s' n v _ (fun x hx hsc => List.mem_filter.mpr ⟨h x hx hsc, hsc⟩)

theorem inv_le (g : Graph) (s s' : State) (hI : Inv g s) (h : Le s s') : Inv g s' := by
  intro n hn hf v
  have hcl := classLimit_mono g s s' (g.node n).cls (fun i => (h i).2)
  have hInv := hI n hn hf v
  have h1 := scopedCount_le g s s' n v (fun x hx _ => by
    rw [mem_sharedStarted] at hx ⊢
    obtain ⟨i, hi, hs⟩ := hx
    rcases (h i).1 with h' | h'
    · exact ⟨i, hi, h' ▸ hs⟩
    · rw [h'] at hs; cases hs)
  omega

/-- entering, the one step that can raise a count: the `started := w` of `traverse_node` / `reverse_node` behind the
occupation guard -/
theorem inv_enter (g : Graph) (s : State) (next w : Nat) (hH : Homog g) (hI : Inv g s)
    (hocc : isOccupied g s next w = false) :
    Inv g (s.setNd next (fun d => { d with started := some w })) := by
  intro n hn hf v
  have hb : ∀ i, (s.nd i).bump ≤ ((s.setNd next (fun d => { d with started := some w })).nd i).bump := fun i =>
    Nat.le_of_eq (nd_setNd_proj (·.bump) s next (fun d => { d with started := some w }) (fun _ => rfl) i).symm
  -- a holder in the new state is an old one, or `w` at the copy `next` of the class
  have hold : ∀ x, x ∈ sharedStarted g (s.setNd next (fun d => { d with started := some w })) n →
      x ∈ sharedStarted g s n ∨ (x = w ∧ next < g.nodes.length ∧ (g.node next).cls = (g.node n).cls) := by
    intro x hx
    rw [mem_sharedStarted] at hx
    obtain ⟨i, hi, hs⟩ := hx
    rcases nd_setNd_cases s next (fun d => { d with started := some w }) i with h | ⟨h1, _, h2⟩
    · left; rw [mem_sharedStarted]; exact ⟨i, hi, h ▸ hs⟩
    · right
      rw [h2] at hs
      rw [mem_copies g n i hn hf] at hi
      exact ⟨(Option.some.inj hs).symm, h1 ▸ hi.1, h1 ▸ hi.2⟩
  generalize s.setNd next (fun d => { d with started := some w }) = s1 at hb hold ⊢
  have hcl := classLimit_mono g s s1 (g.node n).cls hb
  have hInv := hI n hn hf v
  by_cases hv : inScopeOf (g.node n).shape g v w = true ∧ next < g.nodes.length ∧ (g.node next).cls = (g.node n).cls
  · -- `v` sees `w`, so it counts what `w` counted at `next` (which left room), and `w`
    obtain ⟨hv, hnl, hc⟩ := hv
    obtain ⟨hsh, hfl⟩ := hH next hnl n hn hc
    rw [hf] at hfl
    have hroom := room_of_not_occupied g s next w hfl hocc
    have h1 := scopedCount_le_length g s1 n v (w :: (sharedStarted g s next).filter (inScopeOf (g.node next).shape g w))
      (fun x hx hsc => by
        rcases hold x hx with h | ⟨h, _⟩
        · refine List.mem_cons_of_mem _ (List.mem_filter.mpr ⟨?_, by rw [hsh, ← inScopeOf_trans _ g v w x hv]; exact hsc⟩)
          rw [mem_sharedStarted] at h ⊢
          obtain ⟨i, hi, hs⟩ := h
          rw [mem_copies g n i hn hf] at hi
          exact ⟨i, (mem_copies g next i hnl hfl).mpr ⟨hi.1, hi.2.trans hc.symm⟩, hs⟩
        · rw [h]; exact List.mem_cons_self ..)
    have h2 := peakLimit_le_classLimit g s next hnl
    have h3 := limit_le_peakLimit g s next
    rw [hc] at h2
    simp only [List.length_cons] at h1
    unfold scopedCount at hroom
    omega
  · have h1 := scopedCount_le g s s1 n v (fun x hx hsc => (hold x hx).resolve_right (fun h => hv ⟨h.1 ▸ hsc, h.2⟩))
    omega

/-- two graphs that differ at most in their edges (and other fields the invariant does not read) -/
structure SameStatic (g g' : Graph) : Prop where
  len : g'.nodes.length = g.nodes.length
  workers : g'.workers = g.workers
  cls : ∀ i, (g'.node i).cls = (g.node i).cls
  shape : ∀ i, (g'.node i).shape = (g.node i).shape
  flat : ∀ i, (g'.node i).flat = (g.node i).flat
  mct : ∀ i, (g'.node i).mct = (g.node i).mct
  maxTries : ∀ i, (g'.node i).maxTries = (g.node i).maxTries

theorem vis_node_proj {α} (g : Graph) (s : State) (P : Node → α)
    (hP : ∀ nd su cl, P { nd with setup := su, cleanup := cl } = P nd) (i : Nat) : P ((vis g s).node i) = P (g.node i) := by
  obtain ⟨su, cl, h, _⟩ := vis_node g s i
  rw [h, hP]

theorem sameStatic_vis (g : Graph) (s : State) : SameStatic g (vis g s) where
  len := by
    unfold vis; split
    · rfl
    · exact (List.length_map _).trans List.length_zipIdx
  workers := by unfold vis; split <;> rfl
  cls := vis_node_proj g s (·.cls) (fun _ _ _ => rfl)
  shape := vis_node_proj g s (·.shape) (fun _ _ _ => rfl)
  flat := vis_node_proj g s (·.flat) (fun _ _ _ => rfl)
  mct := vis_node_proj g s (·.mct) (fun _ _ _ => rfl)
  maxTries := vis_node_proj g s (·.maxTries) (fun _ _ _ => rfl)

namespace SameStatic
variable {g g' : Graph} (h : SameStatic g g')
include h

theorem classNodes_eq (c : Nat) : g'.classNodes c = g.classNodes c := by
  unfold Graph.classNodes
  rw [h.len]
  apply List.filter_congr
  intro i _
  rw [h.cls]

theorem copies_eq (n : Nat) : g'.copies n = g.copies n := by
  unfold Graph.copies
  rw [h.flat, h.cls, h.classNodes_eq]

theorem sharedStarted_eq (s : State) (n : Nat) : sharedStarted g' s n = sharedStarted g s n := by
  unfold sharedStarted
  rw [h.copies_eq]

theorem inScopeOf_eq (sh : Shape) (w : Nat) : inScopeOf sh g' w = inScopeOf sh g w := by
  funext v
  unfold inScopeOf Graph.worker
  rw [h.workers]

theorem scopedCount_eq (s : State) (n w : Nat) : scopedCount g' s n w = scopedCount g s n w := by
  unfold scopedCount
  rw [h.sharedStarted_eq, h.shape, h.inScopeOf_eq]

theorem peakLimit_eq (s : State) : peakLimit g' s = peakLimit g s := by
  funext n
  unfold peakLimit limit limit0 mctOf
  simp only [h.mct, h.maxTries]

theorem limit_eq (s : State) (n : Nat) : limit g' s n = limit g s n := by
  unfold limit mctOf
  simp only [h.mct, h.maxTries]

theorem classLimit_eq (s : State) (c : Nat) : classLimit g' s c = classLimit g s c := by
  unfold classLimit
  rw [h.classNodes_eq, h.peakLimit_eq]

theorem inv_iff (s : State) : Inv g' s ↔ Inv g s := by
  unfold Inv
  simp only [h.len, h.flat, h.cls, h.scopedCount_eq, h.classLimit_eq]

theorem homog_iff : Homog g' ↔ Homog g := by
  unfold Homog
  simp only [h.len, h.flat, h.cls, h.shape]

end SameStatic

theorem inv_vis (g : Graph) (s' s : State) : Inv (vis g s') s ↔ Inv g s := (sameStatic_vis g s').inv_iff s
theorem homog_vis (g : Graph) (s' : State) : Homog (vis g s') ↔ Homog g := (sameStatic_vis g s').homog_iff

theorem nd_of_nodes_eq {s s' : State} (h : s'.nodes = s.nodes) (i : Nat) : s'.nd i = s.nd i := by
  unfold State.nd; rw [h]

theorem Le.of_nodes_eq {s s' : State} (h : s'.nodes = s.nodes) : Le s s' := Le.of_nd_eq (nd_of_nodes_eq h)

theorem wd_setWd_proj {α} (P : WorkerD → α) (s : State) (w : Nat) (f : WorkerD → WorkerD) (hf : ∀ d, P (f d) = P d) (v : Nat) :
    P ((s.setWd w f).wd v) = P (s.wd v) := by
  rw [wd_setWd]; split
  · exact hf _
  · rfl

theorem le_pullLocations (g : Graph) (s : State) (n : Nat) : Le s (pullLocations g s n) := by
  obtain ⟨l, h⟩ := pullLocations_setNd g s n
  rw [h]
  exact Le.setNd s n _ (fun d => ⟨Or.inl rfl, Nat.le_refl _⟩)

theorem le_disableRerun (s : State) (n : Nat) : Le s (disableRerun s n) :=
  Le.setNd s n _ (fun _ => ⟨Or.inl rfl, Nat.le_refl _⟩)

theorem le_runDecision (g : Graph) (s : State) (n w : Nat) (b : Bool) (s1 : State) (e1 : List Event)
    (h : runDecision g s n w = .ok (b, s1, e1)) : Le s s1 := by
  rcases runDecision_state g s n w b s1 e1 h with h | h
  · rw [h]; exact Le.refl s
  · rw [h]; exact le_disableRerun s n

theorem syncStates_frame (g : Graph) (s : State) (n w : Nat) (r : Option (List String)) :
    (syncStates g s n w r).1.nodes = s.nodes ∧ (syncStates g s n w r).1.workers = s.workers ∧
      (syncStates g s n w r).1.hidden = s.hidden := by
  obtain ⟨st, h⟩ := syncStates_store g s n w r
  rw [h]
  exact ⟨rfl, rfl, rfl⟩

theorem le_syncStates (g : Graph) (s : State) (n w : Nat) (r : Option (List String)) : Le s (syncStates g s n w r).1 :=
  Le.of_nodes_eq (syncStates_frame g s n w r).1

theorem le_produce (g : Graph) (s : State) (n w : Nat) : Le s (produce g s n w) := Le.of_nd_eq (fun _ => rfl)

theorem le_finishTraverse (s : State) (n w : Nat) : Le s (finishTraverse s n w) :=
  Le.setNd s n _ (fun _ => ⟨Or.inr rfl, Nat.le_refl _⟩)

theorem le_setWd (s : State) (w : Nat) (f : WorkerD → WorkerD) : Le s (s.setWd w f) := Le.of_nd_eq (fun _ => rfl)

theorem le_startTest (g : Graph) (s : State) (n w : Nat) (ph : Phase) (dir : Dir) : Le s (startTest g s n w ph dir).1 := by
  fun_cases startTest g s n w ph dir with
  | case1 => exact Le.of_nd_eq (fun _ => rfl)
  | case2 _ _ _ _ _ _ s1 s2 =>
    have h1 : Le s s1 := Le.of_nd_eq (fun _ => rfl)
    have h2 : Le s1 s2 := Le.setNd s1 n _ (fun _ => ⟨Or.inl rfl, Nat.le_refl _⟩)
    exact h1.trans (h2.trans (le_setWd s2 w _))

theorem le_pickChild (g : Graph) (s : State) (n w c : Nat) (s' : State) (h : pickChild g s n w = some (c, s')) : Le s s' :=
  Le.of_nd_eq (started_pickChild g s n w c s' h)

theorem le_pickParent (g : Graph) (s : State) (n w p : Nat) (s' : State) (h : pickParent g s n w = some (p, s')) : Le s s' :=
  Le.of_nd_eq (started_pickParent g s n w p s' h)

theorem inv_reverseNode (g : Graph) (s : State) (n w : Nat) (s' : State) (evs : List Event) (hH : Homog g) (hI : Inv g s)
    (h : reverseNode g s n w = .ok (s', evs)) : Inv g s' := by
  rcases reverseNode_eq_ok h with ⟨_, rfl, _⟩ | ⟨hocc, clean, s2, _, hsy, rfl⟩
  · exact hI
  · have h2 : Le (s.setNd n (fun d => { d with started := some w })) s2 := by
      rw [← show _ = s2 from congrArg Prod.fst hsy]
      split
      · exact le_syncStates g _ n w none
      · exact Le.refl _
    exact inv_le g _ _ (inv_enter g s n w hH hI hocc) (h2.trans (Le.setNd _ n _ (fun _ => ⟨Or.inr rfl, Nat.le_refl _⟩)))

theorem inv_startTest (g : Graph) (s : State) (n w : Nat) (ph : Phase) (dir : Dir) (hI : Inv g s) :
    Inv g (startTest g s n w ph dir).1 := inv_le g s _ hI (le_startTest g s n w ph dir)

theorem reveal_frame (g : Graph) (s : State) (f w : Nat) :
    (reveal g s f w).nodes = s.nodes ∧ (reveal g s f w).workers = s.workers ∧
      ∀ x, x ∈ (reveal g s f w).hidden → x ∈ s.hidden := by
  fun_cases reveal g s f w with
  | case1 => exact ⟨rfl, rfl, fun _ h => h⟩
  | case2 => exact ⟨rfl, rfl, fun _ h => (List.mem_filter.mp h).1⟩

/-- the lazy expansion step changes `hidden` (parsing more), `incompatible` and a worker flag only -/
theorem prepare_frame (g : Graph) (s : State) (w : Nat) :
    (prepare g s w).nodes = s.nodes ∧ (prepare g s w).workers.length = s.workers.length ∧
      (∀ v, ((prepare g s w).wd v).path = (s.wd v).path ∧ ((prepare g s w).wd v).pc = (s.wd v).pc) ∧
      ∀ x, x ∈ (prepare g s w).hidden → x ∈ s.hidden := by
  have hwd : ∀ (u : Bool) v, ((s.setWd w (fun d => { d with unexplored := u })).wd v).path = (s.wd v).path ∧
      ((s.setWd w (fun d => { d with unexplored := u })).wd v).pc = (s.wd v).pc := fun u v =>
    ⟨wd_setWd_proj (·.path) s w (fun d => { d with unexplored := u }) (fun _ => rfl) v,
     wd_setWd_proj (·.pc) s w (fun d => { d with unexplored := u }) (fun _ => rfl) v⟩
  fun_cases prepare g s w with
  | case1 => exact ⟨rfl, rfl, fun _ => ⟨rfl, rfl⟩, fun _ h => h⟩
  | case2 _ next _ _ s1 =>
    obtain ⟨h1, h2, h3⟩ := reveal_frame g s1 next w
    refine ⟨h1, by rw [h2]; exact workers_length_setWd s w _, fun v => ?_, h3⟩
    have : (reveal g s1 next w).wd v = s1.wd v := by unfold State.wd; rw [h2]
    rw [this]; exact hwd _ v
  | case3 => exact ⟨rfl, workers_length_setWd s w _, fun v => hwd _ v, fun _ h => h⟩

theorem le_prepare (g : Graph) (s : State) (w : Nat) : Le s (prepare g s w) := Le.of_nodes_eq (prepare_frame g s w).1

theorem reportOutcome_frame (g : Graph) (s : State) (w n : Nat) (phase : Phase) (uid : String) (wait : Nat) (out : Outcome) :
    (reportOutcome g s w n phase uid wait out).1.nodes = s.nodes ∧
    (reportOutcome g s w n phase uid wait out).1.workers = s.workers ∧
    (reportOutcome g s w n phase uid wait out).1.hidden = s.hidden := by
  fun_cases reportOutcome g s w n phase uid wait out with
  | case1 _ _ _ _ _ _ s2 => unfold s2; split <;> exact ⟨rfl, rfl, rfl⟩
  | case2 | case3 => exact ⟨rfl, rfl, rfl⟩

theorem le_reportOutcome (g : Graph) (s : State) (w n : Nat) (phase : Phase) (uid : String) (wait : Nat) (out : Outcome) :
    Le s (reportOutcome g s w n phase uid wait out).1 := Le.of_nodes_eq (reportOutcome_frame g s w n phase uid wait out).1

theorem le_recordResult (s : State) (w n : Nat) (phase : Phase) (name uid : String) (tag : Nat) (st0 : String) (dur : Nat) :
    Le s (recordResult s w n phase name uid tag st0 dur).1 := by
  fun_cases recordResult s w n phase name uid tag st0 dur with
  | case1 _ _ _ _ s1 _ s2 =>
    have h1 : Le s s1 := Le.ite (Le.of_nd_eq (fun _ => rfl)) (Le.refl s)
    exact h1.trans (Le.ite (le_setWd _ _ _) (Le.setNd _ n _ (fun _ => ⟨Or.inl rfl, Nat.le_refl _⟩)))

/-! ### the invariant along a step, by the ways it can go (`Lemmas/TravMoves.lean`)

Every move is `Le`, except the mark `started := some w`, which the model sets behind the occupation guard: in a visit
(`Visit.free`) and inside `reverseNode`. -/

theorem excl_of_after {g : Graph} (hH : Homog g) {s : State} {w next prev : Nat} {dir : Dir} {r : Step} (hI : Inv g s)
    (h : After g w next prev dir s r) : Inv g r.1 := by
  have step : ∀ {run s1 evs}, runDecision g s next w = .ok (run, s1, evs) → ∀ s2, Le s1 s2 → Inv g s2 :=
    fun hd s2 hle => inv_le g s s2 hI ((le_runDecision g s next w _ _ _ hd).trans hle)
  have drops : ∀ s1, Le s1 (dropChildren g s1 next w) := fun s1 => Le.of_nd_eq (nd_dropChildren g s1 next w _)
  cases h with
  | undecided => exact hI
  | up run s1 evs _ hd => exact step hd _ (Le.of_nd_eq (fun i => by cases run <;> rfl))
  | again s1 evs _ hd => exact step hd _ (le_setWd _ _ _)
  | postponed s1 evs _ hd => exact step hd _ (le_setWd _ _ _)
  | cleaned s1 evs s3 evs2 _ hd _ _ hr =>
    exact inv_le g s3 _ (inv_reverseNode g _ next w s3 evs2 hH (step hd _ (drops s1)) hr) (le_setWd _ _ _)
  | uncleaned s1 evs e _ hd => exact step hd _ (drops s1)
  | descend s1 evs c s2 _ hd _ hp => exact step hd _ ((le_pickChild g s1 next w c s2 hp).trans (le_setWd _ _ _))
  | childless s1 evs _ hd => exact step hd _ (Le.refl _)

theorem excl_of_iter {g : Graph} (hH : Homog g) {s : State} {w : Nat} {r : Step} (hI : Inv g s) (h : Iter g w s r) :
    Inv g r.1 := by
  -- once `n` is entered behind the guard, marks are only removed
  have decided : ∀ {n prev dir run s1 evs}, Visit g s w n prev dir →
      runDecision g (entered g s w n) n w = .ok (run, s1, evs) → Inv g s1 := fun hv hd =>
    inv_le g _ _ (inv_enter g s _ w hH hI hv.free) ((le_pullLocations g _ _).trans (le_runDecision g _ _ w _ _ _ hd))
  cases h with
  | exit => exact inv_le g s _ hI (le_setWd _ _ _)
  | lost => exact hI
  | fromRoot n c s1 _ _ _ hp => exact inv_le g s _ hI ((le_pickChild g s n w c s1 hp).trans (le_setWd _ _ _))
  | bounce n =>
    -- the only place where `bump` is written
    refine inv_le g s _ hI (Le.trans ?_ (le_setWd _ _ _))
    split
    · refine Le.trans ?_ (le_setWd _ _ _)
      exact Le.ite (Le.setNd _ _ _ (fun d => ⟨Or.inl rfl, Nat.le_succ _⟩)) (Le.refl s)
    · exact le_setWd _ _ _
  | toParent n _ p s1 _ _ _ hp => exact inv_le g s _ hI ((le_pickParent g s n w p s1 hp).trans (le_setWd _ _ _))
  | undecided n _ _ _ hv => exact inv_le g _ _ (inv_enter g s n w hH hI hv.free) (le_pullLocations g _ n)
  | start n _ dir s1 _ hv hd => exact inv_startTest g s1 n w .plain dir (decided hv hd)
  | create n _ dir s1 _ hv hd => exact inv_startTest g _ n w .pre dir (inv_le g s1 _ (decided hv hd) (le_setWd s1 w _))
  | skip n _ _ s1 _ r hv hd ha =>
    exact excl_of_after (r := r) hH (inv_le g s1 _ (decided hv hd) (le_finishTraverse s1 n w)) ha

theorem excl_of_iterL {g : Graph} (hH : Homog g) {s : State} {w : Nat} {r : Step} (hI : Inv g s) (h : IterL g w s r) :
    Inv g r.1 := by
  obtain ⟨s1, hp, hi⟩ := h
  have hI1 : Inv g s1 := by
    cases hp with
    | stay => exact hI
    | expand => exact inv_le g s _ hI (le_prepare g s w)
  -- the visible graph has the same classes, shapes and thresholds as the full one
  exact (inv_vis g s1 _).mp (excl_of_iter ((homog_vis g s1).mpr hH) ((inv_vis g s1 s1).mpr hI1) hi)

theorem excl_of_ran {g : Graph} (hH : Homog g) {w fuel : Nat} {s : State} {evs : List Event} {r : State × List Event}
    (hI : Inv g s) (h : Ran g w fuel s evs r) : Inv g r.1 := by
  have body : ∀ {s s1 e f}, Inv g s → IterL g w (s.setWd w (fun d => { d with pc := .loop })) (s1, e, f) → Inv g s1 :=
    fun hI hi => excl_of_iterL hH (inv_le g _ _ hI (le_setWd _ w _)) hi
  induction h with
  | dry => exact hI
  | cont hi _ ih => exact ih (body hI hi)
  | stop hi => exact body hI hi
  | fail hi => exact inv_le g _ _ (body hI hi) (le_setWd _ _ _)

theorem le_of_ended {g : Graph} {w n : Nat} {ph : Phase} {uid : String} {tag wait : Nat} {out : Outcome} {s sc : State}
    {ok : Bool} (h : Ended g w n ph uid tag wait out s sc ok) : Le s sc := by
  cases h with
  | found => exact (le_reportOutcome g s w n ph uid wait out).trans (le_recordResult _ w n ph _ uid tag _ _)
  | lost => exact le_reportOutcome g s w n ph uid wait out

theorem excl_of_resumed {g : Graph} (hH : Homog g) {s : State} {w : Nat} {out : Outcome} {fuel : Nat}
    {r : State × List Event} (hI : Inv g s) (h : Resumed g w out fuel s r) : Inv g r.1 := by
  -- the traversal of the node of the finished test ends, and the loop body goes on
  have back : ∀ {n ph dir uid tag wait sc ok prev r}, Ended g w n ph uid tag wait out s sc ok →
      After (vis g (finishTraverse (accounted sc w n ph) n w)) w n prev dir (finishTraverse (accounted sc w n ph) n w) r →
      Inv g r.1 := by
    intro n ph dir uid tag wait sc ok prev r hs ha
    have h0 : Le s (finishTraverse (accounted sc w n ph) n w) := by
      refine (le_of_ended hs).trans (Le.trans ?_ (le_finishTraverse _ n w))
      unfold accounted
      exact Le.ite (Le.setNd _ n _ (fun _ => ⟨Or.inl rfl, Nat.le_refl _⟩)) (Le.refl sc)
    exact (inv_vis g _ _).mp (excl_of_after ((homog_vis g _).mpr hH) ((inv_vis g _ _).mpr (inv_le g s _ hI h0)) ha)
  cases h with
  | over => exact hI
  | loop r _ hr => exact excl_of_ran hH hI hr
  | wait n ph dir uid tag wait => exact inv_le g s _ hI ((le_reportOutcome g s w n ph uid wait out).trans (le_setWd _ _ _))
  | created n dir uid tag wait sc _ hs => exact inv_startTest g sc n w .main dir (inv_le g s sc hI (le_of_ended hs))
  | stuck n ph dir uid tag wait sc ok s1 e what _ hs _ ha => exact inv_le g _ _ (back hs ha) (le_setWd _ _ _)
  | back n ph dir uid tag wait sc ok s1 e f r _ hs _ ha _ hr => exact excl_of_ran hH (back hs ha) hr

/-- one scheduler step: worker `w` runs from its suspension point to the next one -/
theorem inv_resume (g : Graph) (s : State) (w : Nat) (out : Outcome) (fuel : Nat) (hH : Homog g) (hI : Inv g s) :
    Inv g (resume g s w out fuel).1 :=
  excl_of_resumed hH hI (resume_resumed g s w out fuel)

theorem started_initState (g : Graph) (ncls : Nat) (store : List (String × List (String × String))) (hidden : List Nat)
    (i : Nat) : ((initState g ncls store hidden).nd i).started = none := by
  unfold initState State.nd
  simp only [List.getD_eq_getElem?_getD, List.getElem?_map]
  cases g.nodes[i]? <;> rfl

theorem sharedStarted_initState (g : Graph) (ncls : Nat) (store : List (String × List (String × String)))
    (hidden : List Nat) (n : Nat) : sharedStarted g (initState g ncls store hidden) n = [] := by
  unfold sharedStarted
  have : (g.copies n).filterMap (fun i => ((initState g ncls store hidden).nd i).started) = [] := by
    simp [List.filterMap_eq_nil_iff, started_initState]
  rw [this]; rfl

theorem inv_initState (g : Graph) (ncls : Nat) (store : List (String × List (String × String))) (hidden : List Nat) :
    Inv g (initState g ncls store hidden) := by
  intro n _ _ w
  unfold scopedCount
  rw [sharedStarted_initState]
  exact Nat.zero_le _

/-- the states the scheduler can produce: an initial state (with any set of not yet parsed `hidden` nodes; `[]` for a
pre-parsed graph) followed by any finite sequence of `resume` steps of any workers with any outcomes (and any fuel) -/
inductive Reachable (g : Graph) (ncls : Nat) (store : List (String × List (String × String))) : State → Prop
  | init (hidden : List Nat) : Reachable g ncls store (initState g ncls store hidden)
  | step (s : State) (w : Nat) (out : Outcome) (fuel : Nat) :
      Reachable g ncls store s → Reachable g ncls store (resume g s w out fuel).1

/-- running a schedule: a list of (worker, outcome of the awaited test) -/
def runSchedule (g : Graph) (fuel : Nat) (s : State) (l : List (Nat × Outcome)) : State :=
  l.foldl (fun s p => (resume g s p.1 p.2 fuel).1) s

theorem reachable_runSchedule (g : Graph) (ncls : Nat) (store : List (String × List (String × String))) (fuel : Nat)
    (l : List (Nat × Outcome)) (s : State) (h : Reachable g ncls store s) : Reachable g ncls store (runSchedule g fuel s l) := by
  induction l generalizing s with
  | nil => exact h
  | cons p l ih => exact ih _ (Reachable.step s p.1 p.2 fuel h)

/-- no copy has been bumped (no bounce outlasted the budget of the node it waited for) -/
def NoBump (s : State) : Prop := ∀ i, (s.nd i).bump = 0

/-- the threshold of every copy can only grow: `max_concurrent_tries` is configured or `max_tries ≤ 1` -/
def MonoLimits (g : Graph) : Prop :=
  ∀ n, n < g.nodes.length → (g.node n).mct.isSome = true ∨ (g.node n).maxTries.getD 1 ≤ 1

instance (g : Graph) : Decidable (MonoLimits g) := by unfold MonoLimits; infer_instance

/-- the maximum over the copies of class `c` of the thresholds currently in force -/
def classLimitNow (g : Graph) (s : State) (c : Nat) : Nat :=
  ((g.classNodes c).map (limit g s)).foldr max 0

theorem peakLimit_noBump (g : Graph) (s : State) (n : Nat) (h : (s.nd n).bump = 0) : peakLimit g s n = limit0 g n := by
  unfold peakLimit
  rw [limit_noBump g s n h, Nat.max_self]

theorem peakLimit_mono_limits (g : Graph) (s : State) (n : Nat)
    (h : (g.node n).mct.isSome = true ∨ (g.node n).maxTries.getD 1 ≤ 1) : peakLimit g s n = limit g s n := by
  unfold peakLimit
  rcases Nat.eq_zero_or_pos (s.nd n).bump with h0 | h0
  · rw [limit_noBump g s n h0, Nat.max_self]
  · -- the first bump does not lower the threshold: `mct.getD (maxTries.getD 1) ≤ mct.getD 0 + bump`
    rw [limit_bumped g s n h0]
    apply Nat.max_eq_right
    apply toNat_max_one_mono
    cases hm : (g.node n).mct with
    | some m => simp only [Option.getD_some]; omega
    | none =>
      simp only [hm, Option.isSome_none, Bool.false_eq_true, false_or] at h
      simp only [Option.getD_none]; omega

theorem classLimit_noBump_le (g : Graph) (s : State) (c B : Nat) (hb : NoBump s)
    (h : ∀ m, m < g.nodes.length → (g.node m).cls = c → limit0 g m ≤ B) : classLimit g s c ≤ B := by
  unfold classLimit
  apply foldr_max_le
  intro m hm
  rw [mem_classNodes] at hm
  rw [peakLimit_noBump g s m (hb m)]
  exact h m hm.1 hm.2

theorem classLimit_eq_now (g : Graph) (s : State) (c : Nat) (h : MonoLimits g) : classLimit g s c = classLimitNow g s c := by
  unfold classLimit classLimitNow
  congr 1
  apply List.map_congr_left
  intro m hm
  rw [mem_classNodes] at hm
  exact peakLimit_mono_limits g s m (h m hm.1)

theorem inScopeOf_self (sh : Shape) (g : Graph) (w : Nat) : inScopeOf sh g w w = true := by
  cases sh <;> simp [inScopeOf]

/-- a count of at most one means: two marks of the class held within one scope belong to the same worker -/
theorem same_worker_of_count_le_one (g : Graph) (s : State) (n i j v v' : Nat)
    (h : scopedCount g s n v ≤ 1) (hi : i ∈ g.copies n) (hj : j ∈ g.copies n)
    (hv : (s.nd i).started = some v) (hv' : (s.nd j).started = some v')
    (hsc : inScopeOf (g.node n).shape g v v' = true) : v = v' := by
  apply Classical.byContradiction
  intro hne
  have : [v, v'].length ≤ ((sharedStarted g s n).filter (inScopeOf (g.node n).shape g v)).length := by
    apply length_le_of_nodup_subset
    · simp [hne]
    · intro x hx
      simp only [List.mem_cons, List.not_mem_nil, or_false] at hx
      rw [List.mem_filter]
      rcases hx with rfl | rfl
      · exact ⟨(mem_sharedStarted g s n x).mpr ⟨i, hi, hv⟩, inScopeOf_self _ g x⟩
      · exact ⟨(mem_sharedStarted g s n x).mpr ⟨j, hj, hv'⟩, hsc⟩
  unfold scopedCount at h
  simp only [List.length_cons, List.length_nil] at this
  omega

end I2N.Trav
