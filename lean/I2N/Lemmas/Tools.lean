import I2N.Model.Tools
/-!
Lemmas about the star traversal of the manual steps (C20): an inductive invariant of `micro` under the star run
policy, lifted over every schedule.
-/
namespace I2N.Tools

/-- worker `w` is the one node `n` was parsed for -/
def owns (g : Star) (w n : Nat) : Prop := ∃ nd, g.nodes[n]? = some nd ∧ nd.owner = w

/-- Well-formed names: the substring test `worker.id in node.params["name"]` coincides with ownership
(every node name contains the id of exactly one worker of the graph, its own). -/
def NamesWF (g : Star) : Prop := ∀ w n, relevant g w n = true ↔ owns g w n

/-- number of executions by worker `w` of nodes of class `k` (bridged form) -/
def cnt (g : Star) (s : SState) (w : Nat) (k : String) : Nat :=
  (s.execs.filter (fun e => e.1 == w && keyOf g e.2 == k)).length

/-- the class is dropped by the worker or the worker is running one of its nodes -/
def busy (g : Star) (s : SState) (w : Nat) (k : String) : Bool :=
  s.dropped k w || (match s.pc w with | some n => keyOf g n == k | none => false)

/-- the class of a node a worker has finished is dropped for that worker -/
def FinDropped (g : Star) (s : SState) : Prop := ∀ n w, s.finished n = some w → s.dropped (keyOf g n) w = true

structure Inv (g : Star) (s : SState) : Prop where
  execOwned : ∀ e ∈ s.execs, owns g e.1 e.2
  count : ∀ w k, cnt g s w k = if busy g s w k then 1 else 0
  finDropped : FinDropped g s

theorem finDropped_init (g : Star) : FinDropped g {} := by
  intro n w h; simp at h

theorem inv_init (g : Star) : Inv g {} := by
  refine ⟨?_, ?_, finDropped_init g⟩
  · intro e he; simp at he
  · intro w k; simp [cnt, busy]

theorem minByRank_mem (g : Star) (l : List Nat) (n : Nat) (h : minByRank g l = some n) : n ∈ l := by
  revert h
  fun_induction minByRank g l with
  | case1 => nofun
  | case2 a rest _ _ => intro h; cases h; exact List.mem_cons_self
  | case3 a rest m hr _ ih => intro h; cases h; exact List.mem_cons_of_mem _ (ih hr)
  | case4 a rest m _ _ _ => intro h; cases h; exact List.mem_cons_self

theorem minByRank_none (g : Star) (l : List Nat) (h : minByRank g l = none) : l = [] := by
  revert h
  fun_cases minByRank g l
  case case1 => intro _; rfl
  all_goals nofun

theorem mem_candidates {g : Star} {s : SState} {w n : Nat} :
    n ∈ candidates g s w ↔ n < g.nodes.length ∧ relevant g w n = true ∧ s.dropped (keyOf g n) w = false := by
  simp [candidates, List.mem_filter]

theorem relevant_lt {g : Star} {w n : Nat} (h : relevant g w n = true) : w < g.workers.length ∧ n < g.nodes.length := by
  unfold relevant at h
  split at h
  · next hw hn => exact ⟨(List.getElem?_eq_some_iff.mp hw).1, (List.getElem?_eq_some_iff.mp hn).1⟩
  · cases h

theorem pickChild_mem {g : Star} {s : SState} {w n : Nat} (h : pickChild g s w = some n) : n ∈ candidates g s w :=
  minByRank_mem g _ n h

theorem upd_same {α : Type} (f : Nat → α) (k : Nat) (v : α) : upd f k v k = v := by simp [upd]
theorem upd_other {α : Type} (f : Nat → α) (k x : Nat) (v : α) (h : x ≠ k) : upd f k v x = f x := by simp [upd, h]

/-- under the star policy the end of a visit always drops the node's class -/
theorem finish_star (g : Star) (s : SState) (n w : Nat) :
    finish g .star s n w =
      { finished := upd s.finished n (some w), pc := upd s.pc w none,
        dropped := fun k w' => (k == keyOf g n && w' == w) || s.dropped k w', execs := s.execs } := by
  simp [finish, runFlag, upd_same]

theorem finDropped_finish {g : Star} {s : SState} (h : FinDropped g s) (n w : Nat) :
    FinDropped g (finish g .star s n w) := by
  rw [finish_star]
  intro n' w' hf
  by_cases hn : n' = n
  · subst hn
    simp [upd_same] at hf
    subst hf
    simp
  · simp only [upd_other _ _ _ _ hn] at hf
    simp [h n' w' hf]

/-- a candidate is never one the worker has finished already: the run flag of the star policy is set for it -/
theorem runFlag_of_candidate {g : Star} {s : SState} (h : FinDropped g s) {n w : Nat} (hc : n ∈ candidates g s w) :
    runFlag .star s n w = true := by
  simp only [runFlag, bne_iff_ne, ne_eq]
  intro hf
  have := h n w hf
  rw [(mem_candidates.mp hc).2.2] at this
  cases this

theorem finDropped_micro {g : Star} {s : SState} (h : FinDropped g s) (w : Nat) : FinDropped g (micro g .star s w) := by
  fun_cases micro g .star s w
  · exact finDropped_finish h _ w
  · exact h
  · exact h
  · exact finDropped_finish h _ w

theorem inv_finish {g : Star} {s : SState} {n w : Nat} (h : Inv g s) (hpc : s.pc w = some n) :
    Inv g (finish g .star s n w) := by
  refine ⟨?_, ?_, finDropped_finish h.finDropped n w⟩ <;> rw [finish_star]
  · exact h.execOwned
  · intro w' k
    have hc := h.count w' k
    simp only [cnt] at hc ⊢
    rw [hc]
    by_cases hw : w' = w
    · subst hw
      simp only [busy, upd_same, hpc, beq_self_eq_true, Bool.and_true, Bool.or_false]
      by_cases hk : keyOf g n = k
      · simp [hk]
      · have : (k == keyOf g n) = false := by simp; exact fun h => hk h.symm
        simp [this, hk]
    · simp only [busy, upd_other _ _ _ _ hw]
      have : (w' == w) = false := by simp [hw]
      simp [this]

theorem inv_start {g : Star} {s : SState} {n w : Nat} (hwf : NamesWF g) (h : Inv g s) (hpc : s.pc w = none)
    (hc : n ∈ candidates g s w) :
    Inv g { s with pc := upd s.pc w (some n), execs := s.execs ++ [(w, n)] } := by
  obtain ⟨_, hrel, hdrop⟩ := mem_candidates.mp hc
  constructor
  · intro e he
    simp only [List.mem_append, List.mem_singleton] at he
    rcases he with he | he
    · exact h.execOwned e he
    · subst he; exact (hwf w n).mp hrel
  · intro w' k
    have hcnt := h.count w' k
    simp only [cnt, List.filter_append, List.length_append] at hcnt ⊢
    rw [hcnt]
    by_cases hw : w' = w
    · subst hw
      simp only [busy, upd_same, hpc, Bool.or_false]
      by_cases hk : keyOf g n = k
      · subst hk
        simp [hdrop]
      · simp [hk]
    · have h1 : (w == w') = false := by simp; exact fun h => hw h.symm
      simp [busy, upd_other _ _ _ _ hw, h1]
  · exact h.finDropped

theorem inv_micro {g : Star} {s : SState} (hwf : NamesWF g) (h : Inv g s) (w : Nat) : Inv g (micro g .star s w) := by
  fun_cases micro g .star s w with
  | case1 n hpc => exact inv_finish h hpc
  | case2 => exact h
  | case3 hpc n hp _ => exact inv_start hwf h hpc (pickChild_mem hp)
  | case4 _ n hp hr => exact absurd (runFlag_of_candidate h.finDropped (pickChild_mem hp)) hr

/-- what every slice preserves holds after every schedule -/
theorem runSched_preserves {g : Star} {p : Policy} {P : SState → Prop} (hstep : ∀ s w, P s → P (micro g p s w)) :
    ∀ (sched : List Nat) (s : SState), P s → P (runSched g p sched s)
  | [], _, h => h
  | w :: rest, s, h => runSched_preserves hstep rest _ (hstep s w h)

theorem inv_runSched {g : Star} (hwf : NamesWF g) (sched : List Nat) (s : SState) (h : Inv g s) :
    Inv g (runSched g .star sched s) :=
  runSched_preserves (P := Inv g) (fun _ w h => inv_micro hwf h w) sched s h

/-- when every worker is done, every class of every worker is dropped -/
theorem done_dropped {g : Star} {s : SState} (hwf : NamesWF g) (hd : allDone g s = true) {w n : Nat}
    (ho : owns g w n) : s.dropped (keyOf g n) w = true := by
  have hrel : relevant g w n = true := (hwf w n).mpr ho
  obtain ⟨hw, hn⟩ := relevant_lt hrel
  have hwd : workerDone g s w = true := by
    simp only [allDone, List.all_eq_true, List.mem_range] at hd
    exact hd w hw
  simp only [workerDone, Bool.and_eq_true, Option.isNone_iff_eq_none] at hwd
  have hcand : candidates g s w = [] := minByRank_none g _ hwd.2
  cases hdr : s.dropped (keyOf g n) w with
  | true => rfl
  | false =>
    have : n ∈ candidates g s w := mem_candidates.mpr ⟨hn, hrel, hdr⟩
    rw [hcand] at this
    simp at this

end I2N.Tools
