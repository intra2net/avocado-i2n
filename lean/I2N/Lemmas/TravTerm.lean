import I2N.Lemmas.TravProgress
import I2N.Lemmas.TravResults
/-!
Termination of the worker loop between two suspension points (property C02).

`runLoop g w fuel s evs` iterates `iterL` until an iteration suspends, exits or raises; the fuel only bounds the
number of consecutive `.cont` iterations.  This file shows that this number is bounded by a function of the static
graph (`bound g`), so that the `"fuel"` branch of `runLoop` is dead for `fuel ≥ bound g`.

Measure.  A `.cont` iteration either *pushes* a node picked among the not yet dropped parents/children of the last
node of the path, or *pops* the last node after dropping its incoming edge for the worker.  With `keys` the edge keys
(register, class, class) of the static graph, `m k` the number of path positions whose incoming edge has key `k` and
`C = 2·|nodes| + 3` (more than any path is long, see `Term.Walk`):

    Φ = 2 · Σ_{k ∈ keys, k not dropped for w} (C − m k)  +  |path|

a push lowers one summand by one (the picked key is not dropped) and lengthens the path by one; a pop shortens the path
and drops the key of the popped position, so no summand grows.

Hypotheses: the edges are recorded at both ends (`EdgeSym`), the graph is acyclic (`Ranked`: a rank that decreases
towards the parents), the registers exist for every class (`ClsOK`), every node has a dynamic record (`nodes.length`),
no flat node is unexplored (`Explored`; otherwise the "postpone the cleanup" jump to the root is a `.cont` iteration
that drops nothing — its termination rests on the pick counters, see `Lemmas/TravTermLazy.lean`), and the path has the
shape the walk gives it (`Term.Walk`: first down, then up, with strictly decreasing ranks).

Parent and child are treated as one: `nbrs g up n`, `pick g s n w up`, `addPick up`, `addDrop up` with `up = true` for the
parents' side.  The second half of the file shows that the hypotheses hold in every reachable state (`TInv`, with `Loc`
saying what a scheduler step changes outside the worker's own record), that the step does not depend on the fuel beyond
`bound g`, and that a dry run ends in one block.

The ways a step can go are those of `Lemmas/TravMoves.lean` (`After`, `Iter`, `IterL`, `Ran`, `Resumed`).  Two arguments open
the step functions themselves: fuel independence compares two results of one function, which a relation that holds of
the result does not do, and the dry run has to refute the branches in which `iter` finds nothing to pick, whose tests
`Iter.lost` does not carry.

Everything lives in the namespace `I2N.Trav.Term` so that no helper name clashes with the other lemma files.
-/
namespace I2N.Trav.Term
open I2N.Trav

/- The step functions are large.  Whenever a projection of one of their results (`(iter gv s w).1`) meets the unifier it
tries to unfold them, never to any effect: a proof below that opens one does so by `fun_cases`, `unfold` or rewriting. -/
attribute [local irreducible] iter iterL traverseNode afterTraverse runLoop resumeTest resumeTest.continueAfter resume

/-! ## acyclicity -/

/-- a rank that strictly decreases from a node to its parents and is bounded by the number of nodes -/
structure Ranked (g : Graph) (d : Nat → Nat) : Prop where
  lt : ∀ n p, p ∈ (g.node n).setup.map (·.1) → d p < d n
  le : ∀ n, d n ≤ g.nodes.length

/-- is `b` a parent of `a` (the test of the loop: `previous in next.cleanup_nodes`) -/
def isUp (g : Graph) (a b : Nat) : Bool := ((g.node b).cleanup.map (·.1)).contains a

/-- rank of the path position `(a, b)` (`b` follows `a`): positions reached upwards rank by the depth of the node,
positions reached downwards rank above all of those, deeper nodes lower -/
def rk (g : Graph) (d : Nat → Nat) (a b : Nat) : Nat :=
  if isUp g a b then d b else 2 * g.nodes.length + 1 - d b

theorem rk_le (g : Graph) (d : Nat → Nat) (hr : Ranked g d) (a b : Nat) : rk g d a b ≤ 2 * g.nodes.length + 1 := by
  unfold rk
  split
  · exact Nat.le_trans (hr.le b) (by omega)
  · exact Nat.sub_le _ _

/-- the parents (`up = true`) or the children of `n` -/
def nbrs (g : Graph) (up : Bool) (n : Nat) : List Nat :=
  match up with
  | true => (g.node n).setup.map (·.1)
  | false => (g.node n).cleanup.map (·.1)

theorem nbrs_sym {g : Graph} (hsym : EdgeSym g) (up : Bool) (n c : Nat) : c ∈ nbrs g up n ↔ n ∈ nbrs g (!up) c := by
  cases up
  · exact (hsym n c).symm
  · exact hsym c n

/-- on an acyclic graph a neighbour is a parent or a child, not both -/
theorem isUp_of_nbrs (g : Graph) (d : Nat → Nat) (hr : Ranked g d) (hsym : EdgeSym g) (up : Bool) (last c : Nat)
    (hc : c ∈ nbrs g up last) : isUp g last c = up := by
  cases up
  · have hlt := hr.lt c last ((hsym last c).mpr hc)
    cases hu : isUp g last c
    · rfl
    · exfalso
      unfold isUp at hu
      simp only [List.contains_iff_mem] at hu
      have := hr.lt last c ((hsym c last).mpr hu)
      omega
  · unfold isUp; simp only [List.contains_iff_mem]; exact (hsym c last).mp hc

/-! ## the shape of a path (on the reversed path: last node first) -/

def WalkR (g : Graph) (d : Nat → Nat) : List Nat → Prop
  | b :: a :: rest =>
    Adj g a b ∧ (match rest with | [] => True | a0 :: _ => rk g d a b < rk g d a0 a) ∧ WalkR g d (a :: rest)
  | _ => True

/-- consecutive entries are joined by an edge of the full graph and the ranks of the positions strictly decrease -/
def Walk (g : Graph) (d : Nat → Nat) (p : List Nat) : Prop := WalkR g d p.reverse

theorem walkR_len (g : Graph) (d : Nat → Nat) (hr : Ranked g d) (b a : Nat) (rest : List Nat)
    (h : WalkR g d (b :: a :: rest)) : (b :: a :: rest).length + rk g d a b ≤ 2 * g.nodes.length + 3 := by
  induction rest generalizing b a with
  | nil => have := rk_le g d hr a b; simp only [List.length_cons, List.length_nil]; omega
  | cons a0 r ih =>
    obtain ⟨_, h2, h3⟩ := h
    have := ih a a0 h3
    simp only [List.length_cons] at this ⊢
    simp only at h2
    omega

theorem walk_len (g : Graph) (d : Nat → Nat) (hr : Ranked g d) (p : List Nat) (h : Walk g d p) :
    p.length ≤ 2 * g.nodes.length + 3 := by
  unfold Walk at h
  rw [← List.length_reverse]
  match hq : p.reverse, h with
  | [], _ => simp
  | [_], _ => simp
  | b :: a :: rest, h => have := walkR_len g d hr b a rest h; omega

theorem walk_root (g : Graph) (d : Nat → Nat) (r : Nat) : Walk g d [r] := by
  unfold Walk; simp [WalkR]

theorem walk_nil (g : Graph) (d : Nat → Nat) : Walk g d [] := by
  unfold Walk; simp [WalkR]

theorem rev_two (p : List Nat) (next : Nat) (hl : p.getLast? = some next) (hlen : 2 ≤ p.length) :
    ∃ rest, p.reverse = next :: p.getD (p.length - 2) 0 :: rest := by
  match hq : p.reverse with
  | [] => have : p.length = 0 := by rw [← List.length_reverse, hq]; rfl
          omega
  | [x] => have : p.length = 1 := by rw [← List.length_reverse, hq]; rfl
           omega
  | b :: a :: rest =>
    have hp : p = (rest.reverse ++ [a]) ++ [b] := by
      have := congrArg List.reverse hq
      simpa using this
    refine ⟨rest, ?_⟩
    subst hp
    simp only [List.getLast?_concat, Option.some.injEq] at hl
    subst hl
    congr 2
    simp [List.getD_eq_getElem?_getD]

theorem rev_one (p : List Nat) (h : p.length = 1) (next : Nat) (hl : p.getLast? = some next) : p = [next] := by
  match p, h with
  | [x], _ => simp at hl; rw [hl]

theorem walk_pop (g : Graph) (d : Nat → Nat) (p : List Nat) (h : Walk g d p) : Walk g d p.dropLast := by
  unfold Walk at h ⊢
  rw [← List.tail_reverse]
  match hq : p.reverse, h with
  | [], _ => simp [WalkR]
  | [_], _ => simp [WalkR]
  | b :: a :: rest, h => exact h.2.2

/-- a push of a neighbour of the last node: of a parent, or of a child from the root or from a node that was itself
reached downwards -/
theorem walk_push (g : Graph) (d : Nat → Nat) (hr : Ranked g d) (hsym : EdgeSym g) (p : List Nat) (last c : Nat) (up : Bool)
    (h : Walk g d p) (hl : p.getLast? = some last) (hc : c ∈ nbrs g up last)
    (hmode : up = false → p.length = 1 ∨ isUp g (p.getD (p.length - 2) 0) last = false) : Walk g d (p ++ [c]) := by
  have hup := isUp_of_nbrs g d hr hsym up last c hc
  have hadj : Adj g last c := by
    have := (nbrs_sym hsym up last c).mp hc
    cases up
    · exact Or.inl this
    · exact Or.inr this
  have hdn : up = false → d last < d c := fun h => by subst h; exact hr.lt c last ((hsym last c).mpr hc)
  have hupw : up = true → d c < d last := fun h => by subst h; exact hr.lt last c hc
  have hle := hr.le c
  unfold Walk at h ⊢
  rw [List.reverse_append, List.reverse_singleton, List.singleton_append]
  obtain ⟨tl, hq⟩ : ∃ tl, p.reverse = last :: tl := by
    rw [List.getLast?_eq_head?_reverse] at hl
    cases hq : p.reverse with
    | nil => rw [hq] at hl; cases hl
    | cons b t => rw [hq] at hl; cases hl; exact ⟨t, rfl⟩
  rw [hq] at h ⊢
  refine ⟨hadj, ?_, h⟩
  cases tl with
  | nil => trivial
  | cons a rest =>
    show rk g d last c < rk g d a last
    have hleb := hr.le last
    unfold rk
    rw [hup]
    cases up
    · -- downwards: the last node was reached downwards as well, and deeper nodes rank lower
      have hlen : 2 ≤ p.length := by
        have := congrArg List.length hq; simp at this; omega
      obtain ⟨rest', hr2⟩ := rev_two p last hl hlen
      rw [hq] at hr2
      simp only [List.cons.injEq, true_and] at hr2
      have hm : isUp g a last = false := by
        rcases hmode rfl with h1 | h1
        · omega
        · rw [hr2.1]; exact h1
      have := hdn rfl
      simp only [hm, Bool.false_eq_true, if_false]
      omega
    · -- upwards: the depth falls, and it is below every rank of a position reached downwards
      have := hupw rfl
      simp only [if_true]
      split <;> omega

/-! ## edge keys, the measure -/

/-- (register: `true` = `dropped_setup`, `false` = `dropped_cleanup`; class owning the register; class dropped) -/
abbrev Key := Bool × Nat × Nat

/-- the key of the path position `(a, b)`: the edge that is dropped when `b` is popped with `a` below it -/
def posKey (g : Graph) (a b : Nat) : Key := (isUp g a b, (g.node a).cls, (g.node b).cls)

def keysR (g : Graph) : List Nat → List Key
  | b :: a :: rest => posKey g a b :: keysR g (a :: rest)
  | _ => []

theorem keysR_length (g : Graph) (q : List Nat) : (keysR g q).length = q.length - 1 := by
  fun_induction keysR g q with
  | case1 b a rest ih => rw [List.length_cons, ih]; rfl
  | case2 q h =>
    match q with
    | [] => rfl
    | [_] => rfl
    | b :: a :: rest => exact absurd rfl (h b a rest)

/-- has worker `w` dropped the edge with key `k` -/
def dropped (s : State) (w : Nat) (k : Key) : Bool :=
  (regWorkers (if k.1 then (s.cr k.2.1).droppedSetup else (s.cr k.2.1).droppedCleanup) (some k.2.2)).contains w

/-- all edge keys of the static graph -/
def allKeys (g : Graph) : List Key :=
  (List.range g.nodes.length).flatMap (fun n =>
    (g.node n).setup.map (fun e => (true, (g.node n).cls, (g.node e.1).cls)) ++
    (g.node n).cleanup.map (fun e => (false, (g.node n).cls, (g.node e.1).cls)))

/-- the weighted number of keys still to drop -/
def wsum (C : Nat) (D : Key → Bool) (ks : List Key) : List Key → Nat
  | [] => 0
  | k :: rest => (if D k then 0 else C - ks.count k) + wsum C D ks rest

theorem wsum_mono {C : Nat} {D D' : Key → Bool} {ks ks' all : List Key}
    (h : ∀ x ∈ all, (if D' x then 0 else C - ks'.count x) ≤ (if D x then 0 else C - ks.count x)) :
    wsum C D' ks' all ≤ wsum C D ks all := by
  induction all with
  | nil => exact Nat.le_refl 0
  | cons x rest ih => exact Nat.add_le_add (h x List.mem_cons_self) (ih (fun y hy => h y (List.mem_cons_of_mem _ hy)))

theorem wsum_le (C : Nat) (D : Key → Bool) (ks all : List Key) : wsum C D ks all ≤ C * all.length := by
  induction all with
  | nil => exact Nat.le_refl 0
  | cons k rest ih =>
    rw [List.length_cons, Nat.mul_succ, Nat.add_comm]
    refine Nat.add_le_add ?_ ih
    split
    · exact Nat.zero_le C
    · exact Nat.sub_le _ _

theorem wsum_push_le (C : Nat) (D : Key → Bool) (ks all : List Key) (k : Key) :
    wsum C D (k :: ks) all ≤ wsum C D ks all :=
  wsum_mono (fun x _ => by
    split
    · exact Nat.le_refl 0
    · exact Nat.sub_le_sub_left List.count_le_count_cons C)

theorem wsum_pop (C : Nat) (D D' : Key → Bool) (ks all : List Key) (k : Key) (hmono : ∀ x, D x = true → D' x = true)
    (hk : D' k = true) : wsum C D' ks all ≤ wsum C D (k :: ks) all :=
  wsum_mono (fun x _ => by
    cases hx' : D' x
    · -- `x` is not dropped afterwards: not before either, and it is not the popped key
      have hx : D x = false := by
        cases h : D x
        · rfl
        · rw [hmono x h] at hx'; cases hx'
      have hne : (k == x) = false := beq_false_of_ne (fun e => by rw [e, hx'] at hk; cases hk)
      rw [hx, List.count_cons, hne]; exact Nat.le_refl _
    · exact Nat.zero_le _)

theorem wsum_push (C : Nat) (D : Key → Bool) (ks all : List Key) (k : Key) (hk : k ∈ all) (hD : D k = false)
    (hC : ks.length < C) : wsum C D (k :: ks) all + 1 ≤ wsum C D ks all := by
  induction all with
  | nil => cases hk
  | cons x rest ih =>
    by_cases hx : x = k
    · -- the summand of the pushed key falls by one, as the path is shorter than `C`
      subst hx
      have h3 : C - (x :: ks).count x + 1 ≤ C - ks.count x := by
        have : ks.count x ≤ ks.length := List.count_le_length
        rw [List.count_cons_self]; omega
      show (if D x then 0 else _) + _ + 1 ≤ (if D x then 0 else _) + _
      rw [hD, Nat.add_right_comm]
      exact Nat.add_le_add h3 (wsum_push_le C D ks rest x)
    · exact Nat.add_assoc _ _ _ ▸ Nat.add_le_add (wsum_push_le C D ks [x] k) (ih ((List.mem_cons.mp hk).resolve_left (fun e => hx e.symm)))
/-- more than any path of the walk is long -/
def cap (g : Graph) : Nat := 2 * g.nodes.length + 3

/-- the measure of worker `w` in state `s` -/
def phi (g : Graph) (s : State) (w : Nat) : Nat :=
  2 * wsum (cap g) (dropped s w) (keysR g (s.wd w).path.reverse) (allKeys g) + (s.wd w).path.length

/-- the explicit bound on the number of consecutive iterations without suspension -/
def bound (g : Graph) : Nat := 2 * (cap g * (allKeys g).length) + cap g + 1

theorem phi_lt_bound (g : Graph) (d : Nat → Nat) (hr : Ranked g d) (s : State) (w : Nat) (h : Walk g d (s.wd w).path) :
    phi g s w < bound g := by
  unfold phi bound
  have h1 := wsum_le (cap g) (dropped s w) (keysR g (s.wd w).path.reverse) (allKeys g)
  have h2 := walk_len g d hr _ h
  unfold cap at *
  omega

/-- the measure decreases with a push along a key that is not dropped -/
theorem phi_push (g : Graph) (d : Nat → Nat) (hr : Ranked g d) (s s' : State) (w last c : Nat)
    (hwalk : Walk g d (s.wd w).path) (hl : (s.wd w).path.getLast? = some last)
    (hp : (s'.wd w).path = (s.wd w).path ++ [c]) (hD : ∀ k, dropped s' w k = dropped s w k)
    (hk : posKey g last c ∈ allKeys g) (hnd : dropped s w (posKey g last c) = false) : phi g s' w < phi g s w := by
  unfold phi
  rw [hp, List.reverse_append, List.reverse_singleton, List.singleton_append, List.length_append, List.length_singleton]
  have hfun : dropped s' w = dropped s w := funext hD
  rw [hfun]
  have hlen := walk_len g d hr _ hwalk
  rw [List.getLast?_eq_head?_reverse] at hl
  match hq : (s.wd w).path.reverse, hl with
  | x :: rest, hl =>
    simp only [List.head?_cons, Option.some.injEq] at hl; subst hl
    have hks : (keysR g (x :: rest)).length < cap g := by
      rw [keysR_length, ← hq, List.length_reverse]; unfold cap; omega
    have := wsum_push (cap g) (dropped s w) (keysR g (x :: rest)) (allKeys g) (posKey g x c) hk hnd hks
    simp only [keysR]
    omega

/-- the measure decreases with a pop that leaves the key of the popped position dropped -/
theorem phi_pop (g : Graph) (s s' : State) (w next : Nat)
    (hl : (s.wd w).path.getLast? = some next) (hlen : 2 ≤ (s.wd w).path.length)
    (hp : (s'.wd w).path = (s.wd w).path.dropLast) (hD : ∀ k, dropped s w k = true → dropped s' w k = true)
    (hk : dropped s' w (posKey g ((s.wd w).path.getD ((s.wd w).path.length - 2) 0) next) = true) :
    phi g s' w < phi g s w := by
  unfold phi
  obtain ⟨rest, hq⟩ := rev_two _ next hl hlen
  rw [hp, ← List.tail_reverse, List.length_dropLast, hq]
  simp only [List.tail_cons, keysR]
  have := wsum_pop (cap g) (dropped s w) (dropped s' w) (keysR g ((s.wd w).path.getD ((s.wd w).path.length - 2) 0 :: rest))
    (allKeys g) _ hD hk
  omega

theorem mem_regWorkers_regAdd (r : Reg) (c0 w0 c v : Nat) :
    v ∈ regWorkers (regAdd r (c0, w0)) (some c) ↔ v ∈ regWorkers r (some c) ∨ (v = w0 ∧ c = c0) :=
  I2N.Trav.mem_regWorkers_regAdd r c0 w0 c v

theorem cr_setCr_cases (s : State) (c : Nat) (f : ClassRegs → ClassRegs) (c' : Nat) :
    (s.setCr c f).cr c' = s.cr c' ∨ (c' = c ∧ (s.setCr c f).cr c' = f (s.cr c')) :=
  I2N.Trav.cr_setCr_cases s c f c'

theorem dropped_of_regs (s s' : State) (h : s'.regs = s.regs) (w : Nat) (k : Key) : dropped s' w k = dropped s w k := by
  unfold dropped State.cr; rw [h]

theorem dropped_setWd (s : State) (v : Nat) (f : WorkerD → WorkerD) (w : Nat) (k : Key) :
    dropped (s.setWd v f) w k = dropped s w k := dropped_of_regs s _ rfl w k

theorem dropped_setCr_picks (s : State) (c : Nat) (f : ClassRegs → ClassRegs)
    (hf : ∀ r, (f r).droppedSetup = r.droppedSetup ∧ (f r).droppedCleanup = r.droppedCleanup) (w : Nat) (k : Key) :
    dropped (s.setCr c f) w k = dropped s w k := by
  unfold dropped
  rcases cr_setCr_cases s c f k.2.1 with h | ⟨_, h⟩
  · rw [h]
  · rw [h, (hf _).1, (hf _).2]

/-- the register update of `pick_parent` (`up = true`: `picked_by_cleanup_nodes` of the picked parent) and of `pick_child` -/
def addPick (up : Bool) (k : Nat × Nat) (r : ClassRegs) : ClassRegs :=
  match up with
  | true => { r with pickedByCleanup := regAdd r.pickedByCleanup k }
  | false => { r with pickedBySetup := regAdd r.pickedBySetup k }

/-- the register update of `drop_parent` (`up = true`: `dropped_setup_nodes` of the child) and of `drop_child` -/
def addDrop (up : Bool) (k : Nat × Nat) (r : ClassRegs) : ClassRegs :=
  match up with
  | true => { r with droppedSetup := regAdd r.droppedSetup k }
  | false => { r with droppedCleanup := regAdd r.droppedCleanup k }

theorem dropped_addPick (s : State) (c : Nat) (up : Bool) (k : Nat × Nat) (w : Nat) (key : Key) :
    dropped (s.setCr c (addPick up k)) w key = dropped s w key :=
  dropped_setCr_picks s c _ (fun _ => by cases up <;> exact ⟨rfl, rfl⟩) w key

/-- a drop drops exactly its own key for its own worker, provided the class has registers -/
theorem dropped_addDrop (s : State) (c0 : Nat) (up : Bool) (c v w : Nat) (k : Key) :
    dropped (s.setCr c0 (addDrop up (c, v))) w k = true ↔
      dropped s w k = true ∨ (c0 < s.regs.length ∧ w = v ∧ k = (up, c0, c)) := by
  obtain ⟨b, c1, c2⟩ := k
  by_cases hc : c1 = c0 ∧ c0 < s.regs.length
  · obtain ⟨rfl, hlt⟩ := hc
    unfold dropped
    dsimp only
    rw [cr_setCr_eq s c1 _ hlt]
    cases up <;> cases b <;>
      simp only [addDrop, if_true, Bool.false_eq_true, if_false, List.contains_iff_mem, mem_regWorkers_regAdd, hlt, true_and,
        Prod.mk.injEq, reduceCtorEq, false_and, and_false, or_false]
  · have : ¬(c0 < s.regs.length ∧ w = v ∧ (b, c1, c2) = (up, c0, c)) := by
      rintro ⟨h1, _, h3⟩
      simp only [Prod.mk.injEq] at h3
      exact hc ⟨h3.2.1, h1⟩
    unfold dropped
    dsimp only
    rw [cr_setCr_of_not s c0 _ c1 hc]
    simp only [this, or_false]

theorem rel_foldl {β} (R : State → State → Prop) (hr : ∀ s, R s s) (ht : ∀ {a b c}, R a b → R b c → R a c)
    (f : State → β → State) (h : ∀ s b, R s (f s b)) (l : List β) (s : State) : R s (l.foldl f s) := by
  induction l generalizing s with
  | nil => exact hr s
  | cons a r ih => exact ht (h s a) (ih _)

theorem regs_length_dropChildren (g : Graph) (next w : Nat) (l : List (Nat × List String)) (s : State) :
    (l.foldl (fun s (p, _) => dropChild g s p next w) s).regs.length = s.regs.length := by
  apply rel_foldl (fun s s' => s'.regs.length = s.regs.length) (fun _ => rfl) (fun h1 h2 => h2.trans h1)
  intro s _
  exact regs_length_setCr s _ _

/-- the drops of `reverse`: the child is dropped, for `v`, from every parent whose class has registers -/
theorem dropped_dropChildren (g : Graph) (next v w : Nat) (k : Key) (l : List (Nat × List String)) (s : State) :
    dropped (l.foldl (fun s (p, _) => dropChild g s p next v) s) w k = true ↔
      dropped s w k = true ∨ (w = v ∧ ∃ p ∈ l.map (·.1), (g.node p).cls < s.regs.length ∧
        k = (false, (g.node p).cls, (g.node next).cls)) := by
  induction l generalizing s with
  | nil => simp
  | cons a r ih =>
    have ha : dropped (dropChild g s a.1 next v) w k = true ↔ _ := dropped_addDrop s _ false _ v w k
    simp only [List.foldl_cons, List.map_cons, List.mem_cons, exists_eq_or_imp]
    rw [ih, ha, show (dropChild g s a.1 next v).regs.length = s.regs.length from regs_length_setCr _ _ _]
    constructor
    · rintro ((h | ⟨h1, h2, h3⟩) | ⟨h2, h⟩)
      · exact Or.inl h
      · exact Or.inr ⟨h2, Or.inl ⟨h1, h3⟩⟩
      · exact Or.inr ⟨h2, Or.inr h⟩
    · rintro (h | ⟨h2, ⟨h1, h3⟩ | h⟩)
      · exact Or.inl (Or.inl h)
      · exact Or.inl (Or.inr ⟨h1, h2, h3⟩)
      · exact Or.inr ⟨h2, h⟩

/-- a piece of a step that changes dynamic node records and the store only -/
structure Fr (s s' : State) : Prop where
  workers : s'.workers = s.workers
  regs : s'.regs = s.regs
  hidden : s'.hidden = s.hidden
  incompatible : s'.incompatible = s.incompatible
  nodesLen : s'.nodes.length = s.nodes.length

theorem Fr.refl (s : State) : Fr s s := ⟨rfl, rfl, rfl, rfl, rfl⟩

theorem Fr.trans {s s1 s2 : State} (a : Fr s s1) (b : Fr s1 s2) : Fr s s2 :=
  ⟨b.workers.trans a.workers, b.regs.trans a.regs, b.hidden.trans a.hidden, b.incompatible.trans a.incompatible,
   b.nodesLen.trans a.nodesLen⟩

theorem Fr.wd {s s' : State} (a : Fr s s') (v : Nat) : s'.wd v = s.wd v := by
  unfold State.wd; rw [a.workers]

theorem Fr.cr {s s' : State} (a : Fr s s') (c : Nat) : s'.cr c = s.cr c := by
  unfold State.cr; rw [a.regs]

theorem fr_setNd (s : State) (m : Nat) (f : NodeD → NodeD) : Fr s (s.setNd m f) :=
  ⟨rfl, rfl, rfl, rfl, nodes_length_setNd s m f⟩

theorem fr_pullLocations (g : Graph) (s : State) (n : Nat) : Fr s (pullLocations g s n) := by
  obtain ⟨l, h⟩ := pullLocations_setNd g s n
  rw [h]; exact fr_setNd s n _

theorem fr_entered (g : Graph) (s : State) (w n : Nat) : Fr s (entered g s w n) :=
  (fr_setNd s n _).trans (fr_pullLocations g _ n)

theorem fr_runDecision (g : Graph) (s : State) (n v : Nat) (b : Bool) (s1 : State) (e1 : List Event)
    (h : runDecision g s n v = .ok (b, s1, e1)) : Fr s s1 := by
  rcases runDecision_state g s n v b s1 e1 h with h | h
  · rw [h]; exact Fr.refl s
  · rw [h]; exact fr_setNd s n _

theorem fr_finishTraverse (s : State) (n v : Nat) : Fr s (finishTraverse s n v) := fr_setNd s n _

theorem fr_syncStates (g : Graph) (s : State) (n w : Nat) (r : Option (List String)) : Fr s (syncStates g s n w r).1 := by
  obtain ⟨st, h⟩ := syncStates_store g s n w r
  rw [h]; exact ⟨rfl, rfl, rfl, rfl, rfl⟩

theorem fr_reverseNode (g : Graph) (s : State) (n v : Nat) (s' : State) (evs : List Event)
    (h : reverseNode g s n v = .ok (s', evs)) : Fr s s' := by
  rcases reverseNode_eq_ok h with ⟨_, h1, _⟩ | ⟨_, clean, s2, _, hsy, h1⟩ <;> rw [h1]
  · exact Fr.refl s
  · have h2 : Fr (s.setNd n (fun d => { d with started := some v }))
        (if (clean && !(g.node n).sets.isEmpty) = true then
          syncStates g (s.setNd n (fun d => { d with started := some v })) n v none
        else (s.setNd n (fun d => { d with started := some v }), [])).1 := by
      split
      · exact fr_syncStates g _ n v none
      · exact Fr.refl _
    rw [hsy] at h2
    exact (fr_setNd s n _).trans (h2.trans (fr_setNd _ n _))

/-- what stays as it is in every `.cont` iteration -/
structure Keep (s s' : State) : Prop where
  workersLen : s'.workers.length = s.workers.length
  regsLen : s'.regs.length = s.regs.length
  hidden : s'.hidden = s.hidden
  incompatible : s'.incompatible = s.incompatible
  nodesLen : s'.nodes.length = s.nodes.length

theorem Keep.refl (s : State) : Keep s s := ⟨rfl, rfl, rfl, rfl, rfl⟩

theorem Keep.trans {s s1 s2 : State} (a : Keep s s1) (b : Keep s1 s2) : Keep s s2 :=
  ⟨b.workersLen.trans a.workersLen, b.regsLen.trans a.regsLen, b.hidden.trans a.hidden,
   b.incompatible.trans a.incompatible, b.nodesLen.trans a.nodesLen⟩

theorem Fr.keep {s s' : State} (a : Fr s s') : Keep s s' :=
  ⟨by rw [a.workers], by rw [a.regs], a.hidden, a.incompatible, a.nodesLen⟩

theorem keep_setCr (s : State) (c : Nat) (f : ClassRegs → ClassRegs) : Keep s (s.setCr c f) :=
  ⟨rfl, regs_length_setCr s c f, rfl, rfl, rfl⟩

theorem keep_setWd (s : State) (w : Nat) (f : WorkerD → WorkerD) : Keep s (s.setWd w f) :=
  ⟨by simp [State.setWd], rfl, rfl, rfl, rfl⟩

theorem keep_dropChildren (g : Graph) (next w : Nat) (l : List (Nat × List String)) (s : State) :
    Keep s (l.foldl (fun s (p, _) => dropChild g s p next w) s) :=
  rel_foldl Keep Keep.refl Keep.trans _ (fun s _ => keep_setCr s _ _) l s

theorem wd_dropChildren (g : Graph) (next w v : Nat) (l : List (Nat × List String)) (s : State) :
    (l.foldl (fun s (p, _) => dropChild g s p next w) s).wd v = s.wd v := by
  apply rel_foldl (fun s s' => s'.wd v = s.wd v) (fun _ => rfl) (fun h1 h2 => h2.trans h1)
  intro _ _; rfl

/-! ## the run decision taken twice (`traverse_node` decides, then the loop asks `should_run` again) -/

/-- the worker `should_rerun` filters the results for -/
def effSt (o : Option Nat) (w : Nat) : Option Nat :=
  match o with
  | some v => some v
  | none => some w

theorem sharedFiltered_congr (g : Graph) (s s' : State) (n : Nat) (sw : Option Nat)
    (h : ∀ m, (s'.nd m).results = (s.nd m).results) : sharedFilteredResults g s' n sw = sharedFilteredResults g s n sw := by
  unfold sharedFilteredResults
  rw [sharedResults_congr g s s' n h]

theorem shouldRerun_congr (g : Graph) (s s' : State) (n w : Nat)
    (hd : (s'.nd n).rerunDisabled = (s.nd n).rerunDisabled)
    (hres : ∀ m, (s'.nd m).results = (s.nd m).results)
    (hst : effSt (s'.nd n).started w = effSt (s.nd n).started w) :
    shouldRerun g s' n w = shouldRerun g s n w := by
  have hf : ∀ sw, sharedFilteredResults g s' n sw = sharedFilteredResults g s n sw :=
    fun sw => sharedFiltered_congr g s s' n sw hres
  unfold shouldRerun
  rw [sharedResults_congr g s s' n hres, hd]
  simp only [hf]
  cases h1 : (s'.nd n).started <;> cases h2 : (s.nd n).started <;> rw [h1, h2] at hst <;> cases hst <;> rfl

theorem shouldRerun_disabled (g : Graph) (s : State) (n w : Nat) (h : (s.nd n).rerunDisabled = true) :
    shouldRerun g s n w = .ok false := by
  unfold shouldRerun
  simp only [h, if_true]

theorem isFinished_of_finished (g : Graph) (s : State) (n w : Nat) (hf : (s.nd n).finished = some w) :
    isFinished g s n w 1 = true := by
  unfold isFinished
  split
  · rfl
  · rename_i hflat
    have hmem : w ∈ sharedFinished g s n := by
      unfold sharedFinished
      rw [mem_dedupNat, List.mem_filterMap]
      refine ⟨n, ?_, hf⟩
      unfold Graph.copies
      simp only [hflat, Bool.false_eq_true, if_false]
      exact List.mem_cons_self
    have h1 : ((1 : Int) == -1) = false := by decide
    unfold scopeCount
    cases (g.node n).shape with
    | own => simp only [List.contains_iff_mem]; exact hmem
    | swarm =>
      simp only [h1, Bool.false_eq_true, if_false, decide_eq_true_eq]
      have := List.length_pos_of_mem (List.mem_filter.mpr ⟨hmem, beq_self_eq_true _⟩ :
        w ∈ (sharedFinished g s n).filter (fun v => (g.worker v).swarm == (g.worker w).swarm))
      omega
    | global =>
      simp only [h1, Bool.false_eq_true, if_false, decide_eq_true_eq]
      have := List.length_pos_of_mem hmem
      omega

theorem results_finishTraverse (s : State) (n w m : Nat) : ((finishTraverse s n w).nd m).results = (s.nd m).results :=
  nd_setNd_proj (·.results) s n (fun d => { d with finished := some w, started := none }) (fun _ => rfl) m

theorem disabled_finishTraverse (s : State) (n w m : Nat) :
    ((finishTraverse s n w).nd m).rerunDisabled = (s.nd m).rerunDisabled :=
  nd_setNd_proj (·.rerunDisabled) s n (fun d => { d with finished := some w, started := none }) (fun _ => rfl) m

theorem started_finishTraverse (s : State) (n w : Nat) (hn : n < s.nodes.length) :
    ((finishTraverse s n w).nd n).started = none ∧ ((finishTraverse s n w).nd n).finished = some w := by
  unfold finishTraverse
  rw [nd_setNd_eq s n _ hn]
  exact ⟨rfl, rfl⟩

/-- the second decision about a copy that was entered and not run is negative again -/
theorem runDecision_again (g : Graph) (sa : State) (n w : Nat) (hn : n < sa.nodes.length)
    (hst : (sa.nd n).started = some w) (s1 : State) (evs : List Event)
    (h : runDecision g sa n w = .ok (false, s1, evs)) :
    ∃ s2 evs2, runDecision g (finishTraverse s1 n w) n w = .ok (false, s2, evs2) := by
  have hfr := fr_runDecision g sa n w false s1 evs h
  have hn1 : n < s1.nodes.length := by rw [hfr.nodesLen]; exact hn
  obtain ⟨hsF, hfF⟩ := started_finishTraverse s1 n w hn1
  -- when the first decision left the state alone, the rerun rule reads the same data the second time
  have hcong : s1 = sa → shouldRerun g (finishTraverse s1 n w) n w = shouldRerun g sa n w := by
    intro hs1
    apply shouldRerun_congr
    · rw [disabled_finishTraverse, hs1]
    · intro m; rw [results_finishTraverse, hs1]
    · rw [hsF, hst]; rfl
  have hdis : ∀ s : State, n < s.nodes.length → ((disableRerun s n).nd n).rerunDisabled = true := fun s hs => by
    unfold disableRerun; rw [nd_setNd_eq s n _ hs]
  rw [runDecision_unfold] at h ⊢
  split at h
  · rename_i hG; rw [if_pos hG]; exact ⟨_, _, rfl⟩
  rename_i hG; rw [if_neg hG]
  split at h
  · cases h
  rename_i hid; rw [if_neg hid]
  split at h
  · -- stateless: the class has results, and the rerun rule said no
    rename_i c6; rw [if_pos c6]
    obtain ⟨hs1, ⟨_, hb⟩ | hr⟩ := runDecisionStateless_ok h
    · cases hb
    · have hres : sharedResults g (finishTraverse s1 n w) n = sharedResults g sa n :=
        sharedResults_congr g sa _ n (fun m => by rw [results_finishTraverse, hs1])
      have hne : (sharedResults g sa n).isEmpty = false := by
        cases he : (sharedResults g sa n).isEmpty
        · rfl
        · unfold runDecisionStateless at h; rw [if_pos he] at h; cases h
      unfold runDecisionStateless
      rw [hres, hne, hcong hs1, hr]
      exact ⟨_, _, rfl⟩
  · -- stateful: the worker has finished the node, so no scan; reruns are off or the rule says no as before
    rename_i c6; rw [if_neg c6]
    obtain ⟨hs, hr⟩ := runDecisionStatefulCore_false h
    unfold runDecisionStateful
    rw [isFinished_of_finished g _ n w hfF]
    refine runDecisionStatefulCore_noscan _ (fun sd hsd => ?_)
    rcases hsd with rfl | rfl
    · rcases hs with hs | hs
      · rw [hcong hs, ← hs]; exact hr
      · exact shouldRerun_disabled g _ n w (by rw [disabled_finishTraverse, hs]; exact hdis sa hn)
    · exact shouldRerun_disabled g _ n w (hdis _ (by unfold finishTraverse; rw [nodes_length_setNd]; exact hn1))

/-! ## lazy expansion: no unexplored flat node -/

/-- every flat node has been unrolled for some worker (or found incompatible): the loop never postpones a cleanup -/
def Explored (g : Graph) (s : State) : Prop := unexploredNodes (vis g s) s = []

theorem vis_cls (g : Graph) (s : State) (i : Nat) : ((vis g s).node i).cls = (g.node i).cls := (sameStatic_vis g s).cls i

theorem explored_iff (g : Graph) (s : State) :
    Explored g s ↔ ∀ n, n < g.nodes.length → (g.node n).flat = true → isUnrolled (vis g s) s n none = true := by
  unfold Explored unexploredNodes
  rw [List.filter_eq_nil_iff]
  simp only [List.mem_range, (sameStatic_vis g s).len, vis_flat, Bool.and_eq_true, Bool.not_eq_true', not_and,
    Bool.not_eq_false]

theorem isUnrolled_none_mono (g : Graph) (s s' : State) (hh : ∀ x, x ∈ s'.hidden → x ∈ s.hidden)
    (hi : ∀ x, x ∈ s.incompatible → x ∈ s'.incompatible) (f : Nat)
    (h : isUnrolled (vis g s) s f none = true) : isUnrolled (vis g s') s' f none = true := by
  obtain ⟨su, cl, hv, _⟩ := vis_node g s f
  obtain ⟨su', cl', hv', _⟩ := vis_node g s' f
  have hid : ∀ c, (vis g s').nodeId c = (vis g s).nodeId c := by
    intro c
    obtain ⟨a, b, h1, _⟩ := vis_node g s c
    obtain ⟨a', b', h2, _⟩ := vis_node g s' c
    unfold Graph.nodeId; rw [h1, h2]
  have hsr : ((vis g s').node f).sharedRoot = ((vis g s).node f).sharedRoot := by rw [hv, hv']
  have hsl : ((vis g s').node f).setless = ((vis g s).node f).setless := by rw [hv, hv']
  unfold isUnrolled at h ⊢
  rw [hsr, hsl]
  by_cases hr : ((vis g s).node f).sharedRoot = true
  · simp only [hr, if_true]
  · simp only [hr, Bool.false_eq_true, if_false, Bool.or_eq_true, List.any_eq_true, Bool.not_eq_true',
      List.isEmpty_eq_false_iff_exists_mem] at h ⊢
    rcases h with ⟨x, hx, hxf⟩ | ⟨c, hc⟩
    · exact Or.inl ⟨x, hi x hx, hxf⟩
    · right
      refine ⟨c, ?_⟩
      rw [List.mem_filter] at hc ⊢
      refine ⟨?_, by rw [hid]; exact hc.2⟩
      obtain ⟨e, he, hec⟩ := List.mem_map.mp hc.1
      have h1 := ((mem_vis_edges g s f e).2).mp he
      exact List.mem_map.mpr ⟨e, ((mem_vis_edges g s' f e).2).mpr ⟨h1.1, not_hidden_mono hh _ h1.2.1,
        not_hidden_mono hh _ h1.2.2.1, not_hidden_mono hh _ h1.2.2.2⟩, hec⟩

theorem Explored.mono {g : Graph} {s s' : State} (h : Explored g s) (hh : ∀ x, x ∈ s'.hidden → x ∈ s.hidden)
    (hi : ∀ x, x ∈ s.incompatible → x ∈ s'.incompatible) : Explored g s' := by
  rw [explored_iff] at h ⊢
  intro n hn hf
  exact isUnrolled_none_mono g s s' hh hi n (h n hn hf)

theorem Explored.keep {g : Graph} {s s' : State} (h : Explored g s) (k : Keep s s') : Explored g s' :=
  h.mono (fun x hx => by rw [← k.hidden]; exact hx) (fun x hx => by rw [k.incompatible]; exact hx)

theorem reveal_spec (g : Graph) (s : State) (f w : Nat) :
    (reveal g s f w).regs = s.regs ∧ (reveal g s f w).nodes = s.nodes ∧ (reveal g s f w).workers = s.workers ∧
    (∀ x, x ∈ (reveal g s f w).hidden → x ∈ s.hidden) ∧ (∀ x, x ∈ s.incompatible → x ∈ (reveal g s f w).incompatible) := by
  fun_cases reveal g s f w
  · exact ⟨rfl, rfl, rfl, fun _ h => h, fun _ h => List.mem_append_left _ h⟩
  · exact ⟨rfl, rfl, rfl, fun _ h => (List.mem_filter.mp h).1, fun _ h => h⟩

/-- the expansion step: it records for `w` whether unexplored flat nodes exist, parses more and notes an
incompatibility; registers, node records, paths, `pc`s and the records of the other workers stay -/
theorem prepare_spec (g : Graph) (s : State) (w : Nat) :
    (prepare g s w).regs = s.regs ∧ (prepare g s w).nodes = s.nodes ∧
    (prepare g s w).workers.length = s.workers.length ∧
    (∀ v, ((prepare g s w).wd v).path = (s.wd v).path ∧ ((prepare g s w).wd v).pc = (s.wd v).pc ∧
      (v ≠ w → (prepare g s w).wd v = s.wd v)) ∧
    (w < s.workers.length → (s.wd w).path ≠ [] →
      ((prepare g s w).wd w).unexplored = !(unexploredNodes (vis g s) s).isEmpty) ∧
    (∀ x, x ∈ (prepare g s w).hidden → x ∈ s.hidden) ∧
    (∀ x, x ∈ s.incompatible → x ∈ (prepare g s w).incompatible) := by
  -- a state whose worker records are those of `s` with the flag of `w` set
  have viaFlag : ∀ (u : Bool) (s' : State), s'.workers = (s.setWd w (fun d => { d with unexplored := u })).workers →
      s'.workers.length = s.workers.length ∧
      (∀ v, (s'.wd v).path = (s.wd v).path ∧ (s'.wd v).pc = (s.wd v).pc ∧ (v ≠ w → s'.wd v = s.wd v)) ∧
      (w < s.workers.length → (s'.wd w).unexplored = u) := by
    intro u s' h
    have hwd : ∀ v, s'.wd v = (s.setWd w (fun d => { d with unexplored := u })).wd v := fun v => by unfold State.wd; rw [h]
    refine ⟨by rw [h]; simp [State.setWd], fun v => ?_, fun hw => by rw [hwd, wd_setWd_eq s w _ hw]⟩
    rw [hwd]
    exact ⟨wd_setWd_proj (·.path) s w (fun d => { d with unexplored := u }) (fun _ => rfl) v,
      wd_setWd_proj (·.pc) s w (fun d => { d with unexplored := u }) (fun _ => rfl) v, fun hv => wd_setWd_ne s w v _ hv⟩
  fun_cases prepare g s w
  case case1 hl =>
    exact ⟨rfl, rfl, rfl, fun v => ⟨rfl, rfl, fun _ => rfl⟩, fun _ hne => absurd (List.getLast?_eq_none_iff.mp hl) hne,
      fun _ h => h, fun _ h => h⟩
  case case2 gv next hl unexp sW _ =>
    obtain ⟨r1, r2, r3, r4, r5⟩ := reveal_spec g sW next w
    obtain ⟨a, b, c⟩ := viaFlag unexp _ r3
    exact ⟨r1, r2, a, b, fun hw _ => c hw, r4, r5⟩
  case case3 gv next hl unexp sW _ =>
    obtain ⟨a, b, c⟩ := viaFlag unexp sW rfl
    exact ⟨rfl, rfl, a, b, fun hw _ => c hw, fun _ h => h, fun _ h => h⟩

/-- the expansion step when nothing is unexplored: the flag read by the postponement test is off, registers, node
records and paths stay, the explored part only grows -/
theorem prepare_explored (g : Graph) (s : State) (w : Nat) (hexp : Explored g s) (hw : w < s.workers.length) :
    (prepare g s w).regs = s.regs ∧ (prepare g s w).nodes = s.nodes ∧
    (prepare g s w).workers.length = s.workers.length ∧
    (∀ v, ((prepare g s w).wd v).path = (s.wd v).path) ∧
    ((s.wd w).path ≠ [] → ((prepare g s w).wd w).unexplored = false) ∧
    Explored g (prepare g s w) := by
  obtain ⟨h1, h2, h3, h4, h5, h6, h7⟩ := prepare_spec g s w
  refine ⟨h1, h2, h3, fun v => (h4 v).1, fun hne => ?_, hexp.mono h6 h7⟩
  rw [h5 hw hne]
  unfold Explored at hexp
  rw [hexp]; rfl

theorem insertBy_length (le : Nat → Nat → Bool) (a : Nat) (l : List Nat) : (insertBy le a l).length = l.length + 1 := by
  induction l with
  | nil => rfl
  | cons b r ih =>
    unfold insertBy
    split
    · rfl
    · simp [ih]

theorem stableSort_length (le : Nat → Nat → Bool) (l : List Nat) : (stableSort le l).length = l.length := by
  induction l with
  | nil => rfl
  | cons a r ih =>
    unfold stableSort at ih ⊢
    simp only [List.foldr_cons]
    rw [insertBy_length, ih]; rfl

/-- one level of a lexicographic order on numbers -/
theorem lex_trans {a b c : Nat} {P Q R : Prop} (h1 : a < b ∨ (a = b ∧ P)) (h2 : b < c ∨ (b = c ∧ Q)) (hPQ : P → Q → R) :
    a < c ∨ (a = c ∧ R) := by
  rcases h1 with h1 | ⟨rfl, p⟩
  · rcases h2 with h2 | ⟨rfl, _⟩
    · exact Or.inl (Nat.lt_trans h1 h2)
    · exact Or.inl h1
  · rcases h2 with h2 | ⟨rfl, q⟩
    · exact Or.inl h2
    · exact Or.inr ⟨rfl, hPQ p q⟩

theorem lex_total {a b : Nat} {P Q : Prop} (h : P ∨ Q) : (a < b ∨ (a = b ∧ P)) ∨ (b < a ∨ (b = a ∧ Q)) := by
  rcases Nat.lt_trichotomy a b with h1 | rfl | h1
  · exact Or.inl (Or.inl h1)
  · exact h.imp (fun p => Or.inr ⟨rfl, p⟩) (fun q => Or.inr ⟨rfl, q⟩)
  · exact Or.inr (Or.inl h1)

/-- the three sorts of the code as one lexicographic comparison -/
theorem keyLe_iff (a b : Nat × Nat × Nat) :
    keyLe a b = true ↔ a.1 < b.1 ∨ (a.1 = b.1 ∧ (a.2.1 < b.2.1 ∨ (a.2.1 = b.2.1 ∧ a.2.2 ≤ b.2.2))) := by
  simp only [keyLe, Bool.or_eq_true, Bool.and_eq_true, decide_eq_true_eq, beq_iff_eq]

theorem keyLe_total (a b : Nat × Nat × Nat) : keyLe a b = true ∨ keyLe b a = true := by
  rw [keyLe_iff, keyLe_iff]
  exact lex_total (lex_total (Nat.le_total _ _))

theorem keyLe_trans (a b c : Nat × Nat × Nat) (h1 : keyLe a b = true) (h2 : keyLe b c = true) : keyLe a c = true := by
  rw [keyLe_iff] at *
  exact lex_trans h1 h2 (fun p q => lex_trans p q Nat.le_trans)

theorem stableSort_head_min (le : Nat → Nat → Bool) (hrefl : ∀ a, le a a = true)
    (htot : ∀ a b, le a b = true ∨ le b a = true) (htr : ∀ a b c, le a b = true → le b c = true → le a c = true)
    (l : List Nat) : ∀ h t, stableSort le l = h :: t → ∀ x, x ∈ l → le h x = true := by
  induction l with
  | nil => intro h t hs; simp [stableSort] at hs
  | cons a r ih =>
    intro h t hs x hx
    unfold stableSort at hs ih
    simp only [List.foldr_cons] at hs
    generalize hsr : List.foldr (fun a acc => insertBy le a acc) [] r = sr at hs ih
    cases sr with
    | nil =>
      simp only [insertBy, List.cons.injEq] at hs
      have hr : r = [] := by
        have := stableSort_length le r
        unfold stableSort at this
        rw [hsr] at this
        exact List.length_eq_zero_iff.mp this.symm
      rw [hr] at hx
      simp only [List.mem_singleton] at hx
      rw [← hs.1, hx]; exact hrefl a
    | cons b t' =>
      have hb : ∀ y, y ∈ r → le b y = true := ih b t' rfl
      unfold insertBy at hs
      split at hs
      · rename_i hab
        simp only [List.cons.injEq] at hs
        rw [← hs.1]
        rcases List.mem_cons.mp hx with hx | hx
        · rw [hx]; exact hrefl a
        · exact htr a b x hab (hb x hx)
      · rename_i hab
        simp only [List.cons.injEq] at hs
        rw [← hs.1]
        rcases List.mem_cons.mp hx with hx | hx
        · rw [hx]
          rcases htot a b with h1 | h1
          · exact absurd h1 hab
          · exact h1
        · exact hb x hx

theorem lt_of_nbrs_mem (g : Graph) (up : Bool) (n c : Nat) (h : c ∈ nbrs g up n) : n < g.nodes.length := by
  by_cases hn : n < g.nodes.length
  · exact hn
  · cases up <;> simp [nbrs, node_edges_of_ge g n hn] at h

theorem key_mem (g : Graph) (up : Bool) (n c : Nat) (h : c ∈ nbrs g up n) :
    (up, (g.node n).cls, (g.node c).cls) ∈ allKeys g := by
  have hn := lt_of_nbrs_mem g up n c h
  unfold allKeys
  rw [List.mem_flatMap]
  refine ⟨n, List.mem_range.mpr hn, ?_⟩
  cases up
  · obtain ⟨e, he, rfl⟩ := List.mem_map.mp h
    exact List.mem_append_right _ (List.mem_map.mpr ⟨e, he, rfl⟩)
  · obtain ⟨e, he, rfl⟩ := List.mem_map.mp h
    exact List.mem_append_left _ (List.mem_map.mpr ⟨e, he, rfl⟩)

theorem vis_nbrs_sub (g : Graph) (s : State) (up : Bool) (n c : Nat) (h : c ∈ nbrs (vis g s) up n) : c ∈ nbrs g up n := by
  cases up
  · obtain ⟨e, he, rfl⟩ := List.mem_map.mp h
    exact List.mem_map.mpr ⟨e, (((mem_vis_edges g s n e).2).mp he).1, rfl⟩
  · obtain ⟨e, he, rfl⟩ := List.mem_map.mp h
    exact List.mem_map.mpr ⟨e, (((mem_vis_edges g s n e).1).mp he).1, rfl⟩

/-- `pick_parent` (`up = true`) or `pick_child` -/
def pick (g : Graph) (s : State) (n w : Nat) (up : Bool) : Option (Nat × State) :=
  match up with
  | true => pickParent g s n w
  | false => pickChild g s n w

/-- a pick takes a relevant neighbour that is not dropped, one with a least sort key among these, and counts the pick
in the register of the picked node's class -/
theorem pick_spec (gv : Graph) (s : State) (n w : Nat) (up : Bool) (c : Nat) (s' : State)
    (h : pick gv s n w up = some (c, s')) :
    c ∈ nbrs gv up n ∧ relevant gv w c = true ∧ dropped s w (up, (gv.node n).cls, (gv.node c).cls) = false ∧
    s' = s.setCr (gv.node c).cls (addPick up ((gv.node n).cls, w)) ∧
    ∀ x, x ∈ nbrs gv up n → relevant gv w x = true → dropped s w (up, (gv.node n).cls, (gv.node x).cls) = false →
      keyLe (pickKey gv s up c) (pickKey gv s up x) = true := by
  cases up <;>
  · simp only [pick, pickChild, pickParent] at h
    split at h
    · cases h
    · rename_i d r hs
      simp only [Option.some.injEq, Prod.mk.injEq] at h
      obtain ⟨rfl, rfl⟩ := h
      have hd := head_stableSort_filter hs
      rw [Bool.and_eq_true, Bool.not_eq_true'] at hd
      refine ⟨hd.1, hd.2.1, hd.2.2, rfl, fun x hx hrel hnd => ?_⟩
      simp only [dropped, if_true, Bool.false_eq_true, if_false] at hnd
      exact stableSort_head_min (fun a b => keyLe (pickKey gv s _ a) (pickKey gv s _ b)) (fun a => by simp [keyLe])
        (fun a b => keyLe_total _ _) (fun a b c => keyLe_trans _ _ _) _ d r hs x
        (List.mem_filter.mpr ⟨hx, by rw [hrel, hnd]; rfl⟩)

theorem pick_some (g : Graph) (s : State) (n w : Nat) (up : Bool)
    (h : (match up with | true => isSetupReady g s n w | false => isCleanupReady g s n w) = false) :
    ∃ c s', pick g s n w up = some (c, s') := by
  cases up <;>
  · simp only [isSetupReady, isCleanupReady, List.all_eq_false] at h
    obtain ⟨⟨c, vms⟩, hc, hnot⟩ := h
    simp only [Bool.or_eq_true, Bool.not_eq_true', not_or, Bool.not_eq_false, Bool.not_eq_true] at hnot
    simp only [pick, pickChild, pickParent]
    split
    · rename_i hs
      have hnil := List.eq_nil_of_length_eq_zero ((stableSort_length _ _).symm.trans (congrArg List.length hs))
      exact (List.filter_eq_nil_iff.mp hnil c (List.mem_map.2 ⟨(c, vms), hc, rfl⟩) (by rw [hnot.1, hnot.2]; rfl)).elim
    · exact ⟨_, _, rfl⟩

/-! ## the moves of a `.cont` iteration -/

/-- how often nodes of class `c` were picked as a child (the `picked_by_setup_nodes` counter of the class) -/
def picks (s : State) (c : Nat) : Nat := regTotal (s.cr c).pickedBySetup

theorem picks_of_regs (s s' : State) (h : s'.regs = s.regs) (c : Nat) : picks s' c = picks s c := by
  unfold picks State.cr; rw [h]

theorem picks_setWd (s : State) (v : Nat) (f : WorkerD → WorkerD) (c : Nat) : picks (s.setWd v f) c = picks s c := rfl

theorem picks_setCr_keep (s : State) (c0 : Nat) (f : ClassRegs → ClassRegs)
    (hf : ∀ r, (f r).pickedBySetup = r.pickedBySetup) (c : Nat) : picks (s.setCr c0 f) c = picks s c := by
  unfold picks
  rcases cr_setCr_cases s c0 f c with h | ⟨_, h⟩
  · rw [h]
  · rw [h, hf]

/-- only the pick of a child counts -/
theorem picks_addPick (s : State) (c0 : Nat) (up : Bool) (k : Nat × Nat) (h : c0 < s.regs.length) (c : Nat) :
    picks (s.setCr c0 (addPick up k)) c = picks s c + (if up = false ∧ c = c0 then 1 else 0) := by
  cases up
  · unfold picks
    by_cases hc : c = c0
    · subst hc
      rw [cr_setCr_eq s c _ h]
      simp only [true_and, if_true]
      exact regTotal_regAdd _ _
    · rw [cr_setCr_of_not s c0 _ c (fun h' => hc h'.1)]
      simp only [hc, and_false, if_false, Nat.add_zero]
  · simp only [Bool.true_eq_false, false_and, if_false, Nat.add_zero]
    exact picks_setCr_keep s c0 (addPick true k) (fun _ => rfl) c

theorem picks_dropChildren (g : Graph) (next w : Nat) (l : List (Nat × List String)) (s : State) (c : Nat) :
    picks (l.foldl (fun s (p, _) => dropChild g s p next w) s) c = picks s c := by
  apply rel_foldl (fun s s' => picks s' c = picks s c) (fun _ => rfl) (fun h1 h2 => h2.trans h1)
  rintro s ⟨p, _⟩
  exact picks_setCr_keep s _ (addDrop false _) (fun _ => rfl) c

/-- what a `.cont` iteration of worker `w` does to its path, to the dropped edges and to the pick counters: the push of a
picked parent (`up = true`) or child, or the pop of the last node with the drop of the edge it was reached by -/
inductive Move (g : Graph) (w : Nat) (s s' : State) : Prop
  | push (up : Bool) (last c : Nat) :
      (s.wd w).path.getLast? = some last → (s'.wd w).path = (s.wd w).path ++ [c] →
      c ∈ nbrs g up last → dropped s w (up, (g.node last).cls, (g.node c).cls) = false →
      (up = false → (s.wd w).path.length = 1 ∨ isUp g ((s.wd w).path.getD ((s.wd w).path.length - 2) 0) last = false) →
      (∀ k, dropped s' w k = dropped s w k) → relevant g w c = true →
      (∀ c', picks s' c' = picks s c' + (if up = false ∧ c' = (g.node c).cls then 1 else 0)) → Move g w s s'
  | pop (next : Nat) :
      (s.wd w).path.getLast? = some next → 2 ≤ (s.wd w).path.length → (s'.wd w).path = (s.wd w).path.dropLast →
      (∀ k, dropped s w k = true → dropped s' w k = true) →
      dropped s' w (posKey g ((s.wd w).path.getD ((s.wd w).path.length - 2) 0) next) = true →
      (∀ k, dropped s' w k = true → dropped s w k = true ∨
        (k.1 = isUp g ((s.wd w).path.getD ((s.wd w).path.length - 2) 0) next ∧ k.2.2 = (g.node next).cls)) →
      (∀ c', picks s' c' = picks s c') → Move g w s s'

/-- the "postpone the cleanup" iteration: back to the root, nothing dropped, nothing picked -/
structure Jump (g : Graph) (w : Nat) (s s' : State) : Prop where
  len : 2 ≤ (s.wd w).path.length
  flag : (s.wd w).unexplored = true
  path : (s'.wd w).path = [g.root]
  dropped : ∀ k, dropped s' w k = dropped s w k
  picks : ∀ c, picks s' c = picks s c

/-- a move lowers the measure and keeps the shape of the path -/
theorem move_dec (g : Graph) (d : Nat → Nat) (hr : Ranked g d) (hsym : EdgeSym g) (w : Nat) (s s' : State)
    (hwalk : Walk g d (s.wd w).path) (m : Move g w s s') : phi g s' w < phi g s w ∧ Walk g d (s'.wd w).path := by
  cases m with
  | push up last c hl hp hc hnd hmode hD _ _ =>
    have hk : posKey g last c = (up, (g.node last).cls, (g.node c).cls) := by
      unfold posKey; rw [isUp_of_nbrs g d hr hsym up last c hc]
    refine ⟨phi_push g d hr s s' w last c hwalk hl hp hD (by rw [hk]; exact key_mem g up last c hc) (by rw [hk]; exact hnd), ?_⟩
    rw [hp]; exact walk_push g d hr hsym _ last c up hwalk hl hc hmode
  | pop next hl hlen hp hD hk _ _ =>
    refine ⟨phi_pop g s s' w next hl hlen hp hD hk, ?_⟩
    rw [hp]; exact walk_pop g d _ hwalk

theorem Move.of_fr {g : Graph} {w : Nat} {s sF s' : State} (a : Fr s sF) (m : Move g w sF s') : Move g w s s' := by
  have hwd : sF.wd w = s.wd w := a.wd w
  have hdr : ∀ k, dropped sF w k = dropped s w k := fun k => dropped_of_regs s sF a.regs w k
  have hpk : ∀ c, picks sF c = picks s c := picks_of_regs s sF a.regs
  cases m with
  | push up last c hl hp hc hnd hmode hD hrel hpk' =>
    rw [hwd] at hl hp hmode; rw [hdr] at hnd
    exact .push up last c hl hp hc hnd hmode (fun k => by rw [hD, hdr]) hrel (fun c' => by rw [hpk', hpk])
  | pop next hl hlen hp hD hk hnew hpk' =>
    rw [hwd] at hl hp hlen hk hnew
    exact .pop next hl hlen hp (fun k hk' => hD k (by rw [hdr]; exact hk')) hk
      (fun k hk' => by rw [← hdr]; exact hnew k hk') (fun c' => by rw [hpk', hpk])

theorem Jump.of_fr {g : Graph} {w : Nat} {s sF s' : State} (a : Fr s sF) (m : Jump g w sF s') : Jump g w s s' :=
  ⟨by rw [← a.wd w]; exact m.len, by rw [← a.wd w]; exact m.flag, m.path,
   fun k => by rw [m.dropped, dropped_of_regs s sF a.regs], fun c => by rw [m.picks, picks_of_regs s sF a.regs]⟩

/-- every class of the graph has its registers -/
def ClsOK (g : Graph) (s : State) : Prop := ∀ n, n < g.nodes.length → (g.node n).cls < s.regs.length

theorem path_popPath (s : State) (w : Nat) (hw : w < s.workers.length) : ((popPath s w).wd w).path = (s.wd w).path.dropLast := by
  unfold popPath; rw [wd_setWd_eq s w _ hw]

theorem path_pushPath (s : State) (w c : Nat) (hw : w < s.workers.length) : ((pushPath s w c).wd w).path = (s.wd w).path ++ [c] := by
  unfold pushPath; rw [wd_setWd_eq s w _ hw]

theorem path_setPc (s : State) (w : Nat) (c : Pc) (v : Nat) :
    ((s.setWd w (fun d => { d with pc := c })).wd v).path = (s.wd v).path :=
  wd_setWd_proj (·.path) s w (fun d => { d with pc := c }) (fun _ => rfl) v

theorem move_of_pick (g : Graph) (hsym : EdgeSym g) (sv s : State) (w next : Nat) (up : Bool) (c : Nat) (s3 : State)
    (hw : w < s.workers.length) (hcls : ClsOK g s) (hl : (s.wd w).path.getLast? = some next)
    (hmode : up = false →
      (s.wd w).path.length = 1 ∨ isUp g ((s.wd w).path.getD ((s.wd w).path.length - 2) 0) next = false)
    (hpk : pick (vis g sv) s next w up = some (c, s3)) :
    Move g w s (pushPath s3 w c) ∧ Keep s (pushPath s3 w c) := by
  obtain ⟨hcm, hrel, hnd, rfl, _⟩ := pick_spec _ s next w up c s3 hpk
  have hcg := vis_nbrs_sub g sv up next c hcm
  have hcN : c < g.nodes.length := lt_of_nbrs_mem g (!up) c next ((nbrs_sym hsym up next c).mp hcg)
  rw [vis_cls, vis_cls] at hnd
  rw [vis_relevant] at hrel
  refine ⟨.push up next c hl (path_pushPath _ w c hw) hcg hnd hmode (fun k => ?_) hrel (fun c' => ?_),
    (keep_setCr s _ _).trans (keep_setWd _ w _)⟩
  · unfold pushPath
    rw [dropped_setWd, dropped_addPick]
  · unfold pushPath
    rw [picks_setWd, picks_addPick s _ up _ (by rw [vis_cls]; exact hcls c hcN), vis_cls]

/-- the rest of the loop body after a node was entered and not run: a pop with the drop, or a push of a child -/
theorem cont_of_after {g : Graph} {d : Nat → Nat} (hr : Ranked g d) (hsym : EdgeSym g) {sv s sF : State}
    {w next prev : Nat} {dir : Dir} {r : Step} (a : Fr s sF) (hw : w < s.workers.length)
    (hlast : (s.wd w).path.getLast? = some next) (hlen : 2 ≤ (s.wd w).path.length)
    (hprev : prev = (s.wd w).path.getD ((s.wd w).path.length - 2) 0)
    (hcls : ClsOK g s) (hdir : prev ∈ nbrs (vis g sv) (dir == .down) next)
    {s2 : State} {evs2 : List Event} (hrd : runDecision (vis g sv) sF next w = .ok (false, s2, evs2))
    (hc : r.2.2 = .cont) (h : After (vis g sv) w next prev dir sF r) :
    (Move g w s r.1 ∨ Jump g w s r.1) ∧ Keep s r.1 := by
  -- up to the second decision node records change only: it suffices to argue from the state `s2` after it
  have f2 : Fr s s2 := a.trans (fr_runDecision _ sF next w false s2 evs2 hrd)
  suffices h' : (Move g w s2 r.1 ∨ Jump g w s2 r.1) ∧ Keep s2 r.1 from
    ⟨h'.1.imp (Move.of_fr f2) (Jump.of_fr f2), f2.keep.trans h'.2⟩
  rw [← f2.wd w] at hlast hlen hprev
  have hw2 : w < s2.workers.length := by rw [f2.workers]; exact hw
  have hcls2 : ClsOK g s2 := fun n hn => by rw [f2.regs]; exact hcls n hn
  -- the edge between `prev` and `next` in the full graph, its direction, the key of the popped position
  have hedge : ∀ up, prev ∈ nbrs (vis g sv) (!up) next → isUp g prev next = up ∧ (g.node prev).cls < s2.regs.length ∧
      posKey g ((s2.wd w).path.getD ((s2.wd w).path.length - 2) 0) next =
        (up, ((vis g sv).node prev).cls, ((vis g sv).node next).cls) := by
    intro up hmem
    have h1 := (nbrs_sym hsym (!up) next prev).mp (vis_nbrs_sub g sv (!up) next prev hmem)
    rw [Bool.not_not] at h1
    have h2 := isUp_of_nbrs g d hr hsym up prev next h1
    refine ⟨h2, hcls2 prev (lt_of_nbrs_mem g up prev next h1), ?_⟩
    rw [← hprev, vis_cls, vis_cls]
    unfold posKey; rw [h2]
  cases h with
  | up run s1 evs hup hd =>
    -- upwards: the parent is dropped from the child
    cases hrd.symm.trans hd
    subst hup
    simp only [Bool.not_false, if_true]
    obtain ⟨hup, hlt, hkey⟩ := hedge true hdir
    have hdrop : ∀ k, dropped (dropParent (vis g sv) s2 prev next w) w k = true ↔ _ :=
      fun k => dropped_addDrop s2 _ true _ w w k
    refine ⟨Or.inl (.pop next hlast hlen (path_popPath (dropParent (vis g sv) s2 prev next w) w hw2) ?_ ?_ ?_ ?_),
      (keep_setCr s2 _ _).trans (keep_setWd _ w _)⟩
    · intro k hk
      exact (hdrop k).mpr (Or.inl hk)
    · rw [hkey]
      exact (hdrop _).mpr (Or.inr ⟨by rw [vis_cls]; exact hlt, rfl, rfl⟩)
    · intro k hk
      rcases (hdrop k).mp hk with h | ⟨_, _, rfl⟩
      · exact Or.inl h
      · exact Or.inr ⟨by rw [← hprev, hup], vis_cls g sv next⟩
    · intro c'
      show picks (dropParent (vis g sv) s2 prev next w) c' = _
      exact picks_setCr_keep s2 _ (addDrop true _) (fun _ => rfl) c'
  | again s1 evs _ hd => cases hrd.symm.trans hd
  | postponed s1 evs _ hd _ _ hun =>
    cases hrd.symm.trans hd
    exact ⟨Or.inr ⟨hlen, hun, by rw [wd_setWd_eq s2 w _ hw2, vis_root], fun k => rfl, fun c' => rfl⟩, keep_setWd s2 w _⟩
  | cleaned s1 evs s3 evs3 hdn hd _ _ hrev =>
    -- downwards: the child is dropped from all its parents
    cases hrd.symm.trans hd
    subst hdn
    obtain ⟨hdown, hlt, hkey⟩ := hedge false hdir
    have f3 : Fr (dropChildren (vis g sv) s2 next w) s3 := fr_reverseNode _ _ next w s3 evs3 hrev
    have hreg : ∀ k, dropped s3 w k = dropped (dropChildren (vis g sv) s2 next w) w k := dropped_of_regs _ s3 f3.regs w
    have hdrop : ∀ k, dropped (dropChildren (vis g sv) s2 next w) w k = true ↔ _ :=
      fun k => dropped_dropChildren (vis g sv) next w w k _ s2
    have kD : Keep s2 (dropChildren (vis g sv) s2 next w) := keep_dropChildren _ next w _ s2
    have wd3 : s3.wd w = s2.wd w := (f3.wd w).trans (wd_dropChildren _ next w w _ s2)
    have hw3 : w < s3.workers.length := by rw [f3.workers, kD.workersLen]; exact hw2
    refine ⟨Or.inl (.pop next hlast hlen (by rw [path_popPath _ w hw3, wd3]) ?_ ?_ ?_ ?_),
      kD.trans (f3.keep.trans (keep_setWd _ w _))⟩
    · intro k hk
      show dropped s3 w k = true
      rw [hreg]; exact (hdrop k).mpr (Or.inl hk)
    · show dropped s3 w _ = true
      rw [hreg, hkey]
      exact (hdrop _).mpr (Or.inr ⟨rfl, prev, hdir, by rw [vis_cls]; exact hlt, rfl⟩)
    · intro k hk
      have hk' : dropped s3 w k = true := hk
      rw [hreg] at hk'
      rcases (hdrop k).mp hk' with h | ⟨_, p, _, _, rfl⟩
      · exact Or.inl h
      · exact Or.inr ⟨by rw [← hprev, hdown], vis_cls g sv next⟩
    · intro c'
      show picks s3 c' = _
      rw [picks_of_regs _ s3 f3.regs]; exact picks_dropChildren _ next w _ s2 c'
  | descend s1 evs c s3 hdn hd _ hpk =>
    cases hrd.symm.trans hd
    subst hdn
    exact (move_of_pick g hsym sv s2 w next false c s3 hw2 hcls2 hlast
      (fun _ => Or.inr (by rw [← hprev]; exact (hedge false hdir).1)) hpk).imp_left Or.inl
  | undecided | uncleaned | childless => cases hc

theorem walk_top_lt (g : Graph) (d : Nat → Nat) (p : List Nat) (next : Nat) (h : Walk g d p) (hl : p.getLast? = some next)
    (hlen : 2 ≤ p.length) : next < g.nodes.length := by
  obtain ⟨rest, hq⟩ := rev_two p next hl hlen
  unfold Walk at h
  rw [hq] at h
  rcases h.1 with h1 | h1
  · exact lt_of_nbrs_mem g true next _ h1
  · exact lt_of_nbrs_mem g false next _ h1

theorem two_le_of_last {p : List Nat} {n : Nat} (hl : p.getLast? = some n) (h1 : p.length ≠ 1) : 2 ≤ p.length := by
  cases p with
  | nil => cases hl
  | cons a t => simp only [List.length_cons] at h1 ⊢; omega

/-- one iteration that neither suspends nor ends the loop is a move or the postponement jump -/
theorem cont2_of_iter (g : Graph) (d : Nat → Nat) (hr : Ranked g d) (hsym : EdgeSym g) (s : State) (w : Nat)
    (hnl : s.nodes.length = g.nodes.length) (hcls : ClsOK g s) {r : Step}
    (hc : r.2.2 = .cont) (h : Iter (vis g s) w s r) : (Move g w s r.1 ∨ Jump g w s r.1) ∧ Keep s r.1 := by
  have hw : ∀ {next}, (s.wd w).path.getLast? = some next → w < s.workers.length := fun hl =>
    lt_of_path_ne_nil s w (by intro h; rw [h] at hl; cases hl)
  cases h with
  | fromRoot n c s1 _ hl h1 hp =>
    exact (move_of_pick g hsym s s w n false c s1 (hw hl) hcls hl (fun _ => Or.inl h1) hp).imp_left Or.inl
  | toParent n prev p s1 ha _ _ hp =>
    exact (move_of_pick g hsym s s w n true p s1 (hw ha.last) hcls ha.last (fun h => nomatch h) hp).imp_left Or.inl
  | skip n prev dir s1 evs r hv hd ha =>
    -- not run: node records change, then the second decision is negative again and the rest of the body is a move
    have hfrom : prev ∈ nbrs (vis g s) (dir == .down) n := by
      have := hv.from_
      cases dir
      · exact this
      · exact this.2
    have hn : n < s.nodes.length := by
      rw [hnl, ← (sameStatic_vis g s).len]
      exact lt_of_nbrs_mem (vis g s) _ n prev hfrom
    have fP := fr_entered (vis g s) s w n
    have hst : ((entered (vis g s) s w n).nd n).started = some w :=
      (started_pullLocations _ _ n n).trans (congrArg (·.started) (nd_setNd_eq s n _ hn))
    obtain ⟨s2, e2, hrd2⟩ := runDecision_again (vis g s) _ n w (by rw [fP.nodesLen]; exact hn) hst s1 evs hd
    exact cont_of_after (r := r) hr hsym (fP.trans ((fr_runDecision _ _ n w false s1 evs hd).trans (fr_finishTraverse s1 n w)))
      (hw hv.last) hv.last (two_le_of_last hv.last hv.long) hv.before hcls hfrom hrd2 hc ha
  | exit | lost | bounce | undecided | start | create => cases hc

theorem cont_of_iter (g : Graph) (d : Nat → Nat) (hr : Ranked g d) (hsym : EdgeSym g) (s : State) (w : Nat)
    (hnl : s.nodes.length = g.nodes.length) (hcls : ClsOK g s)
    (hun : 2 ≤ (s.wd w).path.length → (s.wd w).unexplored = false) {r : Step} (hc : r.2.2 = .cont)
    (h : Iter (vis g s) w s r) : Move g w s r.1 ∧ Keep s r.1 := by
  obtain ⟨h1, h2⟩ := cont2_of_iter g d hr hsym s w hnl hcls hc h
  rcases h1 with h1 | h1
  · exact ⟨h1, h2⟩
  · have := hun h1.len
    rw [h1.flag] at this
    cases this

/-- the hypotheses about the state under which the measure argument works (for worker `w`) -/
structure Good (g : Graph) (d : Nat → Nat) (w : Nat) (s : State) : Prop where
  nodesLen : s.nodes.length = g.nodes.length
  cls : ClsOK g s
  explored : Explored g s
  walk : Walk g d (s.wd w).path

theorem Good.keep {g : Graph} {d : Nat → Nat} {w : Nat} {s s' : State} (h : Good g d w s) (k : Keep s s')
    (hwalk : Walk g d (s'.wd w).path) : Good g d w s' :=
  ⟨k.nodesLen.trans h.nodesLen, fun n hn => by rw [k.regsLen]; exact h.cls n hn, h.explored.keep k, hwalk⟩

theorem phi_congr (g : Graph) (s s' : State) (w : Nat) (hr : s'.regs = s.regs) (hp : (s'.wd w).path = (s.wd w).path) :
    phi g s' w = phi g s w := by
  unfold phi
  rw [hp, funext (dropped_of_regs s s' hr w)]

/-- an iteration that continues starts at the root, without the expansion step, or from a longer path, with it -/
theorem cont_cases_of_iterL {g : Graph} {s : State} {w : Nat} {r : Step} (hc : r.2.2 = .cont) (h : IterL g w s r) :
    ((s.wd w).path.length ≤ 1 ∧ Iter (vis g s) w s r) ∨
    (2 ≤ (s.wd w).path.length ∧ Iter (vis g (prepare g s w)) w (prepare g s w) r) := by
  obtain ⟨s1, hp, hi⟩ := h
  cases hp with
  | stay h1 =>
    refine Or.inl ⟨h1.resolve_left (fun hready => ?_), hi⟩
    rw [← vis_root g s] at hready
    cases hi with
    | fromRoot _ _ _ hn => cases hready.symm.trans hn
    | toParent _ _ _ _ ha => cases hready.symm.trans ha.going
    | skip _ _ _ _ _ _ hv => cases hready.symm.trans hv.going
    | exit | lost | bounce | undecided | start | create => cases hc
  | expand _ h1 => exact Or.inr ⟨h1, hi⟩

theorem cont_of_iterL (g : Graph) (d : Nat → Nat) (hr : Ranked g d) (hsym : EdgeSym g) (s : State) (w : Nat)
    (hg : Good g d w s) {r : Step} (hc : r.2.2 = .cont) (h : IterL g w s r) : phi g r.1 w < phi g s w ∧ Good g d w r.1 := by
  rcases cont_cases_of_iterL hc h with ⟨hlen, hi⟩ | ⟨hlen, hi⟩
  · obtain ⟨m, k⟩ := cont_of_iter g d hr hsym s w hg.nodesLen hg.cls (fun h => by omega) hc hi
    obtain ⟨h1, h2⟩ := move_dec g d hr hsym w s _ hg.walk m
    exact ⟨h1, hg.keep k h2⟩
  · have hne : (s.wd w).path ≠ [] := by intro h; rw [h] at hlen; simp at hlen
    obtain ⟨p1, p2, p3, p4, p5, p6⟩ := prepare_explored g s w hg.explored (lt_of_path_ne_nil s w hne)
    have hg1 : Good g d w (prepare g s w) :=
      ⟨by rw [p2]; exact hg.nodesLen, fun n hn => by rw [p1]; exact hg.cls n hn, p6, by rw [p4]; exact hg.walk⟩
    obtain ⟨m, k⟩ := cont_of_iter g d hr hsym (prepare g s w) w hg1.nodesLen hg1.cls (fun _ => p5 hne) hc hi
    obtain ⟨h1, h2⟩ := move_dec g d hr hsym w (prepare g s w) _ hg1.walk m
    rw [phi_congr g s (prepare g s w) w p1 (p4 w)] at h1
    exact ⟨h1, hg1.keep k h2⟩

/-- a `.cont` iteration (with its expansion step) lowers the measure and keeps the hypotheses -/
theorem iterL_cont (g : Graph) (d : Nat → Nat) (hr : Ranked g d) (hsym : EdgeSym g) (s : State) (w : Nat)
    (hg : Good g d w s) (hc : (iterL g s w).2.2 = .cont) :
    phi g (iterL g s w).1 w < phi g s w ∧ Good g d w (iterL g s w).1 :=
  cont_of_iterL g d hr hsym s w hg hc (iterL_iterL ..)

/-- `runLoop` with the exhaustion of the fuel made explicit (`none`) -/
def runLoopO (g : Graph) (w : Nat) : Nat → State → List Event → Option (State × List Event)
  | 0, _, _ => none
  | fuel + 1, s, evs =>
    let s := s.setWd w (fun d => { d with pc := .loop })
    match iterL g s w with
    | (s, e, .cont) => runLoopO g w fuel s (evs ++ e)
    | (s, e, .suspend) => some (s, evs ++ e)
    | (s, e, .exit) => some (s, evs ++ e)
    | (s, e, .raise what) =>
      some (s.setWd w (fun d => { d with pc := .failed }), evs ++ e ++ [Event.raise (g.worker w).id what])

theorem runLoop_of_runLoopO (g : Graph) (w : Nat) (fuel : Nat) (s : State) (evs : List Event) (r : State × List Event)
    (h : runLoopO g w fuel s evs = some r) (fuel' : Nat) (hf : fuel ≤ fuel') : runLoop g w fuel' s evs = r := by
  induction fuel generalizing s evs fuel' with
  | zero => simp [runLoopO] at h
  | succ fuel ih =>
    obtain ⟨f', rfl⟩ : ∃ f', fuel' = f' + 1 := ⟨fuel' - 1, by omega⟩
    unfold runLoopO at h
    unfold runLoop
    dsimp only at h ⊢
    split at h
    · next s1 e heq => rw [heq]; exact ih s1 _ h f' (by omega)
    · next s1 e heq => rw [heq]; simpa using h
    · next s1 e heq => rw [heq]; simpa using h
    · next s1 e what heq => rw [heq]; simpa using h

theorem runLoopO_isSome_of (g : Graph) (w : Nat) (I : State → Prop) (m : State → Nat)
    (hloop : ∀ s, I s → I (s.setWd w (fun d => { d with pc := .loop })) ∧
      m (s.setWd w (fun d => { d with pc := .loop })) = m s)
    (hstep : ∀ s, I s → (iterL g s w).2.2 = .cont → m (iterL g s w).1 < m s ∧ I (iterL g s w).1)
    (fuel : Nat) (s : State) (evs : List Event) (h : I s) (hf : m s < fuel) : (runLoopO g w fuel s evs).isSome = true := by
  induction fuel generalizing s evs with
  | zero => omega
  | succ fuel ih =>
    unfold runLoopO
    dsimp only
    obtain ⟨h0, hm0⟩ := hloop s h
    split
    · next s1 e heq =>
      obtain ⟨h1, h2⟩ := hstep _ h0 (by rw [heq])
      rw [heq] at h1 h2
      exact ih s1 _ h2 (by dsimp only at h1; omega)
    all_goals rfl

theorem good_setLoop {g : Graph} {d : Nat → Nat} {w : Nat} {s : State} (hg : Good g d w s) :
    Good g d w (s.setWd w (fun d => { d with pc := .loop })) ∧
      phi g (s.setWd w (fun d => { d with pc := .loop })) w = phi g s w := by
  have hp := path_setPc s w .loop w
  exact ⟨hg.keep (keep_setWd s w _) (by rw [hp]; exact hg.walk), phi_congr g s _ w rfl hp⟩

/-- **Termination between two suspension points**: with fuel `≥ bound g` the loop of a worker in a good state ends by a
suspension, the exit or an exception of the traversal; its result is the one for any larger fuel -/
theorem runLoop_terminates (g : Graph) (d : Nat → Nat) (hr : Ranked g d) (hsym : EdgeSym g) (w : Nat) (s : State)
    (evs : List Event) (hg : Good g d w s) (fuel : Nat) (hf : bound g ≤ fuel) :
    ∃ r, runLoopO g w (bound g) s evs = some r ∧ runLoop g w fuel s evs = r := by
  have h := runLoopO_isSome_of g w (Good g d w) (phi g · w) (fun _ h => good_setLoop h)
    (fun s h hc => iterL_cont g d hr hsym s w h hc) (bound g) s evs hg (phi_lt_bound g d hr s w hg.walk)
  obtain ⟨r, hr'⟩ := Option.isSome_iff_exists.mp h
  exact ⟨r, hr', runLoop_of_runLoopO g w (bound g) s evs r hr' fuel hf⟩


/-! ## decidable forms of the static hypotheses -/

/-- length of the longest chain of parents above `n`, explored to depth `fuel` -/
def depthAux (g : Graph) : Nat → Nat → Nat
  | 0, _ => 0
  | fuel + 1, n => ((g.node n).setup.map (fun e => depthAux g fuel e.1 + 1)).foldl max 0

/-- exact on acyclic graphs -/
def depth (g : Graph) (n : Nat) : Nat := depthAux g g.nodes.length n

/-- acyclicity check: the depth strictly decreases along every setup edge -/
def rankedB (g : Graph) : Bool :=
  (List.range g.nodes.length).all (fun n => (g.node n).setup.all (fun e => decide (depth g e.1 < depth g n)))

theorem foldl_max_le (l : List Nat) (a k : Nat) (ha : a ≤ k) (h : ∀ x ∈ l, x ≤ k) : l.foldl max a ≤ k := by
  induction l generalizing a with
  | nil => exact ha
  | cons b r ih =>
    simp only [List.foldl_cons]
    exact ih _ (Nat.max_le.mpr ⟨ha, h b List.mem_cons_self⟩) (fun x hx => h x (List.mem_cons_of_mem _ hx))

theorem depthAux_le (g : Graph) (k n : Nat) : depthAux g k n ≤ k := by
  induction k generalizing n with
  | zero => simp [depthAux]
  | succ k ih =>
    unfold depthAux
    apply foldl_max_le _ _ _ (Nat.zero_le _)
    intro x hx
    obtain ⟨e, _, rfl⟩ := List.mem_map.mp hx
    have := ih e.1
    omega

theorem rankedB_sound {g : Graph} (h : rankedB g = true) : Ranked g (depth g) := by
  refine ⟨fun n p hp => ?_, fun n => depthAux_le g _ n⟩
  have hn : n < g.nodes.length := lt_of_nbrs_mem g true n p hp
  unfold rankedB at h
  rw [List.all_eq_true] at h
  have h1 := h n (List.mem_range.mpr hn)
  rw [List.all_eq_true] at h1
  obtain ⟨e, he, rfl⟩ := List.mem_map.mp hp
  simpa using h1 e he

/-- pre-parsed graphs: the only flat node is the shared root -/
def noFlatB (g : Graph) : Bool := g.nodes.all (fun nd => !nd.flat || nd.sharedRoot)

theorem explored_of_noFlat {g : Graph} (h : noFlatB g = true) (s : State) : Explored g s := by
  rw [explored_iff]
  intro n hn hf
  unfold noFlatB at h
  rw [List.all_eq_true] at h
  have hnd : g.node n = g.nodes[n] := by
    unfold Graph.node
    rw [List.getD_eq_getElem?_getD, List.getElem?_eq_getElem hn]; rfl
  have h1 := h (g.node n) (by rw [hnd]; exact List.getElem_mem hn)
  rw [hf] at h1
  simp only [Bool.not_true, Bool.false_or] at h1
  obtain ⟨su, cl, hv, _⟩ := vis_node g s n
  unfold isUnrolled
  rw [hv]
  simp only [h1, if_true]

theorem clsOK_init (g : Graph) (ncls : Nat) (store : List (String × List (String × String))) (hidden : List Nat)
    (h : ∀ n, n < g.nodes.length → (g.node n).cls < ncls) : ClsOK g (initState g ncls store hidden) := by
  intro n hn
  simp only [initState, List.length_map, List.length_range]
  exact h n hn

theorem good_at_root (g : Graph) (d : Nat → Nat) (w : Nat) (s : State) (hn : s.nodes.length = g.nodes.length)
    (hc : ClsOK g s) (he : Explored g s) (hp : (s.wd w).path = [g.root]) : Good g d w s :=
  ⟨hn, hc, he, by rw [hp]; exact walk_root g d g.root⟩



/-! ## the shape of the paths in reachable states -/

/-- a piece of a step of worker `w`: the records of the other workers and the sizes of the tables stay, the parsed
part of the graph only grows, the other workers' drops stay and `w` newly drops keys in `D` only -/
structure Loc (w : Nat) (D : Key → Prop) (s s' : State) : Prop where
  nodesLen : s'.nodes.length = s.nodes.length
  regsLen : s'.regs.length = s.regs.length
  workersLen : s'.workers.length = s.workers.length
  others : ∀ v, v ≠ w → s'.wd v = s.wd v
  hiddenSub : ∀ x, x ∈ s'.hidden → x ∈ s.hidden
  incSub : ∀ x, x ∈ s.incompatible → x ∈ s'.incompatible
  drops : ∀ u k, dropped s' u k = true → dropped s u k = true ∨ (u = w ∧ D k)

theorem Loc.refl (w : Nat) {D : Key → Prop} (s : State) : Loc w D s s :=
  ⟨rfl, rfl, rfl, fun _ _ => rfl, fun _ h => h, fun _ h => h, fun _ _ h => Or.inl h⟩

theorem Loc.trans {w : Nat} {D : Key → Prop} {s s1 s2 : State} (a : Loc w D s s1) (b : Loc w D s1 s2) : Loc w D s s2 :=
  ⟨b.nodesLen.trans a.nodesLen, b.regsLen.trans a.regsLen, b.workersLen.trans a.workersLen,
   fun v hv => (b.others v hv).trans (a.others v hv), fun x hx => a.hiddenSub x (b.hiddenSub x hx),
   fun x hx => b.incSub x (a.incSub x hx), fun u k h => by
    rcases b.drops u k h with h1 | h1
    · exact a.drops u k h1
    · exact Or.inr h1⟩

theorem loc_setWd (w : Nat) {D : Key → Prop} (s : State) (f : WorkerD → WorkerD) : Loc w D s (s.setWd w f) :=
  ⟨rfl, rfl, by simp [State.setWd], fun v hv => wd_setWd_ne s w v f hv, fun _ h => h, fun _ h => h,
   fun u k h => Or.inl (by rw [dropped_setWd] at h; exact h)⟩

/-- ... and the own record stays as well -/
structure LW (w : Nat) (D : Key → Prop) (s s' : State) : Prop extends Loc w D s s' where
  own : s'.wd w = s.wd w

theorem LW.refl (w : Nat) {D : Key → Prop} (s : State) : LW w D s s := ⟨Loc.refl w s, rfl⟩

theorem LW.trans {w : Nat} {D : Key → Prop} {s s1 s2 : State} (a : LW w D s s1) (b : LW w D s1 s2) : LW w D s s2 :=
  ⟨a.toLoc.trans b.toLoc, b.own.trans a.own⟩

theorem Fr.lw {s s' : State} (a : Fr s s') (w : Nat) {D : Key → Prop} : LW w D s s' :=
  ⟨⟨a.nodesLen, by rw [a.regs], by rw [a.workers], fun v _ => a.wd v, fun x hx => by rw [← a.hidden]; exact hx,
    fun x hx => by rw [a.incompatible]; exact hx,
    fun u k h => Or.inl (by rw [dropped_of_regs s s' a.regs] at h; exact h)⟩, a.wd w⟩

variable {D : Key → Prop}

theorem lw_setCr (w : Nat) (s : State) (c : Nat) (f : ClassRegs → ClassRegs)
    (h : ∀ u k, dropped (s.setCr c f) u k = true → dropped s u k = true ∨ (u = w ∧ D k)) : LW w D s (s.setCr c f) :=
  ⟨⟨rfl, regs_length_setCr s c f, rfl, fun _ _ => rfl, fun _ h => h, fun _ h => h, h⟩, rfl⟩

theorem lw_addPick (w : Nat) (s : State) (c : Nat) (up : Bool) (k : Nat × Nat) : LW w D s (s.setCr c (addPick up k)) :=
  lw_setCr w s c _ (fun u key h => Or.inl (by rw [dropped_addPick] at h; exact h))

theorem lw_addDrop (w : Nat) (s : State) (c0 : Nat) (up : Bool) (c : Nat) (hD : ∀ k : Key, k.2.2 = c → D k) :
    LW w D s (s.setCr c0 (addDrop up (c, w))) :=
  lw_setCr w s c0 _ (fun u k h => by
    rcases (dropped_addDrop s c0 up c w u k).mp h with h1 | ⟨_, h1, h2⟩
    · exact Or.inl h1
    · exact Or.inr ⟨h1, hD k (by rw [h2])⟩)

theorem lw_dropChildren (g : Graph) (next w : Nat) (hD : ∀ k : Key, k.2.2 = (g.node next).cls → D k)
    (l : List (Nat × List String)) (s : State) :
    LW w D s (l.foldl (fun s (p, _) => dropChild g s p next w) s) :=
  rel_foldl (LW w D) (LW.refl w) LW.trans _ (fun s _ => lw_addDrop w s _ false _ hD) l s

theorem lw_ite (w : Nat) {s a b : State} (c : Prop) [Decidable c] (ha : LW w D s a) (hb : LW w D s b) :
    LW w D s (if c then a else b) := by
  split
  · exact ha
  · exact hb

theorem lw_of_eq (w : Nat) {s s' : State} (hn : s'.nodes = s.nodes) (hr : s'.regs = s.regs) (hw : s'.workers = s.workers)
    (hh : s'.hidden = s.hidden) (hi : s'.incompatible = s.incompatible) : LW w D s s' :=
  ⟨⟨by rw [hn], by rw [hr], by rw [hw], fun v _ => by unfold State.wd; rw [hw], fun x hx => by rw [← hh]; exact hx,
    fun x hx => by rw [hi]; exact hx, fun u k h => Or.inl (by rw [dropped_of_regs s s' hr] at h; exact h)⟩,
   by unfold State.wd; rw [hw]⟩

/-- the direction recorded with a test execution matches the path: a node entered downwards was reached downwards -/
def DirOK (g : Graph) (d : WorkerD) : Prop :=
  (∀ n ph uid tag wt, d.pc = .test n ph .down uid tag wt → ∀ last, d.path.getLast? = some last →
    isUp g (d.path.getD (d.path.length - 2) 0) last = false) ∧
  (∀ n ph dir uid tag wt, d.pc = .test n ph dir uid tag wt → (g.node n).flat = false)

theorem dirOK_of_pc (g : Graph) (d : WorkerD) (h : d.pc.isTest = false) : DirOK g d :=
  ⟨fun n ph uid tag wt hp => (by rw [hp] at h; cases h), fun n ph dir uid tag wt hp => (by rw [hp] at h; cases h)⟩

theorem dirOK_of_eq (g : Graph) {d : WorkerD} {pc : Pc} (h : d.pc = pc) (hpc : pc.isTest = false) : DirOK g d :=
  dirOK_of_pc g d (by rw [h]; exact hpc)

theorem dirOK_test (g : Graph) (wd : WorkerD) (n : Nat) (ph : Phase) (dir : Dir) (uid : String) (tag wt : Nat)
    (hpc : wd.pc = .test n ph dir uid tag wt) (next : Nat) (hl : wd.path.getLast? = some next)
    (hdir : dir = .down → isUp g (wd.path.getD (wd.path.length - 2) 0) next = false)
    (hflat : (g.node n).flat = false) : DirOK g wd := by
  refine ⟨?_, ?_⟩
  · intro n' ph' uid' tag' wt' hp last hlast
    rw [hpc] at hp
    injection hp with _ _ h3
    rw [hl] at hlast
    injection hlast with h4
    rw [← h4]
    exact hdir h3
  · intro n' ph' dir' uid' tag' wt' hp
    rw [hpc] at hp
    injection hp with h1
    rw [← h1]; exact hflat

/-- a piece of a step of `w` after which its path is a walk and a recorded direction matches the path -/
structure Shaped (g : Graph) (d : Nat → Nat) (w : Nat) (D : Key → Prop) (s s' : State) : Prop where
  loc : Loc w D s s'
  walk : Walk g d (s'.wd w).path
  dir : DirOK g (s'.wd w)

theorem shaped_setWd {g : Graph} {d : Nat → Nat} {w : Nat} {s sX : State} (a : Loc w D s sX) (hw : w < sX.workers.length)
    (f : WorkerD → WorkerD) (hwalk : Walk g d (f (sX.wd w)).path) (hdir : DirOK g (f (sX.wd w))) :
    Shaped g d w D s (sX.setWd w f) :=
  ⟨a.trans (loc_setWd w sX f), by rw [wd_setWd_eq sX w f hw]; exact hwalk, by rw [wd_setWd_eq sX w f hw]; exact hdir⟩

theorem Shaped.after {g : Graph} {d : Nat → Nat} {w : Nat} {s s1 s2 : State} (h : Shaped g d w D s1 s2) (a : Loc w D s s1) :
    Shaped g d w D s s2 :=
  ⟨a.trans h.loc, h.walk, h.dir⟩

/-- after `pc := c` the own record has that `pc`, or the worker does not exist and the default record has `pc = .loop` -/
theorem pc_setWd (s : State) (w : Nat) (c : Pc) :
    ((s.setWd w (fun d => { d with pc := c })).wd w).pc = c ∨ ((s.setWd w (fun d => { d with pc := c })).wd w).pc = .loop := by
  by_cases hw : w < s.workers.length
  · left; rw [wd_setWd_eq s w _ hw]
  · right; rw [wd_default_of_ge _ w (by simp [State.setWd]; omega)]

theorem dirOK_failed (g : Graph) (s : State) (w : Nat) : DirOK g ((s.setWd w (fun d => { d with pc := .failed })).wd w) := by
  rcases pc_setWd s w .failed with h | h <;> exact dirOK_of_eq g h rfl

theorem pc_setWd_const (s : State) (w : Nat) (f : WorkerD → WorkerD) (hf : ∀ d, (f d).pc = .loop) (h : (s.wd w).pc = .loop) :
    ((s.setWd w f).wd w).pc = .loop := by
  by_cases hw : w < s.workers.length
  · rw [wd_setWd_eq s w f hw]; exact hf _
  · rw [wd_default_of_ge _ w (by simp [State.setWd]; omega)]

theorem own_same {g : Graph} {d : Nat → Nat} {w : Nat} {s sX : State} (a : LW w D s sX) (hwalk : Walk g d (s.wd w).path) :
    Loc w D s sX ∧ Walk g d (sX.wd w).path ∧ (sX.wd w).pc = (s.wd w).pc :=
  ⟨a.toLoc, by rw [a.own]; exact hwalk, by rw [a.own]⟩

/-- a piece of an iteration that leaves the `pc` of the loop alone records no direction -/
theorem Shaped.of_own {g : Graph} {d : Nat → Nat} {w : Nat} {s s' : State}
    (h : Loc w D s s' ∧ Walk g d (s'.wd w).path ∧ (s'.wd w).pc = (s.wd w).pc) (hpc : (s.wd w).pc = .loop) :
    Shaped g d w D s s' :=
  ⟨h.1, h.2.1, dirOK_of_eq g (h.2.2.trans hpc) rfl⟩

theorem own_setWd {g : Graph} {d : Nat → Nat} {w : Nat} {s sX : State} (a : LW w D s sX) (hw : w < s.workers.length)
    (f : WorkerD → WorkerD) (hwalk : Walk g d (f (s.wd w)).path) (hpc : ∀ x, (f x).pc = x.pc) :
    Loc w D s (sX.setWd w f) ∧ Walk g d ((sX.setWd w f).wd w).path ∧ ((sX.setWd w f).wd w).pc = (s.wd w).pc := by
  rw [wd_setWd_eq sX w _ (by rw [a.workersLen]; exact hw), a.own]
  exact ⟨a.toLoc.trans (loc_setWd w sX _), hwalk, hpc _⟩

theorem own_pop {g : Graph} {d : Nat → Nat} {w : Nat} {s sX : State} (a : LW w D s sX) (hw : w < s.workers.length)
    (hwalk : Walk g d (s.wd w).path) :
    Loc w D s (popPath sX w) ∧ Walk g d ((popPath sX w).wd w).path ∧ ((popPath sX w).wd w).pc = (s.wd w).pc :=
  own_setWd a hw _ (walk_pop g d _ hwalk) (fun _ => rfl)

theorem own_pick (g : Graph) (d : Nat → Nat) (hr : Ranked g d) (hsym : EdgeSym g) (sv : State) {w : Nat} {s sX : State}
    (a : LW w D s sX) (hw : w < s.workers.length) (hwalk : Walk g d (s.wd w).path) (next : Nat)
    (hl : (s.wd w).path.getLast? = some next) (up : Bool)
    (hmode : up = false →
      (s.wd w).path.length = 1 ∨ isUp g ((s.wd w).path.getD ((s.wd w).path.length - 2) 0) next = false)
    (c : Nat) (s3 : State) (hpk : pick (vis g sv) sX next w up = some (c, s3)) :
    Loc w D s (pushPath s3 w c) ∧ Walk g d ((pushPath s3 w c).wd w).path ∧ ((pushPath s3 w c).wd w).pc = (s.wd w).pc := by
  obtain ⟨hcm, _, _, rfl, _⟩ := pick_spec _ sX next w up c s3 hpk
  exact own_setWd (a.trans (lw_addPick w sX _ up _)) hw _
    (walk_push g d hr hsym _ next c up hwalk hl (vis_nbrs_sub g sv up next c hcm) hmode) (fun _ => rfl)

theorem any_of_after (g : Graph) (d : Nat → Nat) (hr : Ranked g d) (hsym : EdgeSym g) (sv sF : State)
    (w next prev : Nat) (dir : Dir) (hw : w < sF.workers.length)
    (hlast : (sF.wd w).path.getLast? = some next)
    (hprev : prev = (sF.wd w).path.getD ((sF.wd w).path.length - 2) 0)
    (hwalk : Walk g d (sF.wd w).path) (hdir : dir = .down → isUp g prev next = false)
    (hD : ∀ k : Key, k.2.2 = (g.node next).cls → D k) {r : Step} (h : After (vis g sv) w next prev dir sF r) :
    Loc w D sF r.1 ∧ Walk g d (r.1.wd w).path ∧ (r.1.wd w).pc = (sF.wd w).pc := by
  have hD' : ∀ k : Key, k.2.2 = ((vis g sv).node next).cls → D k := fun k hk => hD k (by rw [hk, vis_cls])
  have a1 : ∀ {run s1 evs}, runDecision (vis g sv) sF next w = .ok (run, s1, evs) → LW w D sF s1 :=
    fun h => (fr_runDecision _ sF next w _ _ _ h).lw w
  cases h with
  | undecided => exact own_same (LW.refl w sF) hwalk
  | up run s1 evs _ hd => exact own_pop (lw_ite w _ ((a1 hd).trans (lw_addDrop w s1 _ true _ hD')) (a1 hd)) hw hwalk
  | again s1 evs _ hd => exact own_pop (a1 hd) hw hwalk
  | postponed s1 evs _ hd =>
    exact own_setWd (a1 hd) hw _ (by rw [vis_root]; exact walk_root g d g.root) (fun _ => rfl)
  | cleaned s1 evs s3 evs3 _ hd _ _ hrev =>
    exact own_pop (((a1 hd).trans (lw_dropChildren _ next w hD' _ s1)).trans
      ((fr_reverseNode _ _ next w s3 evs3 hrev).lw w)) hw hwalk
  | uncleaned s1 evs e _ hd => exact own_same ((a1 hd).trans (lw_dropChildren _ next w hD' _ s1)) hwalk
  | descend s1 evs c s3 hdn hd _ hpk =>
    exact own_pick g d hr hsym sv (a1 hd) hw hwalk next hlast false
      (fun _ => Or.inr (by rw [← hprev]; exact hdir hdn)) c s3 hpk
  | childless s1 evs _ hd => exact own_same (a1 hd) hwalk

theorem afterTraverse_any (g : Graph) (d : Nat → Nat) (hr : Ranked g d) (hsym : EdgeSym g) (sv sF : State)
    (w next prev : Nat) (dir : Dir) (hw : w < sF.workers.length)
    (hlast : (sF.wd w).path.getLast? = some next)
    (hprev : prev = (sF.wd w).path.getD ((sF.wd w).path.length - 2) 0)
    (hwalk : Walk g d (sF.wd w).path) (hdir : dir = .down → isUp g prev next = false)
    (hD : ∀ k : Key, k.2.2 = (g.node next).cls → D k) :
    Loc w D sF (afterTraverse (vis g sv) sF w next prev dir).1 ∧
    Walk g d ((afterTraverse (vis g sv) sF w next prev dir).1.wd w).path ∧
    ((afterTraverse (vis g sv) sF w next prev dir).1.wd w).pc = (sF.wd w).pc :=
  any_of_after g d hr hsym sv sF w next prev dir hw hlast hprev hwalk hdir hD (afterTraverse_after ..)

theorem startTest_own (g : Graph) (s : State) (n w : Nat) (ph : Phase) (dir : Dir) (hw : w < s.workers.length) :
    Loc w D s (startTest g s n w ph dir).1 ∧ ((startTest g s n w ph dir).1.wd w).path = (s.wd w).path ∧
    ∃ uid tag, ((startTest g s n w ph dir).1.wd w).pc = .test n ph dir uid tag 0 := by
  obtain ⟨a, b, c, _⟩ := startTest_ok g s n w ph dir hw
  have hri : (startTest g s n w ph dir).1.regs = s.regs ∧ (startTest g s n w ph dir).1.incompatible = s.incompatible := by
    cases ph <;> exact ⟨rfl, rfl⟩
  exact ⟨⟨a.nodesLen, by rw [hri.1], a.workersLen, a.others, fun x hx => by rw [← a.hidden]; exact hx,
    fun x hx => by rw [hri.2]; exact hx,
    fun u k h => Or.inl (by rw [dropped_of_regs s _ hri.1] at h; exact h)⟩, b, c⟩

theorem startTest_any (g : Graph) (d : Nat → Nat) (gv : Graph) {w : Nat} {s sT : State} (aT : Loc w D s sT)
    (hpT : (sT.wd w).path = (s.wd w).path) (hw : w < s.workers.length) (next : Nat) (ph : Phase) (dir : Dir)
    (hlast : (s.wd w).path.getLast? = some next) (hwalk : Walk g d (s.wd w).path)
    (hdir : dir = .down → isUp g ((s.wd w).path.getD ((s.wd w).path.length - 2) 0) next = false)
    (hnf : (g.node next).flat = false) :
    Shaped g d w D s (startTest gv sT next w ph dir).1 := by
  obtain ⟨h1, h2, uid, tag, h3⟩ := startTest_own (D := D) gv sT next w ph dir (by rw [aT.workersLen]; exact hw)
  rw [hpT] at h2
  exact ⟨aT.trans h1, by rw [h2]; exact hwalk,
    dirOK_test g _ next ph dir uid tag 0 h3 next (by rw [h2]; exact hlast) (by rw [h2]; exact hdir) hnf⟩

theorem any_of_iter (g : Graph) (d : Nat → Nat) (hr : Ranked g d) (hsym : EdgeSym g) (s : State) (w : Nat)
    (hwalk : Walk g d (s.wd w).path) (hpc : (s.wd w).pc = .loop)
    (hD : ∀ next, (s.wd w).path.getLast? = some next → 2 ≤ (s.wd w).path.length →
      isCleanupReady (vis g s) s (vis g s).root w = false → ∀ k : Key, k.2.2 = (g.node next).cls → D k)
    {r : Step} (h : Iter (vis g s) w s r) : Shaped g d w D s r.1 := by
  have hw : ∀ {next}, (s.wd w).path.getLast? = some next → w < s.workers.length := fun hl =>
    lt_of_path_ne_nil s w (by intro h; rw [h] at hl; cases hl)
  -- a push keeps the pc
  have pushed : ∀ {next c s3} up, (s.wd w).path.getLast? = some next →
      (up = false → (s.wd w).path.length = 1 ∨ isUp g ((s.wd w).path.getD ((s.wd w).path.length - 2) 0) next = false) →
      pick (vis g s) s next w up = some (c, s3) → Shaped g d w D s (pushPath s3 w c) := fun up hl hmode hpk =>
    Shaped.of_own (own_pick g d hr hsym s (LW.refl w s) (hw hl) hwalk _ hl up hmode _ _ hpk) hpc
  -- a visit: entering the node and pulling the locations changes node records only; a node entered downwards was
  -- reached downwards
  have visit : ∀ {n prev dir}, Visit (vis g s) s w n prev dir → LW w D s (entered (vis g s) s w n) ∧
      (dir = .down → isUp g prev n = false) ∧ ∀ k : Key, k.2.2 = (g.node n).cls → D k := by
    intro n prev dir hv
    refine ⟨(fr_entered (vis g s) s w n).lw w, fun hdn => ?_,
      hD n hv.last (two_le_of_last hv.last hv.long) hv.going⟩
    subst hdn
    exact isUp_of_nbrs g d hr hsym false prev n ((nbrs_sym hsym true n prev).mp (vis_nbrs_sub g s true n prev hv.from_.2))
  -- a positive decision: the node is not flat, a test starts from a state with the own path unchanged
  have started : ∀ {n prev dir s1 evs}, Visit (vis g s) s w n prev dir →
      runDecision (vis g s) (entered (vis g s) s w n) n w = .ok (true, s1, evs) → ∀ sT, Loc w D s1 sT →
      (sT.wd w).path = (s1.wd w).path → ∀ ph, Shaped g d w D s (startTest (vis g s) sT n w ph dir).1 := by
    intro n prev dir s1 evs hv hd sT aT hpT ph
    obtain ⟨aP, hdn, _⟩ := visit hv
    have a1 := aP.trans ((fr_runDecision _ _ n w true s1 evs hd).lw w)
    have hnf := (runDecision_true_own (vis g s) _ n w s1 evs hd).2.1
    rw [vis_flat] at hnf
    exact startTest_any g d (vis g s) (a1.toLoc.trans aT) (by rw [hpT, a1.own]) (hw hv.last) n ph dir hv.last hwalk
      (by rw [← hv.before]; exact hdn) hnf
  cases h with
  | exit _ hp =>
    exact shaped_setWd (Loc.refl w s) (lt_of_path_ne_nil s w (by rw [hp]; simp)) _ (walk_nil g d) (dirOK_of_pc g _ rfl)
  | lost => exact Shaped.of_own (own_same (LW.refl w s) hwalk) hpc
  | fromRoot n c s1 _ hl h1 hp => exact pushed false hl (fun _ => Or.inl h1) hp
  | bounce n _ hl =>
    -- the back-off
    suffices a1 : Loc w D s _ from shaped_setWd a1 (by rw [a1.workersLen]; exact hw hl) _
      (by rw [vis_root]; exact walk_root g d g.root) (dirOK_of_pc g _ rfl)
    split
    · exact (lw_ite w _ ((fr_setNd s n _).lw w) (LW.refl w s)).toLoc.trans (loc_setWd w _ _)
    · exact loc_setWd w s _
  | toParent n prev p s1 ha _ _ hp => exact pushed true ha.last (fun h => nomatch h) hp
  | undecided n prev dir e hv => exact Shaped.of_own (own_same (visit hv).1 hwalk) hpc
  | start n prev dir s1 evs hv hd => exact started hv hd s1 (Loc.refl w s1) rfl .plain
  | create n prev dir s1 evs hv hd =>
    exact started hv hd (preset (vis g s) s1 w n) (loc_setWd w s1 _)
      (by unfold preset; refine wd_setWd_proj (·.path) s1 w _ ?_ w; intro _; rfl) .pre
  | skip n prev dir s1 evs r hv hd ha =>
    obtain ⟨aP, hdn, hDn⟩ := visit hv
    have aF := aP.trans (((fr_runDecision _ _ n w false s1 evs hd).trans (fr_finishTraverse s1 n w)).lw w)
    exact (Shaped.of_own (any_of_after (r := r) g d hr hsym s _ w n prev dir (by rw [aF.workersLen]; exact hw hv.last)
      (by rw [aF.own]; exact hv.last) (by rw [aF.own]; exact hv.before) (by rw [aF.own]; exact hwalk) hdn hDn ha)
      (by rw [aF.own]; exact hpc)).after aF.toLoc

theorem prepare_loc (g : Graph) (s : State) (w : Nat) :
    Loc w D s (prepare g s w) ∧ ((prepare g s w).wd w).path = (s.wd w).path ∧ ((prepare g s w).wd w).pc = (s.wd w).pc := by
  obtain ⟨h1, h2, h3, h4, _, h6, h7⟩ := prepare_spec g s w
  exact ⟨⟨by rw [h2], by rw [h1], h3, fun v hv => (h4 v).2.2 hv, h6, h7,
    fun u k h => Or.inl (by rw [dropped_of_regs s _ h1] at h; exact h)⟩, (h4 w).1, (h4 w).2.1⟩

theorem any_of_iterL (g : Graph) (d : Nat → Nat) (hr : Ranked g d) (hsym : EdgeSym g) (s : State) (w : Nat)
    (hwalk : Walk g d (s.wd w).path) (hpc : (s.wd w).pc = .loop)
    (hD : ∀ next, (s.wd w).path.getLast? = some next → ∀ k : Key, k.2.2 = (g.node next).cls → D k)
    {r : Step} (h : IterL g w s r) : Shaped g d w D s r.1 := by
  obtain ⟨s1, hp, hi⟩ := h
  cases hp with
  | stay => exact any_of_iter g d hr hsym s w hwalk hpc (fun next hl _ _ => hD next hl) hi
  | expand =>
    obtain ⟨a, b, c⟩ := prepare_loc (D := D) g s w
    exact (any_of_iter (D := D) g d hr hsym (prepare g s w) w (by rw [b]; exact hwalk) (by rw [c]; exact hpc)
      (fun next hl _ _ => hD next (by rw [← b]; exact hl)) hi).after a

/-- no information about the own drops -/
abbrev DT : Key → Prop := fun _ => True

theorem pc_setLoop (s : State) (w : Nat) : ((s.setWd w (fun d => { d with pc := .loop })).wd w).pc = .loop := by
  rcases pc_setWd s w .loop with h | h <;> exact h

/-- the loop keeps `I` while it continues and ends in `J` -/
theorem inv_of_ran (g : Graph) (w : Nat) (I J : State → Prop)
    (hiter : ∀ s s1 e f, I s → IterL g w (s.setWd w (fun d => { d with pc := .loop })) (s1, e, f) →
      J s1 ∧ (f = .cont → I s1))
    (hfail : ∀ s, J s → J (s.setWd w (fun d => { d with pc := .failed })))
    {fuel : Nat} {s : State} {evs : List Event} {r : State × List Event} (h : I s) (h0 : fuel = 0 → J s)
    (hr : Ran g w fuel s evs r) : J r.1 := by
  induction hr with
  | dry => exact h0 rfl
  | cont hi _ ih => exact ih ((hiter _ _ _ _ h hi).2 rfl) (fun _ => (hiter _ _ _ _ h hi).1)
  | stop hi => exact (hiter _ _ _ _ h hi).1
  | fail hi => exact hfail _ (hiter _ _ _ _ h hi).1

theorem any_of_ran (g : Graph) (d : Nat → Nat) (hr : Ranked g d) (hsym : EdgeSym g) (w : Nat) (fuel : Nat) (s : State)
    (evs : List Event) (hwalk : Walk g d (s.wd w).path) (hd : fuel = 0 → DirOK g (s.wd w)) {r : State × List Event}
    (h : Ran g w fuel s evs r) : Shaped g d w DT s r.1 := by
  refine inv_of_ran g w (fun s' => Loc w DT s s' ∧ Walk g d (s'.wd w).path) (Shaped g d w DT s) ?_ ?_
    ⟨Loc.refl w s, hwalk⟩ (fun h0 => ⟨Loc.refl w s, hwalk, hd h0⟩) h
  · intro s' s1 e f ⟨a, hw'⟩ hi
    have h := (any_of_iterL (D := DT) g d hr hsym _ w (by rw [path_setPc]; exact hw') (pc_setLoop s' w)
      (fun _ _ _ _ => trivial) hi).after (a.trans (loc_setWd w s' _))
    exact ⟨h, fun _ => ⟨h.loc, h.walk⟩⟩
  · intro s' ⟨a, hw', _⟩
    exact ⟨a.trans (loc_setWd w s' _), by rw [path_setPc]; exact hw', dirOK_failed g s' w⟩

theorem reportOutcome_lw (g : Graph) (s : State) (w n : Nat) (phase : Phase) (uid : String) (wait : Nat) (out : Outcome) :
    LW w D s (reportOutcome g s w n phase uid wait out).1 := by
  fun_cases reportOutcome g s w n phase uid wait out
  case case1 _ st _ s1 s2 => exact lw_ite w _ (lw_of_eq w rfl rfl rfl rfl rfl) (lw_of_eq w rfl rfl rfl rfl rfl)
  all_goals exact LW.refl w s

theorem recordResult_loc (s : State) (w n : Nat) (phase : Phase) (name uid : String) (tag : Nat) (st0 : String) (dur : Nat) :
    Loc w D s (recordResult s w n phase name uid tag st0 dur).1 ∧
    ((recordResult s w n phase name uid tag st0 dur).1.wd w).path = (s.wd w).path ∧
    ((recordResult s w n phase name uid tag st0 dur).1.wd w).pc = (s.wd w).pc := by
  obtain ⟨b1, _, b3, _⟩ := recordResult_frame s w n phase name uid tag st0 dur
  refine ⟨?_, (b3 w).1, (b3 w).2⟩
  have hX : ∀ (c : Bool) (jr : List (String × String × String × Nat)),
      LW w D s (if c = true then { s with jobResults := jr } else s) := by
    intro c jr; cases c
    · exact LW.refl w s
    · exact lw_of_eq w rfl rfl rfl rfl rfl
  fun_cases recordResult s w n phase name uid tag st0 dur with
  | case1 _ _ _ st s1 _ s2 =>
    show Loc w D s s2
    unfold s2
    split
    · exact (hX _ _).toLoc.trans (loc_setWd w s1 _)
    · exact ((hX _ _).trans ((fr_setNd s1 n _).lw w)).toLoc

/-- report and record change the books only (job results, store, results of the node) -/
theorem loc_of_ended {g : Graph} {w n : Nat} {ph : Phase} {uid : String} {tag wait : Nat} {out : Outcome} {s sc : State}
    {ok : Bool} (h : Ended g w n ph uid tag wait out s sc ok) : Loc w D s sc ∧ (sc.wd w).path = (s.wd w).path := by
  have aA := reportOutcome_lw (D := D) g s w n ph uid wait out
  cases h with
  | found nm u st0 dur =>
    obtain ⟨b1, b2, _⟩ := recordResult_loc (D := D) (reportOutcome g s w n ph uid wait out).1 w n ph
      (testName g s w n ph) uid tag st0 dur
    exact ⟨aA.toLoc.trans b1, b2.trans (congrArg (·.path) aA.own)⟩
  | lost => exact ⟨aA.toLoc, congrArg (·.path) aA.own⟩

/-- worker `w` stands with the end of its path at node `n`, which it entered in direction `dir` -/
structure AtTest (g : Graph) (d : Nat → Nat) (w n : Nat) (dir : Dir) (s : State) : Prop where
  lt : w < s.workers.length
  last : (s.wd w).path.getLast? = some n
  walk : Walk g d (s.wd w).path
  dir : dir = .down → isUp g ((s.wd w).path.getD ((s.wd w).path.length - 2) 0) n = false

theorem AtTest.of_loc {g : Graph} {d : Nat → Nat} {w n : Nat} {dir : Dir} {s s' : State} (h : AtTest g d w n dir s)
    (a : Loc w D s s') (hp : (s'.wd w).path = (s.wd w).path) : AtTest g d w n dir s' :=
  ⟨by rw [a.workersLen]; exact h.lt, by rw [hp]; exact h.last, by rw [hp]; exact h.walk, by rw [hp]; exact h.dir⟩

/-- from the end of a test to the end of the traversal of its node: report and record, then the rest of the loop body
after the node was marked finished -/
theorem afterFinish_of_after (g : Graph) (d : Nat → Nat) (hr : Ranked g d) (hsym : EdgeSym g) {w n : Nat} {s sc : State}
    {ph : Phase} {dir : Dir} {uid : String} {tag wait : Nat} {out : Outcome} {ok : Bool} (hA : AtTest g d w n dir s)
    (hD : ∀ k : Key, k.2.2 = (g.node n).cls → D k) (hs : Ended g w n ph uid tag wait out s sc ok) {r : Step}
    (h : After (vis g (finishTraverse (accounted sc w n ph) n w)) w n
      ((sc.wd w).path.getD ((sc.wd w).path.length - 2) 0) dir (finishTraverse (accounted sc w n ph) n w) r) :
    Loc w D s r.1 ∧ Walk g d (r.1.wd w).path := by
  obtain ⟨a, hp⟩ := loc_of_ended (D := D) hs
  have hB := hA.of_loc a hp
  have aF : LW w D sc (finishTraverse (accounted sc w n ph) n w) := by
    unfold accounted
    exact (lw_ite w _ ((fr_setNd sc n _).lw w) (LW.refl w sc)).trans ((fr_finishTraverse _ n w).lw w)
  obtain ⟨h1, h2, _⟩ := any_of_after g d hr hsym _ _ w n _ dir (by rw [aF.workersLen]; exact hB.lt)
    (by rw [aF.own]; exact hB.last) (by rw [aF.own]) (by rw [aF.own]; exact hB.walk) hB.dir hD h
  exact ⟨a.trans (aF.toLoc.trans h1), h2⟩

/-- the invariant: sizes of the tables, shape of every path, recorded directions -/
structure TInv (g : Graph) (d : Nat → Nat) (s : State) : Prop where
  nodesLen : s.nodes.length = g.nodes.length
  cls : ClsOK g s
  walk : ∀ v, Walk g d (s.wd v).path
  dir : ∀ v, DirOK g (s.wd v)

theorem TInv.step {g : Graph} {d : Nat → Nat} {s s' : State} {w : Nat} (h : TInv g d s) (a : Loc w DT s s')
    (hwalk : Walk g d (s'.wd w).path) (hdir : DirOK g (s'.wd w)) : TInv g d s' := by
  refine ⟨a.nodesLen.trans h.nodesLen, fun n hn => by rw [a.regsLen]; exact h.cls n hn, fun v => ?_, fun v => ?_⟩
  · by_cases hv : v = w
    · rw [hv]; exact hwalk
    · rw [a.others v hv]; exact h.walk v
  · by_cases hv : v = w
    · rw [hv]; exact hdir
    · rw [a.others v hv]; exact h.dir v

theorem atTest_of_test {g : Graph} {d : Nat → Nat} {s : State} {w n : Nat} {phase : Phase} {dir : Dir} {uid : String}
    {tag wait : Nat} (hp : PInv g s) (h : TInv g d s) (heq : (s.wd w).pc = .test n phase dir uid tag wait) :
    AtTest g d w n dir s ∧ 2 ≤ (s.wd w).path.length ∧ (g.node n).flat = false := by
  obtain ⟨_, hlast, hlen⟩ := hp.testOwn w n (by rw [heq]; rfl)
  exact ⟨⟨lt_of_path_ne_nil s w (by intro h0; rw [h0] at hlen; simp at hlen), hlast, h.walk w,
    fun hdn => (h.dir w).1 n phase uid tag wait (by rw [heq, hdn]) n hlast⟩, hlen, (h.dir w).2 n phase dir uid tag wait heq⟩

theorem any_of_resumed (g : Graph) (d : Nat → Nat) (hr : Ranked g d) (hsym : EdgeSym g) (s : State) (w : Nat)
    (out : Outcome) (fuel : Nat) (hf : 0 < fuel) (hp : PInv g s) (h : TInv g d s) {r : State × List Event}
    (hres : Resumed g w out fuel s r) : Shaped g d w DT s r.1 := by
  cases hres with
  | over => exact ⟨Loc.refl w s, h.walk w, h.dir w⟩
  | loop r _ hr' => exact any_of_ran g d hr hsym w fuel s [] (h.walk w) (fun h0 => by omega) hr'
  | wait n ph dir uid tag wait hpc =>
    obtain ⟨hA, _, hnf⟩ := atTest_of_test hp h hpc
    have a := reportOutcome_lw (D := DT) g s w n ph uid wait out
    have hB := hA.of_loc a.toLoc (congrArg (·.path) a.own)
    exact shaped_setWd a.toLoc hB.lt _ hB.walk (dirOK_test g _ n ph dir uid tag (wait + 1) rfl n hB.last hB.dir hnf)
  | created n dir uid tag wait sc hpc hs =>
    obtain ⟨hA, _, hnf⟩ := atTest_of_test hp h hpc
    obtain ⟨a, hpth⟩ := loc_of_ended (D := DT) hs
    exact startTest_any g d g a hpth hA.lt n .main dir hA.last hA.walk hA.dir hnf
  | stuck n ph dir uid tag wait sc ok s1 e what hpc hs _ ha =>
    obtain ⟨h1, h2⟩ := afterFinish_of_after (D := DT) g d hr hsym (atTest_of_test hp h hpc).1 (fun _ _ => trivial) hs ha
    exact ⟨h1.trans (loc_setWd w s1 _), by rw [path_setPc]; exact h2, dirOK_failed g s1 w⟩
  | back n ph dir uid tag wait sc ok s1 e f r hpc hs _ ha _ hr' =>
    obtain ⟨h1, h2⟩ := afterFinish_of_after (D := DT) g d hr hsym (atTest_of_test hp h hpc).1 (fun _ _ => trivial) hs ha
    exact (any_of_ran g d hr hsym w fuel s1 _ h2 (fun h0 => by omega) hr').after h1

theorem resume_loc (g : Graph) (d : Nat → Nat) (hr : Ranked g d) (hsym : EdgeSym g) (s : State) (w : Nat) (out : Outcome)
    (fuel : Nat) (hf : 0 < fuel) (hw : w < g.workers.length) (hp : PInv g s) (h : TInv g d s) :
    Loc w DT s (resume g s w out fuel).1 :=
  (any_of_resumed g d hr hsym s w out fuel hf hp h (resume_resumed ..)).1

theorem resume_tinv (g : Graph) (d : Nat → Nat) (hr : Ranked g d) (hsym : EdgeSym g) (s : State) (w : Nat) (out : Outcome)
    (fuel : Nat) (hf : 0 < fuel) (hw : w < g.workers.length) (hp : PInv g s) (h : TInv g d s) :
    TInv g d (resume g s w out fuel).1 := by
  obtain ⟨k1, k2, k3⟩ := any_of_resumed g d hr hsym s w out fuel hf hp h (resume_resumed ..)
  exact h.step k1 k2 k3

theorem wd_init (g : Graph) (ncls : Nat) (store : List (String × List (String × String))) (hidden : List Nat) (v : Nat)
    (hv : v < g.workers.length) : (initState g ncls store hidden).wd v = { path := [g.root] } := by
  unfold initState State.wd
  simp only [List.getD_eq_getElem?_getD, List.getElem?_map, List.getElem?_eq_getElem hv]
  rfl

theorem dropped_init (g : Graph) (ncls : Nat) (store : List (String × List (String × String))) (hidden : List Nat) (u : Nat)
    (k : Key) : dropped (initState g ncls store hidden) u k = false := by
  unfold dropped State.cr initState
  simp only [List.getD_eq_getElem?_getD, List.getElem?_map]
  cases (List.range ncls)[k.2.1]? <;> cases k.1 <;> rfl

theorem tinv_init (g : Graph) (d : Nat → Nat) (ncls : Nat) (store : List (String × List (String × String)))
    (hidden : List Nat) (hcls : ∀ n, n < g.nodes.length → (g.node n).cls < ncls) :
    TInv g d (initState g ncls store hidden) := by
  have hwd := initState_wd g ncls store hidden
  refine ⟨by simp [initState], clsOK_init g ncls store hidden hcls, fun v => ?_, fun v => ?_⟩
  · rcases hwd v with h | h <;> rw [h]
    · exact walk_root g d g.root
    · exact walk_nil g d
  · rcases hwd v with h | h <;> rw [h] <;>
      exact dirOK_of_pc g _ rfl

theorem reachable_tinv {g : Graph} {d : Nat → Nat} (hr : Ranked g d) (hsym : EdgeSym g) {ncls : Nat}
    {store : List (String × List (String × String))} (hcls : ∀ n, n < g.nodes.length → (g.node n).cls < ncls)
    {s : State} (h : ReachableF g ncls store s) : TInv g d s := by
  induction h with
  | init hidden => exact tinv_init g d ncls store hidden hcls
  | step s w out fuel hs hw hf ih => exact resume_tinv g d hr hsym s w out fuel hf hw (hs.pinv hsym) ih

theorem reachable_good {g : Graph} {d : Nat → Nat} (hr : Ranked g d) (hsym : EdgeSym g) {ncls : Nat}
    {store : List (String × List (String × String))} (hcls : ∀ n, n < g.nodes.length → (g.node n).cls < ncls)
    {s : State} (h : ReachableF g ncls store s) (he : Explored g s) (w : Nat) : Good g d w s :=
  ⟨(reachable_tinv hr hsym hcls h).nodesLen, (reachable_tinv hr hsym hcls h).cls, he, (reachable_tinv hr hsym hcls h).walk w⟩



/-! ## the scheduler step does not depend on the fuel beyond `bound g` -/

theorem good_of_loc {g : Graph} {d : Nat → Nat} {w : Nat} {s s' : State} (a : Loc w DT s s')
    (hn : s.nodes.length = g.nodes.length) (hc : ClsOK g s) (he : Explored g s) (hwalk : Walk g d (s'.wd w).path) :
    Good g d w s' :=
  ⟨a.nodesLen.trans hn, fun n h => by rw [a.regsLen]; exact hc n h, he.mono a.hiddenSub a.incSub, hwalk⟩

theorem runLoop_fuel (g : Graph) (d : Nat → Nat) (hr : Ranked g d) (hsym : EdgeSym g) (w : Nat) (s : State)
    (evs : List Event) (hg : Good g d w s) (fuel : Nat) (hf : bound g ≤ fuel) :
    runLoop g w fuel s evs = runLoop g w (bound g) s evs := by
  obtain ⟨r, h1, h2⟩ := runLoop_terminates g d hr hsym w s evs hg fuel hf
  rw [h2, runLoop_of_runLoopO g w (bound g) s evs r h1 (bound g) (Nat.le_refl _)]

theorem resumeTest_fuel (g : Graph) (d : Nat → Nat) (hr : Ranked g d) (hsym : EdgeSym g) (s : State) (w n : Nat)
    (phase : Phase) (dir : Dir) (uid : String) (tag wait : Nat) (out : Outcome)
    (hA : AtTest g d w n dir s)
    (hn : s.nodes.length = g.nodes.length) (hc : ClsOK g s) (he : Explored g s) (fuel : Nat) (hf : bound g ≤ fuel) :
    resumeTest g s w n phase dir uid tag wait out fuel = resumeTest g s w n phase dir uid tag wait out (bound g) := by
  -- the continuation enters the loop, if at all, after the traversal of the node has ended
  have cont : ∀ {sc ok} evs, Ended g w n phase uid tag wait out s sc ok →
      resumeTest.continueAfter g w n phase dir fuel sc ok evs = resumeTest.continueAfter g w n phase dir (bound g) sc ok evs := by
    intro sc ok evs hs
    unfold resumeTest.continueAfter
    dsimp only
    by_cases hpre : (phase == Phase.pre && ok) = true
    · simp only [hpre, if_true]
    · simp only [hpre, Bool.false_eq_true, if_false]
      generalize hat : afterTraverse _ _ w n ((sc.wd w).path.getD ((sc.wd w).path.length - 2) 0) dir = r
      obtain ⟨h1, h2⟩ := afterFinish_of_after (D := DT) g d hr hsym hA (fun _ _ => trivial) hs (hat ▸ afterTraverse_after ..)
      have hg1 : Good g d w r.1 := good_of_loc h1 hn hc he h2
      obtain ⟨s1, e2, fl⟩ := r
      cases fl with
      | raise what => rfl
      | cont => exact runLoop_fuel g d hr hsym w s1 _ hg1 fuel hf
      | suspend => exact runLoop_fuel g d hr hsym w s1 _ hg1 fuel hf
      | exit => exact runLoop_fuel g d hr hsym w s1 _ hg1 fuel hf
  rw [resumeTest_eq, resumeTest_eq]
  split
  · next nm u st0 dur hfind => exact cont _ (.found nm u st0 dur hfind)
  · next hfind =>
    by_cases h9 : wait + 1 < 10
    · simp only [if_pos h9]
    · by_cases h10 : (wait + 1 == 10) = true
      · simp only [if_neg h9, if_pos h10]
      · simp only [if_neg h9, if_neg h10]
        exact cont _ (.lost hfind (by simp at h10; omega))

/-- **A resumed worker reaches its next suspension, the exit or an exception within `bound g` iterations**: in every
reachable state without unexplored flat nodes, for every worker and every outcome of the awaited test, the scheduler
step is the same for every `fuel ≥ bound g` -/
theorem resume_fuel (g : Graph) (d : Nat → Nat) (hr : Ranked g d) (hsym : EdgeSym g) (ncls : Nat)
    (store : List (String × List (String × String))) (hcls : ∀ n, n < g.nodes.length → (g.node n).cls < ncls)
    (s : State) (h : ReachableF g ncls store s) (he : Explored g s) (w : Nat) (out : Outcome) (fuel : Nat)
    (hf : bound g ≤ fuel) : resume g s w out fuel = resume g s w out (bound g) := by
  have ht := reachable_tinv (d := d) hr hsym hcls h
  have hg := reachable_good (d := d) hr hsym hcls h he w
  have hp := h.pinv hsym
  unfold resume
  split
  · exact runLoop_fuel g d hr hsym w s [] hg fuel hf
  · exact runLoop_fuel g d hr hsym w s [] hg fuel hf
  · next n phase dir uid tag wait heq =>
    exact resumeTest_fuel g d hr hsym s w n phase dir uid tag wait out (atTest_of_test hp ht heq).1 ht.nodesLen ht.cls he
      fuel hf
  · rfl
  · rfl



/-! ## dry runs: one block from the start to the exit -/

theorem runDecision_dry (g : Graph) (s : State) (n w : Nat) (h : (g.node n).dryRun = true) :
    runDecision g s n w = .ok (false, s, []) := by
  rw [runDecision_unfold, if_pos (by simp [h])]

theorem reverseNode_dry (g : Graph) (s : State) (n w : Nat) (h : (g.node n).dryRun = true) :
    ∃ s3 e3, reverseNode g s n w = .ok (s3, e3) := by
  have hc : ∀ sx, cleanDecision g sx n w = .ok false := fun sx => by unfold cleanDecision; simp [h]
  fun_cases reverseNode g s n w with
  | case2 _ s0 _ dec e hdec => simp only [dec, hc, ite_self] at hdec; cases hdec
  | _ => exact ⟨_, _, rfl⟩

theorem isOccupied_noMarks (g : Graph) (s : State) (n w : Nat) (h : ∀ i, (s.nd i).started = none) :
    isOccupied g s n w = false := by
  unfold isOccupied isStarted
  split
  · rfl
  · have hs : sharedStarted g s n = [] := by
      unfold sharedStarted
      have : (g.copies n).filterMap (fun i => (s.nd i).started) = [] := by
        rw [List.filterMap_eq_nil_iff]; intro i _; exact h i
      rw [this]; rfl
    have hthr : (max (mctOf g s n) 1 == (-1 : Int)) = false := by
      have : (1 : Int) ≤ max (mctOf g s n) 1 := Int.le_max_right _ _
      simp only [beq_eq_false_iff_ne, ne_eq]
      omega
    have hge : ¬ ((0 : Int) ≥ max (mctOf g s n) 1) := by
      have : (1 : Int) ≤ max (mctOf g s n) 1 := Int.le_max_right _ _
      omega
    unfold scopeCount
    rw [hs]
    cases (g.node n).shape <;> simp [hthr, hge]

theorem dry_flow_of_after {g : Graph} {sF : State} {w next prev : Nat} {dir : Dir} {r : Step}
    (hdry : (g.node next).dryRun = true) (h : After g w next prev dir sF r) : r.2.2 = .cont := by
  have hrd := runDecision_dry g sF next w hdry
  cases h with
  | undecided e hd => cases hrd.symm.trans hd
  | uncleaned s1 evs e _ _ _ _ hrev =>
    obtain ⟨s3, e3, h3⟩ := reverseNode_dry g (dropChildren g s1 next w) next w hdry
    cases h3.symm.trans hrev
  | childless s1 evs _ _ hcr hpk =>
    obtain ⟨c, s3, h3⟩ := pick_some g s1 next w false hcr
    cases h3.symm.trans hpk
  | up | again | postponed | cleaned | descend => rfl

theorem traverseNode_dry_flow (g : Graph) (s : State) (w next prev : Nat) (dir : Dir)
    (hdry : (g.node next).dryRun = true) (hocc : isOccupied g s next w = false) :
    (traverseNode g s w next prev dir).2.2 = .cont := by
  fun_cases traverseNode g s w next prev dir
  case case1 h => rw [hocc] at h; cases h
  case case2 _ sE sa e h => rw [runDecision_dry g sa next w hdry] at h; cases h
  case case3 _ sE sa _ _ _ _ _ _ _ _ hd => rw [runDecision_dry g sa next w hdry] at hd; cases hd
  case case4 _ sE sa _ _ _ _ _ _ _ hd => rw [runDecision_dry g sa next w hdry] at hd; cases hd
  case case5 _ sE sa run s1 evs hd _ sX evs2 fl hat =>
    exact dry_flow_of_after (r := (sX, evs2, fl)) hdry (hat ▸ afterTraverse_after ..)

theorem iter_dry_flow (g : Graph) (d : Nat → Nat) (s : State) (w : Nat)
    (hdry : ∀ n, n < g.nodes.length → (g.node n).dryRun = true)
    (hnm : ∀ i, (s.nd i).started = none) (hwalk : Walk g d (s.wd w).path)
    (hhead : (s.wd w).path.head? = some g.root)
    (hnr : 2 ≤ (s.wd w).path.length → isCleanupReady g s g.root w = false) :
    (iter g s w).2.2 = .cont ∨
      ((iter g s w).2.2 = .exit ∧ (iter g s w).2.1 = [Event.exit (g.worker w).id] ∧ ((iter g s w).1.wd w).pc = .done) := by
  have hne : (s.wd w).path ≠ [] := by intro h; rw [h] at hhead; simp at hhead
  have hw : w < s.workers.length := lt_of_path_ne_nil s w hne
  have hlen2 : ∀ next, (s.wd w).path.getLast? = some next → ¬((s.wd w).path.length == 1) = true → 2 ≤ (s.wd w).path.length ∧
      next < g.nodes.length ∧ Adj g ((s.wd w).path.getD ((s.wd w).path.length - 2) 0) next := by
    intro next hl hlen1
    have h0 : 0 < (s.wd w).path.length := List.length_pos_iff.mpr hne
    have h1 : (s.wd w).path.length ≠ 1 := by simpa using hlen1
    obtain ⟨rest, hq⟩ := rev_two _ next hl (by omega)
    refine ⟨by omega, walk_top_lt g d _ next hwalk hl (by omega), ?_⟩
    unfold Walk at hwalk
    rw [hq] at hwalk
    exact hwalk.1
  -- at the root a child is left to pick
  have hrootpick : ∀ next, ¬isCleanupReady g s g.root w = true → (s.wd w).path.getLast? = some next →
      ((s.wd w).path.length == 1) = true → ∃ c s3, pickChild g s next w = some (c, s3) := by
    intro next hroot hl hlen1
    have hp := rev_one _ (by simpa using hlen1) next hl
    rw [hp] at hhead
    simp only [List.head?_cons, Option.some.injEq] at hhead
    exact pick_some g s next w false (by rw [hhead]; simpa using hroot)
  fun_cases iter g s w
  case case1 => exact Or.inr ⟨rfl, rfl, by rw [wd_setWd_eq s w _ hw]⟩
  case case2 hroot hp =>
    exfalso
    have hlen1 : (s.wd w).path.length = 1 := by
      have h0 : 0 < (s.wd w).path.length := List.length_pos_iff.mpr hne
      by_cases h2 : 2 ≤ (s.wd w).path.length
      · rw [hnr h2] at hroot; cases hroot
      · omega
    match hq : (s.wd w).path, hlen1 with
    | [x], _ => rw [hq] at hhead hp; simp at hhead; simp [hhead] at hp
  case case3 _ hl => rw [List.getLast?_eq_none_iff] at hl; exact absurd hl hne
  case case4 hroot next hl hlen1 hpk =>
    obtain ⟨c, s3, h3⟩ := hrootpick next hroot hl hlen1
    cases h3.symm.trans hpk
  case case6 _ next _ _ hocc _ _ _ _ _ _ _ => rw [isOccupied_noMarks g s next w hnm] at hocc; cases hocc
  case case7 _ next hl hlen1 prev _ _ _ =>
    obtain ⟨h2, hnx, _⟩ := hlen2 next hl hlen1
    exact Or.inl (traverseNode_dry_flow g s w next _ .up (hdry next hnx) (isOccupied_noMarks g s next w hnm))
  case case8 _ next _ _ _ _ _ hsr hpk =>
    obtain ⟨c, s3, h3⟩ := pick_some g s next w true (by simpa using hsr)
    cases h3.symm.trans hpk
  case case10 _ next _ _ _ _ _ _ hsr hpk =>
    obtain ⟨c, s3, h3⟩ := pick_some g s next w true (by simpa using hsr)
    cases h3.symm.trans hpk
  case case12 _ next hl hlen1 prev _ _ _ _ =>
    obtain ⟨h2, hnx, _⟩ := hlen2 next hl hlen1
    exact Or.inl (traverseNode_dry_flow g s w next _ .down (hdry next hnx) (isOccupied_noMarks g s next w hnm))
  case case13 _ next hl hlen1 prev _ hup hdn =>
    rcases (hlen2 next hl hlen1).2.2 with h | h
    · exact absurd (List.contains_iff_mem.mpr h) hdn
    · exact absurd (List.contains_iff_mem.mpr h) hup
  all_goals exact Or.inl rfl


theorem head?_dropLast' (p : List Nat) (h : 2 ≤ p.length) : p.dropLast.head? = p.head? := by
  rw [List.head?_dropLast, if_pos (by omega)]

theorem mem_tail_of_getElem?_one (p : List Nat) (x : Nat) (h : p[1]? = some x) : x ∈ p.tail := by
  cases p with
  | nil => cases h
  | cons a t => exact List.mem_of_getElem? (by simpa using h)

theorem head?_push (p : List Nat) (c : Nat) (h : p ≠ []) : (p ++ [c]).head? = p.head? := by
  cases p with
  | nil => exact absurd rfl h
  | cons a t => rfl

theorem eq_cons_cons_of (p : List Nat) (a b : Nat) (hh : p.head? = some a) (h1 : p[1]? = some b) : ∃ tl, p = a :: b :: tl := by
  match p with
  | [] => cases hh
  | [_] => cases h1
  | a' :: b' :: tl =>
    simp only [List.head?_cons, Option.some.injEq] at hh
    simp only [List.getElem?_cons_succ, List.getElem?_cons_zero, Option.some.injEq] at h1
    exact ⟨tl, by rw [hh, h1]⟩

/-- along a walk the rank of the last position is below the rank of the first one -/
theorem walkR_rank (g : Graph) (d : Nat → Nat) (q : List Nat) : ∀ (b a : Nat), WalkR g d (b :: a :: q) → q ≠ [] →
    ∀ r x tl, (b :: a :: q).reverse = r :: x :: tl → rk g d a b < rk g d r x := by
  induction q with
  | nil => intro b a _ h; exact absurd rfl h
  | cons y q' ih =>
    intro b a hw _ r x tl hrev
    obtain ⟨_, h2, h3⟩ := hw
    simp only at h2
    cases q' with
    | nil =>
      simp only [List.reverse_cons, List.reverse_nil, List.nil_append, List.cons_append, List.cons.injEq] at hrev
      rw [← hrev.1, ← hrev.2.1]; exact h2
    | cons z q'' =>
      have hrev' : (a :: y :: z :: q'').reverse = r :: x :: tl.dropLast := by
        have h0 : (b :: a :: y :: z :: q'').reverse = (a :: y :: z :: q'').reverse ++ [b] := by simp
        rw [h0] at hrev
        have hlen : 3 ≤ ((a :: y :: z :: q'').reverse).length := by simp
        match hm : (a :: y :: z :: q'').reverse, hlen with
        | r' :: x' :: t', _ =>
          rw [hm] at hrev
          simp only [List.cons_append, List.cons.injEq] at hrev
          rw [hrev.1, hrev.2.1, ← hrev.2.2]
          simp
      have := ih a y h3 (by simp) r x _ hrev'
      omega

/-- the node at position one does not come back as a node reached downwards -/
theorem walk_top_ne_pos1 (g : Graph) (d : Nat → Nat) (hr : Ranked g d) (hsym : EdgeSym g) (p : List Nat) (root next x : Nat)
    (hwalk : Walk g d p) (hlen : 3 ≤ p.length) (hl : p.getLast? = some next) (hh : p.head? = some root)
    (h1 : p[1]? = some x) (hx : x ∈ (g.node root).cleanup.map (·.1))
    (hmode : isUp g (p.getD (p.length - 2) 0) next = false) : next ≠ x := by
  intro hnx
  obtain ⟨rest, hq⟩ := rev_two p next hl (by omega)
  have hrest : rest ≠ [] := by
    intro h0
    have := congrArg List.length hq
    rw [h0] at this
    simp at this
    omega
  unfold Walk at hwalk
  rw [hq] at hwalk
  obtain ⟨tl, hp⟩ := eq_cons_cons_of p root x hh h1
  have := walkR_rank g d rest next _ hwalk hrest root x tl (by rw [← hq, List.reverse_reverse]; exact hp)
  unfold rk at this
  rw [hmode, isUp_of_nbrs g d hr hsym false root x hx, hnx] at this
  exact absurd this (Nat.lt_irrefl _)

/-- a dry run of worker `w` in the middle of its only block -/
structure DryInv (g : Graph) (d : Nat → Nat) (w : Nat) (s : State) : Prop where
  good : Good g d w s
  vis : s.hidden = []
  noMarks : ∀ i, (s.nd i).started = none
  head : (s.wd w).path.head? = some g.root
  rel : ∀ x, x ∈ (s.wd w).path.tail → relevant g w x = true
  pos1 : ∀ x, (s.wd w).path[1]? = some x →
    x ∈ (g.node g.root).cleanup.map (·.1) ∧ dropped s w (false, (g.node g.root).cls, (g.node x).cls) = false

theorem DryInv.rootNotReady {g : Graph} {d : Nat → Nat} {w : Nat} {s : State} (h : DryInv g d w s)
    (hlen : 2 ≤ (s.wd w).path.length) : isCleanupReady g s g.root w = false := by
  obtain ⟨x, hx⟩ : ∃ x, (s.wd w).path[1]? = some x := ⟨(s.wd w).path[1], List.getElem?_eq_getElem (by omega)⟩
  obtain ⟨hmem, hnd⟩ := h.pos1 x hx
  have hrel : relevant g w x = true := h.rel x (mem_tail_of_getElem?_one _ x hx)
  unfold isCleanupReady
  rw [List.all_eq_false]
  obtain ⟨e, he, hex⟩ := List.mem_map.mp hmem
  refine ⟨e, he, ?_⟩
  obtain ⟨c, vms⟩ := e
  simp only at hex
  subst hex
  unfold dropped at hnd
  simp only [Bool.false_eq_true, if_false] at hnd
  dsimp only
  rw [hrel, hnd]; simp

/-- two nodes of one class that concern the worker are equal -/
def ClassInj (g : Graph) (w : Nat) : Prop :=
  ∀ a b, a < g.nodes.length → b < g.nodes.length → relevant g w a = true → relevant g w b = true →
    (g.node a).cls = (g.node b).cls → a = b

theorem move_dry (g : Graph) (d : Nat → Nat) (hr : Ranked g d) (hsym : EdgeSym g) (w : Nat) (hinj : ClassInj g w)
    (hroot : (g.node g.root).setup = []) (s s' : State) (h : DryInv g d w s) (m : Move g w s s') :
    (s'.wd w).path.head? = some g.root ∧ (∀ x, x ∈ (s'.wd w).path.tail → relevant g w x = true) ∧
    (∀ x, (s'.wd w).path[1]? = some x →
      x ∈ (g.node g.root).cleanup.map (·.1) ∧ dropped s' w (false, (g.node g.root).cls, (g.node x).cls) = false) := by
  have hne : (s.wd w).path ≠ [] := by intro h0; have := h.head; rw [h0] at this; simp at this
  have hlast1 : ∀ last, (s.wd w).path.length = 1 → (s.wd w).path.getLast? = some last → last = g.root := by
    intro last hl1 hl
    have hp := rev_one _ hl1 last hl
    have := h.head
    rw [hp] at this
    simpa using this
  -- a push
  have push : ∀ last c, (s.wd w).path.getLast? = some last → (s'.wd w).path = (s.wd w).path ++ [c] →
      relevant g w c = true → (∀ k, dropped s' w k = dropped s w k) →
      ((s.wd w).path.length = 1 → c ∈ (g.node g.root).cleanup.map (·.1) ∧
        dropped s w (false, (g.node g.root).cls, (g.node c).cls) = false) →
      (s'.wd w).path.head? = some g.root ∧ (∀ x, x ∈ (s'.wd w).path.tail → relevant g w x = true) ∧
      (∀ x, (s'.wd w).path[1]? = some x →
        x ∈ (g.node g.root).cleanup.map (·.1) ∧ dropped s' w (false, (g.node g.root).cls, (g.node x).cls) = false) := by
    intro last c hl hp hrel hD h1
    rw [hp]
    refine ⟨by rw [head?_push _ c hne]; exact h.head, ?_, ?_⟩
    · intro x hx
      rw [List.tail_append_of_ne_nil hne] at hx
      rcases List.mem_append.mp hx with hx | hx
      · exact h.rel x hx
      · rw [List.mem_singleton.mp hx]; exact hrel
    · intro x hx
      rw [hD]
      by_cases hl1 : (s.wd w).path.length = 1
      · have : ((s.wd w).path ++ [c])[1]? = some c := by
          rw [List.getElem?_append_right (by omega), hl1]; simp
        rw [this] at hx
        simp only [Option.some.injEq] at hx
        rw [← hx]; exact h1 hl1
      · have h0 : 0 < (s.wd w).path.length := List.length_pos_iff.mpr hne
        rw [List.getElem?_append_left (by omega)] at hx
        exact h.pos1 x hx
  cases m with
  | push up last c hl hp hc hnd hmode hD hrel _ =>
    refine push last c hl hp hrel hD (fun hl1 => ?_)
    rw [hlast1 last hl1 hl] at hc hnd
    cases up
    · exact ⟨hc, hnd⟩
    · simp [nbrs, hroot] at hc
  | pop next hl hlen hp hD hk hnew _ =>
    rw [hp]
    refine ⟨by rw [head?_dropLast' _ hlen]; exact h.head, ?_, ?_⟩
    · intro x hx
      rw [List.tail_dropLast] at hx
      exact h.rel x (List.dropLast_subset _ hx)
    · intro x hx
      rw [List.getElem?_dropLast] at hx
      split at hx
      · rename_i h1lt
        obtain ⟨hmem, hndx⟩ := h.pos1 x hx
        refine ⟨hmem, ?_⟩
        cases hdx : dropped s' w (false, (g.node g.root).cls, (g.node x).cls)
        · rfl
        · exfalso
          rcases hnew _ hdx with h0 | ⟨hmode, hcls⟩
          · rw [hndx] at h0; cases h0
          · simp only at hmode hcls
            have hrx : relevant g w x = true := h.rel x (mem_tail_of_getElem?_one _ x hx)
            have hrn : relevant g w next = true := h.rel next (List.mem_of_getLast? (by rw [List.getLast?_tail, if_neg (by omega)]; exact hl))
            have hxN : x < g.nodes.length := lt_of_nbrs_mem g true x g.root ((hsym g.root x).mpr hmem)
            have hnN : next < g.nodes.length := walk_top_lt g d _ next h.good.walk hl hlen
            have hxn : x = next := hinj x next hxN hnN hrx hrn hcls
            exact walk_top_ne_pos1 g d hr hsym _ g.root next x h.good.walk (by omega) hl h.head hx hmem hmode.symm hxn.symm
      · cases hx


theorem iter_cont_marks (gv : Graph) (hsym : EdgeSym gv) (s : State) (w : Nat) (hc : (iter gv s w).2.2 = .cont) (i : Nat) :
    ((iter gv s w).1.nd i).started = (s.nd i).started ∨ ((iter gv s w).1.nd i).started = none := by
  obtain ⟨_, h⟩ := iter_ok gv hsym s w
  rcases h with ⟨he, _⟩ | ⟨next, _, _, _, _, hfl⟩
  · rcases he.marks i with h1 | h1 | h1
    · exact Or.inl h1
    · exact Or.inr h1
    · exact absurd h1.1 (by simp)
  · rcases hfl with ⟨what, h1, _⟩ | ⟨h1, _⟩ <;> rw [h1] at hc <;> cases hc

theorem iterL_dry (g : Graph) (d : Nat → Nat) (hr : Ranked g d) (hsym : EdgeSym g) (w : Nat) (hinj : ClassInj g w)
    (hroot : (g.node g.root).setup = []) (hdry : ∀ n, n < g.nodes.length → (g.node n).dryRun = true)
    (s : State) (h : DryInv g d w s) :
    ((iterL g s w).2.2 = .cont ∧ phi g (iterL g s w).1 w < phi g s w ∧ DryInv g d w (iterL g s w).1) ∨
    ((iterL g s w).2.2 = .exit ∧ (iterL g s w).2.1 = [Event.exit (g.worker w).id] ∧ ((iterL g s w).1.wd w).pc = .done) := by
  -- the iteration proper, from a state with the invariant
  have core : ∀ s1 : State, DryInv g d w s1 → (2 ≤ (s1.wd w).path.length → (s1.wd w).unexplored = false) →
      ((iter g s1 w).2.2 = .cont ∧ phi g (iter g s1 w).1 w < phi g s1 w ∧ DryInv g d w (iter g s1 w).1) ∨
      ((iter g s1 w).2.2 = .exit ∧ (iter g s1 w).2.1 = [Event.exit (g.worker w).id] ∧ ((iter g s1 w).1.wd w).pc = .done) := by
    intro s1 h1 hun
    rcases iter_dry_flow g d s1 w hdry h1.noMarks h1.good.walk h1.head h1.rootNotReady with hc | hx
    · left
      have hv : vis g s1 = g := vis_eq_of_hidden_nil h1.vis
      have hc' : (iter (vis g s1) s1 w).2.2 = .cont := by rw [hv]; exact hc
      obtain ⟨m, k⟩ := cont_of_iter g d hr hsym s1 w h1.good.nodesLen h1.good.cls hun hc' (iter_iter ..)
      rw [hv] at m k
      obtain ⟨p1, p2⟩ := move_dec g d hr hsym w s1 _ h1.good.walk m
      obtain ⟨q1, q2, q3⟩ := move_dry g d hr hsym w hinj hroot s1 _ h1 m
      refine ⟨hc, p1, ⟨h1.good.keep k p2, by rw [k.hidden]; exact h1.vis, fun i => ?_, q1, q2, q3⟩⟩
      rcases iter_cont_marks g hsym s1 w hc i with h2 | h2
      · rw [h2]; exact h1.noMarks i
      · exact h2
    · exact Or.inr hx
  unfold iterL
  split
  · rename_i hcond
    rw [vis_eq_of_hidden_nil h.vis]
    refine core s h (fun hlen => ?_)
    exfalso
    rw [vis_eq_of_hidden_nil h.vis] at hcond
    simp only [Bool.or_eq_true, decide_eq_true_eq] at hcond
    rcases hcond with h0 | h0
    · rw [h.rootNotReady hlen] at h0; cases h0
    · omega
  · rename_i hcond
    dsimp only
    have hlen : 2 ≤ (s.wd w).path.length := by
      simp only [Bool.or_eq_true, decide_eq_true_eq, not_or] at hcond
      omega
    have hne : (s.wd w).path ≠ [] := by intro h0; rw [h0] at hlen; simp at hlen
    have hw : w < s.workers.length := lt_of_path_ne_nil s w hne
    obtain ⟨p1, p2, p3, p4, p5, p6⟩ := prepare_explored g s w h.good.explored hw
    have hhid : (prepare g s w).hidden = [] := by
      have := (prepare_spec g s w).2.2.2.2.2.1
      rw [h.vis] at this
      exact List.eq_nil_iff_forall_not_mem.mpr (fun x hx => by simpa using this x hx)
    have hd1 : DryInv g d w (prepare g s w) := by
      refine ⟨⟨by rw [p2]; exact h.good.nodesLen, fun n hn => by rw [p1]; exact h.good.cls n hn, p6,
        by rw [p4]; exact h.good.walk⟩, hhid, fun i => ?_, by rw [p4]; exact h.head, by rw [p4]; exact h.rel, ?_⟩
      · rw [nd_of_nodes_eq p2]; exact h.noMarks i
      · intro x hx
        rw [p4] at hx
        rw [dropped_of_regs s _ p1]
        exact h.pos1 x hx
    rw [vis_eq_of_hidden_nil hhid]
    have := core (prepare g s w) hd1 (fun _ => p5 hne)
    rw [phi_congr g s (prepare g s w) w p1 (p4 w)] at this
    exact this

theorem dryInv_setLoop {g : Graph} {d : Nat → Nat} {w : Nat} {s : State} (h : DryInv g d w s) :
    DryInv g d w (s.setWd w (fun d => { d with pc := .loop })) := by
  have hp := path_setPc s w .loop w
  refine ⟨(good_setLoop h.good).1, h.vis, h.noMarks, by rw [hp]; exact h.head, by rw [hp]; exact h.rel, ?_⟩
  intro x hx
  rw [hp] at hx
  rw [dropped_setWd]
  exact h.pos1 x hx

theorem runLoop_dry (g : Graph) (d : Nat → Nat) (hr : Ranked g d) (hsym : EdgeSym g) (w : Nat) (hinj : ClassInj g w)
    (hroot : (g.node g.root).setup = []) (hdry : ∀ n, n < g.nodes.length → (g.node n).dryRun = true)
    (fuel : Nat) (s : State) (evs : List Event) (h : DryInv g d w s) (hf : phi g s w < fuel) :
    ∃ s' evs', runLoop g w fuel s evs = (s', evs' ++ [Event.exit (g.worker w).id]) ∧ (s'.wd w).pc = .done := by
  induction fuel generalizing s evs with
  | zero => omega
  | succ fuel ih =>
    unfold runLoop
    dsimp only
    have h0 := dryInv_setLoop h
    have hp0 := (good_setLoop h.good).2
    rcases iterL_dry g d hr hsym w hinj hroot hdry _ h0 with ⟨hc, hphi, hd1⟩ | ⟨hx, hev, hpc⟩
    · split
      · next s1 e heq =>
        rw [heq] at hphi hd1
        exact ih s1 _ hd1 (by dsimp only at hphi; omega)
      · next s1 e heq => rw [heq] at hc; cases hc
      · next s1 e heq => rw [heq] at hc; cases hc
      · next s1 e what heq => rw [heq] at hc; cases hc
    · split
      · next s1 e heq => rw [heq] at hx; cases hx
      · next s1 e heq => rw [heq] at hx; cases hx
      · next s1 e heq =>
        rw [heq] at hev hpc
        dsimp only at hev hpc
        exact ⟨s1, evs, by rw [hev], hpc⟩
      · next s1 e what heq => rw [heq] at hx; cases hx

def classInjB (g : Graph) (w : Nat) : Bool :=
  (List.range g.nodes.length).all (fun a => (List.range g.nodes.length).all (fun b =>
    !(relevant g w a && relevant g w b && (g.node a).cls == (g.node b).cls) || a == b))

theorem classInjB_sound {g : Graph} {w : Nat} (h : classInjB g w = true) : ClassInj g w := by
  intro a b ha hb hra hrb hcls
  unfold classInjB at h
  rw [List.all_eq_true] at h
  have h1 := h a (List.mem_range.mpr ha)
  rw [List.all_eq_true] at h1
  have h2 := h1 b (List.mem_range.mpr hb)
  simpa [hra, hrb, hcls] using h2

/-- **Dry runs terminate in one block**: on a pre-parsed acyclic graph all of whose nodes are dry-run nodes, the first
scheduler step of a worker (from the initial state, with fuel `≥ bound g`) is its whole traversal: it ends with the
exit event and the worker is `done`; nothing suspends, nothing raises -/
theorem dry_run_one_block (g : Graph) (d : Nat → Nat) (hr : Ranked g d) (hsym : EdgeSym g) (w : Nat)
    (hw : w < g.workers.length) (hinj : ClassInj g w) (hroot : (g.node g.root).setup = [])
    (hdry : ∀ n, n < g.nodes.length → (g.node n).dryRun = true) (hflat : noFlatB g = true)
    (ncls : Nat) (hcls : ∀ n, n < g.nodes.length → (g.node n).cls < ncls)
    (store : List (String × List (String × String))) (fuel : Nat) (hf : bound g ≤ fuel) :
    ∃ s' evs', resume g (initState g ncls store) w ⟨none, 0⟩ fuel = (s', evs' ++ [Event.exit (g.worker w).id]) ∧
      (s'.wd w).pc = .done := by
  have hwd : (initState g ncls store).wd w = { path := [g.root] } := wd_init g ncls store [] w hw
  have hgood : Good g d w (initState g ncls store) :=
    good_at_root g d w _ (by simp [initState]) (clsOK_init g ncls store [] hcls) (explored_of_noFlat hflat _) (by rw [hwd])
  have hnd : ∀ i, ((initState g ncls store).nd i).started = none := fun i => by rw [initState_nd]
  have hdi : DryInv g d w (initState g ncls store) :=
    ⟨hgood, rfl, hnd, by rw [hwd]; rfl, by rw [hwd]; intro x hx; simp at hx, by rw [hwd]; intro x hx; simp at hx⟩
  have hres : resume g (initState g ncls store) w ⟨none, 0⟩ fuel = runLoop g w fuel (initState g ncls store) [] := by
    unfold resume
    rw [hwd]
  rw [hres]
  obtain ⟨s', evs', h1, h2⟩ := runLoop_dry g d hr hsym w hinj hroot hdry fuel _ [] hdi
    (Nat.lt_of_lt_of_le (phi_lt_bound g d hr _ w hgood.walk) hf)
  exact ⟨s', evs', h1, h2⟩

theorem le_sum_of_mem (l : List Nat) (F : Nat → Nat) (a : Nat) (ha : a ∈ l) : F a ≤ (l.map F).sum := by
  induction l with
  | nil => simp at ha
  | cons b r ih =>
    simp only [List.map_cons, List.sum_cons]
    rcases List.mem_cons.mp ha with h | h
    · subst h; omega
    · have := ih h; omega

end I2N.Trav.Term
