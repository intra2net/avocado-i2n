import I2N.Lemmas.TravStates
import I2N.Lemmas.TravClean
/-!
C01 with state removal on pre-parsed graphs: the semantic invariant of `TravStates.lean` (`Sem` = `Prov` ∧ `FinSrc`)
is weakened to `SemR` = `Prov` ∧ `FinSrcR` ∧ `FinRes`: the set states of a traversed parsed copy `p` are sourced (`Src`)
**or** some removable copy `i` of the class of `p` is cleanup-ready for its owner (`AltC`: every dependant of `i` the owner
cares for has been dropped by the owner).  The second alternative is what `sync_states` leaves behind when it removes the
states of `i`: `reverse_node` is only reached on a cleanup-ready node, and the `droppedCleanup` registers only grow.
`FinRes`: the class of a traversed stateless parsed copy has a result (or a placeholder).  The invariant is inductive
without any hypothesis on the number of copies.

At the start of a dependant `n` of `p` the second alternative has to be excluded.  Two ways (`Props/C01.lean`):
* `RemovableSingle` (a removable class has ONE parsed copy — any graph with a single worker): then `i = p` is the
  starting worker's own copy, and C05's invariant `CInv` (`TravClean.lean`) says that the worker awaits the test on the
  last node of its path and no node on its path is dropped — but a cleanup-ready `p` has dropped `n`;
* `SymCopies` (the copies of a removable class have dependants of the same classes) and `MaxTriesOne` (no retries): the
  owner of `i` has dropped, hence traversed, its copy of the class of `n`; a positive run decision without retries means
  that the class of `n` has no result (stateless) or no traversed copy (stateful) — contradiction (`RunWhy`).
Without either, a worker that comes late to its own copy of a removable class skips it (the class counts as finished: no
scan) although the state has been removed from the pool of the worker that produced it
(`Props/C01.lean: removed_state_stale_location`).
-/
namespace I2N.Trav

/-! ## `sync_states` without copy-back: nothing, or a removal from the acting worker's own pool -/

/-- the node never copies states back from the shared pool while backing out (`pool_filter` ∈ {reuse, block}) -/
def NodeNC (nd : Node) : Prop := nd.poolFilter = "reuse" ∨ nd.poolFilter = "block"

instance (nd : Node) : Decidable (NodeNC nd) := by unfold NodeNC; infer_instance

/-- the unset mode of the state's object starts with `f` -/
def fMode (nd : Node) (vs : String × String) : Bool := (unsetModeOf nd vs.1).toList.head? == some 'f'

/-- some set state of the node is removed when the node is reversed -/
def Removable (nd : Node) : Bool := nd.sets.any (fMode nd)

/-- the effect of `sync_states` on the store: a set `rem` of `f`-mode set states of the node leaves the own pool of the
worker the copy was parsed for (`netOf`); nothing else changes -/
theorem syncStates_rm (g : Graph) (s : State) (n w : Nat) (rv : Option (List String)) (h : NodeNC (g.node n)) :
    ∃ rem : List (String × String), (∀ x ∈ rem, x ∈ (g.node n).sets ∧ fMode (g.node n) x = true) ∧
      ∀ loc vs, vs ∈ storeGet (syncStates g s n w rv).1.store loc ↔
        vs ∈ storeGet s.store loc ∧ ¬ (loc = (g.worker (g.netOf n w)).id ∧ vs ∈ rem) := by
  obtain ⟨h1, h2, _, h4, _, h6⟩ := syncAcc_accOk (g.node n) rv
  fun_cases syncStates g s n w rv with
  | case1 => exact ⟨[], fun x hx => by simp at hx, fun loc vs => by simp⟩
  | case2 nd acc _ wid _ own =>
    refine ⟨acc.2.2.1, fun x hx => ⟨h6 x hx, by unfold fMode; rw [h1 x hx]; rfl⟩, fun loc vs => ?_⟩
    show vs ∈ storeGet (storeSet s.store (g.worker (g.netOf n w)).id own) loc ↔ _
    rw [storeGet_storeSet]
    by_cases hl : loc = (g.worker (g.netOf n w)).id
    · subst hl
      simp only [if_true, true_and, own, List.mem_filter, Bool.not_eq_eq_eq_not, Bool.not_true, List.contains_eq_mem,
        decide_eq_false_iff_not]
      rfl
    · simp only [hl, if_false, false_and, not_false_eq_true, and_true]
  | case3 nd acc hc _ hu =>
    -- a `get` would need states queued for a copy, which the pool filter excludes
    have hget : acc.2.1 = "get" := ((syncAcc_accOk (g.node n) rv).2.2.2.2.1 (by simpa using hc)).resolve_left (by simpa using hu)
    exact absurd h (h2 (h4 hget))

theorem removable_of_mem {nd : Node} {x : String × String} (h1 : x ∈ nd.sets) (h2 : fMode nd x = true) :
    Removable nd = true := by
  unfold Removable
  exact List.any_eq_true.mpr ⟨x, h1, h2⟩

/-! ## hypotheses on the graph (all decidable) -/

def NoCopyBack (g : Graph) : Prop := ∀ n, n < g.nodes.length → NodeNC (g.node n)

/-- a removable class has one parsed copy -/
def RemovableSingleAt (g : Graph) (n m : Nat) : Prop :=
  (g.node n).flat = false → (g.node m).flat = false → Removable (g.node n) = true → (g.node n).cls = (g.node m).cls → n = m

instance (g : Graph) (n m : Nat) : Decidable (RemovableSingleAt g n m) := by unfold RemovableSingleAt; infer_instance

def RemovableSingle (g : Graph) : Prop :=
  ∀ n, n < g.nodes.length → ∀ m, m < g.nodes.length → RemovableSingleAt g n m

instance (g : Graph) : Decidable (NoCopyBack g) := by unfold NoCopyBack; infer_instance
instance (g : Graph) : Decidable (RemovableSingle g) := by unfold RemovableSingle; infer_instance

/-- the copies of a removable class have dependants of the same classes: for every cleanup child `c` of a parsed copy
`p` that the owner of `p` cares for, every removable parsed copy `p'` of the class of `p` has a cleanup child of the class
of `c` that its owner cares for -/
def SymChild (g : Graph) (p p' w u : Nat) : Prop :=
  ∀ c ∈ (g.node p).cleanup, relevant g w c.1 = true →
    ∃ c' ∈ (g.node p').cleanup, (g.node c'.1).cls = (g.node c.1).cls ∧ relevant g u c'.1 = true

instance (g : Graph) (p p' w u : Nat) : Decidable (SymChild g p p' w u) := by unfold SymChild; infer_instance

def SymOwners (g : Graph) (p p' : Nat) : Prop :=
  ∀ w, w < g.workers.length → ∀ u, u < g.workers.length → (g.node p).owner = some w → (g.node p').owner = some u →
    SymChild g p p' w u

instance (g : Graph) (p p' : Nat) : Decidable (SymOwners g p p') := by unfold SymOwners; infer_instance

def SymCopiesAt (g : Graph) (p p' : Nat) : Prop :=
  (g.node p).flat = false → (g.node p').flat = false → (g.node p).cls = (g.node p').cls → Removable (g.node p') = true →
    SymOwners g p p'

instance (g : Graph) (p p' : Nat) : Decidable (SymCopiesAt g p p') := by unfold SymCopiesAt; infer_instance

def SymCopies (g : Graph) : Prop := ∀ p, p < g.nodes.length → ∀ p', p' < g.nodes.length → SymCopiesAt g p p'

instance (g : Graph) : Decidable (SymCopies g) := by unfold SymCopies; infer_instance

/-- `SemHyp` of `TravStates.lean` with `NoRemoval` replaced by `NoCopyBack` -/
structure SemHypR (g : Graph) : Prop where
  fullScope : FullScope g
  plainNodes : PlainNodes g
  noCopyBack : NoCopyBack g
  producerSets : ProducerSets g
  uniqueProducer : UniqueProducer g
  setsClass : SetsClass g
  ownersReal : OwnersReal g

/-- every parsed node was parsed for some worker -/
def ParsedOwned (g : Graph) : Prop := ∀ n, n < g.nodes.length → (g.node n).flat = false → (g.node n).owner.isSome = true

instance (g : Graph) : Decidable (ParsedOwned g) := by unfold ParsedOwned; infer_instance

/-- with one worker (and one copy per class and worker) every class has one parsed copy -/
theorem removableSingle_of_one_worker {g : Graph} (h1 : g.workers.length = 1) (hR : OwnersReal g) (hP : ParsedOwned g)
    (hC : Clean.CopyUniq g) : RemovableSingle g := by
  intro n hn m hm hfn hfm _ hc
  have own : ∀ x, x < g.nodes.length → (g.node x).flat = false → (g.node x).owner = some 0 := by
    intro x hx hfx
    cases ho : (g.node x).owner with
    | none => have := hP x hx hfx; rw [ho] at this; cases this
    | some u =>
      have := hR.lt hx ho
      congr; omega
  exact hC n hn m hm hc (Or.inr (by rw [own n hn hfn, own m hm hfm]))

/-! ## the weakened invariant -/

/-- the alternative to `Src`: a removable parsed copy `i` of class `c` whose owner has dropped every dependant it cares for -/
def AltC (g : Graph) (s : State) (c : Nat) : Prop :=
  ∃ i u, i < g.nodes.length ∧ (g.node i).flat = false ∧ (g.node i).cls = c ∧ (g.node i).owner = some u ∧
    Removable (g.node i) = true ∧ isCleanupReady g s i u = true

/-- … for the class of node `p` -/
def Alt (g : Graph) (s : State) (p : Nat) : Prop := AltC g s (g.node p).cls

theorem Alt.mono {g : Graph} {s s' : State} {p : Nat} (h : Alt g s p) (a : MonoC s s') : Alt g s' p := by
  obtain ⟨i, u, h1, h2, h3, h4, h5, h6⟩ := h
  exact ⟨i, u, h1, h2, h3, h4, h5, a.ready g i u h6⟩

theorem Alt.congr {g : Graph} {s : State} {p p' : Nat} (h : Alt g s p) (hc : (g.node p).cls = (g.node p').cls) :
    Alt g s p' := by
  unfold Alt at h ⊢; rw [← hc]; exact h

/-- the states set by a traversed parsed copy are sourced, or a removable copy of its class is cleanup-ready for its owner -/
def FinSrcR (g : Graph) (s : State) : Prop :=
  ∀ p, p < g.nodes.length → (g.node p).flat = false → (s.nd p).finished.isSome = true →
    ∀ vs ∈ (g.node p).sets, Src g s p vs ∨ Alt g s p

/-- the class of a traversed stateless parsed copy has a result (or a placeholder) -/
def FinRes (g : Graph) (s : State) : Prop :=
  ∀ p, p < g.nodes.length → (g.node p).flat = false → (s.nd p).finished.isSome = true → (g.node p).sets = [] →
    ∃ r, r ∈ sharedResults g s p

structure SemR (g : Graph) (store0 : List (String × List (String × String))) (s : State) : Prop where
  prov : Prov g store0 s
  fin : FinSrcR g s
  res : FinRes g s

theorem SemR.grow {g : Graph} {store0 : List (String × List (String × String))} {s s' : State} (j : SemR g store0 s)
    (a : Grow s s') (m : MonoC s s') : SemR g store0 s' :=
  ⟨j.prov.mono a.store a.results,
    Fin.mono (C := fun s p => ∀ vs ∈ (g.node p).sets, Src g s p vs ∨ Alt g s p) j.fin a.fin
      (fun _ h vs hvs => (h vs hvs).imp a.src (·.mono m)),
    Fin.mono (C := fun s p => (g.node p).sets = [] → ∃ r, r ∈ sharedResults g s p) j.res a.fin
      (fun p h hs => (h hs).imp (fun r => a.sharedResults g p r))⟩

theorem SemR.frame {g : Graph} {store0 : List (String × List (String × String))} {s s' : State} (j : SemR g store0 s)
    (a : Frame s s') (m : MonoC s s') : SemR g store0 s' := j.grow a.grow m

theorem SemR.init (g : Graph) (ncls : Nat) (store : List (String × List (String × String))) (H0 : List Nat) :
    SemR g store (initState g ncls store H0) :=
  have hfin : ∀ p, ¬ ((initState g ncls store H0).nd p).finished.isSome = true := fun p h => by
    rw [finished_initState] at h; cases h
  ⟨fun _ _ h => Or.inl h, fun p _ _ h => absurd h (hfin p), fun p _ _ h => absurd h (hfin p)⟩

/-- the end of `traverse_node` on a copy whose set states are sourced or removed after all dependants -/
theorem SemR.finish {g : Graph} {store0 : List (String × List (String × String))} {s : State} (j : SemR g store0 s)
    (p w : Nat) (hsrc : p < g.nodes.length → (g.node p).flat = false → ∀ vs ∈ (g.node p).sets, Src g s p vs ∨ Alt g s p)
    (hres0 : p < g.nodes.length → (g.node p).flat = false → (g.node p).sets = [] → ∃ r, r ∈ sharedResults g s p) :
    SemR g store0 (finishTraverse s p w) := by
  have hm : MonoC s (finishTraverse s p w) := MonoC.of_same (Clean.same_finishTraverse 0 s p w)
  have hres := sharedResults_mono (g := g) (s' := finishTraverse s p w) (fun m r h => by rw [results_finishTraverse]; exact h)
  exact ⟨j.prov.mono rfl (fun m r h => by rw [results_finishTraverse]; exact h),
    Fin.finish (C := fun s p => ∀ vs ∈ (g.node p).sets, Src g s p vs ∨ Alt g s p) j.fin p w
      (fun _ h vs hvs => (h vs hvs).imp (·.finish p w) (·.mono hm)) hsrc,
    Fin.finish (C := fun s p => (g.node p).sets = [] → ∃ r, r ∈ sharedResults g s p) j.res p w
      (fun q h hs => (h hs).imp (hres q)) hres0⟩

/-- the removal: a set `rem` of `f`-mode set states of the cleanup-ready own copy `n` leaves `w`'s pool -/
theorem SemR.rm {g : Graph} {store0 : List (String × List (String × String))} {s : State} (hy : SemHypR g)
    (j : SemR g store0 s) (n w : Nat) (rem : List (String × String)) (st : List (String × List (String × String)))
    (hn : n < g.nodes.length) (hf : (g.node n).flat = false) (ho : (g.node n).owner = some w)
    (hready : isCleanupReady g s n w = true)
    (hrem : ∀ x ∈ rem, x ∈ (g.node n).sets ∧ fMode (g.node n) x = true)
    (hst : ∀ loc vs, vs ∈ storeGet st loc ↔ vs ∈ storeGet s.store loc ∧ ¬ (loc = (g.worker w).id ∧ vs ∈ rem)) :
    SemR g store0 { s with store := st } := by
  refine ⟨fun loc vs h => j.prov loc vs ((hst loc vs).mp h).1, fun p hp hfp hfin vs hvs => ?_, j.res⟩
  by_cases hvr : vs ∈ rem
  · -- a removed state: the copy is of the class of `n`, which is removable and cleanup-ready for `w`
    obtain ⟨h1, h2⟩ := hrem vs hvr
    exact Or.inr ⟨n, w, hn, hf, hy.uniqueProducer n hn p hp vs h1 hf hfp hvs, ho, removable_of_mem h1 h2, hready⟩
  · exact (j.fin p hp hfp hfin vs hvs).imp
      (Src.mono (s' := { s with store := st }) (fun loc h => (hst loc vs).mpr ⟨h, fun h' => hvr h'.2⟩) (fun _ h => h)) id

theorem SemR.inert {g : Graph} {store0 : List (String × List (String × String))} {s s' : State} (j : SemR g store0 s)
    (a : Inert s s') : SemR g store0 s' := j.frame a.frame a.monoC

/-! ## `reverse_node` on a cleanup-ready node -/

theorem reverseNode_semR (g : Graph) (hy : SemHypR g) (hO : OwnerNames g)
    {store0 : List (String × List (String × String))} (s : State) (n w : Nat) (s' : State) (evs : List Event)
    (j : SemR g store0 s) (hn : n < g.nodes.length) (hready : isCleanupReady g s n w = true)
    (h : reverseNode g s n w = .ok (s', evs)) : SemR g store0 s' ∧ ∀ e ∈ evs, NS e := by
  rcases reverseNode_eq_ok h with ⟨_, rfl, rfl⟩ | ⟨_, clean, s2, hd, hs, rfl⟩
  · exact ⟨j, nofun⟩
  · have f0 : Inert s (s.setNd n (fun d => { d with started := some w })) := .nd s n _
    split at hs
    · -- the states are synchronised: the decision was positive, so `n` is `w`'s own parsed copy
      rename_i hc
      rw [((Bool.and_eq_true _ _).mp hc).1] at hd
      obtain ⟨hf, _, _, hid⟩ := Clean.cleanDecision_true g _ n w hd
      have ho : (g.node n).owner = some w := (hO w n hn hf).mp hid
      obtain ⟨rem, hrem, hst⟩ := syncStates_rm g _ n w none (hy.noCopyBack n hn)
      obtain ⟨st, hst1⟩ := syncStates_store g _ n w none
      rw [netOf_owner ho, hs] at hst
      rw [hs] at hst1
      dsimp only at hst1
      rw [hst1] at hst ⊢
      refine ⟨((j.inert f0).rm hy n w rem st hn hf ho (f0.monoC.ready g n w hready) hrem hst).inert (.nd _ n _), fun e he => ?_⟩
      obtain ⟨act, reqs, sc, hdoor⟩ := syncStates_events g _ n w none e (by rw [hs]; exact he)
      rw [hdoor]
      nofun
    · cases hs
      exact ⟨(j.inert f0).inert (.nd _ n _), nofun⟩

/-! ## a negative run decision on a parsed stateful copy -/

structure SemCtxR (g : Graph) (store0 : List (String × List (String × String))) : Prop where
  hy : SemHypR g
  hO : OwnerNames g
  hF : FlatClass g
  hI : InitShared store0

theorem runDecision_false_srcR (g : Graph) {store0 : List (String × List (String × String))} (sc : SemCtxR g store0)
    (s : State) (j : SemR g store0 s)
    (p w : Nat) (hp : p < g.nodes.length) (hf : (g.node p).flat = false) (s1 : State) (evs : List Event)
    (h : runDecision g s p w = .ok (false, s1, evs)) : ∀ vs ∈ (g.node p).sets, Src g s p vs ∨ Alt g s p := by
  intro vs hvs
  rcases runDecision_false_stateful sc.hy.plainNodes sc.hy.fullScope hp hf h hvs with ⟨i, hil, hic, hfi⟩ | hin | hin
  · have hfli : (g.node i).flat = false := by rw [sc.hF i hil p hp hic]; exact hf
    exact (j.fin i hil hfli hfi vs (by rw [sc.hy.setsClass i hil p hp hic]; exact hvs)).imp
      (·.congr hil hp hfli hf hic) (·.congr hic)
  · exact Or.inl (j.prov.src sc.hO sc.hy.ownersReal sc.hy.uniqueProducer sc.hI hp hf hvs hin)
  · exact Or.inl (Or.inl hin)

/-- a negative run decision on a stateless parsed copy: the class has a result -/
theorem runDecision_false_res (g : Graph) (hy : SemHypR g) (s : State) (p w : Nat) (hp : p < g.nodes.length)
    (hf : (g.node p).flat = false) (hs : (g.node p).sets = []) (s1 : State) (evs : List Event)
    (h : runDecision g s p w = .ok (false, s1, evs)) : ∃ r, r ∈ sharedResults g s p := by
  have h := (runDecision_plain hy.plainNodes hp hf h).2
  simp only [hs, List.isEmpty_nil, if_true] at h
  unfold runDecisionStateless at h
  cases hr : sharedResults g s p with
  | nil => simp [hr] at h
  | cons a r => exact ⟨a, List.mem_cons_self⟩

/-! ## a positive run decision without retries -/

/-- no retries -/
def MaxTriesOne (g : Graph) : Prop := ∀ n, n < g.nodes.length → (g.node n).maxTries.getD 1 = 1

instance (g : Graph) : Decidable (MaxTriesOne g) := by unfold MaxTriesOne; infer_instance

theorem shouldRerun_mt1 (g : Graph) (s : State) (n w : Nat) (h : (g.node n).maxTries.getD 1 = 1) :
    shouldRerun g s n w ≠ .ok true := by
  fun_cases shouldRerun g s n w with
  | case1 | case2 | case3 | case4 | case5 | case6 | case7 | case8 => nofun
  | case9 nd _ _ _ _ _ _ _ mt _ _ _ _ _ left =>
    have : left = 0 := if_pos (by unfold mt nd; rw [h]; rfl)
    rw [this]
    nofun

/-- why a test is run when there are no retries: the class has no result (stateless), or no copy of the class has
been traversed (stateful) -/
def RunWhy (g : Graph) (s : State) (n : Nat) : Prop :=
  ((g.node n).sets = [] → sharedResults g s n = []) ∧
  ((g.node n).sets ≠ [] → ∀ i ∈ g.copies n, (s.nd i).finished = none)

theorem runDecision_true_why (g : Graph) (hy : SemHypR g) (s : State) (n w : Nat) (hn : n < g.nodes.length)
    (hf : (g.node n).flat = false) (hmt : (g.node n).maxTries.getD 1 = 1) (s1 : State) (evs : List Event)
    (h : runDecision g s n w = .ok (true, s1, evs)) : RunWhy g s n := by
  have h := (runDecision_plain hy.plainNodes hn hf h).2
  -- without retries the rerun rule never says yes
  have hno : ∀ (X : State) (f : Bool → Bool × State × List Event), (∀ b, (f b).1 = b) →
      (shouldRerun g X n w).map f ≠ .ok (true, s1, evs) := by
    intro X f hf h
    cases hsr : shouldRerun g X n w with
    | error e => rw [hsr] at h; cases h
    | ok b =>
      rw [hsr] at h
      have hb : b = true := by rw [← hf b]; exact congrArg (·.1) (Except.ok.inj h)
      rw [hb] at hsr
      exact shouldRerun_mt1 g X n w hmt hsr
  cases hs : (g.node n).sets with
  | nil =>
    refine ⟨fun _ => ?_, fun hne => absurd hs hne⟩
    simp only [hs, List.isEmpty_nil, if_true] at h
    unfold runDecisionStateless at h
    cases hr : sharedResults g s n with
    | nil => rfl
    | cons a r =>
      simp only [hr, List.isEmpty_cons, Bool.false_eq_true, if_false] at h
      exact absurd h (hno s _ (fun _ => rfl))
  | cons a r =>
    refine ⟨fun he => absurd (hs.symm.trans he) (List.cons_ne_nil a r), fun _ i hi => ?_⟩
    simp only [hs, List.isEmpty_cons, Bool.false_eq_true, if_false] at h
    unfold runDecisionStateful runDecisionStatefulCore at h
    by_cases hfin : isFinished g s n w 1 = true
    · simp only [hfin, Bool.not_true, Bool.false_and, Bool.false_eq_true, if_false] at h
      exact absurd h (hno _ _ (fun _ => rfl))
    · cases hfi : (s.nd i).finished with
      | none => rfl
      | some v => exact absurd ((isFinished_one_iff g s n w hf (hy.fullScope n hn hf).1).mpr ⟨i, hi, by rw [hfi]; rfl⟩) hfin

/-! ## the start of a test -/

/-- what is known at the start of `n` by `w` in state `sd`: every state `n` gets through a setup edge from a parsed
parent relevant to `w` is in the shared pool, or in a pool named in `get_location`, or the parent's class has a result
that did not pass — or a removable copy of the parent's class is cleanup-ready for its owner (to be excluded) -/
def AvailR (g : Graph) (sd : State) (w n : Nat) : Prop :=
  ∀ e ∈ (g.node n).setup, (g.node e.1).flat = false → relevant g w e.1 = true →
    ∀ vs ∈ (g.node n).gets, vs.1 ∈ e.2 →
      vs ∈ storeGet sd.store "shared" ∨
      (∃ u, u < g.workers.length ∧ vs ∈ storeGet sd.store (g.worker u).id ∧
        HasLoc (sd.nd n).getLoc vs.1 (workerLoc g u)) ∨
      (∃ r ∈ sharedResults g sd e.1, r.status ≠ "PASS") ∨
      Alt g sd e.1

/-- provenance of a `start` event of worker `w` in a piece of a step that ends in state `sout`: the test proper of an
own node `n`, started in a state `sd` with `Trv`, `SemR` and `AvailR`, for the reason `RunWhy` if `n` is not retried;
`sout` has the `droppedCleanup` registers of `sd`, and `w` awaits the test on `n` there -/
def StartSemR (g : Graph) (store0 : List (String × List (String × String))) (w : Nat) (sout : State) (e : Event) : Prop :=
  ∀ wid cname uid locs k, e = .start wid cname uid locs k →
    ∃ n sd, cname = clsName g n .plain ∧ locs = (sd.nd n).getLoc ∧ n < g.nodes.length ∧ g.idIn w n = true ∧
      (g.node n).flat = false ∧ Trv g [] sd ∧ SemR g store0 sd ∧ AvailR g sd w n ∧
      ((g.node n).maxTries.getD 1 = 1 → RunWhy g sd n) ∧
      (∀ cp, (sout.cr cp).droppedCleanup = (sd.cr cp).droppedCleanup) ∧ sout.workers.length = sd.workers.length ∧
      (w < sd.workers.length → ∃ dir uid' tag, (sout.wd w).pc = .test n .plain dir uid' tag 0)

/-- the start of a test keeps `SemR`; the test has everything it gets from traversed parents at hand, unless the parent
is cleanup-ready -/
theorem SemR.start {g : Graph} (hwf : GraphWF g) {store0 : List (String × List (String × String))} (sc : SemCtxR g store0)
    {w : Nat} {s : State} {n : Nat} {dir : Dir} {s1 : State} {evs : List Event} (hn : n < g.nodes.length)
    (t : Trv g [] s) (j : SemR g store0 s) (hready : isSetupReady g s n w = true)
    (hd : runDecision g (entered g s w n) n w = .ok (true, s1, evs)) :
    SemR g store0 (startTest g s1 n w .plain dir).1 ∧
      ∀ e ∈ (startTest g s1 n w .plain dir).2.1, StartSemR g store0 w (startTest g s1 n w .plain dir).1 e := by
  obtain ⟨hflat, hid⟩ := (runDecision_events _ _ n w _ s1 evs hd).2 rfl
  obtain ⟨h1, f1⟩ := entered_decided g [] hd
  have j1 : SemR g store0 s1 := j.inert f1
  have hfst := startTest_nonpre_fst g s1 n w .plain dir (by decide)
  refine ⟨j1.grow (grow_startTest g s1 n w .plain dir) (fun cp c u h => by rw [hfst]; exact h), fun e he => ?_⟩
  obtain ⟨uid, k, rfl⟩ := startTest_plain_event g s1 n w dir e he
  intro wid cname uid' locs k' hev
  cases hev
  have fD := (inert_runDecision g _ n w true s1 evs hd).frame
  refine ⟨n, s1, rfl, rfl, hn, hid, hflat, t.upd sc.hO.uniq h1, j1, ?_, fun hmt => ?_, fun cp => by rw [hfst]; rfl,
    by rw [hfst, workers_length_setWd]; rfl, fun hw => ?_⟩
  · -- availability
    intro e hemem hfp hrelp vs hvs hvm
    have hpl : e.1 < g.nodes.length := hwf.setup_lt n e hemem
    obtain ⟨p', hp'l, hp'flat, hp'c, hp'fin, hp's⟩ := parent_traversed (sameNodes_visH g []) t sc.hF sc.hy.producerSets
      sc.hy.setsClass hn hready hemem hemem hpl hfp hrelp hvs hvm
    rcases j.fin p' hp'l hp'flat hp'fin vs hp's with hsrc' | halt
    · rcases (hsrc'.congr hp'l hpl hp'flat hfp hp'c).at_start (sameNodes_visH g []) hflat (by rw [t.nodesLen]; exact hn) hd
        hemem hvm with h | h | h
      · exact Or.inl h
      · exact Or.inr (Or.inl h)
      · exact Or.inr (Or.inr (Or.inl h))
    · exact Or.inr (Or.inr (Or.inr ((halt.congr hp'c).mono f1.monoC)))
  · -- why it is run: transported over the run decision (results and `finished` marks unchanged)
    obtain ⟨w1, w2⟩ := runDecision_true_why g sc.hy _ n w hn hflat hmt s1 evs hd
    refine ⟨fun hs => ?_, fun hs i hi => ?_⟩
    · rw [sharedResults_congr g _ s1 n fD.results]; exact w1 hs
    · rw [fD.fin i]; exact w2 hs i hi
  · refine ⟨dir, uidOf (g.node n).pfx (sharedResults g s1 n).length, s1.nextTag, ?_⟩
    rw [hfst, wd_setWd_eq _ w _ (by exact hw)]

/-- `Sem.record` of `TravStates.lean` for the weakened invariant -/
theorem SemR.record {g : Graph} {store0 : List (String × List (String × String))} {s sb : State} (sc : SemCtxR g store0)
    (j : SemR g store0 s) (w n tag : Nat) (res : Result) (produced : Prop)
    (hn : n < g.nodes.length) (hf : (g.node n).flat = false) (ho : (g.node n).owner = some w) (htag : 1 ≤ tag)
    (hstore : ∀ loc vs, vs ∈ storeGet sb.store loc ↔
      vs ∈ storeGet s.store loc ∨ (produced ∧ loc = (g.worker w).id ∧ vs ∈ (g.node n).sets))
    (hfin : ∀ m, (sb.nd m).finished = (s.nd m).finished)
    (hres : ∀ m, m ≠ n → (sb.nd m).results = (s.nd m).results)
    (hresn : (sb.nd n).results = ((s.nd n).results ++ [res]).filter (fun r => !(r.status == "UNKNOWN" && r.tag == tag)))
    (hname : res.name = (g.node n).name) (hrtag : res.tag = 0) (hpass : res.status = "PASS" → produced)
    (hm : MonoC s sb) :
    SemR g store0 sb ∧ (∀ vs ∈ (g.node n).sets, Src g sb n vs) ∧ ∃ r, r ∈ sharedResults g sb n := by
  obtain ⟨hprov, hresS, hsrcn, hother⟩ :=
    j.prov.record sc.hO sc.hy.ownersReal w n tag res produced hn hf ho htag hstore hres hresn hname hrtag hpass
  refine ⟨⟨hprov, fun p hp hfp hfinp vs hvs => ?_, fun p hp hfp hfinp hs => ?_⟩, hsrcn, res, hresS⟩
  · by_cases hc : (g.node n).cls = (g.node p).cls
    · exact Or.inl ((hsrcn vs (by rw [sc.hy.setsClass n hn p hp hc]; exact hvs)).congr hn hp hf hfp hc)
    · rw [hfin] at hfinp
      exact (j.fin p hp hfp hfinp vs hvs).imp ((hother p hp hfp hc).2 vs) (·.mono hm)
  · by_cases hc : (g.node n).cls = (g.node p).cls
    · exact ⟨res, sharedResults_class g sb n p hn hp hf hfp hc res hresS⟩
    · rw [hfin] at hfinp
      exact (j.res p hp hfp hfinp hs).imp ((hother p hp hfp hc).1)

theorem SemR.loop {g : Graph} (hwf : GraphWF g) (hroot : (g.node g.root).flat = true)
    {store0 : List (String × List (String × String))} (sc : SemCtxR g store0) (w : Nat) :
    Loop g [] w (SemR g store0) (fun s n => (∀ vs ∈ (g.node n).sets, Src g s n vs) ∧ ∃ r, r ∈ sharedResults g s n)
      (StartSemR g store0 w) where
  wf := hwf
  root := hroot
  names := sc.hO
  plain := sc.hy.plainNodes.goodPlain sc.hF
  inert := SemR.inert
  start := fun ctx _ hn t j hready hd => by
    -- nothing is hidden
    obtain rfl := List.subset_nil.mp ctx.sub0
    exact SemR.start hwf sc hn t j hready hd
  skip := fun {s n s1 evs} hn j hd =>
    have fD := inert_runDecision g s n w false s1 evs hd
    (j.inert fD).finish n w
      (fun _ hfl vs hvs => (runDecision_false_srcR g sc s j n w hn hfl s1 evs hd vs hvs).imp fD.frame.grow.src (·.mono fD.monoC))
      (fun _ hfl hs => (runDecision_false_res g sc.hy s n w hn hfl hs s1 evs hd).imp (fun r => fD.frame.grow.sharedResults g n r))
  finish := fun _ n j h => j.finish n w (fun _ _ vs hvs => Or.inl (h.1 vs hvs)) (fun _ _ _ => h.2)
  back := fun {_ s n s' evs} ctx hn j hc hr => by
    obtain rfl := List.subset_nil.mp ctx.sub0
    exact reverseNode_semR g sc.hy sc.hO s n w s' evs j hn hc hr
  placeholder := fun s n tag hn hfl hph =>
    have hr := mem_sharedResults g s n n _ hn hfl rfl hph
    ⟨fun vs _ => Or.inr (Or.inr ⟨phOf (g.node n).name tag, hr, by show "UNKNOWN" ≠ "PASS"; decide⟩), _, hr⟩
  record := fun n tag res produced j => SemR.record sc j w n tag res produced

/-- one scheduler step from a state with the invariants of C03 (`Basic`, `Uids`), `Trv` and `SemR` -/
theorem resume_semR (g : Graph) (hwf : GraphWF g) (hroot : (g.node g.root).flat = true)
    {store0 : List (String × List (String × String))} (sc : SemCtxR g store0) (s : State) (w : Nat) (out : Outcome)
    (fuel : Nat) (b : Basic g s All) (u : Uids g s All) (t : Trv g [] s) (j : SemR g store0 s) :
    SemR g store0 (resume g s w out fuel).1 ∧
      ∀ e ∈ (resume g s w out fuel).2, NS e ∨ StartSemR g store0 w (resume g s w out fuel).1 e :=
  (SemR.loop hwf hroot sc w).resumed b u t j (resume_resumed g s w out fuel)

/-! ## reachable states of a pre-parsed graph -/

theorem ReachS.reachC {g : Graph} {ncls : Nat} {store : List (String × List (String × String))} {s : State}
    (h : ReachS g ncls store [] s) : Clean.ReachC g ncls store s := by
  induction h with
  | init => exact Clean.ReachC.init
  | step s w out fuel _ hw hf ih => exact Clean.ReachC.step s w out fuel ih hw hf

theorem ReachS.semR {g : Graph} (hwf : graphWF g = true) (hroot : (g.node g.root).flat = true) {ncls : Nat}
    {store : List (String × List (String × String))} (sc : SemCtxR g store) (hN : NamesInj g) (hP : PreNamesFresh g)
    {s : State} (h : ReachS g ncls store [] s) : SemR g store s := by
  induction h with
  | init => exact SemR.init g ncls store _
  | step s w out fuel hs _ _ ih =>
    exact (resume_semR g (GraphWF.of_bool hwf) hroot sc s w out fuel (hs.reachR.basic hwf) (hs.reachR.uids hwf hN hP)
      (hs.reachH.trv (GraphWF.of_bool hwf) hroot sc.hO.uniq) ih).1

/-! ## instances for `Props/C01.lean` -/

/-- one worker: test `a` sets `vm1/a` and removes it when reversed (`unset_mode = fi`), test `b` gets it -/
def exRm1 : Graph :=
  { workers := [{ id := "net1", swarm := "localhost" }],
    nodes := [
      { cls := 0, owner := some 0, name := "a.net1", pfx := "1a1", objs := ["vm1"],
        sets := [("vm1", "a")], unsetMode := [("vm1", "fi")], setup := [(2, ["vm1"])], cleanup := [(1, ["vm1"])] },
      { cls := 1, owner := some 0, name := "b.net1", pfx := "2a1", objs := ["vm1"],
        gets := [("vm1", "a")], setup := [(0, ["vm1"])] },
      { cls := 2, owner := none, name := "noop", pfx := "1", flat := true, sharedRoot := true,
        cleanup := [(0, ["vm1"])] }],
    root := 2 }

/-- `a` is running -/
def exRm1_1 : State := runSched exRm1 100 (initState exRm1 3 [] []) [(0, exNoOut)]
/-- `a` passed, `b` is running -/
def exRm1_2 : State := runSched exRm1 100 (initState exRm1 3 [] []) [(0, exNoOut), (0, exPass)]

/-- two workers in one scope; the removable class `a` and its dependant `b` are parsed for net2 only, net1 has a test
`c` of its own (`RemovableSingle` holds) -/
def exRm2 : Graph :=
  { workers := [{ id := "net1", swarm := "localhost" }, { id := "net2", swarm := "localhost" }],
    nodes := [
      { cls := 0, owner := some 1, name := "a.net2", pfx := "1a1", objs := ["vm1"],
        sets := [("vm1", "a")], unsetMode := [("vm1", "fi")], setup := [(3, ["vm1"])], cleanup := [(1, ["vm1"])] },
      { cls := 1, owner := some 1, name := "b.net2", pfx := "2a1", objs := ["vm1"],
        gets := [("vm1", "a")], setup := [(0, ["vm1"])] },
      { cls := 3, owner := some 0, name := "c.net1", pfx := "3a1", objs := ["vm1"], setup := [(3, ["vm1"])] },
      { cls := 2, owner := none, name := "noop", pfx := "1", flat := true, sharedRoot := true,
        cleanup := [(0, ["vm1"]), (2, ["vm1"])] }],
    root := 3 }

/-- two workers in one scope, every class parsed for both: the removable class `a` (sets `vm1/a`, policy `fi`) and its
dependants `b` and `d` (`SymCopies` holds, `RemovableSingle` does not) -/
def exRmSym : Graph :=
  { workers := [{ id := "net1", swarm := "localhost" }, { id := "net2", swarm := "localhost" }],
    nodes := [
      { cls := 0, owner := some 0, name := "a.net1", pfx := "1a1", objs := ["vm1"],
        sets := [("vm1", "a")], unsetMode := [("vm1", "fi")], setup := [(6, ["vm1"])],
        cleanup := [(2, ["vm1"]), (4, ["vm1"])] },
      { cls := 0, owner := some 1, name := "a.net2", pfx := "1a1", objs := ["vm1"],
        sets := [("vm1", "a")], unsetMode := [("vm1", "fi")], setup := [(6, ["vm1"])],
        cleanup := [(3, ["vm1"]), (5, ["vm1"])] },
      { cls := 1, owner := some 0, name := "b.net1", pfx := "2a1", objs := ["vm1"],
        gets := [("vm1", "a")], setup := [(0, ["vm1"])] },
      { cls := 1, owner := some 1, name := "b.net2", pfx := "2a1", objs := ["vm1"],
        gets := [("vm1", "a")], setup := [(1, ["vm1"])] },
      { cls := 3, owner := some 0, name := "d.net1", pfx := "3a1", objs := ["vm1"],
        gets := [("vm1", "a")], setup := [(0, ["vm1"])] },
      { cls := 3, owner := some 1, name := "d.net2", pfx := "3a1", objs := ["vm1"],
        gets := [("vm1", "a")], setup := [(1, ["vm1"])] },
      { cls := 2, owner := none, name := "noop", pfx := "1", flat := true, sharedRoot := true,
        cleanup := [(0, ["vm1"]), (1, ["vm1"])] }],
    root := 6 }

/-- net1 ran `a` (PASS) and is running `b`; net2 has not moved -/
def exRmSym_2 : State := runSched exRmSym 100 (initState exRmSym 4 [] []) [(0, exNoOut), (0, exPass)]

/-- `exRmSym` with the two workers in DIFFERENT swarms and retries on `d` (`max_tries = 3`, `rerun_status = fail`):
`SymCopies` holds, `MaxTriesOne` does not -/
def exRmRetry : Graph :=
  { workers := [{ id := "c1.net1", swarm := "c1" }, { id := "c2.net2", swarm := "c2" }],
    nodes := [
      { cls := 0, owner := some 0, name := "a.c1.net1", pfx := "1a1", objs := ["vm1"],
        sets := [("vm1", "a")], unsetMode := [("vm1", "fi")], setup := [(6, ["vm1"])],
        cleanup := [(2, ["vm1"]), (4, ["vm1"])] },
      { cls := 0, owner := some 1, name := "a.c2.net2", pfx := "1a1", objs := ["vm1"],
        sets := [("vm1", "a")], unsetMode := [("vm1", "fi")], setup := [(6, ["vm1"])],
        cleanup := [(3, ["vm1"]), (5, ["vm1"])] },
      { cls := 1, owner := some 0, name := "b.c1.net1", pfx := "2a1", objs := ["vm1"],
        gets := [("vm1", "a")], setup := [(0, ["vm1"])] },
      { cls := 1, owner := some 1, name := "b.c2.net2", pfx := "2a1", objs := ["vm1"],
        gets := [("vm1", "a")], setup := [(1, ["vm1"])] },
      { cls := 3, owner := some 0, name := "d.c1.net1", pfx := "3a1", objs := ["vm1"], maxTries := some 3,
        rerunStatus := some ["fail"], gets := [("vm1", "a")], setup := [(0, ["vm1"])] },
      { cls := 3, owner := some 1, name := "d.c2.net2", pfx := "3a1", objs := ["vm1"], maxTries := some 3,
        rerunStatus := some ["fail"], gets := [("vm1", "a")], setup := [(1, ["vm1"])] },
      { cls := 2, owner := none, name := "noop", pfx := "1", flat := true, sharedRoot := true,
        cleanup := [(0, ["vm1"]), (1, ["vm1"])] }],
    root := 6 }

def exFail : Outcome := { status := some "FAIL", dur := 1 }

/-- `c1.net1` ran `a` (PASS) and `b` (PASS) while `c2.net2` started `d`; `c1.net1` then skipped and dropped its copy of `d`
(the placeholder `UNKNOWN` of the peer is not in the rerun set) and removed the state -/
def exRmRetry_4 : State :=
  runSched exRmRetry 100 (initState exRmRetry 4 [] []) [(0, exNoOut), (0, exPass), (1, exNoOut), (0, exPass)]

/-- `exSt` of `TravStates.lean` (test `a` sets `vm1/a`, copies for net1 and net2; only net2 has the dependant `b`) with
the removal policy `fi` on `a`: `RemovableSingle` fails -/
def exRmStale : Graph :=
  { workers := [{ id := "net1", swarm := "localhost" }, { id := "net2", swarm := "localhost" }],
    nodes := [
      { cls := 0, owner := some 0, name := "a.net1", pfx := "1a1", objs := ["vm1"],
        sets := [("vm1", "a")], unsetMode := [("vm1", "fi")], setup := [(3, ["vm1"])] },
      { cls := 0, owner := some 1, name := "a.net2", pfx := "1a1", objs := ["vm1"],
        sets := [("vm1", "a")], unsetMode := [("vm1", "fi")], setup := [(3, ["vm1"])], cleanup := [(2, ["vm1"])] },
      { cls := 1, owner := some 1, name := "b.net2", pfx := "2a1", objs := ["vm1"],
        gets := [("vm1", "a")], setup := [(1, ["vm1"])] },
      { cls := 2, owner := none, name := "noop", pfx := "1", flat := true, sharedRoot := true,
        cleanup := [(0, ["vm1"]), (1, ["vm1"])] }],
    root := 3 }

/-- net1 ran `a`, passed, found its copy without dependants and removed the state from its pool; net2 has not moved -/
def exRmStale_2 : State := runSched exRmStale 100 (initState exRmStale 3 [] []) [(0, exNoOut), (0, exPass)]

end I2N.Trav
