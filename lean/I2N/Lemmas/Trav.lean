import I2N.Model.TravStep
/-!
Facts about the traversal model alone, on which all later files build: access lemmas for the state, the visible graph
when nothing is hidden, what membership in a register, in `dedupNat` and in the shared views of a class means, what the
ready tests say, and, for each operation (picks, `pull_locations`, the run decision, `sync_states`, `reverse_node`), one
statement of its effect from which the frame arguments of the later files start.
-/
namespace I2N.Trav

@[simp] theorem nd_setWd (s : State) (w : Nat) (f : WorkerD → WorkerD) (n : Nat) : (s.setWd w f).nd n = s.nd n := rfl
@[simp] theorem nd_setCr (s : State) (c : Nat) (f : ClassRegs → ClassRegs) (n : Nat) : (s.setCr c f).nd n = s.nd n := rfl
@[simp] theorem wd_setNd (s : State) (m : Nat) (f : NodeD → NodeD) (w : Nat) : (s.setNd m f).wd w = s.wd w := rfl
@[simp] theorem wd_setCr (s : State) (c : Nat) (f : ClassRegs → ClassRegs) (w : Nat) : (s.setCr c f).wd w = s.wd w := rfl
@[simp] theorem cr_setNd (s : State) (m : Nat) (f : NodeD → NodeD) (c : Nat) : (s.setNd m f).cr c = s.cr c := rfl
@[simp] theorem cr_setWd (s : State) (w : Nat) (f : WorkerD → WorkerD) (c : Nat) : (s.setWd w f).cr c = s.cr c := rfl
@[simp] theorem store_setNd (s : State) (m : Nat) (f : NodeD → NodeD) : (s.setNd m f).store = s.store := rfl
@[simp] theorem store_setWd (s : State) (w : Nat) (f : WorkerD → WorkerD) : (s.setWd w f).store = s.store := rfl
@[simp] theorem store_setCr (s : State) (c : Nat) (f : ClassRegs → ClassRegs) : (s.setCr c f).store = s.store := rfl
@[simp] theorem nodes_length_setNd (s : State) (m : Nat) (f : NodeD → NodeD) :
    (s.setNd m f).nodes.length = s.nodes.length := by simp [State.setNd]

@[simp] theorem workers_length_setWd (s : State) (w : Nat) (f : WorkerD → WorkerD) :
    (s.setWd w f).workers.length = s.workers.length := by simp [State.setWd]

@[simp] theorem regs_length_setCr (s : State) (c : Nat) (f : ClassRegs → ClassRegs) :
    (s.setCr c f).regs.length = s.regs.length := by simp [State.setCr]

/-- `setNd` at an index beyond the list changes nothing, hence the second conjunct of the guard -/
theorem nd_setNd (s : State) (m : Nat) (f : NodeD → NodeD) (n : Nat) :
    (s.setNd m f).nd n = if n = m ∧ m < s.nodes.length then f (s.nd n) else s.nd n := by
  unfold State.setNd State.nd
  simp only [List.getD_eq_getElem?_getD, List.getElem?_modify]
  by_cases hm : m = n
  · subst hm
    by_cases hl : m < s.nodes.length <;> simp [hl]
  · simp [hm, Ne.symm hm]

theorem wd_setWd (s : State) (v : Nat) (f : WorkerD → WorkerD) (w : Nat) :
    (s.setWd v f).wd w = if w = v ∧ v < s.workers.length then f (s.wd w) else s.wd w := by
  unfold State.setWd State.wd
  simp only [List.getD_eq_getElem?_getD, List.getElem?_modify]
  by_cases hv : v = w
  · subst hv
    by_cases hl : v < s.workers.length <;> simp [hl]
  · simp [hv, Ne.symm hv]

theorem cr_setCr (s : State) (c : Nat) (f : ClassRegs → ClassRegs) (c' : Nat) :
    (s.setCr c f).cr c' = if c' = c ∧ c < s.regs.length then f (s.cr c') else s.cr c' := by
  unfold State.setCr State.cr
  simp only [List.getD_eq_getElem?_getD, List.getElem?_modify]
  by_cases hc : c = c'
  · subst hc
    by_cases hl : c < s.regs.length <;> simp [hl]
  · simp [hc, Ne.symm hc]

theorem cr_setCr_cases (s : State) (c : Nat) (f : ClassRegs → ClassRegs) (c' : Nat) :
    (s.setCr c f).cr c' = s.cr c' ∨ (c' = c ∧ (s.setCr c f).cr c' = f (s.cr c')) := by
  rw [cr_setCr]; split
  · rename_i h; exact Or.inr ⟨h.1, rfl⟩
  · exact Or.inl rfl

theorem cr_setCr_eq (s : State) (c : Nat) (f : ClassRegs → ClassRegs) (h : c < s.regs.length) :
    (s.setCr c f).cr c = f (s.cr c) := by
  rw [cr_setCr, if_pos ⟨rfl, h⟩]

theorem cr_setCr_of_not (s : State) (c : Nat) (f : ClassRegs → ClassRegs) (c' : Nat) (h : ¬(c' = c ∧ c < s.regs.length)) :
    (s.setCr c f).cr c' = s.cr c' := by
  rw [cr_setCr, if_neg h]

theorem cr_setCr_ne (s : State) (c c' : Nat) (f : ClassRegs → ClassRegs) (h : c' ≠ c) :
    (s.setCr c f).cr c' = s.cr c' :=
  cr_setCr_of_not s c f c' (fun hc => h hc.1)

theorem nd_setNd_proj {α} (P : NodeD → α) (s : State) (m : Nat) (f : NodeD → NodeD) (hf : ∀ d, P (f d) = P d) (n : Nat) :
    P ((s.setNd m f).nd n) = P (s.nd n) := by
  rw [nd_setNd]; split
  · exact hf _
  · rfl

theorem nd_setNd_ne (s : State) (m n : Nat) (f : NodeD → NodeD) (h : n ≠ m) : (s.setNd m f).nd n = s.nd n := by
  rw [nd_setNd, if_neg (fun c => h c.1)]

theorem nd_setNd_eq (s : State) (m : Nat) (f : NodeD → NodeD) (h : m < s.nodes.length) : (s.setNd m f).nd m = f (s.nd m) := by
  rw [nd_setNd, if_pos ⟨rfl, h⟩]

theorem wd_setWd_ne (s : State) (v w : Nat) (f : WorkerD → WorkerD) (h : w ≠ v) : (s.setWd v f).wd w = s.wd w := by
  rw [wd_setWd, if_neg (fun c => h c.1)]

theorem wd_setWd_eq (s : State) (w : Nat) (f : WorkerD → WorkerD) (h : w < s.workers.length) : (s.setWd w f).wd w = f (s.wd w) := by
  rw [wd_setWd, if_pos ⟨rfl, h⟩]

theorem setNd_setNd (s : State) (n : Nat) (f f' : NodeD → NodeD) : (s.setNd n f).setNd n f' = s.setNd n (f' ∘ f) := by
  simp [State.setNd, List.modify_modify_eq]

theorem setNd_id (s : State) (n : Nat) : s.setNd n (fun d => d) = s := by
  unfold State.setNd
  rw [show (fun d : NodeD => d) = id from rfl, List.modify_id]

theorem node_edges_of_ge (g : Graph) (b : Nat) (h : ¬ b < g.nodes.length) : (g.node b).setup = [] ∧ (g.node b).cleanup = [] := by
  unfold Graph.node
  rw [List.getD_eq_getElem?_getD, List.getElem?_eq_none (by omega)]
  exact ⟨rfl, rfl⟩

theorem isPrefixChars_append (p rest : List Char) : isPrefixChars p (p ++ rest) = true := by
  induction p with
  | nil => rfl
  | cons a r ih => simp [isPrefixChars, ih]

theorem mem_dedupNat (l : List Nat) (a : Nat) : a ∈ dedupNat l ↔ a ∈ l := by
  induction l with
  | nil => simp [dedupNat]
  | cons b l ih =>
    unfold dedupNat
    by_cases h : l.contains b = true
    · simp only [h, if_true, ih, List.mem_cons]
      constructor
      · exact Or.inr
      · rintro (rfl | h')
        · simpa using h
        · exact h'
    · simp only [h, Bool.false_eq_true, if_false, List.mem_cons, ih]

theorem filterMap_ite_isEmpty {α β} (l : List α) (c : α → Bool) (f : α → β) :
    (l.filterMap (fun x => if c x then some (f x) else none)).isEmpty = true ↔ ∀ x ∈ l, c x = false := by
  simp only [List.isEmpty_iff, List.filterMap_eq_nil_iff]
  constructor
  · intro h x hx
    have := h x hx
    cases hc : c x
    · rfl
    · simp [hc] at this
  · intro h x hx
    simp [h x hx]

theorem vis_eq_of_hidden_nil {g : Graph} {s : State} (h : s.hidden = []) : vis g s = g := by
  rw [vis, h]; rfl

theorem vis_congr (g : Graph) (s s' : State) (h : s'.hidden = s.hidden) : vis g s' = vis g s := by
  unfold vis; rw [h]

theorem mem_regWorkers_some (r : Reg) (c v : Nat) : v ∈ regWorkers r (some c) ↔ ∃ n, ((c, v), n) ∈ r := by
  unfold regWorkers
  simp only [List.mem_map, List.mem_filter, beq_iff_eq]
  exact ⟨fun ⟨⟨⟨a, b⟩, n⟩, ⟨hm, ha⟩, hb⟩ => ⟨n, ha ▸ hb ▸ hm⟩, fun ⟨n, hm⟩ => ⟨((c, v), n), ⟨hm, rfl⟩, rfl⟩⟩

theorem exists_mem_regAdd (r : Reg) (k k' : Nat × Nat) :
    (∃ n, (k', n) ∈ regAdd r k) ↔ (∃ n, (k', n) ∈ r) ∨ k' = k := by
  induction r with
  | nil => simp [regAdd]
  | cons e r ih =>
    unfold regAdd
    split
    · next h =>
      rw [beq_iff_eq] at h
      simp only [List.mem_cons, exists_or, ← h, Prod.ext_iff, exists_and_left, exists_eq, and_true]
      exact ⟨fun h => h.elim (fun a => Or.inr a) (fun a => Or.inl (Or.inr a)), fun h => h.elim id Or.inl⟩
    · simp only [List.mem_cons, exists_or, ih, or_assoc]

theorem mem_regWorkers_regAdd (r : Reg) (c0 w0 c v : Nat) :
    v ∈ regWorkers (regAdd r (c0, w0)) (some c) ↔ v ∈ regWorkers r (some c) ∨ (v = w0 ∧ c = c0) := by
  rw [mem_regWorkers_some, mem_regWorkers_some, exists_mem_regAdd, Prod.mk.injEq]
  exact or_congr_right and_comm

theorem regTotal_regAdd (r : Reg) (k : Nat × Nat) : regTotal (regAdd r k) = regTotal r + 1 := by
  unfold regTotal
  induction r with
  | nil => simp [regAdd]
  | cons e r ih =>
    unfold regAdd
    split
    · simp only [List.map_cons, List.sum_cons]; omega
    · simp only [List.map_cons, List.sum_cons, ih]; omega

/-! ### what the ready tests say -/

theorem relevant_of_flat {g : Graph} {w n : Nat} (h : (g.node n).flat = true) : relevant g w n = true := by
  unfold relevant; rw [h]; rfl

theorem relevant_of_idIn {g : Graph} {w n : Nat} (h : g.idIn w n = true) : relevant g w n = true := by
  unfold relevant; rw [h]; simp

/-- the shape `is_setup_ready` and `is_cleanup_ready` share: every neighbour the worker cares for is registered as dropped -/
theorem all_ready_iff (l : List (Nat × List String)) (rel : Nat → Bool) (reg : Nat → List Nat) (w : Nat) :
    l.all (fun (c, _) => !rel c || (reg c).contains w) = true ↔ ∀ c ∈ l, rel c.1 = true → w ∈ reg c.1 := by
  rw [List.all_eq_true]
  constructor
  · intro h c hc hrel
    simpa [hrel] using h c hc
  · intro h c hc
    cases hrel : rel c.1
    · simp [hrel]
    · simpa [hrel] using h c hc hrel

theorem cleanup_ready_iff (g : Graph) (s : State) (n w : Nat) :
    isCleanupReady g s n w = true ↔
      ∀ c ∈ (g.node n).cleanup, relevant g w c.1 = true →
        w ∈ regWorkers (s.cr (g.node n).cls).droppedCleanup (some (g.node c.1).cls) :=
  all_ready_iff (g.node n).cleanup (relevant g w)
    (fun c => regWorkers (s.cr (g.node n).cls).droppedCleanup (some (g.node c).cls)) w

theorem setup_ready_iff' (g : Graph) (s : State) (n w : Nat) :
    isSetupReady g s n w = true ↔
      ∀ p ∈ (g.node n).setup, relevant g w p.1 = true →
        w ∈ regWorkers (s.cr (g.node n).cls).droppedSetup (some (g.node p.1).cls) :=
  all_ready_iff (g.node n).setup (relevant g w)
    (fun p => regWorkers (s.cr (g.node n).cls).droppedSetup (some (g.node p).cls)) w

/-! ### the shared views of a class -/

theorem mem_sharedResults_iff (g : Graph) (s : State) (p : Nat) (r : Result) :
    r ∈ sharedResults g s p ↔ ∃ i ∈ g.copies p, r ∈ (s.nd i).results := by
  unfold sharedResults
  rw [List.mem_flatMap]

theorem mem_sharedFinished (g : Graph) (s : State) (n v : Nat) :
    v ∈ sharedFinished g s n ↔ ∃ i, i ∈ g.copies n ∧ (s.nd i).finished = some v := by
  unfold sharedFinished
  rw [mem_dedupNat]
  simp [List.mem_filterMap]

/-- the workers `pull_locations` names for parent `p`: first worker (in swarm order) whose id occurs in the name of a
passing result of the class -/
theorem mem_sharedResultWorkerIds (g : Graph) (s : State) (p v : Nat) :
    v ∈ sharedResultWorkerIds g s p ↔
      ∃ r ∈ sharedResults g s p, r.status = "PASS" ∧
        (List.range g.workers.length).find? (fun w => strIn (g.worker w).id r.name) = some v := by
  unfold sharedResultWorkerIds
  rw [mem_dedupNat, List.mem_filterMap]
  constructor
  · rintro ⟨r, hr, h⟩
    by_cases hp : r.status = "PASS"
    · simp only [hp, bne_self_eq_false, Bool.false_eq_true, if_false] at h
      exact ⟨r, hr, hp, h⟩
    · have : (r.status != "PASS") = true := by simpa using hp
      simp [this] at h
  · rintro ⟨r, hr, hp, h⟩
    refine ⟨r, hr, ?_⟩
    simp [hp, h]

/-! ### picking: the node picked is one of the eligible neighbours, and one pick register is bumped -/

theorem mem_insertBy (le : Nat → Nat → Bool) (a x : Nat) (l : List Nat) (h : x ∈ insertBy le a l) : x = a ∨ x ∈ l := by
  induction l with
  | nil => simp [insertBy] at h; exact Or.inl h
  | cons b r ih =>
    unfold insertBy at h
    split at h
    · simpa using h
    · rcases List.mem_cons.mp h with h | h
      · exact Or.inr (h ▸ List.mem_cons_self)
      · exact (ih h).imp_right (List.mem_cons_of_mem _)

theorem mem_stableSort (le : Nat → Nat → Bool) (x : Nat) (l : List Nat) (h : x ∈ stableSort le l) : x ∈ l := by
  induction l with
  | nil => simp [stableSort] at h
  | cons a r ih =>
    rcases mem_insertBy le a x _ h with h | h
    · exact h ▸ List.mem_cons_self
    · exact List.mem_cons_of_mem _ (ih h)

theorem head_stableSort_filter {le : Nat → Nat → Bool} {l : List Nat} {p : Nat → Bool} {d : Nat} {rest : List Nat}
    (h : stableSort le (l.filter p) = d :: rest) : d ∈ l ∧ p d = true :=
  List.mem_filter.mp (mem_stableSort le d _ (h ▸ List.mem_cons_self))

theorem pickChild_eq_some {g : Graph} {s : State} {n w c : Nat} {s' : State} (h : pickChild g s n w = some (c, s')) :
    c ∈ (g.node n).cleanup.map (·.1) ∧ relevant g w c = true ∧
    (regWorkers (s.cr (g.node n).cls).droppedCleanup (some (g.node c).cls)).contains w = false ∧
    s' = s.setCr (g.node c).cls (fun r => { r with pickedBySetup := regAdd r.pickedBySetup ((g.node n).cls, w) }) := by
  revert h
  fun_cases pickChild g s n w with
  | case1 => intro h; cases h
  | case2 _ d _ hs =>
    intro h; cases h
    have hd := head_stableSort_filter hs
    simp only [Bool.and_eq_true, Bool.not_eq_true'] at hd
    exact ⟨hd.1, hd.2.1, hd.2.2, rfl⟩

theorem pickParent_eq_some {g : Graph} {s : State} {n w p : Nat} {s' : State} (h : pickParent g s n w = some (p, s')) :
    p ∈ (g.node n).setup.map (·.1) ∧ relevant g w p = true ∧
    (regWorkers (s.cr (g.node n).cls).droppedSetup (some (g.node p).cls)).contains w = false ∧
    s' = s.setCr (g.node p).cls (fun r => { r with pickedByCleanup := regAdd r.pickedByCleanup ((g.node n).cls, w) }) := by
  revert h
  fun_cases pickParent g s n w with
  | case1 => intro h; cases h
  | case2 _ d _ hs =>
    intro h; cases h
    have hd := head_stableSort_filter hs
    simp only [Bool.and_eq_true, Bool.not_eq_true'] at hd
    exact ⟨hd.1, hd.2.1, hd.2.2, rfl⟩

/-! ### operations that leave the node records alone; `pull_locations` writes `getLoc` of its node only -/

def startedOf (s : State) (n : Nat) : Option Nat := (s.nd n).started

theorem started_pickChild (g : Graph) (s : State) (n w c : Nat) (s' : State) (h : pickChild g s n w = some (c, s')) (m : Nat) :
    s'.nd m = s.nd m := by
  rw [(pickChild_eq_some h).2.2.2]; rfl

theorem started_pickParent (g : Graph) (s : State) (n w p : Nat) (s' : State) (h : pickParent g s n w = some (p, s')) (m : Nat) :
    s'.nd m = s.nd m := by
  rw [(pickParent_eq_some h).2.2.2]; rfl

theorem nd_dropParent (g : Graph) (s : State) (c p w m : Nat) : (dropParent g s c p w).nd m = s.nd m := rfl
theorem nd_dropChild (g : Graph) (s : State) (p c w m : Nat) : (dropChild g s p c w).nd m = s.nd m := rfl
theorem nd_popPath (s : State) (w m : Nat) : (popPath s w).nd m = s.nd m := rfl
theorem nd_pushPath (s : State) (w x m : Nat) : (pushPath s w x).nd m = s.nd m := rfl

theorem nd_dropChildren (g : Graph) (s : State) (next w : Nat) (l : List (Nat × List String)) (m : Nat) :
    (l.foldl (fun s (p, _) => dropChild g s p next w) s).nd m = s.nd m := by
  induction l generalizing s with
  | nil => rfl
  | cons a r ih => simp only [List.foldl_cons]; rw [ih]; rfl

theorem foldl_preserves {α β} (P : State → α) (f : State → β → State) (h : ∀ s b, P (f s b) = P s)
    (l : List β) (s : State) : P (l.foldl f s) = P s := by
  induction l generalizing s with
  | nil => rfl
  | cons a r ih => simp only [List.foldl_cons]; rw [ih, h]

theorem foldl_setNd_getLoc {β} (n : Nat) (F : State → β → State)
    (hF : ∀ s b, ∃ l : NodeD → List (String × String), F s b = s.setNd n (fun d => { d with getLoc := l d }))
    (bs : List β) (s : State) :
    ∃ l : NodeD → List (String × String), bs.foldl F s = s.setNd n (fun d => { d with getLoc := l d }) := by
  induction bs generalizing s with
  | nil => exact ⟨fun d => d.getLoc, (setNd_id s n).symm⟩
  | cons b r ih =>
    obtain ⟨l1, h1⟩ := hF s b
    obtain ⟨l2, h2⟩ := ih (F s b)
    exact ⟨_, by rw [List.foldl_cons, h2, h1, setNd_setNd]; rfl⟩

theorem pullLocations_setNd (g : Graph) (s : State) (n : Nat) :
    ∃ l : NodeD → List (String × String), pullLocations g s n = s.setNd n (fun d => { d with getLoc := l d }) := by
  unfold pullLocations
  split
  · exact ⟨fun d => d.getLoc, (setNd_id s n).symm⟩
  · -- the three nested folds: over the setup edges, over the locations of an edge, over its objects
    refine foldl_setNd_getLoc n _ (fun s _ => ?_) _ s
    refine foldl_setNd_getLoc n _ (fun s _ => ?_) _ s
    exact foldl_setNd_getLoc n _ (fun s _ => ⟨_, rfl⟩) _ s

theorem started_pullLocations (g : Graph) (s : State) (n m : Nat) :
    ((pullLocations g s n).nd m).started = (s.nd m).started := by
  obtain ⟨l, h⟩ := pullLocations_setNd g s n
  rw [h]
  exact nd_setNd_proj (·.started) s n (fun d => { d with getLoc := l d }) (fun _ => rfl) m

theorem runDecisionStatefulCore_ok {g : Graph} {s : State} {n w : Nat} {scan : Bool} {sc : Bool × List Event}
    {b : Bool} {s1 : State} {e1 : List Event} (h : runDecisionStatefulCore g s n w scan sc = .ok (b, s1, e1)) :
    (s1 = s ∨ s1 = disableRerun s n) ∧ ((scan && sc.1) = true ∨ shouldRerun g s1 n w = .ok b) := by
  unfold runDecisionStatefulCore at h
  generalize hsd : (if ((sharedFilteredResults g s n (s.nd n).started).isEmpty && !sc.1) = true then disableRerun s n else s) = sd
    at h
  have hd : sd = s ∨ sd = disableRerun s n := by
    rw [← hsd]; split
    · exact Or.inr rfl
    · exact Or.inl rfl
  split at h
  · rename_i hx
    cases h
    exact ⟨hd, Or.inl hx⟩
  · cases hr : shouldRerun g sd n w with
    | error e => rw [hr] at h; cases h
    | ok r => rw [hr] at h; cases h; exact ⟨hd, Or.inr hr⟩

theorem runDecisionStatefulCore_false {g : Graph} {s : State} {n w : Nat} {scan : Bool} {sc : Bool × List Event}
    {s1 : State} {e1 : List Event} (h : runDecisionStatefulCore g s n w scan sc = .ok (false, s1, e1)) :
    (s1 = s ∨ s1 = disableRerun s n) ∧ shouldRerun g s1 n w = .ok false := by
  obtain ⟨h1, h2 | h2⟩ := runDecisionStatefulCore_ok h
  · unfold runDecisionStatefulCore at h
    rw [if_pos h2] at h
    cases h
  · exact ⟨h1, h2⟩

theorem runDecisionStatefulCore_noscan {g : Graph} {s : State} {n w : Nat} (sc : Bool × List Event)
    (hr : ∀ sd, sd = s ∨ sd = disableRerun s n → shouldRerun g sd n w = .ok false) :
    ∃ s2 e2, runDecisionStatefulCore g s n w false sc = .ok (false, s2, e2) := by
  unfold runDecisionStatefulCore
  rw [if_neg (by simp), hr _ (by split; exact Or.inr rfl; exact Or.inl rfl)]
  exact ⟨_, _, rfl⟩

theorem runDecisionStateless_ok {g : Graph} {s : State} {n w : Nat} {b : Bool} {s1 : State} {e1 : List Event}
    (h : runDecisionStateless g s n w = .ok (b, s1, e1)) :
    s1 = s ∧ (((sharedResults g s n).isEmpty = true ∧ b = true) ∨ shouldRerun g s n w = .ok b) := by
  unfold runDecisionStateless at h
  split at h
  · rename_i he
    cases h; exact ⟨rfl, Or.inl ⟨he, rfl⟩⟩
  · cases hr : shouldRerun g s n w with
    | error e => rw [hr] at h; cases h
    | ok r => rw [hr] at h; cases h; exact ⟨rfl, Or.inr rfl⟩

theorem runDecisionStatefulCore_events (g : Graph) (s : State) (n w : Nat) (scan : Bool) (sc : Bool × List Event)
    (b : Bool) (s1 : State) (e1 : List Event)
    (h : runDecisionStatefulCore g s n w scan sc = .ok (b, s1, e1)) : e1 = sc.2 := by
  unfold runDecisionStatefulCore at h
  split at h
  · cases h; rfl
  · revert h
    cases shouldRerun g _ n w with
    | error e => intro h; cases h
    | ok r => intro h; cases h; rfl

theorem runDecisionStateless_events (g : Graph) (s : State) (n w : Nat) (b : Bool) (s1 : State) (e1 : List Event)
    (h : runDecisionStateless g s n w = .ok (b, s1, e1)) : e1 = [] := by
  unfold runDecisionStateless at h
  split at h
  · cases h; rfl
  · revert h
    cases shouldRerun g s n w with
    | error e => intro h; cases h
    | ok r => intro h; cases h; rfl

theorem runDecision_unfold (g : Graph) (s : State) (n w : Nat) :
    runDecision g s n w =
      if ((g.node n).sharedRoot || (g.node n).dryRun || (g.node n).flat || (g.node n).cloneSource) = true then .ok (false, s, [])
      else if (!g.idIn w n) = true then .error "RuntimeError"
      else if (g.node n).sets.isEmpty = true then runDecisionStateless g s n w else runDecisionStateful g s n w := by
  unfold runDecision
  dsimp only
  cases (g.node n).sharedRoot
  case true => simp only [Bool.true_or, if_true]
  cases (g.node n).dryRun
  case true => simp only [Bool.or_true, Bool.true_or, Bool.false_eq_true, if_true, if_false]
  cases (g.node n).flat
  case true => simp only [Bool.or_true, Bool.true_or, Bool.false_eq_true, if_true, if_false]
  cases (g.node n).cloneSource <;> simp only [Bool.or_self, Bool.or_true, Bool.false_eq_true, if_true, if_false]

theorem runDecision_eq_ok {g : Graph} {s : State} {n w : Nat} {b : Bool} {s1 : State} {e1 : List Event}
    (h : runDecision g s n w = .ok (b, s1, e1)) :
    (b = false ∧ s1 = s ∧ e1 = []) ∨
    ((g.node n).flat = false ∧ g.idIn w n = true ∧
      (if (g.node n).sets.isEmpty then runDecisionStateless g s n w else runDecisionStateful g s n w) = .ok (b, s1, e1)) := by
  revert h
  -- four early exits, a foreign copy (error), the stateless and the stateful branch
  fun_cases runDecision g s n w with
  | case5 => intro h; cases h
  | case6 _ _ _ hflat _ hid hsets =>
    intro h
    exact Or.inr ⟨by simpa using hflat, by simpa using hid, by rw [if_pos hsets]; exact h⟩
  | case7 _ _ _ hflat _ hid hsets =>
    intro h
    exact Or.inr ⟨by simpa using hflat, by simpa using hid, by rw [if_neg hsets]; exact h⟩
  | _ => intro h; cases h; exact Or.inl ⟨rfl, rfl, rfl⟩

/-- the run decision changes the state at most by switching reruns off for the examined copy -/
theorem runDecision_state (g : Graph) (s : State) (n w : Nat) (b : Bool) (s1 : State) (e1 : List Event)
    (h : runDecision g s n w = .ok (b, s1, e1)) : s1 = s ∨ s1 = disableRerun s n := by
  rcases runDecision_eq_ok h with ⟨_, h, _⟩ | ⟨_, _, h⟩
  · exact Or.inl h
  · split at h
    · exact Or.inl (runDecisionStateless_ok h).1
    · exact (runDecisionStatefulCore_ok h).1

theorem nd_disableRerun_proj {α} (P : NodeD → α) (hP : ∀ d, P { d with rerunDisabled := true } = P d) (s : State) (n m : Nat) :
    P ((disableRerun s n).nd m) = P (s.nd m) :=
  nd_setNd_proj P s n (fun d => { d with rerunDisabled := true }) hP m

/-! ### how a piece of the loop body ends -/

theorem startTest_flow (g : Graph) (s : State) (n w : Nat) (ph : Phase) (dir : Dir) :
    (startTest g s n w ph dir).2.2 = Flow.suspend := by
  unfold startTest
  split <;> rfl

def Flow.isExit : Flow → Bool
  | .exit => true
  | _ => false

theorem afterTraverse_not_exit (g : Graph) (s : State) (w next prev : Nat) (dir : Dir) :
    (afterTraverse g s w next prev dir).2.2.isExit = false := by
  fun_cases afterTraverse g s w next prev dir <;> rfl

theorem traverseNode_not_exit (g : Graph) (s : State) (w next prev : Nat) (dir : Dir) :
    (traverseNode g s w next prev dir).2.2.isExit = false := by
  fun_cases traverseNode g s w next prev dir
  · exact afterTraverse_not_exit ..
  · rfl
  · rename_i f hst _
    rw [show f = _ from (congrArg (·.2.2) hst).symm, startTest_flow]; rfl
  · rename_i f hst _
    rw [show f = _ from (congrArg (·.2.2) hst).symm, startTest_flow]; rfl
  · rename_i f hat
    rw [show f = _ from (congrArg (·.2.2) hat).symm]
    exact afterTraverse_not_exit ..

/-! ### the state control and the way back -/

theorem syncStates_store (g : Graph) (s : State) (n w : Nat) (rv : Option (List String)) :
    ∃ st, (syncStates g s n w rv).1 = { s with store := st } := by
  fun_cases syncStates g s n w rv
  · exact ⟨s.store, rfl⟩
  · exact ⟨_, rfl⟩
  · exact ⟨_, rfl⟩

theorem reverseNode_eq_ok {g : Graph} {s : State} {n v : Nat} {s' : State} {evs : List Event}
    (h : reverseNode g s n v = .ok (s', evs)) :
    (isOccupied g s n v = true ∧ s' = s ∧ evs = []) ∨
    (isOccupied g s n v = false ∧ ∃ clean s2,
      cleanDecision g (s.setNd n (fun d => { d with started := some v })) n v = .ok clean ∧
      (if clean && !(g.node n).sets.isEmpty then syncStates g (s.setNd n (fun d => { d with started := some v })) n v none
        else (s.setNd n (fun d => { d with started := some v }), [])) = (s2, evs) ∧
      s' = s2.setNd n (fun d => { d with started := none })) := by
  revert h
  fun_cases reverseNode g s n v with
  | case1 hocc => intro h; cases h; exact Or.inl ⟨hocc, rfl, rfl⟩
  | case2 => intro h; cases h
  | case3 hocc s0 _ dec clean hdec s2 evs2 hsync =>
    intro h; cases h
    exact Or.inr ⟨by simpa using hocc, clean, s2, by simpa [dec] using hdec, hsync, rfl⟩

/-! ### after a creation pre-step -/

/-- A successful creation pre-step is followed by the start of the test proper, without a further decision.
This is also where the case principle of `continueAfter` is first used: the files that walk the function by `fun_cases`
all import this one, so its auxiliary declarations exist once (two files that do not import one another would each
generate them, and clash in a third that imports both). -/
theorem continueAfter_pre_ok (g : Graph) (w n : Nat) (phase : Phase) (dir : Dir) (fuel : Nat) (s : State) (ok : Bool)
    (evs : List Event) (h : (phase == .pre && ok) = true) :
    resumeTest.continueAfter g w n phase dir fuel s ok evs =
      ((startTest g s n w .main dir).1, evs ++ (startTest g s n w .main dir).2.1) := by
  fun_cases resumeTest.continueAfter g w n phase dir fuel s ok evs with
  | case1 _ _ _ _ he => rw [he]
  | case2 _ _ hc => exact absurd h hc
  | case3 _ _ hc => exact absurd h hc

end I2N.Trav
