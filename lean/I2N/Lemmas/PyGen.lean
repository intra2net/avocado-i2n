/-!
# Support for theorems about definitions generated by `harness/pygen.py`

The generated definitions are `do` blocks (`Except ε` or `Id`) that mirror a Python function statement by statement.
An equality `generated = hand model` is proved by walking the Python's own case distinction: every `Option String`
that is compared with literals is split into "missing", "one of the literals", "some other string"
(`optStr_cases2/3`), after each split the decided `if`s are removed by `simp` *without* unfolding the join points of
the `do` block (`zeta := false`), which keeps the goal linear in the size of the Python.
-/
namespace I2N.PyGen

theorem optStr_cases1 (a : Option String) (l1 : String) :
    a = none ∨ a = some l1 ∨ ∃ s, a = some s ∧ s ≠ l1 := by
  rcases a with _ | s
  · exact Or.inl rfl
  by_cases h1 : s = l1
  · subst h1; exact Or.inr (Or.inl rfl)
  exact Or.inr (Or.inr ⟨s, rfl, h1⟩)

theorem optStr_cases2 (a : Option String) (l1 l2 : String) :
    a = none ∨ a = some l1 ∨ a = some l2 ∨ ∃ s, a = some s ∧ s ≠ l1 ∧ s ≠ l2 := by
  rcases a with _ | s
  · exact Or.inl rfl
  by_cases h1 : s = l1
  · subst h1; exact Or.inr (Or.inl rfl)
  by_cases h2 : s = l2
  · subst h2; exact Or.inr (Or.inr (Or.inl rfl))
  exact Or.inr (Or.inr (Or.inr ⟨s, rfl, h1, h2⟩))

theorem bind_ok {ε α β} (a : α) (f : α → Except ε β) : (Except.ok a >>= f) = f a := rfl
theorem bind_error {ε α β} (e : ε) (f : α → Except ε β) : (Except.error e >>= f) = Except.error e := rfl

end I2N.PyGen
