import I2N.Lemmas.Trav
/-!
Locations and ownership of the traversal model (property C08).

Part 1: the substring test (`strIn`), `locAdd` and `pullLocations`, whose three nested folds are one fold of `locAdd`
over the (vm, location) pairs of the setup edges (`pullLocations_eq_pulls`): every location of every setup edge ends
up in the entry of every vm of the edge (`pullLocations_complete`), and an entry is always the `" "`-join of a list
of such locations (`pullLocations_sound`).
-/
namespace I2N.Trav

theorem isPrefixChars_append_right (x l b : List Char) (h : isPrefixChars x l = true) :
    isPrefixChars x (l ++ b) = true := by
  induction x generalizing l with
  | nil => rfl
  | cons a x ih =>
    cases l with
    | nil => simp [isPrefixChars] at h
    | cons c l =>
      simp only [isPrefixChars, Bool.and_eq_true, List.cons_append] at h ⊢
      exact ⟨h.1, ih l h.2⟩

theorem containsChars_nil (h : List Char) : containsChars h [] = true := by
  cases h <;> simp [containsChars, isPrefixChars]

theorem containsChars_self (l : List Char) : containsChars l l = true := by
  cases l with
  | nil => rfl
  | cons a l =>
    have := isPrefixChars_append (a :: l) []
    simp only [List.append_nil] at this
    simp [containsChars, this]

theorem containsChars_append_right (a b x : List Char) (h : containsChars a x = true) :
    containsChars (a ++ b) x = true := by
  induction a with
  | nil =>
    simp only [containsChars, List.isEmpty_iff] at h
    subst h
    exact containsChars_nil _
  | cons c r ih =>
    simp only [containsChars, Bool.or_eq_true, List.cons_append] at h ⊢
    rcases h with h | h
    · exact Or.inl (isPrefixChars_append_right x (c :: r) b h)
    · exact Or.inr (ih h)

theorem containsChars_append_left (a b x : List Char) (h : containsChars b x = true) :
    containsChars (a ++ b) x = true := by
  induction a with
  | nil => exact h
  | cons c r ih =>
    simp only [containsChars, Bool.or_eq_true, List.cons_append]
    exact Or.inr ih

theorem strIn_self (a : String) : strIn a a = true := containsChars_self _

theorem strIn_empty (a : String) : strIn "" a = true := containsChars_nil _

theorem strIn_join_left (x a b : String) (h : strIn x a = true) : strIn x (a ++ " " ++ b) = true := by
  unfold strIn at h ⊢
  simp only [String.toList_append, List.append_assoc]
  exact containsChars_append_right _ _ _ h

theorem strIn_join_right (x a b : String) (h : strIn x b = true) : strIn x (a ++ " " ++ b) = true := by
  unfold strIn at h ⊢
  simp only [String.toList_append, List.append_assoc]
  exact containsChars_append_left _ _ _ (containsChars_append_left _ _ _ h)

theorem strIn_of_in_empty (x : String) (h : strIn x "" = true) : x = "" := by
  unfold strIn containsChars at h
  have h' : x.toList = "".toList := by simpa using h
  exact String.toList_inj.mp h'

/-- the entry of `vm` (what `params["get_location_<vm>"]` reads) -/
def locOf (cur : List (String × String)) (vm : String) : Option String :=
  (cur.find? (·.1 == vm)).map (·.2)

/-- the entry of `vm` exists and contains `loc` (Python's `loc in entry`) -/
def HasLoc (cur : List (String × String)) (vm loc : String) : Prop :=
  ∃ str, locOf cur vm = some str ∧ strIn loc str = true

/-- the `" "`-join that `locAdd` builds by appending one location at a time -/
def joinLocs (l : List String) : String :=
  l.foldl (fun acc loc => if acc == "" then loc else acc ++ " " ++ loc) ""

theorem joinLocs_append_singleton (l : List String) (b : String) :
    joinLocs (l ++ [b]) = if joinLocs l == "" then b else joinLocs l ++ " " ++ b := by
  unfold joinLocs
  rw [List.foldl_append]; rfl

theorem find?_key_some {cur : List (String × String)} {vm : String} {e : String × String}
    (h : cur.find? (·.1 == vm) = some e) : e.1 = vm := by
  have := List.find?_some h
  simpa using this

theorem find?_map_upd (cur : List (String × String)) (vm new vm' : String) :
    (cur.map (fun e => if e.1 == vm then (vm, new) else e)).find? (·.1 == vm') =
      (cur.find? (·.1 == vm')).map (fun e => if e.1 == vm then (vm, new) else e) := by
  rw [List.find?_map]
  have : ((fun x : String × String => x.1 == vm') ∘ fun e => if e.1 == vm then (vm, new) else e) =
      (fun x : String × String => x.1 == vm') := by
    funext e
    simp only [Function.comp]
    by_cases he : e.1 = vm
    · simp [he]
    · simp [he]
  rw [this]

theorem locOf_locAdd (cur : List (String × String)) (vm loc vm' : String) :
    locOf (locAdd cur vm loc) vm' =
      if vm' = vm then
        (match locOf cur vm with
         | none => some loc
         | some old => if strIn loc old then some old else some (if old == "" then loc else old ++ " " ++ loc))
      else locOf cur vm' := by
  unfold locAdd locOf
  cases hf : cur.find? (·.1 == vm) with
  | none =>
    simp only [List.find?_append, Option.map_none]
    by_cases hv : vm' = vm
    · subst hv
      simp [hf]
    · simp only [hv, if_false]
      have : ((vm == vm') = false) := by simpa using (Ne.symm hv)
      cases hf' : cur.find? (·.1 == vm') <;> simp [List.find?, this]
  | some e =>
    obtain ⟨k, old⟩ := e
    have hk : k = vm := find?_key_some hf
    subst hk
    simp only [Option.map_some]
    by_cases hin : strIn loc old = true
    · simp only [hin, if_true]
      by_cases hv : vm' = k
      · subst hv; simp [hf]
      · simp [hv]
    · simp only [hin, Bool.false_eq_true, if_false]
      rw [find?_map_upd]
      by_cases hv : vm' = k
      · subst hv; simp [hf]
      · simp only [hv, if_false]
        cases hf' : cur.find? (·.1 == vm') with
        | none => rfl
        | some e' =>
          have hk' : e'.1 = vm' := find?_key_some hf'
          have : ¬ e'.1 = k := by rw [hk']; exact hv
          simp [this]

theorem hasLoc_locAdd (cur : List (String × String)) (vm loc : String) : HasLoc (locAdd cur vm loc) vm loc := by
  unfold HasLoc
  rw [locOf_locAdd]
  simp only [if_true]
  cases locOf cur vm with
  | none => exact ⟨loc, rfl, strIn_self loc⟩
  | some old =>
    dsimp only
    by_cases hin : strIn loc old = true
    · simp only [hin, if_true]; exact ⟨old, rfl, hin⟩
    · simp only [hin, Bool.false_eq_true, if_false]
      refine ⟨_, rfl, ?_⟩
      split
      · exact strIn_self loc
      · exact strIn_join_right loc old loc (strIn_self loc)

/-- entries only grow: what was contained stays contained, for every vm -/
theorem hasLoc_locAdd_mono (cur : List (String × String)) (vm loc vm' loc' : String) (h : HasLoc cur vm' loc') :
    HasLoc (locAdd cur vm loc) vm' loc' := by
  obtain ⟨str, hs, hin'⟩ := h
  unfold HasLoc
  rw [locOf_locAdd]
  by_cases hv : vm' = vm
  · subst hv
    simp only [if_true, hs]
    by_cases hin : strIn loc str = true
    · simp only [hin, if_true]; exact ⟨str, rfl, hin'⟩
    · simp only [hin, Bool.false_eq_true, if_false]
      refine ⟨_, rfl, ?_⟩
      split
      · next he =>
        have : str = "" := by simpa using he
        subst this
        rw [strIn_of_in_empty loc' hin']
        exact strIn_empty loc
      · exact strIn_join_left loc' str loc hin'
  · simp only [hv, if_false]
    exact ⟨str, hs, hin'⟩

theorem foldl_inv_mem {β} (I : State → Prop) (f : State → β → State) (l : List β)
    (h : ∀ s b, b ∈ l → I s → I (f s b)) (s : State) (hs : I s) : I (l.foldl f s) := by
  induction l generalizing s with
  | nil => exact hs
  | cons a r ih =>
    simp only [List.foldl_cons]
    exact ih (fun s b hb => h s b (List.mem_cons_of_mem _ hb)) _ (h s a List.mem_cons_self hs)

theorem foldl_inv {β} (I : State → Prop) (f : State → β → State) (h : ∀ s b, I s → I (f s b))
    (l : List β) (s : State) (hs : I s) : I (l.foldl f s) :=
  foldl_inv_mem I f l (fun s b _ => h s b) s hs

/-- a fold establishes `Q` when the step for some member `b` of the list establishes it and every step keeps it
(`I`: a side invariant every step keeps) -/
theorem foldl_establish {β} (I Q : State → Prop) (f : State → β → State) (b : β)
    (hI : ∀ s x, I s → I (f s x)) (hQ : ∀ s x, I s → Q s → Q (f s x)) (hb : ∀ s, I s → Q (f s b))
    (l : List β) (hmem : b ∈ l) (s : State) (hs : I s) : Q (l.foldl f s) := by
  induction l generalizing s with
  | nil => simp at hmem
  | cons a r ih =>
    simp only [List.foldl_cons]
    rcases List.mem_cons.mp hmem with rfl | hr
    · have := foldl_inv (fun s => I s ∧ Q s) f (fun s x h => ⟨hI s x h.1, hQ s x h.1 h.2⟩) r (f s b) ⟨hI s b hs, hb s hs⟩
      exact this.2
    · exact ih hr _ (hI s a hs)

theorem sharedResults_congr (g : Graph) (s s' : State) (p : Nat) (h : ∀ m, (s'.nd m).results = (s.nd m).results) :
    sharedResults g s' p = sharedResults g s p := by
  unfold sharedResults
  simp only [h]

theorem sharedResultWorkerIds_congr (g : Graph) (s s' : State) (p : Nat) (h : ∀ m, (s'.nd m).results = (s.nd m).results) :
    sharedResultWorkerIds g s' p = sharedResultWorkerIds g s p := by
  unfold sharedResultWorkerIds
  rw [sharedResults_congr g s s' p h]

def locStep (n : Nat) (loc : String) (s : State) (vm : String) : State :=
  s.setNd n (fun d => { d with getLoc := locAdd d.getLoc vm loc })

/-- the locations `pull_locations` lists for setup parent `p` -/
def locsOf (g : Graph) (s : State) (p : Nat) : List String :=
  sharedLoc :: (sharedResultWorkerIds g s p).map (workerLoc g)

theorem pullLocations_eq (g : Graph) (s : State) (n : Nat) (hflat : (g.node n).flat = false) :
    pullLocations g s n =
      (g.node n).setup.foldl (fun s e => (locsOf g s e.1).foldl (fun s loc => e.2.foldl (locStep n loc) s) s) s := by
  unfold pullLocations
  simp only [hflat, Bool.false_eq_true, if_false]
  rfl

/-- side invariant of the folds: the copy exists and no result list changes -/
def LocFrame (s0 : State) (n : Nat) (s : State) : Prop :=
  n < s.nodes.length ∧ ∀ m, (s.nd m).results = (s0.nd m).results

theorem locFrame_locStep (s0 : State) (n : Nat) (loc : String) (s : State) (vm : String) (h : LocFrame s0 n s) :
    LocFrame s0 n (locStep n loc s vm) := by
  refine ⟨by unfold locStep; rw [nodes_length_setNd]; exact h.1, fun m => ?_⟩
  rw [← h.2 m]
  unfold locStep
  exact nd_setNd_proj (·.results) s n (fun d => { d with getLoc := locAdd d.getLoc vm loc }) (fun _ => rfl) m

theorem getLoc_locStep (n : Nat) (loc : String) (s : State) (vm : String) (h : n < s.nodes.length) :
    ((locStep n loc s vm).nd n).getLoc = locAdd (s.nd n).getLoc vm loc := by
  unfold locStep
  rw [nd_setNd_eq s n _ h]

theorem locFrame_inner (s0 : State) (n : Nat) (loc : String) (vms : List String) (s : State) (h : LocFrame s0 n s) :
    LocFrame s0 n (vms.foldl (locStep n loc) s) :=
  foldl_inv (LocFrame s0 n) _ (fun s vm h => locFrame_locStep s0 n loc s vm h) vms s h

theorem locFrame_middle (s0 : State) (n : Nat) (vms : List String) (locs : List String) (s : State) (h : LocFrame s0 n s) :
    LocFrame s0 n (locs.foldl (fun s loc => vms.foldl (locStep n loc) s) s) :=
  foldl_inv (LocFrame s0 n) _ (fun s loc h => locFrame_inner s0 n loc vms s h) locs s h

theorem locsOf_of_frame (g : Graph) {s0 : State} {n : Nat} {s : State} (h : LocFrame s0 n s) (p : Nat) :
    locsOf g s p = locsOf g s0 p := by
  unfold locsOf
  rw [sharedResultWorkerIds_congr g s0 s p h.2]

theorem foldl_congr_inv {β} (I : State → Prop) (f f' : State → β → State) (hI : ∀ s b, I s → I (f s b))
    (h : ∀ s b, I s → f s b = f' s b) (l : List β) (s : State) (hs : I s) : l.foldl f s = l.foldl f' s := by
  induction l generalizing s with
  | nil => rfl
  | cons a r ih => rw [List.foldl_cons, List.foldl_cons, ← h s a hs]; exact ih _ (hI s a hs)

/-- the (vm, location) pairs `pull_locations` adds, in order -/
def pulls (g : Graph) (s : State) (n : Nat) : List (String × String) :=
  (g.node n).setup.flatMap (fun e => (locsOf g s e.1).flatMap (fun loc => e.2.map (fun vm => (vm, loc))))

theorem mem_pulls (g : Graph) (s : State) (n : Nat) (vm loc : String) :
    (vm, loc) ∈ pulls g s n ↔ ∃ p vms, (p, vms) ∈ (g.node n).setup ∧ vm ∈ vms ∧ loc ∈ locsOf g s p := by
  simp only [pulls, List.mem_flatMap, List.mem_map, Prod.mk.injEq, Prod.exists]
  constructor
  · rintro ⟨p, vms, he, loc', hloc, vm', hvm, rfl, rfl⟩
    exact ⟨p, vms, he, hvm, hloc⟩
  · rintro ⟨p, vms, he, hvm, hloc⟩
    exact ⟨p, vms, he, loc, hloc, vm, hvm, rfl, rfl⟩

/-- `pull_locations` is one fold of `locAdd` over these pairs: the result lists, on which the locations of an edge
depend, do not change on the way -/
theorem pullLocations_eq_pulls (g : Graph) (s : State) (n : Nat) (hflat : (g.node n).flat = false) (hn : n < s.nodes.length) :
    pullLocations g s n = (pulls g s n).foldl (fun s p => locStep n p.2 s p.1) s := by
  rw [pullLocations_eq g s n hflat, pulls, List.foldl_flatMap]
  refine foldl_congr_inv (LocFrame s n) _ _ (fun s1 e h => locFrame_middle s n e.2 _ s1 h) (fun s1 e h => ?_) _ s
    ⟨hn, fun _ => rfl⟩
  rw [locsOf_of_frame g h, List.foldl_flatMap]
  simp only [List.foldl_map]

/-- completeness of `pull_locations`: every location of every setup edge is contained in the entry of every vm
of the edge -/
theorem pullLocations_complete (g : Graph) (s : State) (n : Nat) (hflat : (g.node n).flat = false)
    (hn : n < s.nodes.length) (p : Nat) (vms : List String) (he : (p, vms) ∈ (g.node n).setup)
    (vm : String) (hvm : vm ∈ vms) (loc : String) (hloc : loc ∈ locsOf g s p) :
    HasLoc ((pullLocations g s n).nd n).getLoc vm loc := by
  rw [pullLocations_eq_pulls g s n hflat hn]
  -- the step for the pair establishes the entry, the later steps keep it
  exact foldl_establish (LocFrame s n) (fun s => HasLoc (s.nd n).getLoc vm loc)
    (fun s (p : String × String) => locStep n p.2 s p.1) (vm, loc)
    (fun s1 x h => locFrame_locStep s n x.2 s1 x.1 h)
    (fun s1 x h hq => by rw [getLoc_locStep n x.2 s1 x.1 h.1]; exact hasLoc_locAdd_mono _ _ _ _ _ hq)
    (fun s1 h => by rw [getLoc_locStep n loc s1 vm h.1]; exact hasLoc_locAdd _ _ _)
    _ ((mem_pulls g s n vm loc).mpr ⟨p, vms, he, hvm, hloc⟩) s ⟨hn, fun _ => rfl⟩

/-- every entry is the join of a non-empty list of locations that `A` allows for its vm -/
def JoinOf (A : String → String → Prop) (cur : List (String × String)) : Prop :=
  ∀ vm str, locOf cur vm = some str → ∃ L : List String, L ≠ [] ∧ str = joinLocs L ∧ ∀ l ∈ L, A vm l

theorem joinOf_locAdd (A : String → String → Prop) (cur : List (String × String)) (vm loc : String)
    (ha : A vm loc) (h : JoinOf A cur) : JoinOf A (locAdd cur vm loc) := by
  intro vm' str hs
  rw [locOf_locAdd] at hs
  by_cases hv : vm' = vm
  · subst hv
    simp only [if_true] at hs
    cases ho : locOf cur vm' with
    | none =>
      simp only [ho, Option.some.injEq] at hs
      exact ⟨[loc], by simp, by rw [← hs]; rfl, by simpa using ha⟩
    | some old =>
      obtain ⟨L, hne, hL, hall⟩ := h vm' old ho
      simp only [ho] at hs
      by_cases hin : strIn loc old = true
      · simp only [hin, if_true, Option.some.injEq] at hs
        exact ⟨L, hne, by rw [← hs]; exact hL, hall⟩
      · simp only [hin, Bool.false_eq_true, if_false, Option.some.injEq] at hs
        by_cases he : (old == "") = true
        · simp only [he, if_true] at hs
          exact ⟨[loc], by simp, by rw [← hs]; rfl, by simpa using ha⟩
        · simp only [he, Bool.false_eq_true, if_false] at hs
          refine ⟨L ++ [loc], by simp, ?_, ?_⟩
          · rw [joinLocs_append_singleton, ← hL]
            simp only [he, Bool.false_eq_true, if_false]
            exact hs.symm
          · intro l hl
            rcases List.mem_append.mp hl with hl | hl
            · exact hall l hl
            · rw [List.mem_singleton.mp hl]; exact ha
  · simp only [hv, if_false] at hs
    exact h vm' str hs

/-- soundness of `pull_locations`: starting from no entries, the entry of `vm` is the `" "`-join of a list of
locations each of which belongs to a setup edge through `vm` -/
theorem pullLocations_sound (g : Graph) (s : State) (n : Nat) (hflat : (g.node n).flat = false)
    (hn : n < s.nodes.length) (hempty : (s.nd n).getLoc = []) (vm str : String)
    (h : locOf ((pullLocations g s n).nd n).getLoc vm = some str) :
    ∃ L : List String, L ≠ [] ∧ str = joinLocs L ∧
      ∀ l ∈ L, ∃ p vms, (p, vms) ∈ (g.node n).setup ∧ vm ∈ vms ∧ l ∈ locsOf g s p := by
  rw [pullLocations_eq_pulls g s n hflat hn] at h
  refine (foldl_inv_mem (fun s1 => LocFrame s n s1 ∧
      JoinOf (fun vm l => ∃ p vms, (p, vms) ∈ (g.node n).setup ∧ vm ∈ vms ∧ l ∈ locsOf g s p) (s1.nd n).getLoc)
    (fun s (p : String × String) => locStep n p.2 s p.1) (pulls g s n) (fun s1 x hx h1 => ?_) s ⟨⟨hn, fun _ => rfl⟩, ?_⟩).2 vm str h
  · refine ⟨locFrame_locStep s n x.2 s1 x.1 h1.1, ?_⟩
    rw [getLoc_locStep n x.2 s1 x.1 h1.1.1]
    exact joinOf_locAdd _ _ x.1 x.2 ((mem_pulls g s n x.1 x.2).mp hx) h1.2
  · intro vm str hs
    rw [hempty] at hs
    simp [locOf] at hs

end I2N.Trav
