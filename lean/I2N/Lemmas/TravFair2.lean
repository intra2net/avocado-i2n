import I2N.Lemmas.TravFair
import I2N.Lemmas.TravGlobalR
/-!
Termination ACROSS suspensions for ANY number of workers, second part (property C02):

1. **object roots** (`RInvN`, `step_cntRN`, `lively_run_over2`): the invariant `RInv` of `TravGlobalR` (one worker) is lifted
   to any number of workers.  A step of `w` changes the result list of an object root `m` only when `w` is inside a test
   of `m` (`resume_root_results`); a worker inside a test of `m` cares for `m` (`PInv.testOwn`); a root is cared for by at
   most one worker (`RootsOwned`, which follows from the class hypotheses `classesOKRB`) — so the creation copy of a
   worker inside a pre-step stays `results ++ [placeholder]` while the others step.  Counter
   `cntRN = 24·total + Σ_v qR(pc v)`.
2. **runs that may bump** (`GInv2`, `RunOK2`): unlike `GInvN` and `RunOK` of `TravFair`, the invariant has no `NoBump`
   clause and the runs need not be `BumpFree`; a bound on the number of results is needed at the END of the run only
   (`lively_run_over2` takes it as a hypothesis).  The scheduling arguments are those of `TravFair`, which need reachable
   states and steps of real workers only.
3. **bumps** (`BCap`, `resume_bcap`): in every reachable state the bump counter of copy `n` is at most
   `max(1, |workers| + 1 - max_concurrent_tries₀)`: a bump needs an occupied node, i.e. at least `threshold` DIFFERENT workers
   holding marks, and after the first bump the threshold is `max_concurrent_tries₀ + bump`.
4. the sleeps of the result wait (`resume_tick_sleep`): a step that ends inside the same test with the wait counter raised
   announces a sleep of 3000 hundredths as its last event.
-/
namespace I2N.Trav.Fair2
open I2N.Trav I2N.Trav.Global I2N.Trav.GlobalN I2N.Trav.GlobalR I2N.Trav.Fair

/-! ## a step of `w` touches the results of an object root only from inside a test of that root -/

theorem startFrom_root_results {g : Graph} {w : Nat} {s1 s' : State} (h : StartFrom g w s1 s') (m : Nat)
    (hm : (g.node m).objectRoot = true) : (s'.nd m).results = (s1.nd m).results := by
  cases h with
  | plain n dir s0 evs gv hgv hn hroot hdec e =>
    have hmn : m ≠ n := by
      intro e'
      rw [e', hroot] at hm
      cases hm
    rw [e, startTest_nonpre_fst g s1 n w .plain dir (by decide), nd_setWd, nd_setNd_ne _ n m _ hmn]
    rfl
  | pre n dir hn hroot e =>
    rw [e, startTest_pre_fst]
    rfl

theorem tail_root_results {g : Graph} {w : Nat} {sd s' : State}
    (h : (Silent g w sd s' ∧ (s'.wd w).pc.isTest = false) ∨ ∃ s1, Silent g w sd s1 ∧ StartFrom g w s1 s') (m : Nat)
    (hm : (g.node m).objectRoot = true) : (s'.nd m).results = (sd.nd m).results := by
  rcases h with ⟨a, _⟩ | ⟨s1, a, hs⟩
  · exact a.results m
  · rw [startFrom_root_results hs m hm]
    exact a.results m

theorem contEff_root_results {g : Graph} {w n : Nat} {ph : Phase} {dir : Dir} {sc s' : State} {ok : Bool}
    (h : ContEff g w n ph dir sc ok s') (m : Nat) (hm : (g.node m).objectRoot = true) (hmn : m ≠ n) :
    (s'.nd m).results = (sc.nd m).results := by
  rcases h with ⟨_, _, e⟩ | ⟨_, hrest⟩
  · rw [e, startTest_nonpre_fst g sc n w .main dir (by decide), nd_setWd, nd_setNd_ne _ n m _ hmn]
    rfl
  · rw [tail_root_results hrest m hm]
    split
    · unfold appendPre
      rw [nd_setNd_ne sc n m _ hmn]
    · rfl

theorem testEff_root_results {g : Graph} {s : State} {w n : Nat} {ph : Phase} {dir : Dir} {uid : String} {tag wait : Nat}
    {out : Outcome} {s' : State} (h : TestEff g s w n ph dir uid tag wait out s') (m : Nat)
    (hm : (g.node m).objectRoot = true) (hmn : m ≠ n) : (s'.nd m).results = (s.nd m).results := by
  obtain ⟨sa, hrep, h⟩ := h
  have hsb := hrep.sameBook
  rcases h with ⟨e, _, sb, res, ok, hsab, _, _, hc⟩ | ⟨_, h | hc⟩
  · rw [contEff_root_results hc m hm hmn]
    have : ((if ph = .pre then settlePre sb w res tag else settleNd sb n res tag).nd m).results = (sb.nd m).results := by
      split
      · rfl
      · rcases settleNd_results sb n res tag m with h | ⟨h, _⟩
        · exact h
        · exact absurd h hmn
    rw [this, hsab.nd, hsb.nd]
  · rw [h, nd_setWd, hsb.nd]
  · rw [contEff_root_results hc m hm hmn, hsb.nd]

/-- **a step of `w` changes the result list of an object root only if `w` is inside a test of that root** -/
theorem resume_root_results (g : Graph) (hwf : GraphWF g) (s : State) (w : Nat) (out : Outcome) (fuel : Nat) (hf : 0 < fuel)
    (hw : w < s.workers.length) (hpath : ∀ x ∈ (s.wd w).path, x < g.nodes.length) (m : Nat)
    (hm : (g.node m).objectRoot = true) (hnot : (s.wd w).pc.node? ≠ some m) :
    ((resume g s w out fuel).1.nd m).results = (s.nd m).results := by
  rcases resume_eff g hwf s w out fuel hf hw hpath with ⟨_, h⟩ | ⟨n, ph, dir, uid, tag, wait, hpc, h⟩
  · exact tail_root_results h m hm
  · refine testEff_root_results h m hm ?_
    intro e
    apply hnot
    rw [hpc, e]
    rfl

/-! ## the invariant for several workers -/

/-- an object root is cared for by at most one worker -/
def RootsOwned (g : Graph) : Prop :=
  ∀ n, n < g.nodes.length → (g.node n).objectRoot = true → ∀ u v, u < g.workers.length → v < g.workers.length →
    g.idIn u n = true → g.idIn v n = true → u = v

/-- the class hypotheses of the result bound imply that every object root has one carer -/
theorem rootsOwned_of_classesOKRB {g : Graph} (hcl : classesOKRB g = true) : RootsOwned g := by
  intro n hn hroot u v hu hv hiu hiv
  unfold classesOKRB at hcl
  rw [List.all_eq_true] at hcl
  have hc := hcl n (List.mem_range.mpr hn)
  rw [Bool.or_eq_true, Bool.and_eq_true, Bool.or_eq_true] at hc
  rcases hc with hc | ⟨hc | hc, _⟩
  · exfalso
    have hg := (statelessClass_spec hc).1
    unfold goodClass at hg
    rw [List.all_eq_true] at hg
    have := hg n ((mem_classNodes g _ n).mpr ⟨hn, rfl⟩)
    rw [hroot] at this
    cases this
  · exact (statefulClass_spec hc).uniq n hn rfl u v hu hv hiu hiv
  · exact (statefulClassRoots_spec hc).1.uniq n hn rfl u v hu hv hiu hiv

/-- the root clauses, and the creation copy of EVERY worker -/
structure RInvN (g : Graph) (s : State) : Prop where
  rn : RN g s
  r3 : ∀ w, R3 w s

theorem rinvN_init (g : Graph) (ncls : Nat) (store : List (String × List (String × String))) :
    RInvN g (initState g ncls store []) := by
  refine ⟨(rinv_init g ncls store).rn, ?_⟩
  intro w n dir uid tag wait e
  rw [init_pc] at e; cases e

theorem rinvN_step (g : Graph) (hwf : GraphWF g) (hown : RootsOwned g) (s : State) (b : Basic g s All) (hp : PInv g s)
    (ri : RInvN g s) (w : Nat) (hw : w < g.workers.length) (out : Outcome) (fuel : Nat) (hf : 0 < fuel)
    (hoth : ∀ v, v ≠ w → (resume g s w out fuel).1.wd v = s.wd v) :
    RInvN g (resume g s w out fuel).1 ∧ ShapeR g w s (resume g s w out fuel).1 := by
  obtain ⟨x1, x2, x3⟩ := stepR g hwf s b w ri.rn (ri.r3 w) hw out fuel hf
  refine ⟨⟨x1, fun v => ?_⟩, x3⟩
  by_cases hv : v = w
  · rw [hv]; exact x2
  · intro n dir uid tag wait hpc
    rw [hoth v hv] at hpc ⊢
    obtain ⟨p1, p2⟩ := ri.r3 v n dir uid tag wait hpc
    have hok := b.pcOK v n .pre dir uid tag wait trivial hpc
    have hroot := root_of_pre hok.2.2.2.1 rfl
    have hvl : v < g.workers.length := by
      rw [← b.workersLen]
      exact lt_of_isTest s v (by rw [hpc]; rfl)
    have hidv := (hp.testOwn v n (by rw [hpc]; rfl)).1
    have hnot : (s.wd w).pc.node? ≠ some n := by
      intro hcon
      exact hv (hown n hok.1 hroot v w hvl hw hidv (hp.testOwn w n hcon).1)
    rw [resume_root_results g hwf s w out fuel hf (by rw [b.workersLen]; exact hw) (b.paths w) n hroot hnot]
    exact ⟨p1, p2⟩

def qsumR (g : Graph) (s : State) : Nat := ((List.range g.workers.length).map (fun v => qR (s.wd v).pc)).sum

/-- the global step counter on graphs with object roots -/
def cntRN (g : Graph) (s : State) : Nat := 24 * total g s + qsumR g s

theorem qsumR_step {g : Graph} {s s' : State} {w : Nat} (hw : w < g.workers.length)
    (hoth : ∀ v, v ≠ w → s'.wd v = s.wd v) : qsumR g s' + qR (s.wd w).pc = qsumR g s + qR (s'.wd w).pc := by
  unfold qsumR
  have hm : w ∈ List.range g.workers.length := List.mem_range.mpr hw
  rw [← sum_map_split _ List.nodup_range w hm (fun v => qR (s'.wd v).pc),
    ← sum_map_split _ List.nodup_range w hm (fun v => qR (s.wd v).pc)]
  have : (((List.range g.workers.length).filter (· != w)).map (fun v => qR (s'.wd v).pc)).sum =
      (((List.range g.workers.length).filter (· != w)).map (fun v => qR (s.wd v).pc)).sum := by
    apply sum_map_congr
    intro j hj
    have hjw : j ≠ w := by simpa using (List.mem_filter.mp hj).2
    rw [hoth j hjw]
  omega

theorem qR_nonTest {pc : Pc} (h : pc.isTest = false) : 11 ≤ qR pc := by
  cases pc <;> first | (cases h; done) | simp [qR]

theorem qR_over {pc : Pc} (h1 : pc.isTest = false) (h2 : pcEnd pc = true) (h3 : pc ≠ .bounce) : qR pc = 23 := by
  cases pc <;> first | (cases h1; done) | (cases h2; done) | rfl | exact absurd rfl h3

theorem qR_le {pc : Pc} (h : ∀ n ph dir uid tag wait, pc = .test n ph dir uid tag wait → wait ≤ 10) : qR pc ≤ 23 := by
  cases pc with
  | test n ph dir uid tag wait =>
    have := h n ph dir uid tag wait rfl
    cases ph <;> simp only [qR] <;> omega
  | _ => simp [qR]

theorem productive_le_one (a b : Pc) : (if productive a b then 1 else 0) ≤ 1 := by split <;> omega

/-- what the loop part of a step leaves: at least `24·T + d`, if `d ≤ 12` and a step that ends outside a test ends with
`qR ≥ d` -/
theorem tail_cnt {g : Graph} {w T : Nat} {s' : State} (h : Tail g w T s') (d : Nat) (hd : d ≤ 12)
    (hq : (s'.wd w).pc.isTest = false → d ≤ qR (s'.wd w).pc) : 24 * T + d ≤ 24 * total g s' + qR (s'.wd w).pc := by
  rcases h with ⟨h1, h2⟩ | ⟨h1, h2⟩ | ⟨h1, h2⟩
  · have := hq h2
    omega
  · omega
  · omega

/-- the counter never falls and grows with every productive step, on graphs with object roots -/
theorem step_cntRN {g : Graph} {s s' : State} {w : Nat} (hw : w < g.workers.length)
    (hoth : ∀ v, v ≠ w → s'.wd v = s.wd v) (hsh : ShapeR g w s s')
    (hwait : ∀ n ph dir uid tag wait, (s.wd w).pc = .test n ph dir uid tag wait → wait ≤ 10)
    (hend : (s.wd w).pc.isTest = false → pcEnd (s'.wd w).pc = true)
    (hnov : isOver (s.wd w).pc = false) :
    cntRN g s + (if productive (s.wd w).pc (s'.wd w).pc then 1 else 0) ≤ cntRN g s' := by
  have hq := qsumR_step (g := g) hw hoth
  have hp1 := productive_le_one (s.wd w).pc (s'.wd w).pc
  unfold cntRN
  generalize hp : (if productive (s.wd w).pc (s'.wd w).pc = true then 1 else 0) = p at hp1 ⊢
  rcases hsh with ⟨hnt, ht⟩ | ⟨hit, h1, h2⟩ | ⟨⟨n, ph, dir, uid, tag, wait, hpc, hph⟩, ht⟩ | ⟨⟨n, dir, uid, tag, wait, hpc⟩, ht⟩
  · -- from the loop: `qR = 11` before; a step that ends in the loop's back-off sleep is not productive
    have ha := qR_loop hnt hnov
    by_cases hbn : (s'.wd w).pc = .bounce
    · have : p = 0 := by
        rw [← hp, hbn]
        cases hpc : (s.wd w).pc <;> rw [hpc] at hnt hnov <;> first | rfl | (cases hnt; done) | cases hnov
      have hc := tail_cnt ht 11 (by decide) qR_nonTest
      omega
    · have hc := tail_cnt ht 12 (Nat.le_refl _) (fun h2 => by rw [qR_over h2 (hend hnt) hbn]; decide)
      omega
  · omega
  · have ha : qR (s.wd w).pc ≤ 10 := by
      have := hwait n ph dir uid tag wait hpc
      rw [hpc]
      cases ph
      · exact this
      · exact absurd rfl hph
      · exact this
    have hc := tail_cnt ht 11 (by decide) qR_nonTest
    omega
  · have ha : qR (s.wd w).pc ≤ 22 := qR_test_le hwait (by rw [hpc]; rfl)
    rcases ht with ⟨h1, h2⟩ | ht
    · omega
    · have hc := tail_cnt ht 11 (by decide) qR_nonTest
      omega

/-! ## runs that may bump: the invariant without `NoBump`, admissible runs without the bump clause -/

/-- the invariant of the runs of this file: as `GInvN` without `NoBump`, plus the root clauses -/
structure GInv2 (g : Graph) (ncls : Nat) (store : List (String × List (String × String))) (s : State) : Prop where
  reachR : ReachableR g ncls store s
  reachF : ReachableF g ncls store s
  wait : ∀ v n ph dir uid tag wait, (s.wd v).pc = .test n ph dir uid tag wait → wait ≤ 10
  rinv : RInvN g s

/-- every step of the run is a step of a real worker with `fuel ≥ bound g` (nothing is said about bumps) -/
def RunOK2 (g : Graph) : List StepN → Prop
  | [] => True
  | a :: r => (a.1 < g.workers.length ∧ Term.bound g ≤ a.2.2) ∧ RunOK2 g r

theorem runOK2_of (g : Graph) (steps : List StepN) (hreal : ∀ x ∈ steps, x.1 < g.workers.length)
    (hfuel : ∀ x ∈ steps, Term.bound g ≤ x.2.2) : RunOK2 g steps := by
  induction steps with
  | nil => trivial
  | cons a r ih =>
    exact ⟨⟨hreal a List.mem_cons_self, hfuel a List.mem_cons_self⟩,
      ih (fun x hx => hreal x (List.mem_cons_of_mem _ hx)) (fun x hx => hfuel x (List.mem_cons_of_mem _ hx))⟩

theorem runOK2_of_runOK (g : Graph) (steps : List StepN) (s : State) (h : RunOK g s steps) : RunOK2 g steps := by
  induction steps generalizing s with
  | nil => trivial
  | cons a r ih => exact ⟨⟨h.1.1, h.1.2.1⟩, ih _ h.2⟩

theorem runOK2_append (g : Graph) (a b : List StepN) (h : RunOK2 g (a ++ b)) : RunOK2 g a ∧ RunOK2 g b := by
  induction a with
  | nil => exact ⟨trivial, h⟩
  | cons x r ih =>
    obtain ⟨y1, y2⟩ := ih h.2
    exact ⟨⟨h.1, y1⟩, y2⟩

theorem realSteps_of_runOK2 {g : Graph} {steps : List StepN} (h : RunOK2 g steps) : RealSteps g steps := by
  induction steps with
  | nil => intro x hx; cases hx
  | cons a r ih =>
    intro x hx
    rcases List.mem_cons.mp hx with e | hx
    · rw [e]; exact ⟨h.1.1, Nat.lt_of_lt_of_le (bound_pos g) h.1.2⟩
    · exact ih h.2 x hx

theorem ginv2_init (g : Graph) (ncls : Nat) (store : List (String × List (String × String))) :
    GInv2 g ncls store (initState g ncls store []) :=
  ⟨.init [], .init [], (ginvN_init g ncls store).wait, rinvN_init g ncls store⟩

theorem ginv2_step {g : Graph} {ncls : Nat} (st : StaticN g ncls) (hown : RootsOwned g)
    {store : List (String × List (String × String))} {s : State} (h : GInv2 g ncls store s) (w : Nat)
    (hw : w < g.workers.length) (out : Outcome) (fuel : Nat) (hf : Term.bound g ≤ fuel) :
    GInv2 g ncls store (resume g s w out fuel).1 ∧
      cntRN g s + (if productive (s.wd w).pc ((resume g s w out fuel).1.wd w).pc then 1 else 0) ≤
        cntRN g (resume g s w out fuel).1 := by
  have hf0 : 0 < fuel := Nat.lt_of_lt_of_le (bound_pos g) hf
  have hsym := edgeSymB_sound st.sym
  have hr := Term.rankedB_sound st.ranked
  have b := h.reachR.basic st.wf
  have hp := h.reachF.pinv hsym
  have hoth := resume_others st h.reachF w hw out fuel hf0
  obtain ⟨x1, x2⟩ := rinvN_step g (GraphWF.of_bool st.wf) hown s b hp h.rinv w hw out fuel hf0 hoth
  have hwait : ∀ v n ph dir uid tag wait, ((resume g s w out fuel).1.wd v).pc = .test n ph dir uid tag wait → wait ≤ 10 := by
    intro v
    by_cases hv : v = w
    · subst hv
      exact resume_wait g (GraphWF.of_bool st.wf) s v out fuel hf0 (by rw [b.workersLen]; exact hw) (b.paths v) (h.wait v)
    · rw [hoth v hv]
      exact h.wait v
  refine ⟨⟨.step w out fuel h.reachR hw hf0, .step s w out fuel h.reachF hw hf0, hwait, x1⟩, ?_⟩
  by_cases hov : isOver (s.wd w).pc = true
  · rw [resume_overN g s w out fuel hov]
    have : productive (s.wd w).pc (s.wd w).pc = false := by
      cases hpc : (s.wd w).pc <;> rw [hpc] at hov <;> first | (cases hov; done) | rfl
    rw [this]; simp
  · refine step_cntRN hw hoth x2 (h.wait w) (fun hnt => ?_) (by simpa using hov)
    have hg : Term.Good g (Term.depth g) w s :=
      Term.reachable_good hr hsym st.cls h.reachF (Term.explored_of_noFlat st.flat s) w
    obtain ⟨r, h2, h3⟩ := Term.runLoop_terminates g (Term.depth g) hr hsym w s [] hg fuel hf
    have he : resume g s w out fuel = runLoop g w fuel s [] := by
      unfold resume
      cases hpc : (s.wd w).pc with
      | test n ph dir uid tag wait => rw [hpc] at hnt; cases hnt
      | done => rw [hpc] at hov; exact absurd rfl hov
      | failed => rw [hpc] at hov; exact absurd rfl hov
      | loop => rfl
      | bounce => rfl
    rw [he, h3]
    exact runLoopO_pcEnd g (GraphWF.of_bool st.wf) w (Term.bound g) s [] r (by rw [b.workersLen]; exact hw) (b.paths w) h2

theorem ginv2_stepN {g : Graph} {ncls : Nat} (st : StaticN g ncls) (hown : RootsOwned g)
    {store : List (String × List (String × String))} {s : State} (h : GInv2 g ncls store s) (a : StepN) (r : List StepN)
    (ok : RunOK2 g (a :: r)) : GInv2 g ncls store (stepN g s a) :=
  (ginv2_step st hown h a.1 ok.1.1 a.2.1 a.2.2 ok.1.2).1

theorem ginv2_run {g : Graph} {ncls : Nat} (st : StaticN g ncls) (hown : RootsOwned g)
    {store : List (String × List (String × String))} (steps : List StepN) (s : State) (h : GInv2 g ncls store s)
    (ok : RunOK2 g steps) : GInv2 g ncls store (runStepsN g s steps) := by
  induction steps generalizing s with
  | nil => exact h
  | cons a r ih =>
    rw [runStepsN_cons]
    exact ih _ (ginv2_stepN st hown h a r ok) ok.2

theorem run_cnt2 {g : Graph} {ncls : Nat} (st : StaticN g ncls) (hown : RootsOwned g)
    {store : List (String × List (String × String))} (steps : List StepN) (s : State) (h : GInv2 g ncls store s)
    (ok : RunOK2 g steps) : cntRN g s + productiveSteps g s steps ≤ cntRN g (runStepsN g s steps) := by
  induction steps generalizing s with
  | nil => exact Nat.le_refl _
  | cons a r ih =>
    have c1 := (ginv2_step st hown h a.1 ok.1.1 a.2.1 a.2.2 ok.1.2).2
    have c2 := ih _ (ginv2_stepN st hown h a r ok) ok.2
    rw [runStepsN_cons, productiveSteps_cons]
    unfold stepN at c2 ⊢
    omega

theorem qsumR_le {g : Graph} {s : State}
    (h : ∀ v n ph dir uid tag wait, (s.wd v).pc = .test n ph dir uid tag wait → wait ≤ 10) :
    qsumR g s ≤ 23 * g.workers.length := by
  have := sum_map_const_le (List.range g.workers.length) (fun v => qR (s.wd v).pc) 23 (fun v _ => qR_le (h v))
  rwa [List.length_range] at this

theorem qsumR_init (g : Graph) (ncls : Nat) (store : List (String × List (String × String))) :
    11 * g.workers.length ≤ qsumR g (initState g ncls store []) := by
  have := sum_map_const_ge (List.range g.workers.length) (fun v => qR ((initState g ncls store []).wd v).pc) 11
    (fun v _ => by rw [init_pc]; exact Nat.le_refl _)
  rwa [List.length_range] at this

theorem total_init (g : Graph) (ncls : Nat) (store : List (String × List (String × String))) :
    total g (initState g ncls store []) = 0 := by
  have h := sum_map_const_le (List.range g.nodes.length) (fun n => ((initState g ncls store []).nd n).results.length) 0
    (fun j _ => by rw [initState_nd]; exact Nat.le_refl _)
  unfold total
  omega

/-- **the number of productive steps of a run from the initial state is at most `24·R + 12·|workers|`** when the run ends
with at most `R` results -/
theorem productive_le_run2 {g : Graph} {ncls : Nat} (st : StaticN g ncls) (hown : RootsOwned g)
    (store : List (String × List (String × String))) (steps : List StepN) (ok : RunOK2 g steps) (R : Nat)
    (hR : total g (runStepsN g (initState g ncls store []) steps) ≤ R) :
    productiveSteps g (initState g ncls store []) steps ≤ 24 * R + 12 * g.workers.length := by
  have c := run_cnt2 st hown steps _ (ginv2_init g ncls store) ok
  have y := ginv2_run st hown steps _ (ginv2_init g ncls store) ok
  have h2 := qsumR_le (g := g) y.wait
  have h3 := qsumR_init g ncls store
  have h4 := total_init g ncls store
  unfold cntRN at c
  omega

/-- **a lively run that ends with at most `R` results is over after `(24·R + 12·|workers| + 1)·K` steps** -/
theorem lively_run_over2 {g : Graph} {ncls : Nat} (st : StaticN g ncls) (hown : RootsOwned g)
    (store : List (String × List (String × String))) (K : Nat) (hK : 0 < K) (steps : List StepN) (ok : RunOK2 g steps)
    (hl : Lively g K (initState g ncls store []) steps) (R : Nat)
    (hR : total g (runStepsN g (initState g ncls store []) steps) ≤ R)
    (hlen : (24 * R + 12 * g.workers.length + 1) * K ≤ steps.length) :
    ¬ Alive g (runStepsN g (initState g ncls store []) steps) :=
  lively_over st K hK _ steps _ (.init []) (realSteps_of_runOK2 ok) hl (productive_le_run2 st hown store steps ok R hR) hlen


/-! ## the bump counters are bounded

`max_concurrent_tries` of copy `n` is raised in the back-off branch only, i.e. when `n` is occupied: the number of DIFFERENT
workers holding a `started` mark in the scope is at least the threshold `max(mctOf n, 1)`; after the first bump the threshold
is `max_concurrent_tries₀ + bump` (`max_concurrent_tries₀` = the configured value or 0).  Marks belong to real workers, so a
copy is bumped at most `max(1, |workers| + 1 - max_concurrent_tries₀)` times. -/

/-- the bound on the bump counter of copy `n` -/
def bumpCap (g : Graph) (n : Nat) : Nat := max 1 ((g.workers.length : Int) + 1 - (g.node n).mct.getD 0).toNat

def BCap (g : Graph) (s : State) : Prop := ∀ i, (s.nd i).bump ≤ bumpCap g i

/-- every `started` mark belongs to a real worker other than `w` -/
def MarksOK (g : Graph) (w : Nat) (s : State) : Prop := ∀ i v, (s.nd i).started = some v → v ≠ w ∧ v < g.workers.length

theorem BCap.calm {g : Graph} {w : Nat} {s s' : State} (h : BCap g s) (a : Calm w s s') : BCap g s' :=
  fun i => by rw [a.bump i]; exact h i

theorem marksOK_of_pinvO {g : Graph} {s : State} {w : Nat} (ho : PInvO g s w) : MarksOK g w s := by
  intro i v hs
  obtain ⟨hv, hpc⟩ := ho.markPc i v hs
  refine ⟨hv, ?_⟩
  rw [← ho.wlen]
  apply real_of_runner
  rcases hpc with h | h
  · left; rw [h]; simp
  · right; exact h

theorem nodup_length_le (W : Nat) (l : List Nat) (hl : l.Nodup) (h : ∀ x ∈ l, x < W) : l.length ≤ W := by
  have := (List.subperm_of_subset hl (fun x hx => List.mem_range.mpr (h x hx))).length_le
  rwa [List.length_range] at this

/-- an occupied copy that has been bumped before: its threshold is at most the number of workers -/
theorem occupied_bump {g gv : Graph} (hgv : SameNodes gv g) (s : State) (n w : Nat) (hm : MarksOK g w s)
    (hocc : isOccupied gv s n w = true) (hb : 0 < (s.nd n).bump) :
    (g.node n).mct.getD 0 + ((s.nd n).bump : Int) ≤ g.workers.length := by
  have hset : ∀ v ∈ sharedStarted gv s n, v ≠ w ∧ v < g.workers.length := by
    intro v hv
    unfold sharedStarted at hv
    rw [mem_dedupNat, List.mem_filterMap] at hv
    obtain ⟨i, _, hi⟩ := hv
    exact hm i v hi
  have hlen : (sharedStarted gv s n).length ≤ g.workers.length :=
    nodup_length_le _ _ (nodup_sharedStarted gv s n) (fun v hv => (hset v hv).2)
  have hthr : mctOf gv s n = (g.node n).mct.getD 0 + ((s.nd n).bump : Int) := by
    unfold mctOf
    dsimp only
    rw [hgv.mct']
    rw [if_pos (Int.natCast_pos.mpr hb)]
  unfold isOccupied isStarted at hocc
  rw [hthr] at hocc
  split at hocc
  · cases hocc
  · unfold scopeCount at hocc
    have hne : (max ((g.node n).mct.getD 0 + ((s.nd n).bump : Int)) 1 == -1) = false := by
      have : max ((g.node n).mct.getD 0 + ((s.nd n).bump : Int)) 1 ≠ -1 := by omega
      simpa using this
    cases hsh : (gv.node n).shape with
    | own =>
      rw [hsh] at hocc
      have : w ∈ sharedStarted gv s n := by simpa using hocc
      exact absurd rfl (hset w this).1
    | swarm =>
      rw [hsh] at hocc
      simp only [hne, Bool.false_eq_true, if_false, decide_eq_true_eq] at hocc
      have := List.length_filter_le (fun v => (gv.worker v).swarm == (gv.worker w).swarm) (sharedStarted gv s n)
      omega
    | global =>
      rw [hsh] at hocc
      simp only [hne, Bool.false_eq_true, if_false, decide_eq_true_eq] at hocc
      omega

theorem bump_succ_le {g gv : Graph} (hgv : SameNodes gv g) (s : State) (n w : Nat) (hm : MarksOK g w s)
    (hocc : isOccupied gv s n w = true) : (s.nd n).bump + 1 ≤ bumpCap g n := by
  unfold bumpCap
  by_cases hb : 0 < (s.nd n).bump
  · have := occupied_bump hgv s n w hm hocc hb
    omega
  · omega

theorem iter_bcap {g gv : Graph} (hgv : SameNodes gv g) (s : State) (w : Nat) (hm : MarksOK g w s) (hc : BCap g s) :
    BCap g (iter gv s w).1 := by
  fun_cases iter gv s w with
  | case1 => exact hc.calm (calm_setWd w s w _ (fun _ => rfl) (fun _ => rfl))
  | case5 _ _ next _ _ x s2 hp => exact hc.calm (calm_pickChild w gv s next w x s2 hp)
  | case6 _ wd _ next _ _ hocc _ _ _ _ _ s1 s2 =>
    -- the bounce: the only place where a bump counter is written
    intro i
    unfold s2 s1
    rw [nd_setWd]
    split
    · rw [nd_setWd]
      split
      · rcases nd_setNd_cases s next (fun d => { d with bump := d.bump + 1 }) i with h | ⟨h1, _, h⟩
        · rw [h]; exact hc i
        · rw [h, h1]
          exact bump_succ_le hgv s next w hm hocc
      · exact hc i
    · rw [nd_setWd]
      exact hc i
  | case7 _ _ next => exact hc.calm (calm_traverseNode w gv s w next _ .up)
  | case9 _ _ next _ _ _ _ _ _ x s2 hp => exact hc.calm (calm_pickParent w gv s next w x s2 hp)
  | case11 _ _ next _ _ _ _ _ _ _ x s2 hp => exact hc.calm (calm_pickParent w gv s next w x s2 hp)
  | case12 _ _ next => exact hc.calm (calm_traverseNode w gv s w next _ .down)
  | _ => exact hc

theorem iterL_bcap (g : Graph) (s : State) (w : Nat) (hm : MarksOK g w s) (hc : BCap g s) : BCap g (iterL g s w).1 := by
  unfold iterL
  split
  · exact iter_bcap (sameNodes_vis g s) s w hm hc
  · dsimp only
    have h0 := calm_prepare w g s w
    have hn := (prepare_frame g s w).1
    refine iter_bcap (sameNodes_vis g (prepare g s w)) (prepare g s w) w ?_ (hc.calm h0)
    intro i v hs
    rw [nd_of_nodes_eq' hn] at hs
    exact hm i v hs

theorem runLoop_bcap (g : Graph) (hsym : EdgeSym g) (w fuel : Nat) (s : State) (evs : List Event) (ho : PInvO g s w)
    (hp : PathOK (Adj (vis g s)) (fun x => relevant g w x = true) g.root (s.wd w).path)
    (hw : w < s.workers.length) (hc : BCap g s) : BCap g (runLoop g w fuel s evs).1 := by
  -- one iteration, from the state with `pc := loop`: `PInvO` gives `MarksOK`, and is kept if the loop goes on
  have one : ∀ s : State, PInvO g s w → PathOK (Adj (vis g s)) (fun x => relevant g w x = true) g.root (s.wd w).path →
      w < s.workers.length → BCap g s → ∀ s1 e f, iterL g (s.setWd w (fun d => { d with pc := .loop })) w = (s1, e, f) →
      BCap g s1 ∧ (f = .cont → PInvO g s1 w ∧
        PathOK (Adj (vis g s1)) (fun x => relevant g w x = true) g.root (s1.wd w).path ∧ w < s1.workers.length) := by
    intro s ho hp hw hc s1 e f heq
    have e0 : Eff w none s (s.setWd w (fun d => { d with pc := .loop })) := eff_setWd w none s _
    have hwd := wd_setWd_eq s w (fun d => { d with pc := .loop }) hw
    have ho0 : PInvO g (s.setWd w (fun d => { d with pc := .loop })) w :=
      ho.transfer e0.workersLen (fun x hx => by rw [← e0.hidden]; exact hx)
        (fun v hv => by rw [e0.others v hv]; exact ⟨rfl, rfl⟩) (fun i => Or.inl rfl)
    obtain ⟨hl, hcont, _, _⟩ := iterL_inv g hsym _ w ho0 (by
      rw [hwd]
      exact hp.mono (fun a b => adj_vis_mono g s _ (fun x hx => by rw [← e0.hidden]; exact hx) a b)) (by rw [hwd]; rfl)
    have hit := iterL_bcap g _ w (marksOK_of_pinvO ho0) (hc.calm (calm_setWd w s w _ (fun _ => rfl) (fun _ => rfl)))
    rw [heq] at hit hcont hl
    refine ⟨hit, fun hf => ?_⟩
    obtain ⟨a, b, _⟩ := hcont hf
    exact ⟨a, b, by rw [hl, e0.workersLen]; exact hw⟩
  fun_induction runLoop g w fuel s evs with
  | case1 => exact hc
  | case2 fuel s evs _ s1 e heq ih =>
    obtain ⟨h1, h2⟩ := one s ho hp hw hc s1 e _ heq
    obtain ⟨a, b, c⟩ := h2 rfl
    exact ih a b c h1
  | case3 fuel s evs _ s1 e heq => exact (one s ho hp hw hc s1 e _ heq).1
  | case4 fuel s evs _ s1 e heq => exact (one s ho hp hw hc s1 e _ heq).1
  | case5 fuel s evs _ s1 e what heq =>
    intro i
    rw [nd_setWd]
    exact (one s ho hp hw hc s1 e _ heq).1 i

theorem continueAfter_bcap (g : Graph) (hsym : EdgeSym g) (w n : Nat) (phase : Phase) (dir : Dir) (fuel : Nat)
    (s : State) (ok : Bool) (evs : List Event) (h : PInv g s) (hpcw : (s.wd w).pc.node? = some n) (hc : BCap g s) :
    BCap g (resumeTest.continueAfter g w n phase dir fuel s ok evs).1 := by
  -- what `afterTraverse` returns: the bumps are within bounds, and the loop can go on from it
  have after : ∀ sd, Qt w none s sd → Calm w s sd → ∀ prev s2 e2 f,
      afterTraverse (vis g (finishTraverse sd n w)) (finishTraverse sd n w) w n prev dir = (s2, e2, f) →
      BCap g s2 ∧ PInvO g s2 w ∧ PathOK (Adj (vis g s2)) (fun x => relevant g w x = true) g.root (s2.wd w).path ∧
        w < s2.workers.length := by
    intro sd q2 c2 prev s2 e2 f hat
    obtain ⟨hoF, hpF, hlF, hnF, hwF, _⟩ := h.finish hpcw q2
    obtain ⟨a, _, c, _⟩ := afterTraverse_ok (vis g (finishTraverse sd n w)) (edgeSym_vis g _ hsym) (finishTraverse sd n w) w n
      prev dir hwF hlF hnF
    have cA := (c2.trans (calm_finishTraverse w sd n w)).trans
      (calm_afterTraverse w (vis g (finishTraverse sd n w)) (finishTraverse sd n w) w n prev dir)
    rw [hat] at a c cA
    have hhid : ∀ x, x ∈ s2.hidden → x ∈ (finishTraverse sd n w).hidden := by intro x hx; rw [← a.hidden]; exact hx
    refine ⟨hc.calm cA, ?_, pathOK_eff g _ s2 w _ _ hhid hpF c, by rw [a.workersLen]; exact hwF⟩
    exact hoF.transfer a.workersLen hhid (fun v hv => by rw [a.others v hv]; exact ⟨rfl, rfl⟩) (fun i => by
      rcases a.marks i with h' | h' | h'
      · exact Or.inl h'
      · exact Or.inr h'
      · exact absurd h'.1 (by simp))
  have q2 : Qt w none s (if (phase == Phase.pre) = true then
        s.setNd n (fun d => { d with results := d.results ++ (s.wd w).preResults.drop d.results.length })
      else s) := by
    split
    · exact qt_setNd w none s n _ (fun d => Or.inl rfl)
    · exact Qt.refl _ _ _
  have c2 : Calm w s (if (phase == Phase.pre) = true then
        s.setNd n (fun d => { d with results := d.results ++ (s.wd w).preResults.drop d.results.length })
      else s) := by
    split
    · exact calm_setNd w s n _ (fun _ => rfl)
    · exact Calm.refl w s
  fun_cases resumeTest.continueAfter g w n phase dir fuel s ok evs with
  | case1 _ s1 e2 f hst =>
    have := calm_startTest w g s n w .main dir
    rw [hst] at this
    exact hc.calm this
  | case2 _ _ _ sd sF s2 e2 what hat =>
    intro i
    rw [nd_setWd]
    exact (after sd q2 c2 _ s2 e2 _ hat).1 i
  | case3 _ _ _ sd sF s2 e2 f _ hat =>
    obtain ⟨x1, x2, x3, x4⟩ := after sd q2 c2 _ s2 e2 f hat
    exact runLoop_bcap g hsym w fuel s2 _ x2 x3 x4 x1

theorem resumeTest_bcap (g : Graph) (hsym : EdgeSym g) (s : State) (w n : Nat) (phase : Phase) (dir : Dir) (uid : String)
    (tag wait : Nat) (out : Outcome) (fuel : Nat) (h : PInv g s) (hpcw : (s.wd w).pc.node? = some n) (hc : BCap g s) :
    BCap g (resumeTest g s w n phase dir uid tag wait out fuel).1 := by
  rw [resumeTest_eq]
  obtain ⟨hA, hpcA⟩ := h.book (reportOutcome_bookOnly g s w n phase uid wait out) hpcw
  obtain ⟨r1, r2, _⟩ := reportOutcome_frame g s w n phase uid wait out
  have hcA := hc.calm (Calm.quiet r1 r2 : Calm w s _)
  generalize reportOutcome g s w n phase uid wait out = ra at hA hpcA hcA
  have tick : ∀ k, BCap g (ra.1.setWd w (fun d => { d with pc := .test n phase dir uid tag k })) := by
    intro k i
    rw [nd_setWd]
    exact hcA i
  split
  · next st0 dur _ =>
    obtain ⟨hB, hpcB⟩ := hA.book (recordResult_frame ra.1 w n phase
      (if (phase == Phase.pre) = true then (s.wd w).preName else (g.node n).name) uid tag st0 dur) hpcA
    exact continueAfter_bcap g hsym w n phase dir fuel _ _ _ hB hpcB (hcA.calm (calm_recordResult w ra.1 w n phase _ uid tag st0 dur))
  · split
    · exact tick _
    · split
      · exact tick _
      · exact continueAfter_bcap g hsym w n phase dir fuel _ false _ hA hpcA hcA

/-- **a step keeps every bump counter within `bumpCap`** -/
theorem resume_bcap (g : Graph) (hsym : EdgeSym g) (s : State) (w : Nat) (out : Outcome) (fuel : Nat)
    (hw : w < g.workers.length) (h : PInv g s) (hc : BCap g s) : BCap g (resume g s w out fuel).1 := by
  have hws : w < s.workers.length := by rw [h.wlen]; exact hw
  have loopCase : (s.wd w).pc.node? = none → (s.wd w).pc ≠ .failed → (s.wd w).pc ≠ .done →
      BCap g (runLoop g w fuel s []).1 := by
    intro h2 h3 h4
    refine runLoop_bcap g hsym w fuel s [] (h.toO h2 h3) ?_ hws hc
    rcases h.path w hws with h' | h'
    · exact absurd h'.2 h4
    · exact h'
  fun_cases resume g s w out fuel with
  | case1 heq => exact loopCase (by rw [heq]; rfl) (by rw [heq]; simp) (by rw [heq]; simp)
  | case2 heq => exact loopCase (by rw [heq]; rfl) (by rw [heq]; simp) (by rw [heq]; simp)
  | case3 n phase dir uid tag wait heq =>
    exact resumeTest_bcap g hsym s w n phase dir uid tag wait out fuel h (by rw [heq]; rfl) hc
  | case4 => exact hc
  | case5 => exact hc

theorem bcap_init (g : Graph) (ncls : Nat) (store : List (String × List (String × String))) (hidden : List Nat) :
    BCap g (initState g ncls store hidden) := by
  intro i
  rw [initState_nd]
  exact Nat.zero_le _

/-- **in every reachable state every bump counter is within `bumpCap`** (any graph with edges recorded at both ends, lazily
expanded ones included; steps of real workers with positive fuel) -/
theorem reachable_bcap {g : Graph} (hsym : EdgeSym g) {ncls : Nat} {store : List (String × List (String × String))}
    {s : State} (h : ReachableF g ncls store s) : BCap g s := by
  induction h with
  | init hidden => exact bcap_init g ncls store hidden
  | step s w out fuel hr hw _ ih => exact resume_bcap g hsym s w out fuel hw (hr.pinv hsym) ih


/-! ## the number of results, with and without bumps; the run-level theorems -/

/-- `Σ_n max(max(max_tries n, 1) + 1, |workers| + 1)`: the bound on the number of results when bumps are allowed -/
def resultBoundB (g : Graph) : Nat :=
  ((List.range g.nodes.length).map
    (fun n => max ((max ((g.node n).maxTries.getD 1) 1).toNat + 1) (g.workers.length + 1))).sum

/-- the threshold `k + b` after `b` bumps within the cap, when the configured value `k` is at most `M` -/
theorem bumped_le (W b : Nat) (k M : Int) (hk : k ≤ M) (hb : b ≤ max 1 ((W : Int) + 1 - k).toNat) :
    (max (k + b) 1).toNat ≤ max (M.toNat + 1) (W + 1) := by
  omega

/-- with bump counters within `bumpCap` and `max_concurrent_tries₀ ≤ max(max_tries, 1)`, the largest threshold of a class is
at most `max(max(max_tries, 1) + 1, |workers| + 1)` -/
theorem classLimit_le_of_bcap {g : Graph} {c : Nat} {M : Option Int} {sh : Shape} (hc : BClass g c M sh)
    (hm : mctWithin g c M = true) (s : State) (hb : BCap g s) :
    classLimit g s c ≤ max ((max (M.getD 1) 1).toNat + 1) (g.workers.length + 1) := by
  unfold classLimit
  apply foldr_max_le
  intro m hm1
  rw [mem_classNodes] at hm1
  unfold mctWithin at hm
  rw [List.all_eq_true] at hm
  have hm' := hm m ((mem_classNodes g c m).mpr hm1)
  have hM := (hc.node m hm1.1 hm1.2).2.2.2.1
  -- the configured threshold, and the unbumped limit
  have hk : (g.node m).mct.getD 0 ≤ max (M.getD 1) 1 ∧
      (max ((g.node m).mct.getD (M.getD 1)) 1).toNat ≤ max ((max (M.getD 1) 1).toNat + 1) (g.workers.length + 1) := by
    cases hk : (g.node m).mct with
    | none => simp only [Option.getD_none]; omega
    | some k =>
      rw [hk] at hm'
      simp only [decide_eq_true_eq] at hm'
      simp only [Option.getD_some]
      omega
  unfold peakLimit limit limit0 mctOf
  dsimp only
  rw [hM]
  refine Nat.max_le.mpr ⟨hk.2, ?_⟩
  split
  · exact bumped_le _ _ _ _ hk.1 (hb m)
  · exact hk.2

/-- **the number of results never exceeds `resultBoundB g`**, whatever has been bumped -/
theorem total_le_resultBoundB {g : Graph} (hwf : graphWF g = true) (hcl : classesOKRB g = true) {ncls : Nat}
    {store : List (String × List (String × String))} {s : State} (hR : ReachableR g ncls store s) (hb : BCap g s) :
    total g s ≤ resultBoundB g := by
  refine sum_map_le _ _ _ (fun n hn => ?_)
  have hn' : n < g.nodes.length := List.mem_range.mp hn
  unfold classesOKRB at hcl
  rw [List.all_eq_true] at hcl
  have hc := hcl n hn
  rw [Bool.or_eq_true, Bool.and_eq_true, Bool.or_eq_true] at hc
  have stateful : ∀ {M : Option Int} {sh : Shape}, M = (g.node n).maxTries → BClass g (g.node n).cls M sh →
      mctWithin g (g.node n).cls M = true →
      (s.nd n).results.length ≤ max ((max (M.getD 1) 1).toNat + 1) (g.workers.length + 1) := by
    intro M sh _ hC hm
    have b := hR.binv hwf hC
    by_cases hne : (s.nd n).results = []
    · rw [hne]; exact Nat.zero_le _
    · obtain ⟨u, hu, h1⟩ := len_le_scopedLen hC b n hn' rfl hne
      have h2 := b.budget u hu [] List.nodup_nil (fun v hv => by cases hv)
      have h3 := classLimit_le_of_bcap hC hm s hb
      simp only [List.length_nil, Nat.add_zero] at h2
      omega
  rcases hc with hc | ⟨hc | hc, hm⟩
  · have hle : (s.nd n).results.length ≤ classLen g s (g.node n).cls :=
      Term.le_sum_of_mem (g.classNodes (g.node n).cls) (fun j => (s.nd j).results.length) n
        ((mem_classNodes g _ n).mpr ⟨hn', rfl⟩)
    have := hR.budget hwf (g.node n).cls (g.node n).maxTries hc
    omega
  · exact stateful rfl (statefulClass_spec hc) hm
  · exact stateful rfl (statefulClassRoots_spec hc).1 hm

theorem noBump_init (g : Graph) (ncls : Nat) (store : List (String × List (String × String))) :
    NoBump (initState g ncls store []) := (ginvN_init g ncls store).noBump

theorem noBump_run (g : Graph) (steps : List StepN) (s : State) (hb : BumpFree g s steps) (h0 : NoBump s) :
    NoBump (runStepsN g s steps) := by
  induction steps generalizing s with
  | nil => exact h0
  | cons a r ih =>
    rw [runStepsN_cons]
    exact ih _ hb.2 (fun i => (hb.1 i).trans (h0 i))

/-- the number of results at the end of a run from the initial state: `resultBoundB` always, `resultBound` if nothing was
bumped -/
theorem total_run_le {g : Graph} {ncls : Nat} (st : StaticN g ncls) (hcl : classesOKRB g = true)
    (store : List (String × List (String × String))) (steps : List StepN) (ok : RunOK2 g steps) :
    total g (runStepsN g (initState g ncls store []) steps) ≤ resultBoundB g ∧
    (BumpFree g (initState g ncls store []) steps →
      total g (runStepsN g (initState g ncls store []) steps) ≤ resultBound g) := by
  have y := ginv2_run st (rootsOwned_of_classesOKRB hcl) steps _ (ginv2_init g ncls store) ok
  exact ⟨total_le_resultBoundB st.wf hcl y.reachR (reachable_bcap (edgeSymB_sound st.sym) y.reachF),
    fun hb => total_le_resultBoundR st.wf hcl y.reachR (noBump_run g steps _ hb (noBump_init g ncls store))⟩

/-- **fair runs, object roots allowed, nothing bumped** -/
theorem fair_run_over_roots {g : Graph} {ncls : Nat} (st : StaticN g ncls) (hcl : classesOKRB g = true)
    (store : List (String × List (String × String))) (K : Nat) (hK : 0 < K) (steps : List StepN) (ok : RunOK2 g steps)
    (hb : BumpFree g (initState g ncls store []) steps) (hfair : FairW g K (initState g ncls store []) steps)
    (hlen : (24 * resultBound g + 12 * g.workers.length + 1) * K ≤ steps.length) :
    ¬ Alive g (runStepsN g (initState g ncls store []) steps) :=
  lively_run_over2 st (rootsOwned_of_classesOKRB hcl) store K hK steps ok
    (fair_lively st K steps _ (.init []) (realSteps_of_runOK2 ok) hfair) _
    ((total_run_le st hcl store steps ok).2 hb) hlen

/-- **fair runs, object roots and bumps allowed** -/
theorem fair_run_over_bumps {g : Graph} {ncls : Nat} (st : StaticN g ncls) (hcl : classesOKRB g = true)
    (store : List (String × List (String × String))) (K : Nat) (hK : 0 < K) (steps : List StepN) (ok : RunOK2 g steps)
    (hfair : FairW g K (initState g ncls store []) steps)
    (hlen : (24 * resultBoundB g + 12 * g.workers.length + 1) * K ≤ steps.length) :
    ¬ Alive g (runStepsN g (initState g ncls store []) steps) :=
  lively_run_over2 st (rootsOwned_of_classesOKRB hcl) store K hK steps ok
    (fair_lively st K steps _ (.init []) (realSteps_of_runOK2 ok) hfair) _
    (total_run_le st hcl store steps ok).1 hlen

/-- **timed runs, object roots allowed, nothing bumped** -/
theorem timed_run_over_roots {g : Graph} {ncls : Nat} (st : StaticN g ncls) (hcl : classesOKRB g = true)
    (store : List (String × List (String × String))) (q T : Nat) (hq : 0 < q) (wake : Nat → Nat) (steps : List TStepN)
    (ok : RunOK2 g (steps.map (·.1))) (hb : BumpFree g (initState g ncls store []) (steps.map (·.1)))
    (ht : Timed g q T wake (initState g ncls store []) steps)
    (hlen : (24 * resultBound g + 12 * g.workers.length + 1) * (g.workers.length * (T / q + 1) + 1) ≤ steps.length) :
    ¬ Alive g (runStepsN g (initState g ncls store []) (steps.map (·.1))) :=
  lively_run_over2 st (rootsOwned_of_classesOKRB hcl) store _ (Nat.succ_pos _) _ ok
    (timed_livelyF st q T hq steps wake _ (.init []) (realSteps_of_runOK2 ok) ht (due_init g ncls store T wake)) _
    ((total_run_le st hcl store _ ok).2 hb) (by rw [List.length_map]; exact hlen)

/-- **timed runs, object roots and bumps allowed** -/
theorem timed_run_over_bumps {g : Graph} {ncls : Nat} (st : StaticN g ncls) (hcl : classesOKRB g = true)
    (store : List (String × List (String × String))) (q T : Nat) (hq : 0 < q) (wake : Nat → Nat) (steps : List TStepN)
    (ok : RunOK2 g (steps.map (·.1))) (ht : Timed g q T wake (initState g ncls store []) steps)
    (hlen : (24 * resultBoundB g + 12 * g.workers.length + 1) * (g.workers.length * (T / q + 1) + 1) ≤ steps.length) :
    ¬ Alive g (runStepsN g (initState g ncls store []) (steps.map (·.1))) :=
  lively_run_over2 st (rootsOwned_of_classesOKRB hcl) store _ (Nat.succ_pos _) _ ok
    (timed_livelyF st q T hq steps wake _ (.init []) (realSteps_of_runOK2 ok) ht (due_init g ncls store T wake)) _
    (total_run_le st hcl store _ ok).1 (by rw [List.length_map]; exact hlen)

/-- productive steps of any run (object roots, bumps): at most `24·resultBoundB g + 12·|workers|` -/
theorem productive_le_bumps {g : Graph} {ncls : Nat} (st : StaticN g ncls) (hcl : classesOKRB g = true)
    (store : List (String × List (String × String))) (steps : List StepN) (ok : RunOK2 g steps) :
    productiveSteps g (initState g ncls store []) steps ≤ 24 * resultBoundB g + 12 * g.workers.length :=
  productive_le_run2 st (rootsOwned_of_classesOKRB hcl) store steps ok _ (total_run_le st hcl store steps ok).1


/-! ## the sleeps of the result wait

A step that ends inside a test with a wait counter `≠ 0` is a tick of the result wait of the SAME test: the counter went from
`wait` to `wait + 1 ≤ 10`, and the last event of the step is the sleep of 3000 hundredths (`asyncio.sleep(30)`).  Every other
step that ends inside a test has just started it (counter 0).  So of the bound `T` of `Fair.Timed` only the duration of the
first suspension of a test — the test's own run — is an assumption; the ticks last what the model announces, at most ten
times per test. -/

/-- **a step that ends inside a test with wait counter `≠ 0` is a tick of the result wait**: the worker was inside the same
test with the counter one lower, the counter is at most 10, and the last event is the sleep of 30 s -/
theorem resume_tick_sleep (g : Graph) (hwf : GraphWF g) (s : State) (w : Nat) (out : Outcome) (fuel : Nat) (hf : 0 < fuel)
    (hw : w < s.workers.length) (hpath : ∀ x ∈ (s.wd w).path, x < g.nodes.length)
    {n' : Nat} {ph' : Phase} {dir' : Dir} {uid' : String} {tag' wait' : Nat}
    (hpc : ((resume g s w out fuel).1.wd w).pc = .test n' ph' dir' uid' tag' wait') (hne : wait' ≠ 0) :
    (resume g s w out fuel).2.getLast? = some (Event.sleep (g.worker w).id 3000) ∧ wait' ≤ 10 ∧
      ∃ ph dir uid wait, (s.wd w).pc = .test n' ph dir uid tag' wait ∧ wait' = wait + 1 := by
  -- a test that has just been started has counter 0
  have fresh : ∀ {pc : Pc}, (pc.isTest = false ∨ ∃ n ph dir uid tag, pc = .test n ph dir uid tag 0) →
      pc ≠ .test n' ph' dir' uid' tag' wait' := by
    rintro pc (h | ⟨_, _, _, _, _, h⟩) e
    · rw [e] at h; cases h
    · rw [e] at h; cases h; exact hne rfl
  have loop : ((runLoop g w fuel s []).1.wd w).pc ≠ .test n' ph' dir' uid' tag' wait' := by
    rcases runLoop_eff_pos g hwf w fuel hf s [] hw hpath with ⟨_, hp⟩ | ⟨s1, a, hs⟩
    · exact fresh (Or.inl hp)
    · exact fresh (Or.inr (startFrom_pc hs (by rw [a.workersLen]; exact hw)))
  revert hpc
  fun_cases resume g s w out fuel with
  | case1 => intro hpc; exact absurd hpc loop
  | case2 => intro hpc; exact absurd hpc loop
  | case3 n ph dir uid tag wait heq =>
    rw [resumeTest_eq]
    have bA := reportOutcome_bookOnly g s w n ph uid wait out
    generalize reportOutcome g s w n ph uid wait out = ra at bA
    -- the continuation after the test starts afresh
    have after : ∀ sc ok evs, BookOnly ra.1 sc →
        ((resumeTest.continueAfter g w n ph dir fuel sc ok evs).1.wd w).pc ≠ .test n' ph' dir' uid' tag' wait' := by
      intro sc ok evs bB
      have hwc : w < sc.workers.length := by rw [bB.workersLen, bA.workersLen]; exact hw
      exact fresh (contEff_pc (continueAfter_eff g hwf w n ph dir fuel hf sc ok evs hwc
        (by rw [(bB.wd w).1, (bA.wd w).1]; exact hpath)) hwc)
    have tick : ∀ evs : List Event, wait + 1 ≤ 10 →
        ((ra.1.setWd w (fun d => { d with pc := .test n ph dir uid tag (wait + 1) })).wd w).pc =
          .test n' ph' dir' uid' tag' wait' →
        (evs ++ [Event.sleep (g.worker w).id 3000]).getLast? = some (Event.sleep (g.worker w).id 3000) ∧ wait' ≤ 10 ∧
          ∃ ph dir uid wait, (s.wd w).pc = .test n' ph dir uid tag' wait ∧ wait' = wait + 1 := by
      intro evs hle hpc
      rw [wd_setWd_eq ra.1 w _ (by rw [bA.workersLen]; exact hw)] at hpc
      cases hpc
      exact ⟨getLast?_append_singleton _ _, hle, _, _, _, _, heq, rfl⟩
    split
    · next st0 dur _ =>
      intro hpc
      exact absurd hpc (after _ _ _ (recordResult_frame ra.1 w n ph _ uid tag st0 dur))
    · split
      · next hlt => exact tick _ (by omega)
      · split
        · next heq10 => exact tick _ (Nat.le_of_eq (by simpa using heq10))
        · intro hpc
          exact absurd hpc (after _ _ _ ⟨rfl, rfl, fun _ => ⟨rfl, rfl⟩, fun _ => rfl⟩)
  | case4 heq => intro hpc; rw [heq] at hpc; cases hpc
  | case5 heq => intro hpc; rw [heq] at hpc; cases hpc

end I2N.Trav.Fair2
