import I2N.Model.Show
/-! Lemmas for C17 (engine `show`): the combination of per-image lists, and the two snapshot patterns run on
printed listings — character classes, maximal runs, the pieces of a pattern on a printed record, one match
attempt, the scan line by line. What the off and the on pattern share is stated once, over the body and the
records it selects. -/
namespace I2N.Show

theorem foldl_vtStep_some (rest : List (List Name)) (st : List Name) :
    rest.foldl vtStep (some st) = some (st.filter (fun s => rest.all (fun img => img.contains s))) := by
  induction rest generalizing st with
  | nil => simp only [List.foldl_nil, List.all_nil]; congr 1; exact (List.filter_eq_self.mpr (fun _ _ => rfl)).symm
  | cons img rest ih =>
    simp only [List.foldl_cons, vtStep, ih, List.filter_filter, List.all_cons]
    congr 1
    apply List.filter_congr
    intro x _
    exact Bool.and_comm _ _

theorem vtShow_nil : vtShow [] = [] := rfl

theorem vtShow_cons (first : List Name) (rest : List (List Name)) :
    vtShow (first :: rest) = first.filter (fun s => rest.all (fun img => img.contains s)) := by
  simp only [vtShow, List.foldl_cons, vtStep, foldl_vtStep_some]

theorem mem_vtShow_cons (first : List Name) (rest : List (List Name)) (x : Name) :
    x ∈ vtShow (first :: rest) ↔ ∀ l ∈ first :: rest, x ∈ l := by
  simp [vtShow_cons, List.mem_filter, List.all_eq_true]

theorem ramImagesStates_eq_vtShow (imgs : List (List Name)) : ramImagesStates imgs = vtShow imgs := rfl

theorem stripSuffix_eq_some (suf f x : List Char) : stripSuffix suf f = some x ↔ f = x ++ suf := by
  unfold stripSuffix
  constructor
  · intro h
    split at h
    · rename_i hs
      have hs' : suf <:+ f := by simpa using hs
      have := List.suffix_iff_eq_append.mp hs'
      simp only [Option.some.injEq] at h
      rw [h] at this
      exact this.symm
    · cases h
  · intro h
    subst h
    simp

section chars
variable {c : Char}

theorem digit_tag (h : isDigit c = true) : isTagCh c = true := by
  simp [isTagCh, isWord, h]
theorem digit_frac (h : isDigit c = true) : isFracCh c = true := by
  simp [isFracCh, h]
theorem digit_word (h : isDigit c = true) : isWord c = true := by
  simp [isWord, h]
theorem word_tag (h : isWord c = true) : isTagCh c = true := by
  simp [isTagCh, h]
theorem frac_tag (h : isFracCh c = true) : isTagCh c = true := by
  simp only [isFracCh, Bool.or_eq_true] at h
  rcases h with h | h
  · exact digit_tag h
  · simp [isTagCh, h]
theorem nl_space (h : isNl c = true) : isSpace c = true := by
  simp [isNl, isSpace] at *; omega
theorem not_nl_of_not_space (h : isSpace c = false) : isNl c = false := by
  cases hn : isNl c with
  | false => rfl
  | true => rw [nl_space hn] at h; cases h
theorem not_32_of_not_space (h : isSpace c = false) : c.toNat ≠ 32 := by
  intro e; simp [isSpace, e] at h
/-- the one range fact: no character of a tag is white space; the other exclusions follow from it -/
theorem tag_not_space (h : isTagCh c = true) : isSpace c = false := by
  simp [isTagCh, isWord, isDigit, isSpace] at *; omega
theorem tag_not_32 (h : isTagCh c = true) : c.toNat ≠ 32 := not_32_of_not_space (tag_not_space h)
theorem tag_not_nl (h : isTagCh c = true) : isNl c = false := not_nl_of_not_space (tag_not_space h)
theorem word_not_space (h : isWord c = true) : isSpace c = false := tag_not_space (word_tag h)
theorem digit_not_space (h : isDigit c = true) : isSpace c = false := tag_not_space (digit_tag h)
theorem digit_not_nl (h : isDigit c = true) : isNl c = false := tag_not_nl (digit_tag h)
theorem frac_not_nl (h : isFracCh c = true) : isNl c = false := tag_not_nl (frac_tag h)
theorem frac_not_32 (h : isFracCh c = true) : c.toNat ≠ 32 := tag_not_32 (frac_tag h)
theorem digit_not_32 (h : isDigit c = true) : c.toNat ≠ 32 := frac_not_32 (digit_frac h)
theorem frac_not_e (h : isFracCh c = true) : isE c = false := by
  simp [isFracCh, isDigit, isE] at *; omega
theorem frac_not_sign (h : isFracCh c = true) : isSign c = false := by
  simp [isFracCh, isDigit, isSign] at *; omega
theorem e_not_32 (h : isE c = true) : c.toNat ≠ 32 := by
  simp [isE] at *; omega
theorem sign_not_32 (h : isSign c = true) : c.toNat ≠ 32 := by
  simp [isSign] at *; omega

theorem isSpace_sp : isSpace ' ' = true := by decide
theorem isDigit_sp : isDigit ' ' = false := by decide
theorem isTagCh_sp : isTagCh ' ' = false := by decide
theorem isWord_sp : isWord ' ' = false := by decide
theorem isFracCh_sp : isFracCh ' ' = false := by decide
theorem isNl_sp : isNl ' ' = false := by decide
end chars

/-- `r` does not start with a `p` character -/
def Stops (p : Char → Bool) (r : List Char) : Prop := ∀ c ∈ r.head?, p c = false

theorem stops_nil (p : Char → Bool) : Stops p [] := by simp [Stops]
theorem stops_cons {p : Char → Bool} {c : Char} {r : List Char} (h : p c = false) : Stops p (c :: r) := by
  simp [Stops, h]
theorem stops_append {p : Char → Bool} {a b : List Char} (ha : a ≠ []) (h : Stops p a) : Stops p (a ++ b) := by
  cases a with
  | nil => exact absurd rfl ha
  | cons x a => simpa [Stops] using h

theorem takeWhile_run {p : Char → Bool} {l r : List Char} (hl : ∀ a ∈ l, p a = true) (hr : Stops p r) :
    (l ++ r).takeWhile p = l := by
  rw [List.takeWhile_append_of_pos hl]
  cases r with
  | nil => simp
  | cons c r => simp [Stops] at hr; simp [hr]

theorem dropWhile_run {p : Char → Bool} {l r : List Char} (hl : ∀ a ∈ l, p a = true) (hr : Stops p r) :
    (l ++ r).dropWhile p = r := by
  have := List.takeWhile_append_dropWhile (p := p) (l := l ++ r)
  rw [takeWhile_run hl hr] at this
  exact List.append_cancel_left this

theorem spaces_ok (n : Nat) : ∀ a ∈ ' ' :: spaces n, isSpace a = true := by
  intro a ha
  simp [spaces] at ha
  rcases ha with rfl | ⟨_, rfl⟩ <;> exact isSpace_sp

theorem lit_eq_some {p s r : List Char} : lit p s = some r ↔ s = p ++ r := by
  induction p generalizing s with
  | nil => simp [lit, eq_comm]
  | cons c p ih =>
    cases s with
    | nil => simp [lit]
    | cons d s =>
      simp only [lit]
      split
      · rename_i h; subst h; simp [ih]
      · rename_i h; simp; intro h'; exact absurd h'.symm h

theorem lit_append (p s : List Char) : lit p (p ++ s) = some s := lit_eq_some.mpr rfl

theorem lit_eq_none {p s : List Char} : lit p s = none ↔ ¬ p <+: s := by
  constructor
  · intro h ⟨r, hr⟩
    rw [← hr, lit_append] at h
    cases h
  · intro h
    cases hl : lit p s with
    | none => rfl
    | some r => exact absurd ⟨r, (lit_eq_some.mp hl).symm⟩ h

theorem dateAt_print (r : Rec) (h : r.WF) (X : List Char) : dateAt (printDate r ++ X) = some X := by
  obtain ⟨h1, h2, h3, h4, h5, h6, h7, h8⟩ := h.date_ok
  simp [dateAt, printDate, one, h1, h2, h3, h4, h5, h6, h7, h8, isDash]

theorem dateAt_nondigit {c : Char} (s : List Char) (h : isDigit c = false) : dateAt (c :: s) = none := by
  simp [dateAt, one, h]

theorem dateAt_nil : dateAt [] = none := by simp [dateAt, one]

theorem printDate_stops (r : Rec) (h : r.WF) (X : List Char) : Stops isSpace (printDate r ++ X) := by
  simp [Stops, printDate, digit_not_space h.date_ok.1]

theorem dateAfterWs_print (r : Rec) (h : r.WF) (n : Nat) (X : List Char) :
    dateAfterWs (' ' :: spaces n ++ (printDate r ++ X)) = some X := by
  unfold dateAfterWs
  rw [takeWhile_run (spaces_ok n) (printDate_stops r h X), dropWhile_run (spaces_ok n) (printDate_stops r h X)]
  simp [dateAt_print r h]

theorem optCh_neg {p : Char → Bool} {c : Char} (s : List Char) (h : p c = false) : optCh p (c :: s) = c :: s := by
  simp [optCh, h]
theorem optCh_pos {p : Char → Bool} {c : Char} (s : List Char) (h : p c = true) : optCh p (c :: s) = s := by
  simp [optCh, h]

theorem optCh_frac_run (p : Char → Bool) (hp : ∀ c, isFracCh c = true → p c = false) (hsp : p ' ' = false)
    (l U : List Char) (hl : ∀ c ∈ l, isFracCh c = true) : optCh p (l ++ ' ' :: U) = l ++ ' ' :: U := by
  cases l with
  | nil => exact optCh_neg _ hsp
  | cons c l => exact optCh_neg _ (hp c (hl c (by simp)))

/-- the `[\.\d]*` part when neither `e` nor a sign is printed: the digits of `frac` are eaten by `\d+` -/
theorem numEnd_frac (l U : List Char) (hl : ∀ c ∈ l, isFracCh c = true) :
    (optCh isSign (optCh isE ((l ++ ' ' :: U).dropWhile isDigit))).dropWhile isFracCh = ' ' :: U := by
  have hd : (l ++ ' ' :: U).dropWhile isDigit = l.dropWhile isDigit ++ ' ' :: U := by
    rw [List.dropWhile_append]
    split <;> simp_all [isDigit_sp]
  have hl' : ∀ c ∈ l.dropWhile isDigit, isFracCh c = true := fun c hc => hl c ((List.dropWhile_sublist _).subset hc)
  rw [hd, optCh_frac_run isE (fun c => frac_not_e) (by decide) _ _ hl',
    optCh_frac_run isSign (fun c => frac_not_sign) (by decide) _ _ hl']
  exact dropWhile_run hl' (stops_cons isFracCh_sp)
theorem printSize_append (z : Size) (W : List Char) :
    printSize z ++ W = z.digits ++ (eChars z.e ++ (signChars z.sign ++ (z.frac ++ ' ' :: (z.unit ++ W)))) := by
  simp [printSize, List.append_assoc]

theorem numEnd_print (z : Size) (h : z.WF) (W : List Char) :
    numEnd (printSize z ++ W) = ' ' :: (z.unit ++ W) := by
  rw [printSize_append]
  unfold numEnd
  rw [List.dropWhile_append_of_pos h.digits_ok]
  have hfr := dropWhile_run (p := isFracCh) (l := z.frac) (r := ' ' :: (z.unit ++ W)) h.frac_ok (stops_cons isFracCh_sp)
  have hsg := optCh_frac_run isSign (fun c => frac_not_sign) (by decide) z.frac (z.unit ++ W) h.frac_ok
  -- the digit run ends at `e` or at the sign if one is printed, inside `frac` otherwise
  match z.e, z.sign with
  | false, none => exact numEnd_frac _ _ h.frac_ok
  | false, some b =>
    have hs : ∃ s, signChars (some b) = [s] ∧ isDigit s = false ∧ isE s = false ∧ isSign s = true := by
      cases b <;> exact ⟨_, rfl, by decide, by decide, by decide⟩
    obtain ⟨s, e, h1, h2, h3⟩ := hs
    rw [e, eChars, List.nil_append, List.cons_append, List.nil_append, List.dropWhile_cons, if_neg (by simp [h1]),
      optCh_neg _ h2, optCh_pos _ h3, hfr]
  | true, none =>
    rw [eChars, signChars, List.nil_append, List.cons_append, List.nil_append, List.dropWhile_cons,
      if_neg (by decide), optCh_pos _ (by decide), hsg, hfr]
  | true, some b =>
    have hs : ∃ s, signChars (some b) = [s] ∧ isSign s = true := by
      cases b <;> exact ⟨_, rfl, by decide⟩
    obtain ⟨s, e, h3⟩ := hs
    rw [e, eChars, List.cons_append, List.nil_append, List.cons_append, List.nil_append, List.dropWhile_cons,
      if_neg (by decide), optCh_pos _ (by decide), optCh_pos _ h3, hfr]

theorem printSize_head_digit (z : Size) (h : z.WF) (W : List Char) :
    ∃ d rest, printSize z ++ W = d :: rest ∧ isDigit d = true := by
  rw [printSize_append]
  cases hd : z.digits with
  | nil => exact absurd hd h.digits_ne
  | cons d ds => exact ⟨d, _, rfl, h.digits_ok d (by simp [hd])⟩

theorem sizeTok_print (z : Size) (h : z.WF) (W : List Char) (hW : Stops isWord W) :
    sizeTok (printSize z ++ W) = some W := by
  unfold sizeTok
  rw [numEnd_print z h W]
  obtain ⟨d, rest, hd, hdd⟩ := printSize_head_digit z h W
  have hne : (z.unit ++ W).takeWhile isWord = z.unit := takeWhile_run h.unit_ok hW
  have hdr : (z.unit ++ W).dropWhile isWord = W := dropWhile_run h.unit_ok hW
  have hun : z.unit.isEmpty = false := List.isEmpty_eq_false_iff.mpr h.unit_ne
  simp [hd, hdd, wordThen, hne, hdr, hun]

theorem stops_of_all {p q : Char → Bool} {l : List Char} (hq : ∀ c ∈ l, q c = true)
    (hpq : ∀ c, q c = true → p c = false) : Stops p l := by
  intro c hc
  exact hpq c (hq c (List.mem_of_mem_head? hc))

/-- what follows the date, the size and the tag column of a printed record -/
def afterDate (r : Rec) (R : List Char) : List Char := r.tail ++ R
def afterSize (r : Rec) (R : List Char) : List Char := (' ' :: spaces r.pad3) ++ (printDate r ++ afterDate r R)
def afterTag (r : Rec) (R : List Char) : List Char := (' ' :: spaces r.pad2) ++ (printSize r.size ++ afterSize r R)

theorem printRec_append (r : Rec) (R : List Char) :
    printRec r ++ R = r.id ++ ((' ' :: spaces r.pad1) ++ (r.tag ++ afterTag r R)) := by
  simp only [printRec, afterTag, afterSize, afterDate, List.append_assoc]

theorem afterSize_stops_word (r : Rec) (R : List Char) : Stops isWord (afterSize r R) := by
  simp [afterSize, Stops, isWord_sp]

theorem printSize_stops_space (z : Size) (h : z.WF) (W : List Char) : Stops isSpace (printSize z ++ W) := by
  obtain ⟨d, rest, hd, hdd⟩ := printSize_head_digit z h W
  rw [hd]
  exact stops_cons (digit_not_space hdd)

theorem matchAt_print (body : List Char → Option (List Char)) (r : Rec) (h : r.WF) (R : List Char) :
    matchAt body (printRec r ++ R) =
      (tagAlts r.tag (afterTag r R)).findSome? (fun a => (body a.2).map (fun x => (a.1, x))) := by
  have hsp : Stops isDigit ((' ' :: spaces r.pad1) ++ (r.tag ++ afterTag r R)) := by
    simp [Stops, isDigit_sp]
  have htg : Stops isSpace (r.tag ++ afterTag r R) :=
    stops_append h.tag_ne (stops_of_all h.tag_ok (fun c => tag_not_space))
  have hat : Stops isTagCh (afterTag r R) := by simp [afterTag, Stops, isTagCh_sp]
  have t1 := takeWhile_run h.id_ok hsp
  have d1 := dropWhile_run h.id_ok hsp
  have t2 := takeWhile_run (spaces_ok r.pad1) htg
  have d2 := dropWhile_run (spaces_ok r.pad1) htg
  have t3 := takeWhile_run h.tag_ok hat
  have d3 := dropWhile_run h.tag_ok hat
  have e1 : r.id.isEmpty = false := List.isEmpty_eq_false_iff.mpr h.id_ne
  have e3 : r.tag.isEmpty = false := List.isEmpty_eq_false_iff.mpr h.tag_ne
  rw [printRec_append]
  unfold matchAt
  simp only [t1, d1, t2, d2, t3, d3, e1, e3]
  simp

theorem afterTag_dropWhile (r : Rec) (h : r.WF) (R : List Char) :
    (afterTag r R).dropWhile isSpace = printSize r.size ++ afterSize r R :=
  dropWhile_run (spaces_ok r.pad2) (printSize_stops_space _ h.size_ok _)

theorem dateAfterWs_afterSize (r : Rec) (h : r.WF) (R : List Char) :
    dateAfterWs (afterSize r R) = some (afterDate r R) := dateAfterWs_print r h r.pad3 _

theorem printSize_zero {z : Size} (h : z.isZero = true) : printSize z = zeroB := by
  simp [Size.isZero] at h
  obtain ⟨⟨⟨⟨h1, h2⟩, h3⟩, h4⟩, h5⟩ := h
  simp [printSize, h1, h2, h3, h4, h5, eChars, signChars, zeroB]

theorem printSize_length (z : Size) (h : z.WF) : 3 ≤ (printSize z).length := by
  have h1 : 0 < z.digits.length := List.length_pos_iff.mpr h.digits_ne
  have h2 : 0 < z.unit.length := List.length_pos_iff.mpr h.unit_ne
  simp [printSize]
  omega

theorem lit_zeroB_nonzero (z : Size) (h : z.WF) (hz : z.isZero = false) (W : List Char) :
    lit zeroB (printSize z ++ W) = none := by
  rw [lit_eq_none]
  intro hp
  have := List.prefix_of_prefix_length_le hp (List.prefix_append (printSize z) W)
    (by have := printSize_length z h; simp [zeroB]; omega)
  exact h.zero_only hz this

theorem offBody_size (r : Rec) (h : r.WF) (R : List Char) :
    offBody (printSize r.size ++ afterSize r R) = if r.size.isZero then some (afterDate r R) else none := by
  unfold offBody
  cases hz : r.size.isZero with
  | true => simp [printSize_zero hz, lit_append, dateAfterWs_afterSize r h R]
  | false => simp [lit_zeroB_nonzero _ h.size_ok hz]

theorem onBody_size (r : Rec) (h : r.WF) (R : List Char) :
    onBody (printSize r.size ++ afterSize r R) = if !r.size.isZero then some (afterDate r R) else none := by
  unfold onBody
  cases hz : r.size.isZero with
  | true => simp [printSize_zero hz, lit_append]
  | false =>
    simp [lit_zeroB_nonzero _ h.size_ok hz, sizeTok_print _ h.size_ok _ (afterSize_stops_word r R),
      dateAfterWs_afterSize r h R]

/-! ### giving characters of the tag back never helps on a printed record -/

theorem lit_B_after_pad (r : Rec) (h : r.WF) (R : List Char) :
    lit ['B'] (spaces r.pad2 ++ (printSize r.size ++ afterSize r R)) = none := by
  cases hp : r.pad2 with
  | zero =>
    obtain ⟨d, rest, hd, hdd⟩ := printSize_head_digit r.size h.size_ok (afterSize r R)
    simp only [spaces, List.replicate_zero, List.nil_append, hd, lit]
    have : 'B' ≠ d := by
      intro e; subst e; exact absurd hdd (by decide)
    simp [this]
  | succ n => simp [spaces, List.replicate_succ, lit]

theorem offBody_alt (r : Rec) (h : r.WF) (R : List Char) (b : List Char) (hb : b ≠ [])
    (hbt : ∀ c ∈ b, isTagCh c = true) : offBody (b ++ afterTag r R) = none := by
  unfold offBody
  suffices hl : lit zeroB (b ++ afterTag r R) = none by simp [hl]
  cases b with
  | nil => exact absurd rfl hb
  | cons b0 b' =>
    simp only [zeroB, List.cons_append, lit]
    split
    · cases b' with
      | nil =>
        simp only [List.nil_append, afterTag, List.cons_append, lit, if_true]
        exact lit_B_after_pad r h R
      | cons c b'' =>
        have hc : isTagCh c = true := hbt c (by simp)
        have : ' ' ≠ c := by
          intro e; subst e; exact absurd hc (by decide)
        simp [lit, this]
    · rfl

def no32 (l : List Char) : Prop := ∀ c ∈ l, c.toNat ≠ 32

theorem first_space_unique {pre b : List Char} {c d : Char} {s X : List Char}
    (hpre : no32 pre) (hb : no32 b) (hc : c.toNat = 32) (hd : d.toNat = 32)
    (h : pre ++ c :: s = b ++ d :: X) : pre = b ∧ s = X := by
  -- both sides are cut at their first space
  have cut : ∀ {l : List Char} {x : Char} {r : List Char}, no32 l → x.toNat = 32 →
      (l ++ x :: r).takeWhile (fun y => decide (y.toNat ≠ 32)) = l :=
    fun hl hx => takeWhile_run (fun a ha => by simpa using hl a ha) (stops_cons (by simp [hx]))
  have e : pre = b := by rw [← cut hpre hc (r := s), h, cut hb hd]
  subst e
  exact ⟨rfl, (List.cons.inj (List.append_cancel_left h)).2⟩
/-- `f` removes nothing but a prefix without spaces -/
def Strips (f : List Char → List Char) : Prop := ∀ s, ∃ pre, s = pre ++ f s ∧ no32 pre

theorem Strips.comp {f g : List Char → List Char} (hf : Strips f) (hg : Strips g) : Strips (fun s => g (f s)) := by
  intro s
  obtain ⟨p1, e1, h1⟩ := hf s
  obtain ⟨p2, e2, h2⟩ := hg (f s)
  refine ⟨p1 ++ p2, by rw [List.append_assoc, ← e2, ← e1], fun c hc => ?_⟩
  rcases List.mem_append.mp hc with hc | hc
  · exact h1 c hc
  · exact h2 c hc

theorem dropWhile_prefix (p : Char → Bool) (hp : ∀ c, p c = true → c.toNat ≠ 32) : Strips (List.dropWhile p) :=
  fun s => ⟨s.takeWhile p, (List.takeWhile_append_dropWhile).symm,
    fun c hc => hp c (List.all_eq_true.mp List.all_takeWhile c hc)⟩

theorem optCh_prefix (p : Char → Bool) (hp : ∀ c, p c = true → c.toNat ≠ 32) : Strips (optCh p) := by
  intro s
  cases s with
  | nil => exact ⟨[], rfl, by simp [no32]⟩
  | cons c s =>
    by_cases hc : p c = true
    · exact ⟨[c], by simp [optCh, hc], by simpa [no32] using hp c hc⟩
    · exact ⟨[], by simp [optCh, hc], by simp [no32]⟩

theorem numEnd_prefix : Strips numEnd :=
  (((dropWhile_prefix isDigit fun _ => digit_not_32).comp (optCh_prefix isE fun _ => e_not_32)).comp
    (optCh_prefix isSign fun _ => sign_not_32)).comp (dropWhile_prefix isFracCh fun _ => frac_not_32)

theorem onBody_alt (r : Rec) (hz : r.size.isZero = true) (R : List Char) (b : List Char)
    (hbt : ∀ c ∈ b, isTagCh c = true) : onBody (b ++ afterTag r R) = none := by
  unfold onBody
  split
  · rfl
  · suffices hs : ∀ x, sizeTok (b ++ afterTag r R) = some x → dateAfterWs x = none by
      cases hx : sizeTok (b ++ afterTag r R) with
      | none => rfl
      | some x => simpa using hs x hx
    intro x hx
    unfold sizeTok at hx
    split at hx
    · cases hx
    · obtain ⟨pre, epre, hpre⟩ := numEnd_prefix (b ++ afterTag r R)
      split at hx
      · rename_i sp s5 hne
        split at hx
        · rename_i hsp
          rw [hne] at epre
          have hb32 : no32 b := fun c hc => tag_not_32 (hbt c hc)
          have key : pre = b ∧ s5 = spaces r.pad2 ++ (printSize r.size ++ afterSize r R) := by
            apply first_space_unique hpre hb32 hsp (d := ' ') (by decide)
            rw [← epre]
            simp [afterTag]
          rw [key.2, printSize_zero hz] at hx
          cases hp : r.pad2 with
          | zero =>
            rw [hp] at hx
            simp [spaces, zeroB, wordThen, List.takeWhile_cons, List.dropWhile_cons] at hx
            have e1 : isWord '0' = true := by decide
            have e2 : isWord ' ' = false := by decide
            simp [e1, e2] at hx
            subst hx
            unfold dateAfterWs
            have e3 : isSpace ' ' = true := by decide
            have e4 : isSpace 'B' = false := by decide
            simp [e3, e4]
            exact dateAt_nondigit _ (by decide)
          | succ n =>
            rw [hp] at hx
            simp [spaces, List.replicate_succ, wordThen, isWord_sp] at hx
        · cases hx
      · cases hx

theorem properSplits_mem {t a b : List Char} (h : (a, b) ∈ properSplits t) :
    a ≠ [] ∧ b ≠ [] ∧ a ++ b = t := by
  induction t generalizing a b with
  | nil => simp [properSplits] at h
  | cons c cs ih =>
    simp only [properSplits, List.mem_append, List.mem_map] at h
    rcases h with ⟨⟨a', b'⟩, hm, he⟩ | h
    · simp only [Prod.mk.injEq] at he
      obtain ⟨rfl, rfl⟩ := he
      obtain ⟨_, h2, h3⟩ := ih hm
      exact ⟨by simp, h2, by simp [h3]⟩
    · split at h
      · simp at h
      · rename_i hne
        simp only [List.mem_singleton, Prod.mk.injEq] at h
        obtain ⟨rfl, rfl⟩ := h
        exact ⟨by simp, by simpa using hne, rfl⟩

/-- one match attempt on a printed record, for a body that accepts the size column exactly of the records
`sel` selects and that never matches after a shorter tag -/
theorem matchAt_print_sel (body : List Char → Option (List Char)) (sel : Bool) (r : Rec) (h : r.WF) (R : List Char)
    (hsize : body (printSize r.size ++ afterSize r R) = if sel then some (afterDate r R) else none)
    (halt : sel = false → ∀ b, b ≠ [] → (∀ c ∈ b, isTagCh c = true) → body (b ++ afterTag r R) = none) :
    matchAt body (printRec r ++ R) = if sel then some (r.tag, afterDate r R) else none := by
  rw [matchAt_print body r h R]
  unfold tagAlts
  rw [List.findSome?_cons, afterTag_dropWhile r h R, hsize]
  cases sel with
  | true => simp
  | false =>
    simp only [Bool.false_eq_true, if_false, Option.map_none]
    rw [List.findSome?_eq_none_iff]
    intro x hx
    simp only [List.mem_map] at hx
    obtain ⟨⟨a, b⟩, hm, rfl⟩ := hx
    obtain ⟨_, hb, hab⟩ := properSplits_mem hm
    simp [halt rfl b hb (fun c hc => h.tag_ok c (by rw [← hab]; simp [hc]))]

theorem matchAt_off_print (r : Rec) (h : r.WF) (R : List Char) :
    matchAt offBody (printRec r ++ R) = if r.size.isZero then some (r.tag, afterDate r R) else none :=
  matchAt_print_sel offBody r.size.isZero r h R (offBody_size r h R) (fun _ b hb hbt => offBody_alt r h R b hb hbt)

theorem matchAt_on_print (r : Rec) (h : r.WF) (R : List Char) :
    matchAt onBody (printRec r ++ R) = if !r.size.isZero then some (r.tag, afterDate r R) else none :=
  matchAt_print_sel onBody _ r h R (onBody_size r h R) (fun hz b _ hbt => onBody_alt r (by simpa using hz) R b hbt)

/-- no match attempt succeeds where the text does not start with a digit -/
theorem matchAt_nondigit (body : List Char → Option (List Char)) (s : List Char) (h : Stops isDigit s) :
    matchAt body s = none := by
  unfold matchAt
  cases s with
  | nil => simp
  | cons c s =>
    have : isDigit c = false := h c (by simp)
    simp [this]

theorem noNl_append {a b : List Char} (ha : noNl a) (hb : noNl b) : noNl (a ++ b) := by
  intro c hc
  rcases List.mem_append.mp hc with h | h
  · exact ha c h
  · exact hb c h

theorem noNl_cons {c : Char} {t : List Char} (hc : isNl c = false) (ht : noNl t) : noNl (c :: t) := by
  intro x hx
  rcases List.mem_cons.mp hx with rfl | hx
  · exact hc
  · exact ht x hx

theorem noNl_of_all {q : Char → Bool} {l : List Char} (hq : ∀ c ∈ l, q c = true)
    (hqn : ∀ c, q c = true → isNl c = false) : noNl l := fun c hc => hqn c (hq c hc)

theorem noNl_sp (n : Nat) : noNl (' ' :: spaces n) := by
  intro c hc
  simp [spaces] at hc
  rcases hc with rfl | ⟨_, rfl⟩ <;> exact isNl_sp

theorem printSize_noNl (z : Size) (h : z.WF) : noNl (printSize z) := by
  unfold printSize
  refine noNl_append (noNl_of_all h.digits_ok (fun c => digit_not_nl)) (noNl_append ?_ (noNl_append ?_
    (noNl_append (noNl_of_all h.frac_ok (fun c => frac_not_nl)) ?_)))
  · cases z.e <;> simp [eChars, noNl] <;> decide
  · cases z.sign with
    | none => simp [signChars, noNl]
    | some b => cases b <;> simp [signChars, noNl] <;> decide
  · intro c hc
    rcases List.mem_cons.mp hc with rfl | hc
    · decide
    · exact tag_not_nl (word_tag (h.unit_ok c hc))

theorem printDate_noNl (r : Rec) (h : r.WF) : noNl (printDate r) := by
  obtain ⟨h1, h2, h3, h4, h5, h6, h7, h8⟩ := h.date_ok
  have hd : isNl '-' = false := by decide
  exact noNl_cons (digit_not_nl h1) (noNl_cons (digit_not_nl h2) (noNl_cons (digit_not_nl h3) (noNl_cons (digit_not_nl h4)
    (noNl_cons hd (noNl_cons (digit_not_nl h5) (noNl_cons (digit_not_nl h6) (noNl_cons hd
      (noNl_cons (digit_not_nl h7) (noNl_cons (digit_not_nl h8) (fun _ hx => nomatch hx))))))))))

theorem printRec_noNl (r : Rec) (h : r.WF) : noNl (printRec r) := by
  unfold printRec
  exact noNl_append (noNl_of_all h.id_ok (fun c => digit_not_nl)) (noNl_append (noNl_sp _)
    (noNl_append (noNl_of_all h.tag_ok (fun c => tag_not_nl)) (noNl_append (noNl_sp _)
      (noNl_append (printSize_noNl _ h.size_ok) (noNl_append (noNl_sp _)
        (noNl_append (printDate_noNl r h) h.tail_ok))))))

theorem printLine_noNl (l : Line) (h : l.WF) : noNl (printLine l) := by
  cases l with
  | snap r => exact printRec_noNl r h
  | other t => exact h.1

theorem scan_rest_of_line (m : List Char → Option (Name × List Char)) (a b : List Char) (ha : noNl a)
    (k : Nat) (hk : k ≤ a.length) : scan m (a ++ b) k false = scan m b 0 false := by
  induction a generalizing k with
  | nil =>
    have : k = 0 := by simpa using hk
    subst this
    rfl
  | cons x a ih =>
    have hx : isNl x = false := ha x (by simp)
    have ha' : noNl a := fun c hc => ha c (by simp [hc])
    cases k with
    | zero =>
      rw [List.cons_append, scan, hx]
      exact ih ha' 0 (Nat.zero_le _)
    | succ k =>
      rw [List.cons_append, scan, hx]
      exact ih ha' k (by simpa using hk)

/-- what the scan yields after the current line: nothing at the end of the text, the scan of the next
lines after a newline -/
def contAfter (m : List Char → Option (Name × List Char)) : List Char → List Name
  | [] => []
  | _ :: more => scan m more 0 true

def RestOK (R : List Char) : Prop := R = [] ∨ ∃ more, R = '\n' :: more

theorem scan_false_rest (m : List Char → Option (Name × List Char)) (R : List Char) (h : RestOK R) :
    scan m R 0 false = contAfter m R := by
  rcases h with rfl | ⟨more, rfl⟩
  · rfl
  · rw [scan]
    rfl

theorem scan_line_none (m : List Char → Option (Name × List Char)) (t R : List Char) (ht : noNl t)
    (hR : RestOK R) (hm : m (t ++ R) = none) : scan m (t ++ R) 0 true = contAfter m R := by
  cases t with
  | nil =>
    rcases hR with rfl | ⟨more, rfl⟩
    · rfl
    · rw [List.nil_append] at hm ⊢
      rw [scan, hm]
      rfl
  | cons c t =>
    have hc : isNl c = false := ht c (by simp)
    rw [List.cons_append] at hm ⊢
    rw [scan, hm]
    simp only [hc]
    rw [scan_rest_of_line m t R (fun c hc => ht c (by simp [hc])) 0 (Nat.zero_le _)]
    exact scan_false_rest m R hR

theorem scan_line_some (m : List Char → Option (Name × List Char)) (c : Char) (t R : List Char)
    (ht : noNl (c :: t)) (hR : RestOK R) (tag : Name) (rest : List Char)
    (hm : m (c :: t ++ R) = some (tag, rest)) (hlen : R.length ≤ rest.length) :
    scan m (c :: t ++ R) 0 true = tag :: contAfter m R := by
  have hc : isNl c = false := ht c (by simp)
  rw [List.cons_append] at hm ⊢
  rw [scan, hm]
  simp only [hc]
  rw [scan_rest_of_line m t R (fun c hc => ht c (by simp [hc])) _ (by simp; omega)]
  rw [scan_false_rest m R hR]

theorem printRec_cons (r : Rec) (h : r.WF) : ∃ c t, printRec r = c :: t := by
  cases hid : r.id with
  | nil => exact absurd hid h.id_ne
  | cons c t => exact ⟨c, t ++ _, by rw [printRec, hid]; rfl⟩

theorem restOK_stops_digit (t R : List Char) (ht : ∀ c ∈ t.head?, isDigit c = false) (hR : RestOK R) :
    Stops isDigit (t ++ R) := by
  cases t with
  | nil =>
    rcases hR with rfl | ⟨more, rfl⟩
    · exact stops_nil _
    · exact stops_cons (by decide)
  | cons c t => exact stops_cons (ht c (by simp))

/-- the tags of the records `sel` selects -/
def selTags (sel : Rec → Bool) : Line → List Name
  | .snap r => if sel r then [r.tag] else []
  | .other _ => []

theorem scan_line_sel (body : List Char → Option (List Char)) (sel : Rec → Bool)
    (hm : ∀ r, r.WF → ∀ R, matchAt body (printRec r ++ R) = if sel r then some (r.tag, afterDate r R) else none)
    (l : Line) (h : l.WF) (R : List Char) (hR : RestOK R) :
    scan (matchAt body) (printLine l ++ R) 0 true = selTags sel l ++ contAfter (matchAt body) R := by
  cases l with
  | other t => exact scan_line_none _ t R h.1 hR (matchAt_nondigit _ _ (restOK_stops_digit t R h.2 hR))
  | snap r =>
    have hr : r.WF := h
    have hm := hm r hr R
    have hn := printRec_noNl r hr
    simp only [printLine, selTags]
    cases hz : sel r with
    | false =>
      rw [hz] at hm
      exact scan_line_none _ _ R hn hR hm
    | true =>
      rw [hz] at hm
      obtain ⟨c, t, hct⟩ := printRec_cons r hr
      rw [hct] at hm hn ⊢
      exact scan_line_some _ c t R hn hR r.tag _ hm (by simp [afterDate])

theorem flatMap_selTags (sel : Rec → Bool) (ls : List Line) :
    ls.flatMap (selTags sel) = ((recsOf ls).filter sel).map (·.tag) := by
  induction ls with
  | nil => rfl
  | cons l ls ih =>
    cases l with
    | other t => simp [selTags, recsOf, ih]
    | snap r => cases hz : sel r <;> simp [selTags, recsOf, ih, hz]

theorem scan_listing (m : List Char → Option (Name × List Char)) (tags : Line → List Name)
    (hline : ∀ l, l.WF → ∀ R, RestOK R → scan m (printLine l ++ R) 0 true = tags l ++ contAfter m R)
    (hnl : m ['\n'] = none) (ls : List Line) (hls : ∀ l ∈ ls, l.WF) (trailer : List Char)
    (htr : trailer = [] ∨ trailer = ['\n']) :
    scan m (printListing ls ++ trailer) 0 true = ls.flatMap tags := by
  have hcont : contAfter m trailer = [] := by
    rcases htr with rfl | rfl <;> rfl
  have hrest : RestOK trailer := by
    rcases htr with rfl | rfl
    · exact Or.inl rfl
    · exact Or.inr ⟨[], rfl⟩
  induction ls with
  | nil =>
    rcases htr with rfl | rfl
    · rfl
    · simp only [printListing, List.nil_append, List.flatMap_nil]
      rw [scan, hnl]
      rfl
  | cons l ls ih =>
    have hl : l.WF := hls l (by simp)
    cases ls with
    | nil =>
      simp only [printListing, List.flatMap_cons, List.flatMap_nil, List.append_nil]
      rw [hline l hl trailer hrest, hcont, List.append_nil]
    | cons l' ls' =>
      have ih' := ih (fun x hx => hls x (by simp [hx]))
      simp only [printListing, List.append_assoc, List.cons_append, List.flatMap_cons] at ih' ⊢
      rw [hline l hl _ (Or.inr ⟨_, rfl⟩)]
      simp only [contAfter]
      rw [ih']

/-- scanning a printed listing with a pattern whose match attempt on a printed record succeeds exactly on the records
`sel` selects yields the tags of those records, in listing order -/
theorem scan_print_sel (body : List Char → Option (List Char)) (sel : Rec → Bool)
    (hm : ∀ r, r.WF → ∀ R, matchAt body (printRec r ++ R) = if sel r then some (r.tag, afterDate r R) else none)
    (ls : List Line) (hls : ∀ l ∈ ls, l.WF) (trailer : List Char) (htr : trailer = [] ∨ trailer = ['\n']) :
    scan (matchAt body) (printListing ls ++ trailer) 0 true = ((recsOf ls).filter sel).map (·.tag) := by
  rw [scan_listing _ _ (scan_line_sel body sel hm) (matchAt_nondigit _ _ (stops_cons (by decide))) ls hls trailer htr,
    flatMap_selTags]

/-! ## demo data for the non-vacuity examples of `I2N.Props.C17` -/

def demoZero : Size := { digits := ['0'], e := false, sign := none, frac := [], unit := ['B'] }
def demoSci : Size := { digits := ['2'], e := true, sign := some true, frac := ['0', '3'], unit := ['M', 'i', 'B'] }
def demoGiB : Size := { digits := ['1'], e := false, sign := none, frac := ['.', '5'], unit := ['G', 'i', 'B'] }

def demoRec (id : Char) (tag : List Char) (z : Size) (pad : Nat) : Rec :=
  { id := [id], pad1 := pad, tag := tag, pad2 := pad, size := z, pad3 := 0,
    y1 := '2', y2 := '0', y3 := '2', y4 := '6', m1 := '0', m2 := '9', d1 := '2', d2 := '9',
    tail := " 07:02:17 00:00:00.000".toList }

/-- `Snapshot list:` header, an off snapshot `snap1`, two vm states `launch_2-0` and `boot3.0` -/
def demoListing : List Line :=
  [.other "Snapshot list:".toList, .other "ID  TAG  VM_SIZE  DATE  VM_CLOCK".toList,
   .snap (demoRec '1' "snap1".toList demoZero 3), .snap (demoRec '2' "launch_2-0".toList demoSci 0),
   .snap (demoRec '3' "boot3.0".toList demoGiB 1)]

/-- a second image: only `boot3.0` is a vm state there, `launch_2-0` is an off snapshot -/
def demoListing2 : List Line :=
  [.snap (demoRec '1' "launch_2-0".toList demoZero 1), .snap (demoRec '2' "boot3.0".toList demoSci 2)]

theorem demoSize_wf (z : Size) (hz : z = demoZero ∨ z = demoSci ∨ z = demoGiB) : z.WF := by
  rcases hz with rfl | rfl | rfl <;>
  exact ⟨by decide, by decide, by decide, by decide, by decide, by decide⟩

theorem demoRec_wf (id : Char) (hid : isDigit id = true) (tag : List Char) (htn : tag ≠ [])
    (ht : ∀ c ∈ tag, isTagCh c = true) (z : Size) (hz : z = demoZero ∨ z = demoSci ∨ z = demoGiB) (pad : Nat) :
    (demoRec id tag z pad).WF :=
  ⟨by simp [demoRec], by simpa [demoRec] using hid, htn, ht, demoSize_wf z hz,
   by simp only [demoRec]; decide, by simp only [demoRec]; unfold noNl; decide⟩

theorem demoListing_wf : ∀ l ∈ demoListing, l.WF := by
  intro l hl
  simp only [demoListing, List.mem_cons, List.not_mem_nil, or_false] at hl
  rcases hl with rfl | rfl | rfl | rfl | rfl
  · exact ⟨by unfold noNl; decide, by decide⟩
  · exact ⟨by unfold noNl; decide, by decide⟩
  · exact demoRec_wf _ (by decide) _ (by decide) (by decide) _ (Or.inl rfl) _
  · exact demoRec_wf _ (by decide) _ (by decide) (by decide) _ (Or.inr (Or.inl rfl)) _
  · exact demoRec_wf _ (by decide) _ (by decide) (by decide) _ (Or.inr (Or.inr rfl)) _

theorem demoListing2_wf : ∀ l ∈ demoListing2, l.WF := by
  intro l hl
  simp only [demoListing2, List.mem_cons, List.not_mem_nil, or_false] at hl
  rcases hl with rfl | rfl
  · exact demoRec_wf _ (by decide) _ (by decide) (by decide) _ (Or.inl rfl) _
  · exact demoRec_wf _ (by decide) _ (by decide) (by decide) _ (Or.inr (Or.inl rfl)) _

end I2N.Show
