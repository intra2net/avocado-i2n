import I2N.Lemmas.NetBuild
/-! Helper lemmas for C18: `reattach_interface` and direct allocation.  Without proxy nic the invariant is kept; with
an effective proxy nic it is always broken (F8). -/
namespace I2N.Net

/-- state after "detach from the current network" and taking address `a` (netconfig `tn` becomes `k'`) -/
def detachState (s : Net) (c on tn a : Nat) (k' : Netconfig) : Net :=
  ((s.setNc on (fun k => { k with ifs := adel (s.iface c).ip k.ifs })).setNc tn (fun _ => k')).setIface c
    (fun f => { f with ip := a })

/-- proxy variant: `del netconfig.interfaces[interface.ip]; ref_interface.ip = proxy_interface.ip` -/
def proxyMid (s3 : Net) (r pi tn a : Nat) : Net :=
  (s3.setNc tn (fun k => { k with ifs := adel a k.ifs })).setIface r
    (fun f => { f with ip := ((s3.setNc tn (fun k => { k with ifs := adel a k.ifs })).iface pi).ip })

/-- proxy variant: the client gets an address of the proxy interface's netconfig and its reference -/
def proxyFinal (s5 : Net) (c pn a2 : Nat) (k2 : Netconfig) : Net :=
  (s5.setNc pn (fun _ => k2)).setIface c (fun f => { f with ip := a2, nc := some pn })

theorem detachState_iface (s : Net) (c on tn a : Nat) (k' : Netconfig) (j : Nat) :
    (detachState s c on tn a k').iface j = if j = c then { s.iface j with ip := a } else s.iface j := rfl

/-- "detach from the current network" and the new address `a` of the client, without the allocation in between -/
def detached (s : Net) (c on a : Nat) : Net :=
  (s.setNc on (fun k => { k with ifs := adel (s.iface c).ip k.ifs })).setIface c (fun f => { f with ip := a })

theorem detachState_same (s : Net) (c on tn a : Nat) (k' : Netconfig)
    (hal : allocate ((s.setNc on (fun k => { k with ifs := adel (s.iface c).ip k.ifs })).nc tn) = .ok (a, k')) :
    Same (detached s c on a) (detachState s c on tn a k') :=
  (allocate_same hal).setIface c _

theorem detached_nc (s : Net) (c on a m : Nat) : (detached s c on a).nc m =
    { s.nc m with ifs := if m = on then adel (s.iface c).ip (s.nc m).ifs else (s.nc m).ifs } :=
  Net.setNc_ifs s on (fun k => adel (s.iface c).ip k.ifs) m

theorem proxyMid_nc (s3 : Net) (r pi tn a m : Nat) :
    (proxyMid s3 r pi tn a).nc m = { s3.nc m with ifs := if m = tn then adel a (s3.nc m).ifs else (s3.nc m).ifs } :=
  Net.setNc_ifs s3 tn (fun k => adel a k.ifs) m

theorem proxyMid_frame (s3 : Net) (r pi tn a : Nat) :
    (proxyMid s3 r pi tn a).nIf = s3.nIf ∧ (proxyMid s3 r pi tn a).reg = s3.reg := ⟨rfl, rfl⟩

theorem proxyFinal_frame (s5 : Net) (c pn a2 : Nat) (k2 : Netconfig) :
    (proxyFinal s5 c pn a2 k2).nIf = s5.nIf ∧ (proxyFinal s5 c pn a2 k2).reg = s5.reg := ⟨rfl, rfl⟩

theorem proxyFinal_nc_self (s5 : Net) (c pn a2 : Nat) (k2 : Netconfig) : (proxyFinal s5 c pn a2 k2).nc pn = k2 :=
  if_pos rfl

theorem proxyFinal_iface_self (s5 : Net) (c pn a2 : Nat) (k2 : Netconfig) :
    ((proxyFinal s5 c pn a2 k2).iface c).nc = some pn := by
  rw [proxyFinal, Net.setIface_iface, if_pos rfl]

/-- after `add_interface` and the proxy variant's `del netconfig.interfaces[interface.ip]` the interface lists hold
    nothing that was not there before: the entry made under the new address is the one deleted -/
theorem proxyMid_attach_listed (D : Net) {c r pi tn a pn k j : Nat} (hip : (D.iface c).ip = a)
    (h : (k, j) ∈ ((proxyMid (attachState D tn c) r pi tn a).nc pn).ifs) : (k, j) ∈ (D.nc pn).ifs := by
  rw [proxyMid_nc, attachState_nc, hip] at h
  by_cases hpt : pn = tn
  · simp only [if_pos hpt] at h
    obtain ⟨hk, hm⟩ := (mem_adel _ _ _).1 h
    rcases (mem_aset _ _ _ _).1 hm with heq | ⟨_, hm⟩
    · exact absurd (congrArg Prod.fst heq) hk
    · exact hm
  · simp only [if_neg hpt] at h
    exact h

/-- the steps of `reattach_interface`: detach, take an address of the reference interface's netconfig, attach
    (validated); with an effective proxy nic `pi` then the proxy steps -/
theorem reattach_cases (s s' : Net) (c r : Nat) (p : Option Nat) (h : reattach s c r p = .ok s') :
    ∃ tn on a k', (s.iface r).nc = some tn ∧ (s.iface c).nc = some on ∧
      allocate ((s.setNc on (fun k => { k with ifs := adel (s.iface c).ip k.ifs })).nc tn) = .ok (a, k') ∧
      validate (attachState (detachState s c on tn a k') tn c) tn = .ok () ∧
      match (if p = some r then none else p) with
      | none => s' = attachState (detachState s c on tn a k') tn c
      | some pi => ∃ pn a2 k2,
          allocate ((proxyMid (attachState (detachState s c on tn a k') tn c) r pi tn a).nc pn) = .ok (a2, k2) ∧
          s' = proxyFinal (proxyMid (attachState (detachState s c on tn a k') tn c) r pi tn a) c pn a2 k2 := by
  revert h
  fun_cases reattach s c r p
  case case4 p' tn on hon htn ip _ s1 a k' hal s2 s3 hadd hp =>
    obtain ⟨rfl, hval⟩ := addInterface_ok _ _ _ _ hadd
    intro h
    rw [Except.ok.injEq] at h
    refine ⟨tn, on, a, k', htn, hon, hal, hval, ?_⟩
    rw [show (if p = some r then none else p) = none from hp]
    exact h.symm
  case case7 p' tn on hon htn ip _ s1 a k' hal s2 s3 hadd pi hp s4 s5 pn hpn a2 k2 hal2 =>
    obtain ⟨rfl, hval⟩ := addInterface_ok _ _ _ _ hadd
    intro h
    rw [Except.ok.injEq] at h
    refine ⟨tn, on, a, k', htn, hon, hal, hval, ?_⟩
    rw [show (if p = some r then none else p) = some pi from hp]
    exact ⟨pn, a2, k2, hal2, h.symm⟩
  all_goals exact nofun

theorem mem_detached {s : Net} {c on a m k j : Nat} (h : (k, j) ∈ ((detached s c on a).nc m).ifs) :
    (k, j) ∈ (s.nc m).ifs ∧ (m = on → k ≠ (s.iface c).ip) := by
  rw [detached_nc] at h
  split at h
  · exact ⟨((mem_adel _ _ _).1 h).2, fun _ => ((mem_adel _ _ _).1 h).1⟩
  · next hne => exact ⟨h, fun e => absurd e hne⟩

/-- after "detach" no registered netconfig lists the client interface any more -/
theorem detach_unlisted (s : Net) (c on a : Nat) (hs : PInv s) (hon : (s.iface c).nc = some on) :
    ∀ m, Registered s m → ∀ k, (k, c) ∉ ((detached s c on a).nc m).ifs := by
  intro m hm k hj
  obtain ⟨hold, hne⟩ := mem_detached hj
  obtain ⟨_, _, a3, a4⟩ := hs.member m hm k c hold
  rw [hon, Option.some.injEq] at a3
  exact hne a3.symm a4.symm

/-- between "detach from the current network" and `add_interface` the client is the one detached interface -/
theorem detach_pinvEx (s : Net) (c on a : Nat) (hs : PInv s) (hc : c < s.nIf) (hon : (s.iface c).nc = some on)
    (hfresh : ∀ j, j < s.nIf → (s.iface j).ip ≠ a) : PInvEx (detached s c on a) c := by
  have hif : ∀ j, (detached s c on a).iface j = if j = c then { s.iface j with ip := a } else s.iface j :=
    fun _ => rfl
  refine ⟨?_, hs.regNodup, ?_, ?_, ?_, ?_⟩
  · intro k n hm
    rw [detached_nc]
    exact hs.regKey k n hm
  · intro m
    rw [detached_nc]
    split
    · exact adel_keys_nodup _ _ (hs.ifsNodup m)
    · exact hs.ifsNodup m
  · intro m hm k j hj
    obtain ⟨a1, _, a3, a4⟩ := hs.member m hm k j (mem_detached hj).1
    have a2 : j ≠ c := by rintro rfl; exact detach_unlisted s j on a hs hon m hm k hj
    rw [hif j, if_neg a2]
    exact ⟨a1, a2, a3, a4⟩
  · intro j m hj hjc hjm
    rw [hif j, if_neg hjc] at hjm ⊢
    obtain ⟨b1, b2, b3⟩ := hs.placed j m hj (Nat.ne_of_lt hj) hjm
    rw [detached_nc]
    refine ⟨b1, ?_, b3⟩
    split
    · exact (mem_adel _ _ _).2 ⟨fun heq => hjc (hs.distinct j c hj hc heq), b2⟩
    · exact b2
  · intro i j hi hj hij
    rw [hif i, hif j] at hij
    by_cases hic : i = c <;> by_cases hjc : j = c
    · rw [hic, hjc]
    · rw [if_pos hic, if_neg hjc] at hij
      exact absurd hij.symm (hfresh j hj)
    · rw [if_neg hic, if_pos hjc] at hij
      exact absurd hij (hfresh i hi)
    · rw [if_neg hic, if_neg hjc] at hij
      exact hs.distinct i j hi hj hij

/-- the address the next `get_allocatable_address` of the reference interface's netconfig returns is not
    in use by any interface -/
def FreshAt (s : Net) (r : Nat) : Prop :=
  ∀ tn o l, (s.iface r).nc = some tn → freeOffsets (s.nc tn).range = o :: l →
    ∀ j, j < s.nIf → (s.iface j).ip ≠ (s.nc tn).netIp + o

theorem reattach_none_pinv (s s' : Net) (c r : Nat) (hs : PInv s) (hc : c < s.nIf) (hr : r < s.nIf)
    (hfresh : FreshAt s r) (h : reattach s c r none = .ok s') :
    PInv s' ∧ s'.nIf = s.nIf ∧ (∀ j, ((s.iface j).nc).isSome = true → ((s'.iface j).nc).isSome = true) := by
  obtain ⟨tn, on, a, k', htn, hon, hal, hval, rfl⟩ := reattach_cases s s' c r none h
  obtain ⟨o, l, hfree, ha, _⟩ := allocate_inv _ _ _ hal
  rw [Net.setNc_ifs] at hfree ha
  have hex : PInvEx (detachState s c on tn a k') c :=
    (detach_pinvEx s c on a hs hc hon fun j hj => by rw [ha]; exact hfresh tn o l htn hfree j hj).congr
      (detachState_same s c on tn a k' hal)
  refine ⟨attachState_pinv _ tn c hex hc (hs.placed r tn hr (Nat.ne_of_lt hr) htn).1 hval,
    by rw [attachState_nIf]; rfl, ?_⟩
  intro j hj
  rw [attachState_iface, detachState_iface]
  split
  · rfl
  · exact hj

/-- a direct `get_allocatable_address()` changes the range map only -/
theorem allocAt_same {s s' : Net} {n a : Nat} (h : allocAt s n = .ok (a, s')) : Same s s' := by
  revert h
  fun_cases allocAt s n with
  | case1 => nofun
  | case2 a' k hal => intro h; cases h; exact allocate_same hal

/-- F8: after `reattach_interface(…, proxy_nic=…)` (proxy nic different from the server nic) the client
    interface is listed by no netconfig although its `netconfig` reference points to one: the registries are
    inconsistent, whatever the network looked like before. -/
theorem reattach_proxy_not_pinv (s s' : Net) (c r pi : Nat) (hs : PInv s) (hc : c < s.nIf) (hpi : pi ≠ r)
    (h : reattach s c r (some pi) = .ok s') : ¬ PInv s' := by
  intro hs'
  obtain ⟨tn, on, a, k', htn, hon, hal, _, hp⟩ := reattach_cases s s' c r (some pi) h
  rw [if_neg (by rw [Option.some.injEq]; exact hpi)] at hp
  obtain ⟨pn, a2, k2, hal2, he⟩ := hp
  obtain ⟨_, _, _, _, _, _, _, hj3, _, _⟩ := allocate_inv _ _ _ hal2
  -- (step by step: the unifier is slow on the projections of the nested state)
  have hnIf : s'.nIf = s.nIf := by rw [he, (proxyFinal_frame ..).1, (proxyMid_frame ..).1, attachState_nIf]; rfl
  have hregs : s'.reg = s.reg := by rw [he, (proxyFinal_frame ..).2, (proxyMid_frame ..).2, attachState_reg]; rfl
  -- the client is attached to `pn` …
  obtain ⟨⟨kr, hreg⟩, hlisted, _⟩ := hs'.placed c pn (hnIf ▸ hc) (by rw [hnIf]; exact Nat.ne_of_lt hc)
    (by rw [he]; exact proxyFinal_iface_self ..)
  rw [hregs] at hreg
  -- … but `pn` does not list it: not after "detach", and the proxy steps only undo what `add_interface` entered
  rw [he, proxyFinal_nc_self, hj3] at hlisted
  exact detach_unlisted s c on a hs hon pn ⟨kr, hreg⟩ _ (((detachState_same s c on tn a k' hal).nc pn).2.2 ▸
    proxyMid_attach_listed _ (by rw [detachState_iface, if_pos rfl]) hlisted)

end I2N.Net
