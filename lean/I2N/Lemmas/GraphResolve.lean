import I2N.Model.GraphResolve
/-!
Lemmas about the independent resolver (`I2N/Model/GraphResolve.lean`): what the parents of a resolved node are
(soundness, completeness, one per declared requirement), cloning, the rank argument for acyclicity, the walk of
`anc` as a relation (`Dep`, fuel explicit) and with it the closure of revealed sets, worker independence.
-/
namespace I2N.Resolve

theorem mem_dedup {α : Type} [DecidableEq α] (x : α) : ∀ l : List α, x ∈ dedup l ↔ x ∈ l := by
  intro l
  fun_induction dedup l with
  | case1 => rfl
  | case2 y ys r hy ih => rw [ih, List.mem_cons]; exact ⟨Or.inr, fun h => h.elim (fun e => ih.mp (e ▸ hy)) id⟩
  | case3 y ys r hy ih => rw [List.mem_cons, List.mem_cons, ih]

theorem nodup_dedup {α : Type} [DecidableEq α] : ∀ l : List α, (dedup l).Nodup := by
  intro l
  fun_induction dedup l with
  | case1 => exact List.nodup_nil
  | case2 y ys r hy ih => exact ih
  | case3 y ys r hy ih => exact List.nodup_cons.mpr ⟨hy, ih⟩

/-- the vms a producer test is composed with when needed for slot `s` -/
def vmsFor (t : Test) (s : Slot) : List String := if t.vms.isEmpty then [s.vm] else t.vms

theorem mem_cands (S : Suite) (allow : String → List String) (casg : Asg) (s : Slot) (t : Test) (a : Asg) :
    (t, a) ∈ cands S allow casg s ↔
      t ∈ S.tests ∧ s.get ≠ [] ∧ contig s.get t.name = true ∧ (t.vms = [] ∨ s.vm ∈ t.vms) ∧
      a ∈ asgs allow casg t (vmsFor t s) := by
  simp only [cands, vmsFor, List.mem_flatMap, List.mem_filter, List.mem_map, Bool.and_eq_true,
    Bool.not_eq_true', List.isEmpty_eq_false_iff, Bool.or_eq_true, List.isEmpty_iff, List.contains_eq_mem,
    decide_eq_true_eq, Prod.mk.injEq]
  constructor
  · rintro ⟨t', ⟨ht', ⟨hg, hc⟩, hv⟩, a', ha', rfl, rfl⟩
    exact ⟨ht', hg, hc, hv, ha'⟩
  · rintro ⟨ht, hg, hc, hv, ha⟩
    exact ⟨t, ⟨ht, ⟨hg, hc⟩, hv⟩, a, ha, rfl, rfl⟩

/-- the producer instances of slot `s` of a node with assignment `asg`, at fuel `f` -/
def prods (S : Suite) (allow : String → List String) (f : Nat) (asg : Asg) (s : Slot) : List Inst :=
  (cands S allow asg s).flatMap (fun ta => insts S allow f ta.1 ta.2)

/-- the clone of `i` made for producer `p` of slot `s` -/
def cloneFor (i : Inst) (s : Slot) (p : Inst) : Inst :=
  let st := p.setOf s.vm s.kind
  { key := { i.key with labels := i.key.labels ++ [st] },
    root := i.root,
    slots := i.slots.map (fun x =>
      if x.vm == s.vm && x.kind == s.kind then
        { x with getState := st, setState := if x.setState == "" then "" else x.setState ++ "." ++ st }
      else x),
    parents := i.parents ++ [(s.vm, s.kind, p.key)] }

theorem addSlot_nil (acc : List Inst) (s : Slot) : addSlot acc s [] = acc := rfl

theorem addSlot_one (acc : List Inst) (s : Slot) (p : Inst) :
    addSlot acc s [p] = acc.map (fun i => { i with parents := i.parents ++ [(s.vm, s.kind, p.key)] }) := rfl

theorem addSlot_many (acc : List Inst) (s : Slot) (p q : Inst) (ps : List Inst) :
    addSlot acc s (p :: q :: ps) = acc.flatMap (fun i => (p :: q :: ps).map (cloneFor i s)) := rfl

/-- whatever `addSlot` returns comes from a partial instance by adding at most one parent for the slot, and that
parent is one of the producers -/
theorem addSlot_elim (acc : List Inst) (s : Slot) (ps : List Inst) (i : Inst) (h : i ∈ addSlot acc s ps) :
    ∃ i0 ∈ acc, i.key.test = i0.key.test ∧ i.key.asg = i0.key.asg ∧ i.root = i0.root ∧
      ((ps = [] ∧ i = i0) ∨ (∃ p ∈ ps, i.parents = i0.parents ++ [(s.vm, s.kind, p.key)])) := by
  match ps, h with
  | [], h => exact ⟨i, h, rfl, rfl, rfl, Or.inl ⟨rfl, rfl⟩⟩
  | [p], h =>
    rw [addSlot_one] at h
    obtain ⟨i0, hi0, rfl⟩ := List.mem_map.mp h
    exact ⟨i0, hi0, rfl, rfl, rfl, Or.inr ⟨p, List.mem_singleton.mpr rfl, rfl⟩⟩
  | p :: q :: ps, h =>
    rw [addSlot_many] at h
    obtain ⟨i0, hi0, hm⟩ := List.mem_flatMap.mp h
    obtain ⟨p', hp', rfl⟩ := List.mem_map.mp hm
    exact ⟨i0, hi0, rfl, rfl, rfl, Or.inr ⟨p', hp', rfl⟩⟩

theorem addSlot_length (acc : List Inst) (s : Slot) (ps : List Inst) :
    (addSlot acc s ps).length = acc.length * max 1 ps.length := by
  match ps with
  | [] => simp [addSlot_nil]
  | [p] => simp [addSlot_one]
  | p :: q :: ps =>
    rw [addSlot_many]
    have : max 1 (p :: q :: ps).length = (p :: q :: ps).length := by simp
    rw [this]
    induction acc with
    | nil => simp
    | cons a acc ih =>
      simp only [List.flatMap_cons, List.length_append, List.length_map, List.length_cons] at ih ⊢
      rw [ih]; rw [Nat.add_mul]; omega

abbrev tag (p : String × String × Key) : String × String := (p.1, p.2.1)

/-- `insts` with the fold made explicit over a remaining slot list -/
def foldSlots (S : Suite) (allow : String → List String) (f : Nat) (asg : Asg) (rest : List Slot)
    (acc : List Inst) : List Inst :=
  rest.foldl (fun acc s => addSlot acc s (prods S allow f asg s)) acc

theorem insts_eq_fold (S : Suite) (allow : String → List String) (f : Nat) (t : Test) (asg : Asg) :
    insts S allow (f + 1) t asg =
      foldSlots S allow f asg (instSlots t asg)
        [{ key := { test := t.name, asg := asg, labels := [] }, root := t.creation,
           slots := instSlots t asg, parents := [] }] := rfl

/-- everything the fold returns is a start instance with one parent appended per remaining slot that has a producer,
in order: tagged with that slot and naming one of its producers -/
theorem foldSlots_spec (S : Suite) (allow : String → List String) (f : Nat) (asg : Asg) :
    ∀ (rest : List Slot) (acc : List Inst) (i : Inst), i ∈ foldSlots S allow f asg rest acc →
      ∃ i0 ∈ acc, ∃ l, i.parents = i0.parents ++ l ∧
        (i.key.test = i0.key.test ∧ i.key.asg = i0.key.asg ∧ i.root = i0.root) ∧
        l.map tag = (rest.filter (fun s => !(prods S allow f asg s).isEmpty)).map (fun s => (s.vm, s.kind)) ∧
        ∀ e ∈ l, ∃ s ∈ rest, s.vm = e.1 ∧ s.kind = e.2.1 ∧ ∃ p ∈ prods S allow f asg s, p.key = e.2.2
  | [], acc, i, h => ⟨i, h, [], (List.append_nil _).symm, ⟨rfl, rfl, rfl⟩, rfl, fun _ he => nomatch he⟩
  | s :: rest, acc, i, h => by
    obtain ⟨i1, hi1, l, hl, hk, ht, hs⟩ := foldSlots_spec S allow f asg rest _ i h
    obtain ⟨i0, hi0, k1, k2, k3, h'⟩ := addSlot_elim acc s _ i1 hi1
    have hk' := And.intro (hk.1.trans k1) (And.intro (hk.2.1.trans k2) (hk.2.2.trans k3))
    have hs' : ∀ e ∈ l, ∃ s' ∈ s :: rest, s'.vm = e.1 ∧ s'.kind = e.2.1 ∧
        ∃ p ∈ prods S allow f asg s', p.key = e.2.2 := fun e he =>
      (hs e he).imp fun _ h => ⟨List.mem_cons_of_mem _ h.1, h.2⟩
    refine ⟨i0, hi0, ?_⟩
    rcases h' with ⟨hnil, rfl⟩ | ⟨p, hp, hpar⟩
    · exact ⟨l, hl, hk', by rw [List.filter_cons, hnil]; exact ht, hs'⟩
    · have hne : (prods S allow f asg s).isEmpty = false := List.isEmpty_eq_false_iff.mpr (List.ne_nil_of_mem hp)
      refine ⟨(s.vm, s.kind, p.key) :: l, by rw [hl, hpar, List.append_assoc]; rfl, hk', ?_, ?_⟩
      · rw [List.filter_cons, hne, List.map_cons, ht]; rfl
      · exact List.forall_mem_cons.mpr ⟨⟨s, List.mem_cons_self .., rfl, rfl, p, hp, rfl⟩, hs'⟩

/-- `foldSlots_spec` for `insts`: the fold starts from the one instance without parents -/
theorem insts_spec (S : Suite) (allow : String → List String) (f : Nat) (t : Test) (asg : Asg) (i : Inst)
    (hi : i ∈ insts S allow (f + 1) t asg) :
    (i.key.test = t.name ∧ i.key.asg = asg ∧ i.root = t.creation) ∧
    i.parents.map tag =
      ((instSlots t asg).filter (fun s => !(prods S allow f asg s).isEmpty)).map (fun s => (s.vm, s.kind)) ∧
    ∀ e ∈ i.parents, ∃ s ∈ instSlots t asg, s.vm = e.1 ∧ s.kind = e.2.1 ∧ ∃ p ∈ prods S allow f asg s, p.key = e.2.2 := by
  obtain ⟨i0, hi0, l, hl, hk, ht, hs⟩ := foldSlots_spec S allow f asg _ _ i (insts_eq_fold S allow f t asg ▸ hi)
  obtain rfl := List.mem_singleton.mp hi0
  obtain rfl : i.parents = l := hl
  exact ⟨hk, ht, hs⟩

theorem insts_key (S : Suite) (allow : String → List String) (f : Nat) (t : Test) (asg : Asg) :
    ∀ i ∈ insts S allow f t asg, i.key.test = t.name ∧ i.key.asg = asg ∧ i.root = t.creation := by
  cases f with
  | zero => intro i h; simp [insts] at h
  | succ f => exact fun i hi => (insts_spec S allow f t asg i hi).1

/-- **none spurious**: every parent of a resolved node is a producer instance of one of the node's declared
slots -/
theorem insts_parents_sound (S : Suite) (allow : String → List String) (f : Nat) (t : Test) (asg : Asg) :
    ∀ i ∈ insts S allow (f + 1) t asg, ∀ e ∈ i.parents,
      ∃ s ∈ instSlots t asg, s.vm = e.1 ∧ s.kind = e.2.1 ∧ ∃ p ∈ prods S allow f asg s, p.key = e.2.2 :=
  fun i hi => (insts_spec S allow f t asg i hi).2.2

/-- **none missing, none duplicated**: the parents of a resolved node are, slot by slot and in order, exactly one
per declared slot that has a producer -/
theorem insts_parent_tags (S : Suite) (allow : String → List String) (f : Nat) (t : Test) (asg : Asg) :
    ∀ i ∈ insts S allow (f + 1) t asg,
      i.parents.map tag =
        ((instSlots t asg).filter (fun s => !(prods S allow f asg s).isEmpty)).map (fun s => (s.vm, s.kind)) :=
  fun i hi => (insts_spec S allow f t asg i hi).2.1

theorem insts_parent_tags_nodup (S : Suite) (allow : String → List String) (f : Nat) (t : Test) (asg : Asg)
    (i : Inst) (hi : i ∈ insts S allow (f + 1) t asg)
    (hslots : ((instSlots t asg).map (fun s => (s.vm, s.kind))).Nodup) : (i.parents.map tag).Nodup :=
  insts_parent_tags S allow f t asg i hi ▸ hslots.sublist (List.Sublist.map _ List.filter_sublist)

theorem foldSlots_length (S : Suite) (allow : String → List String) (f : Nat) (asg : Asg) :
    ∀ (rest : List Slot) (acc : List Inst),
      (foldSlots S allow f asg rest acc).length =
        rest.foldl (fun n s => n * max 1 (prods S allow f asg s).length) acc.length
  | [], _ => rfl
  | s :: rest, acc => by
    simp only [foldSlots, List.foldl_cons]
    have := foldSlots_length S allow f asg rest (addSlot acc s (prods S allow f asg s))
    simp only [foldSlots] at this
    rw [this, addSlot_length]

/-! ## acyclicity through a rank on tests -/

/-- the declared producer relation is acyclic: some rank strictly decreases from a test to every test one of its
`get` restrictions names -/
def RankOK (S : Suite) (rk : Name → Nat) : Prop :=
  ∀ t ∈ S.tests, ∀ s ∈ t.slots, ∀ t' ∈ S.tests, s.get ≠ [] → contig s.get t'.name = true →
    rk t'.name < rk t.name

theorem instSlots_get (t : Test) (asg : Asg) (s : Slot) (h : s ∈ instSlots t asg) :
    ∃ s0 ∈ t.slots, s.get = s0.get ∧ s.kind = s0.kind ∧ s.getState = s0.getState ∧ s.setState = s0.setState := by
  revert h
  fun_cases instSlots t asg with
  | case1 _ vm =>
    intro h
    obtain ⟨s0, hs0, rfl⟩ := List.mem_map.mp h
    exact ⟨s0, hs0, rfl, rfl, rfl, rfl⟩
  | case2 | case3 => exact fun h => ⟨s, h, rfl, rfl, rfl, rfl⟩

theorem mem_prods (S : Suite) (allow : String → List String) (f : Nat) (asg : Asg) (s : Slot) (p : Inst)
    (h : p ∈ prods S allow f asg s) :
    ∃ t' a', (t', a') ∈ cands S allow asg s ∧ p ∈ insts S allow f t' a' := by
  obtain ⟨ta, hta, hp⟩ := List.mem_flatMap.mp h
  exact ⟨ta.1, ta.2, hta, hp⟩

theorem cands_rank (S : Suite) (allow : String → List String) (rk : Name → Nat) (hrk : RankOK S rk)
    (t : Test) (ht : t ∈ S.tests) (a : Asg) (s : Slot) (hs : s ∈ instSlots t a) (t1 : Test) (a1 : Asg)
    (hc : (t1, a1) ∈ cands S allow a s) : rk t1.name < rk t.name := by
  obtain ⟨ht1, hg, hcon, _, _⟩ := (mem_cands S allow a s t1 a1).mp hc
  obtain ⟨s0, hs0, hget, _⟩ := instSlots_get t a s hs
  exact hrk t ht s0 hs0 t1 ht1 (hget ▸ hg) (hget ▸ hcon)

/-- along every dependency of a resolved node the rank of the test strictly decreases -/
theorem insts_edge_rank (S : Suite) (allow : String → List String) (rk : Name → Nat) (hrk : RankOK S rk)
    (f : Nat) (t : Test) (ht : t ∈ S.tests) (asg : Asg) (i : Inst) (hi : i ∈ insts S allow f t asg)
    (e : String × String × Key) (he : e ∈ i.parents) : rk e.2.2.test < rk i.key.test := by
  cases f with
  | zero => simp [insts] at hi
  | succ f =>
    obtain ⟨s, hs, _, _, p, hp, hpk⟩ := insts_parents_sound S allow f t asg i hi e he
    obtain ⟨t', a', hc, hpi⟩ := mem_prods S allow f asg s p hp
    rw [← hpk, (insts_key S allow f t' a' p hpi).1, (insts_key S allow (f + 1) t asg i hi).1]
    exact cands_rank S allow rk hrk t ht asg s hs t' a' hc

theorem insts_subset_anc (S : Suite) (allow : String → List String) (f : Nat) (t : Test) (asg : Asg) :
    ∀ i ∈ insts S allow f t asg, i ∈ anc S allow f t asg := by
  cases f with
  | zero => intro i h; simp [insts] at h
  | succ f => intro i h; simp only [anc]; exact List.mem_append_left _ h

/-! ## the dependency walk of `anc` as a relation -/

/-- `Dep f t a g t' a'`: starting from test `t` composed with `a` at fuel `f`, the resolver's walk (`anc`) reaches
test `t'` composed with `a'` with fuel `g` left, following declared producers (`cands`) -/
inductive Dep (S : Suite) (allow : String → List String) : Nat → Test → Asg → Nat → Test → Asg → Prop
  | refl (f : Nat) (t : Test) (a : Asg) : Dep S allow f t a f t a
  | step (f : Nat) (t : Test) (a : Asg) (s : Slot) (t1 : Test) (a1 : Asg) (g : Nat) (t' : Test) (a' : Asg) :
      s ∈ instSlots t a → (t1, a1) ∈ cands S allow a s → Dep S allow f t1 a1 g t' a' →
      Dep S allow (f + 1) t a g t' a'

theorem Dep.snoc {S : Suite} {allow : String → List String} {f : Nat} {t : Test} {a : Asg} {g : Nat} {t' : Test}
    {a' : Asg} (h : Dep S allow f t a (g + 1) t' a') (s : Slot) (t1 : Test) (a1 : Asg)
    (hs : s ∈ instSlots t' a') (hc : (t1, a1) ∈ cands S allow a' s) : Dep S allow f t a g t1 a1 := by
  generalize hg : g + 1 = g' at h
  induction h with
  | refl f t a => subst hg; exact Dep.step _ _ _ s t1 a1 _ _ _ hs hc (Dep.refl _ _ _)
  | step f t a s0 t0 a0 g' t' a' hs0 hc0 _ ih => exact Dep.step _ _ _ s0 t0 a0 _ _ _ hs0 hc0 (ih hs hc hg)

theorem Dep.le {S : Suite} {allow : String → List String} {f : Nat} {t : Test} {a : Asg} {g : Nat} {t' : Test}
    {a' : Asg} (h : Dep S allow f t a g t' a') : g ≤ f := by
  induction h with
  | refl => exact Nat.le_refl _
  | step _ _ _ _ _ _ _ _ _ _ _ _ ih => exact Nat.le_succ_of_le ih

theorem anc_of_dep {S : Suite} {allow : String → List String} {f : Nat} {t : Test} {a : Asg} {g : Nat} {t' : Test}
    {a' : Asg} (h : Dep S allow f t a g t' a') : ∀ i ∈ insts S allow g t' a', i ∈ anc S allow f t a := by
  induction h with
  | refl f t a => exact insts_subset_anc S allow f t a
  | step f t a s t1 a1 g t' a' hs hc _ ih =>
    intro i hi
    simp only [anc]
    exact List.mem_append_right _
      (List.mem_flatMap.mpr ⟨s, hs, List.mem_flatMap.mpr ⟨(t1, a1), hc, ih i hi⟩⟩)

theorem dep_of_anc (S : Suite) (allow : String → List String) :
    ∀ (f : Nat) (t : Test) (a : Asg) (i : Inst), i ∈ anc S allow f t a →
      ∃ g t' a', Dep S allow f t a (g + 1) t' a' ∧ i ∈ insts S allow (g + 1) t' a'
  | 0, _, _, i, h => by simp [anc] at h
  | f + 1, t, a, i, h => by
    simp only [anc] at h
    rcases List.mem_append.mp h with h | h
    · exact ⟨f, t, a, Dep.refl _ _ _, h⟩
    · obtain ⟨s, hs, h⟩ := List.mem_flatMap.mp h
      obtain ⟨ta, hta, h⟩ := List.mem_flatMap.mp h
      obtain ⟨g, t', a', hd, hi⟩ := dep_of_anc S allow f ta.1 ta.2 i h
      exact ⟨g, t', a', Dep.step _ _ _ s ta.1 ta.2 _ _ _ hs hta hd, hi⟩

theorem mem_anc_iff (S : Suite) (allow : String → List String) (f : Nat) (t : Test) (a : Asg) (i : Inst) :
    i ∈ anc S allow f t a ↔ ∃ g t' a', Dep S allow f t a (g + 1) t' a' ∧ i ∈ insts S allow (g + 1) t' a' :=
  ⟨dep_of_anc S allow f t a i, fun ⟨_, _, _, hd, hi⟩ => anc_of_dep hd i hi⟩

theorem Dep.mem_tests {S : Suite} {allow : String → List String} {f : Nat} {t : Test} {a : Asg} {g : Nat}
    {t' : Test} {a' : Asg} (h : Dep S allow f t a g t' a') (ht : t ∈ S.tests) : t' ∈ S.tests := by
  induction h with
  | refl => exact ht
  | step f t a s t1 a1 g t' a' _ hc _ ih => exact ih ((mem_cands S allow a s t1 a1).mp hc).1

/-- everything `anc` returns is an instance of some test of the suite -/
theorem mem_anc (S : Suite) (allow : String → List String) (f : Nat) (t : Test) (asg : Asg) (i : Inst)
    (ht : t ∈ S.tests) (h : i ∈ anc S allow f t asg) : ∃ f' t' a', t' ∈ S.tests ∧ i ∈ insts S allow f' t' a' := by
  obtain ⟨g, t', a', hd, hi⟩ := dep_of_anc S allow f t asg i h
  exact ⟨g + 1, t', a', hd.mem_tests ht, hi⟩

/-- **transitively down to creation**: the revealed set is closed under "parent of" -/
theorem anc_closed (S : Suite) (allow : String → List String) (f : Nat) (t : Test) (asg : Asg) (i : Inst)
    (h : i ∈ anc S allow f t asg) : ∀ e ∈ i.parents, ∃ j ∈ anc S allow f t asg, j.key = e.2.2 := by
  intro e he
  obtain ⟨g, t', a', hd, hi⟩ := (mem_anc_iff S allow f t asg i).mp h
  obtain ⟨s, hs, _, _, p, hp, hpk⟩ := insts_parents_sound S allow g t' a' i hi e he
  obtain ⟨t1, a1, hc, hpi⟩ := mem_prods S allow g a' s p hp
  exact ⟨p, anc_of_dep (hd.snoc s t1 a1 hs hc) p hpi, hpk⟩

/-! ## variants: a producer is composed with the child's own variant of every vm they share -/

theorem mem_product_map (f : String → List String) : ∀ (vms : List String) (a : Asg),
    a ∈ product (vms.map (fun vm => (vm, f vm))) ↔ a.map Prod.fst = vms ∧ ∀ e ∈ a, e.2 ∈ f e.1
  | [], a => by
    rw [List.map_nil, product, List.mem_singleton, List.map_eq_nil_iff]
    exact ⟨fun h => ⟨h, h ▸ fun _ he => nomatch he⟩, And.left⟩
  | vm :: rest, a => by
    simp only [List.map_cons, product, List.mem_flatMap, List.mem_map, mem_product_map f rest]
    constructor
    · rintro ⟨v, hv, a', ⟨h1, h2⟩, rfl⟩
      exact ⟨by rw [List.map_cons, h1], List.forall_mem_cons.mpr ⟨hv, h2⟩⟩
    · intro ⟨h1, h2⟩
      match a, h1 with
      | (_, v) :: a', rfl =>
        obtain ⟨hv, h2⟩ := List.forall_mem_cons.mp h2
        exact ⟨v, hv, a', ⟨rfl, h2⟩, rfl⟩

/-- what a producer's variant `v` of `vm` has to satisfy whatever the worker allows: the producer test supports it
and, if the child has that vm, it is the child's variant -/
def Fits (t : Test) (casg : Asg) (vm v : String) : Prop :=
  (∀ o, t.only.find? (fun x => x.1 == vm) = some o → v ∈ o.2) ∧
  (∀ c, casg.find? (fun x => x.1 == vm) = some c → v = c.2)

theorem mem_allowedFor (allow : String → List String) (t : Test) (vm v : String) :
    v ∈ allowedFor allow t vm ↔ v ∈ allow vm ∧ ∀ o, t.only.find? (fun x => x.1 == vm) = some o → v ∈ o.2 := by
  unfold allowedFor
  cases t.only.find? (fun e => e.1 == vm) with
  | none => simp
  | some o => simp [List.mem_filter]

theorem mem_choices (allow : String → List String) (casg : Asg) (t : Test) (vm v : String) :
    v ∈ choices allow casg t vm ↔ v ∈ allow vm ∧ Fits t casg vm v := by
  unfold choices Fits
  cases casg.find? (fun e => e.1 == vm) with
  | none => simp [mem_allowedFor]
  | some c =>
    simp only [List.contains_eq_mem, decide_eq_true_eq, mem_allowedFor, Option.some.injEq, forall_eq']
    split
    · rename_i h
      rw [List.mem_singleton]
      exact ⟨fun e => e.symm ▸ ⟨h.1, h.2, rfl⟩, fun h' => h'.2.2⟩
    · rename_i h
      exact ⟨fun h' => (nomatch h'), fun h' => absurd (h'.2.2 ▸ ⟨h'.1, h'.2.1⟩) h⟩

/-- `allow` enters the producers of a requirement only as a filter on the variants of the assignment -/
theorem mem_asgs (allow : String → List String) (casg : Asg) (t : Test) (vms : List String) (a : Asg) :
    a ∈ asgs allow casg t vms ↔ a.map Prod.fst = vms ∧ ∀ e ∈ a, e.2 ∈ allow e.1 ∧ Fits t casg e.1 e.2 := by
  simp only [asgs, mem_product_map (fun vm => choices allow casg t vm), mem_choices]

theorem mem_lazyNodes (S : Suite) (allow : String → List String) (order : List Test) (i : Inst) :
    i ∈ lazyNodes S allow order ↔ ∃ t ∈ order, i ∈ reveal S allow t := by
  simp only [lazyNodes, mem_dedup, List.mem_flatMap]

/-- a worker's nodes are the lazily built ones once every selected test is expanded -/
theorem mem_workerNodes (S : Suite) (allow : String → List String) (sel : List RLine) (i : Inst) :
    i ∈ workerNodes S allow sel ↔ ∃ t ∈ selected S sel, i ∈ reveal S allow t :=
  mem_lazyNodes S allow (selected S sel) i

theorem selected_subset (S : Suite) (sel : List RLine) (t : Test) (h : t ∈ selected S sel) : t ∈ S.tests :=
  (List.mem_filter.mp h).1

theorem mem_reveal (S : Suite) (allow : String → List String) (t : Test) (i : Inst) :
    i ∈ reveal S allow t ↔ ∃ a ∈ leafAsgs S allow t, i ∈ anc S allow S.fuel t a := by
  simp only [reveal, List.mem_flatMap]

theorem workerNodes_inst (S : Suite) (allow : String → List String) (sel : List RLine) (i : Inst)
    (h : i ∈ workerNodes S allow sel) : ∃ f t a, t ∈ S.tests ∧ i ∈ insts S allow f t a := by
  obtain ⟨t, ht, hi⟩ := (mem_workerNodes S allow sel i).mp h
  obtain ⟨a, _, hi⟩ := (mem_reveal S allow t i).mp hi
  exact mem_anc S allow _ t a i (selected_subset S sel t ht) hi

/-- whatever has been expanded, the nodes present are closed under "parent of": the parent is revealed by the same
flat node, from the same leaf assignment -/
theorem lazyNodes_closed (S : Suite) (allow : String → List String) (order : List Test) (i : Inst)
    (h : i ∈ lazyNodes S allow order) : ∀ e ∈ i.parents, ∃ j ∈ lazyNodes S allow order, j.key = e.2.2 := by
  intro e he
  obtain ⟨t, ht, hr⟩ := (mem_lazyNodes S allow order i).mp h
  obtain ⟨a, ha, hi⟩ := (mem_reveal S allow t i).mp hr
  obtain ⟨j, hj, hjk⟩ := anc_closed S allow _ t a i hi e he
  exact ⟨j, (mem_lazyNodes S allow order j).mpr ⟨t, ht, (mem_reveal S allow t j).mpr ⟨a, ha, hj⟩⟩, hjk⟩

theorem mem_worker_edges (S : Suite) (user : List (String × VLine)) (sel : List RLine) (w : Worker) (e : GEdge) :
    e ∈ (resolveWorker S user sel w).edges ↔
      e.worker = w.name ∧ ∃ i ∈ workerNodes S (allowed S user w) sel, i.key = e.child ∧
        (e.vm, e.kind, e.parent) ∈ i.parents := by
  simp only [resolveWorker, List.mem_flatMap, edgesOf, List.mem_map]
  constructor
  · rintro ⟨i, hi, p, hp, rfl⟩
    exact ⟨rfl, i, hi, rfl, hp⟩
  · rintro ⟨hw, i, hi, hk, hp⟩
    refine ⟨i, hi, (e.vm, e.kind, e.parent), hp, ?_⟩
    cases e; simp_all

theorem mem_worker_nodes (S : Suite) (user : List (String × VLine)) (sel : List RLine) (w : Worker) (n : GNode) :
    n ∈ (resolveWorker S user sel w).nodes ↔ n.worker = w.name ∧ n.inst ∈ workerNodes S (allowed S user w) sel := by
  simp only [resolveWorker, List.mem_map]
  constructor
  · rintro ⟨i, hi, rfl⟩; exact ⟨rfl, hi⟩
  · rintro ⟨hw, hi⟩; exact ⟨n.inst, hi, by cases n; simp_all⟩

theorem worker_nodes_inst (S : Suite) (user : List (String × VLine)) (sel : List RLine) (w : Worker) :
    (resolveWorker S user sel w).nodes.map (·.inst) = workerNodes S (allowed S user w) sel :=
  List.map_map.trans (List.map_id _)

/-- both ends of a dependency are nodes of the same worker's copy -/
theorem worker_edge_ends (S : Suite) (user : List (String × VLine)) (sel : List RLine) (w : Worker)
    (e : GEdge) (he : e ∈ (resolveWorker S user sel w).edges) :
    (∃ n ∈ (resolveWorker S user sel w).nodes, n.inst.key = e.child ∧ n.worker = e.worker) ∧
    (∃ n ∈ (resolveWorker S user sel w).nodes, n.inst.key = e.parent ∧ n.worker = e.worker) := by
  obtain ⟨hw, i, hi, hk, hp⟩ := (mem_worker_edges S user sel w e).mp he
  obtain ⟨j, hj, hjk⟩ := lazyNodes_closed S _ (selected S sel) i hi _ hp
  exact ⟨⟨⟨w.name, i⟩, (mem_worker_nodes S user sel w _).mpr ⟨rfl, hi⟩, hk, hw.symm⟩,
    ⟨w.name, j⟩, (mem_worker_nodes S user sel w _).mpr ⟨rfl, hj⟩, hjk, hw.symm⟩

/-- reachability along the resolved edges (within a worker, any positive length) -/
inductive RReach (g : RGraph) : String × Key → String × Key → Prop
  | edge (e : GEdge) : e ∈ g.edges → RReach g (e.worker, e.child) (e.worker, e.parent)
  | step (e : GEdge) (a : String × Key) : e ∈ g.edges → RReach g (e.worker, e.parent) a →
      RReach g (e.worker, e.child) a

theorem rreach_rank (g : RGraph) (rk : Name → Nat)
    (h : ∀ e ∈ g.edges, rk e.parent.test < rk e.child.test) :
    ∀ x y, RReach g x y → rk y.2.test < rk x.2.test := by
  intro x y hr
  induction hr with
  | edge e he => exact h e he
  | step e a he _ ih => exact Nat.lt_trans ih (h e he)

theorem worker_edge_rank (S : Suite) (user : List (String × VLine)) (sel : List RLine) (w : Worker)
    (rk : Name → Nat) (hrk : RankOK S rk) :
    ∀ e ∈ (resolveWorker S user sel w).edges, rk e.parent.test < rk e.child.test := by
  intro e he
  obtain ⟨_, i, hi, hk, hp⟩ := (mem_worker_edges S user sel w e).mp he
  obtain ⟨f, t, a, ht, hins⟩ := workerNodes_inst S _ sel i hi
  have := insts_edge_rank S _ rk hrk f t ht a i hins _ hp
  rw [hk] at this
  exact this

theorem mem_resolve_edges (S : Suite) (user : List (String × VLine)) (sel : List RLine) (ws : List Worker)
    (e : GEdge) : e ∈ (resolve S user sel ws).edges ↔ ∃ w ∈ ws, e ∈ (resolveWorker S user sel w).edges := by
  simp only [resolve, List.flatMap_map, List.mem_flatMap]

theorem mem_resolve_nodes (S : Suite) (user : List (String × VLine)) (sel : List RLine) (ws : List Worker)
    (n : GNode) : n ∈ (resolve S user sel ws).nodes ↔ ∃ w ∈ ws, n ∈ (resolveWorker S user sel w).nodes := by
  simp only [resolve, List.flatMap_map, List.mem_flatMap]

theorem applyV_sublist (l : VLine) (vs : List String) : (applyV l vs).Sublist vs := List.filter_sublist

theorem foldl_applyV_sublist : ∀ (ls : List (String × VLine)) (vs : List String),
    (ls.foldl (fun acc e => applyV e.2 acc) vs).Sublist vs
  | [], _ => List.Sublist.refl _
  | l :: ls, vs => (foldl_applyV_sublist ls (applyV l.2 vs)).trans (applyV_sublist l.2 vs)

/-- the graph of a worker depends on the worker only through its name and its restrictions -/
theorem allowed_congr (S : Suite) (user : List (String × VLine)) (w v : Worker) (h : w.restr = v.restr) :
    allowed S user w = allowed S user v := by
  funext vm
  simp only [allowed, h]

/-! ## a demo suite for the non-vacuity examples: a two-producer group `m`, a dependant `d` of the whole group,
a leaf depending on `d` -/
namespace Demo

def slotI (get : Name) (gs ss : String) : Slot := { vm := "", kind := "images", get := get, getState := gs, setState := ss }

def tInstall : Test := ⟨["original", "install"], [], true, [["all"]], [slotI [] "" "install"], []⟩
def tMa : Test := ⟨["internal", "m", "a"], [], false, [["all"]], [slotI ["install"] "install" "g.a"], []⟩
def tMb : Test := ⟨["internal", "m", "b"], [], false, [["all"]], [slotI ["install"] "install" "g.b"], []⟩
def tD : Test := ⟨["internal", "d"], [], false, [["all"]], [slotI ["m"] "" "dst"], []⟩
def tLeaf : Test := ⟨["quick", "t"], ["vm1"], false, [["all"], ["leaves"]], [⟨"vm1", "images", ["d"], "", ""⟩], []⟩

def demo : Suite := ⟨[("vm1", ["A", "B"])], "vm1", [tInstall, tMa, tMb, tD, tLeaf]⟩

def rk (n : Name) : Nat :=
  if n == ["original", "install"] then 0 else if n == ["quick", "t"] then 3 else if n == ["internal", "d"] then 2 else 1

end Demo

end I2N.Resolve
