import I2N.Lemmas.TravMoves
import I2N.Extracted.GenBackoff
/-
Helper lemmas for the translator tie of the back-off branch of `traverse_object_trees` (Props/C04.lean,
`backoff_matches_source`): a fact about `State.setWd` and the closed form of the generated `genBackoff`.
-/
namespace I2N.Trav
open I2N.Extracted.GenBackoff

/-- `setWd` only looks at the function on the record it replaces -/
theorem setWd_congr (s : State) (w : Nat) (f h : WorkerD → WorkerD) (hf : f (s.wd w) = h (s.wd w)) :
    s.setWd w f = s.setWd w h := by
  unfold State.setWd
  congr 1
  unfold State.wd at hf
  by_cases hw : w < s.workers.length
  · apply List.ext_getElem (by simp)
    intro i h1 h2
    simp only [List.getElem_modify]
    split
    · subst_vars
      simpa [List.getD_eq_getElem?_getD, hw] using hf
    · rfl
  · rw [List.modify_eq_self (by omega), List.modify_eq_self (by omega)]

/-- the generated branch in closed form: the frame and the state (bumped exactly when the node was bounced at before
AND the accumulated wait exceeds the budget) -/
theorem genBackoff_run (T : Int) (mt : Option Int) (next root : Nat) (occ : List Nat) (wait : Float) (s : State) :
    (genBackoff T mt next root occ wait).run s =
      ((setAdd occ next,
        (if occ.contains next then wait + Float.ofNat (hundredths (T * max (mt.getD 1) 1)) / 100.0 else 0.0),
        [root], hundredths (T * max (mt.getD 1) 1)),
       if occ.contains next && decide (wait > Float.ofInt (T * max (mt.getD 1) 1))
       then s.setNd next (fun d => { d with bump := d.bump + 1 }) else s) := by
  unfold genBackoff
  by_cases hin : occ.contains next = true
  · by_cases hgt : wait > Float.ofInt (T * max (mt.getD 1) 1)
    · simp only [hin, hgt, if_true, decide_true, Bool.and_self, bumpM]
      rfl
    · simp only [hin, hgt, if_true, if_false, decide_false, Bool.and_false, Bool.false_eq_true]
      rfl
  · simp only [hin, if_false, Bool.false_and, Bool.false_eq_true]
    rfl

end I2N.Trav
