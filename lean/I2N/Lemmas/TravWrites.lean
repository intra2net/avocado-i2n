import I2N.Lemmas.TravMoves
/-!
Frame relations by what they let a step write.

Every piece of a step of worker `w` is a sequence of writes of four kinds: to a node record (`setNd`), to the registers of
a class (`setCr`), to `w`'s own record (`setWd`), and to the rest of the state (store, job results, tag counter, hidden
set, incompatible pairs).  `Writes w R N C W B` says that `R` is reflexive, transitive, and holds across a write of each
kind that meets the relation's condition for that kind (`N n f`, `C f`, `W f`, `B s s'`).  The lemmas below carry such a
relation across every operation of the loop, given that the condition admits what the operation writes; the frame
relations of the invariant files are instances, and have no lemma per operation of their own.
-/
namespace I2N.Trav

structure Writes (w : Nat) (R : State → State → Prop) (N : Nat → (NodeD → NodeD) → Prop)
    (C : (ClassRegs → ClassRegs) → Prop) (W : (WorkerD → WorkerD) → Prop) (B : State → State → Prop) : Prop where
  refl : ∀ s, R s s
  trans : ∀ {s s1 s2}, R s s1 → R s1 s2 → R s s2
  nd : ∀ s n f, N n f → R s (s.setNd n f)
  cr : ∀ s c f, C f → R s (s.setCr c f)
  wd : ∀ s f, W f → R s (s.setWd w f)
  rest : ∀ {s s'}, s'.nodes = s.nodes → s'.regs = s.regs → s'.workers = s.workers → B s s' → R s s'

namespace Writes
variable {w : Nat} {R : State → State → Prop} {N : Nat → (NodeD → NodeD) → Prop} {C : (ClassRegs → ClassRegs) → Prop}
  {W : (WorkerD → WorkerD) → Prop} {B : State → State → Prop}

theorem foldl {β} (h : Writes w R N C W B) (f : State → β → State) (hf : ∀ s b, R s (f s b)) (l : List β) (s : State) :
    R s (l.foldl f s) := by
  induction l generalizing s with
  | nil => exact h.refl s
  | cons a r ih => exact h.trans (hf s a) (ih _)

theorem pullLocations (h : Writes w R N C W B) (g : Graph) (s : State) (n : Nat)
    (hN : ∀ l : NodeD → List (String × String), N n (fun d => { d with getLoc := l d })) : R s (pullLocations g s n) := by
  obtain ⟨l, e⟩ := pullLocations_setNd g s n
  rw [e]
  exact h.nd s n _ (hN l)

theorem runDecision (h : Writes w R N C W B) {g : Graph} {s s1 : State} {n v : Nat} {b : Bool} {e : List Event}
    (hN : N n (fun d => { d with rerunDisabled := true })) (hd : runDecision g s n v = .ok (b, s1, e)) : R s s1 := by
  rcases runDecision_state g s n v b s1 e hd with e | e
  · rw [e]; exact h.refl s
  · rw [e]; exact h.nd s n _ hN

theorem entered (h : Writes w R N C W B) (gv : Graph) (s : State) (n : Nat)
    (hm : N n (fun d => { d with started := some w }))
    (hN : ∀ l : NodeD → List (String × String), N n (fun d => { d with getLoc := l d })) : R s (entered gv s w n) :=
  h.trans (h.nd s n _ hm) (h.pullLocations gv _ n hN)

theorem syncStates (h : Writes w R N C W B) (g : Graph) (s : State) (n v : Nat) (rv : Option (List String))
    (hB : ∀ st, B s { s with store := st }) : R s (syncStates g s n v rv).1 := by
  obtain ⟨st, e⟩ := syncStates_store g s n v rv
  rw [e]
  exact h.rest rfl rfl rfl (hB st)

theorem reverseNode (h : Writes w R N C W B) {g : Graph} {s s' : State} {n v : Nat} {evs : List Event}
    (hm : ∀ o, N n (fun d => { d with started := o })) (hB : ∀ s st, B s { s with store := st })
    (hr : reverseNode g s n v = .ok (s', evs)) : R s s' := by
  rcases reverseNode_eq_ok hr with ⟨_, e, _⟩ | ⟨_, clean, s2, _, hs, e⟩
  · rw [e]; exact h.refl s
  · rw [e]
    refine h.trans (h.nd s n _ (hm (some v))) (h.trans ?_ (h.nd s2 n _ (hm none)))
    split at hs
    · obtain rfl : (I2N.Trav.syncStates g _ n v none).1 = s2 := congrArg Prod.fst hs
      exact h.syncStates g _ n v none (hB _)
    · cases hs; exact h.refl _

theorem dropChildren (h : Writes w R N C W B) (gv : Graph) (s : State) (n : Nat)
    (hC : ∀ k, C (fun r => { r with droppedCleanup := regAdd r.droppedCleanup k })) : R s (dropChildren gv s n w) :=
  h.foldl _ (fun s _ => h.cr s _ _ (hC _)) _ s

theorem pickChild (h : Writes w R N C W B) {gv : Graph} {s s' : State} {n c : Nat}
    (hC : ∀ k, C (fun r => { r with pickedBySetup := regAdd r.pickedBySetup k }))
    (hp : pickChild gv s n w = some (c, s')) : R s s' := by
  rw [(pickChild_eq_some hp).2.2.2]
  exact h.cr s _ _ (hC _)

theorem pickParent (h : Writes w R N C W B) {gv : Graph} {s s' : State} {n p : Nat}
    (hC : ∀ k, C (fun r => { r with pickedByCleanup := regAdd r.pickedByCleanup k }))
    (hp : pickParent gv s n w = some (p, s')) : R s s' := by
  rw [(pickParent_eq_some hp).2.2.2]
  exact h.cr s _ _ (hC _)

theorem reportOutcome (h : Writes w R N C W B) (g : Graph) (s : State) (n : Nat) (ph : Phase) (uid : String) (wait : Nat)
    (out : Outcome) (hB : ∀ st j, B s { s with store := st, jobResults := j }) :
    R s (reportOutcome g s w n ph uid wait out).1 := by
  obtain ⟨st, j, e⟩ := reportOutcome_writes g s w n ph uid wait out
  rw [e]
  exact h.rest rfl rfl rfl (hB st j)

theorem recordResult (h : Writes w R N C W B) (s : State) (n : Nat) (ph : Phase) (name uid : String) (tag : Nat) (st0 : String)
    (dur : Nat) (hB : ∀ s j, B s { s with jobResults := j })
    (hN : ∀ res : Result, res.name = name → res.tag = 0 →
      N n (fun d => { d with results := (d.results ++ [res]).filter (fun r => !(r.status == "UNKNOWN" && r.tag == tag)) }))
    (hW : ∀ res : Result, res.name = name → res.tag = 0 →
      W (fun d => { d with preResults := (d.preResults ++ [res]).filter (fun r => !(r.status == "UNKNOWN" && r.tag == tag)) })) :
    R s (recordResult s w n ph name uid tag st0 dur).1 := by
  obtain ⟨j, res, hn, _, _, ht, _, e⟩ := recordResult_writes s w n ph name uid tag st0 dur
  rw [e]
  split
  · exact h.trans (s1 := { s with jobResults := j }) (h.rest rfl rfl rfl (hB s j)) (h.wd _ _ (hW res hn ht))
  · exact h.trans (s1 := { s with jobResults := j }) (h.rest rfl rfl rfl (hB s j)) (h.nd _ n _ (hN res hn ht))

theorem bounced (h : Writes w R N C W B) (gv : Graph) (s : State) (n : Nat)
    (hN : N n (fun d => { d with bump := d.bump + 1 }))
    (hW : ∀ f : WorkerD → WorkerD, (∀ d, (f d).path = [gv.root] ∧ (f d).pc = .bounce ∧ (f d).preResults = d.preResults ∧
      (f d).preName = d.preName ∧ (f d).unexplored = d.unexplored) → W f) : R s (bounced gv s w n) := by
  obtain ⟨c, f, hf, e⟩ := bounced_writes gv s w n
  rw [e]
  refine h.trans ?_ (h.wd _ f (hW f hf))
  split
  · exact h.nd s n _ hN
  · exact h.refl s

theorem startTest (h : Writes w R N C W B) (g : Graph) (s : State) (n : Nat) (ph : Phase) (dir : Dir)
    (hB : ∀ s : State, B s { s with nextTag := s.nextTag + 1 })
    (hN : ∀ r : Result, r.status = "UNKNOWN" → N n (fun d => { d with results := d.results ++ [r] }))
    (hW : ∀ (r : Result) uid tag, r.status = "UNKNOWN" →
      W (fun d => { d with preResults := d.preResults ++ [r], pc := .test n ph dir uid tag 0 }))
    (hpc : ∀ uid tag, W (fun d => { d with pc := .test n ph dir uid tag 0 })) : R s (startTest g s n w ph dir).1 := by
  have h0 : R s { s with nextTag := s.nextTag + 1 } := h.rest rfl rfl rfl (hB s)
  fun_cases I2N.Trav.startTest g s n w ph dir with
  | case1 => exact h.trans h0 (h.wd _ _ (hW _ _ _ rfl))
  | case2 => exact h.trans h0 (h.trans (h.nd _ n _ (hN _ rfl)) (h.wd _ _ (hpc _ _)))

theorem prepare (h : Writes w R N C W B) (g : Graph) (s : State) (hW : ∀ b, W (fun d => { d with unexplored := b }))
    (hB : ∀ (s : State) p x, B s { s with hidden := s.hidden.filter p } ∧ B s { s with incompatible := s.incompatible ++ [x] }) :
    R s (prepare g s w) := by
  fun_cases I2N.Trav.prepare g s w with
  | case1 => exact h.refl s
  | case2 _ next _ _ s1 =>
    refine h.trans (s1 := s1) (h.wd s _ (hW _)) ?_
    fun_cases reveal g s1 next w with
    | case1 => exact h.rest rfl rfl rfl (hB _ (fun _ => true) _).2
    | case2 => exact h.rest rfl rfl rfl (hB _ _ (0, 0)).1
  | case3 => exact h.wd s _ (hW _)

end Writes

end I2N.Trav
