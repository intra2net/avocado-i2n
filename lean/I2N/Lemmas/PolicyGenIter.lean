import I2N.Extracted.GenIter
/-!
# `_parametric_object_iteration`: the generated level equals the hand model's `iterAux` (C12)

`genIterLevel self params composites_is_none` (generated by `harness/pygen_pxiter.py` from the current source) is ONE
level of the recursive generator, with the recursive call as the function argument `self` and the list shared between
the levels as the state of the monad `G`.  This file proves

* `genIterLevel_step`: if `self` behaves like the hand model's `iterAux` one level further down (on the same shared
  list, which it gives back as it got it), the generated level behaves like `iterAux` at this level;
* `iterFuel_spec` / `top_of_spec`: hence the generated recursion (`iterFuel n`, Python's recursion with a recursion
  limit of `n` frames) is `iterAux` as soon as `n` is at least the length of `states_chain`.

The hypothesis `chainStable`: every dictionary the generator descends into has the same `states_chain` as the
top-level one (the code re-reads the key at every level; the hand model reads it once).
-/
set_option linter.unusedSimpArgs false

namespace I2N.PolicyGenIter
open I2N.Policy I2N.PolicyIterM I2N.Extracted.GenIter

/-- the dictionary of the object `n` of type `t` below the composites `comps` (`obj_params` of the code) -/
def objOf (p : Params) (comps : List (String × String)) (t n : String) : Params :=
  (((p.objectParams n).set t n).set "object_name" (joinSlash ((comps ++ [(n, t)]).map (·.1)))).set
    "object_type" (joinSlash ((comps ++ [(n, t)]).map (·.2)))

theorem iterAux_cons (last t : String) (rest : List String) (comps : List (String × String)) (p : Params) :
    iterAux last (t :: rest) comps p = (p.objects t).flatMap fun n =>
      (if t != last then iterAux last rest (comps ++ [(n, t)]) (objOf p comps t n) else []) ++
        [(objOf p comps t n).objectParams t] := rfl

/-- every dictionary the iteration descends into (type different from the last of the chain) re-reads the same
`states_chain` (decidable; mirrors the recursion of `iterAux`) -/
def chainStable (full : List String) (last : String) : List String → List (String × String) → Params → Bool
  | [], _, _ => true
  | t :: rest, comps, p => (p.objects t).all fun n =>
      t == last || ((objOf p comps t n).objects "states_chain" == full &&
        chainStable full last rest (comps ++ [(n, t)]) (objOf p comps t n))

/-- what a call of the generator at depth `k` (= `len(composites)`) does, in terms of the hand model -/
def Spec (self : Params → G Unit) (full : List String) (last : String) (k : Nat) : Prop :=
  ∀ (q : Params) (cs : List (String × String)) (out : List Params),
    q.objects "states_chain" = full → cs.length = k → k < full.length →
    chainStable full last (full.drop k) cs q = true →
    self q ⟨cs.map some, out⟩ = (.ok (), ⟨cs.map some, out ++ iterAux last (full.drop k) cs q⟩)

theorem projAll_some (proj : String × String → String) (cs : List (String × String)) :
    projAll proj (cs.map some) = some (cs.map proj) := by
  induction cs with
  | nil => rfl
  | cons c cs ih => simp [projAll, ih]

theorem not_last_lt {full : List String} {last : String} (hlast : full.getLast? = some last) {k : Nat}
    (hlt : k < full.length) (hne : full[k] ≠ last) : k + 1 < full.length := by
  rcases Nat.lt_or_ge (k + 1) full.length with h | h
  · exact h
  exfalso
  have hk : k = full.length - 1 := by omega
  rw [List.getLast?_eq_getElem?] at hlast
  subst hk
  rw [List.getElem?_eq_getElem hlt] at hlast
  exact hne (Option.some.inj hlast)

/-- the loop: every pass overwrites the last entry of the shared list and appends what it yields -/
theorem gFor_spec (body : String → G Unit) (pre : List (Option (String × String)))
    (mk : String → Option (String × String)) (F : String → List Params) :
    ∀ (names : List String), (∀ n ∈ names, ∀ x out, body n ⟨pre ++ [x], out⟩ = (.ok (), ⟨pre ++ [mk n], out ++ F n⟩)) →
    ∀ x out, ∃ y, gFor names body ⟨pre ++ [x], out⟩ = (.ok (), ⟨pre ++ [y], out ++ names.flatMap F⟩) := by
  intro names
  induction names with
  | nil => intro _ x out; exact ⟨x, by simp [gFor_nil]⟩
  | cons n ns ih =>
    intro h x out
    rw [gFor_cons, h n (by simp) x out, G.bindF_ok]
    obtain ⟨y, hy⟩ := ih (fun m hm => h m (by simp [hm])) (mk n) (out ++ F n)
    exact ⟨y, by rw [hy]; simp [List.append_assoc]⟩

/-! ### atoms applied to a state -/
theorem throwG_ap {α : Type} (e : IterErr) (s : GS) : (throwG e : G α) s = (.error e, s) := rfl
theorem lenC_ap (s : GS) : lenC s = (.ok s.comps.length, s) := rfl
theorem resetC_ap (s : GS) : resetC s = (.ok (), { s with comps := [] }) := rfl
theorem appendC_ap (x) (s : GS) : appendC x s = (.ok (), { s with comps := s.comps ++ [x] }) := rfl
theorem setLastC_snoc (x y) (pre : List (Option (String × String))) (out) :
    setLastC x ⟨pre ++ [y], out⟩ = (.ok (), ⟨pre ++ [x], out⟩) := by
  simp [setLastC]
theorem popC_snoc (y) (pre : List (Option (String × String))) (out) :
    popC ⟨pre ++ [y], out⟩ = (.ok (), ⟨pre, out⟩) := by
  simp [popC]
theorem indexG_lt (l : List String) (i : Nat) (h : i < l.length) (s : GS) : indexG l i s = (.ok l[i], s) := by
  simp [indexG, List.getElem?_eq_getElem h]
theorem lastG_some (l : List String) (x : String) (h : l.getLast? = some x) (s : GS) : lastG l s = (.ok x, s) := by
  simp [lastG, h]
theorem projC_some (proj) (cs : List (String × String)) (out) :
    projC proj ⟨cs.map some, out⟩ = (.ok (cs.map proj), ⟨cs.map some, out⟩) := by
  simp [projC, projAll_some]
theorem yieldG_ap (x) (s : GS) : yieldG x s = (.ok (), { s with out := s.out ++ [x] }) := rfl

/-- the loop followed by the `pop`: the shared list is given back as it was before the `append` -/
theorem gFor_pop (body : String → G Unit) (pre : List (Option (String × String)))
    (mk : String → Option (String × String)) (F : String → List Params) (names : List String)
    (h : ∀ n ∈ names, ∀ x out, body n ⟨pre ++ [x], out⟩ = (.ok (), ⟨pre ++ [mk n], out ++ F n⟩))
    (x : Option (String × String)) (out : List Params) :
    G.bindF (gFor names body ⟨pre ++ [x], out⟩) (fun _ => popC) = (.ok (), ⟨pre, out ++ names.flatMap F⟩) := by
  obtain ⟨y, hy⟩ := gFor_spec body pre mk F names h x out
  rw [hy, G.bindF_ok, popC_snoc]

theorem genIterLevel_step (self : Params → G Unit) (full : List String) (last : String)
    (hlast : full.getLast? = some last) (k : Nat) (hself : Spec self full last (k + 1))
    (b : Bool) (p : Params) (cs : List (String × String)) (out : List Params) (c0 : List (Option (String × String)))
    (hp : p.objects "states_chain" = full) (hk : cs.length = k) (hlt : k < full.length)
    (hst : chainStable full last (full.drop k) cs p = true)
    (hc : (if b then [] else c0) = cs.map some) :
    genIterLevel self p b ⟨c0, out⟩ = (.ok (), ⟨cs.map some, out ++ iterAux last (full.drop k) cs p⟩) := by
  have h0 : (full.length == 0) = false := by rw [beq_eq_false_iff_ne]; omega
  have hdrop : full.drop k = full[k] :: full.drop (k + 1) := List.drop_eq_getElem_cons hlt
  rw [hdrop] at hst
  rw [hdrop, iterAux_cons]
  -- `if composites is None: composites = []`
  have hb : genIterLevel self p b ⟨c0, out⟩ = genIterLevel self p false ⟨cs.map some, out⟩ := by
    cases b
    · simp only [Bool.false_eq_true, if_false] at hc
      rw [hc]
    · simp only [if_true] at hc
      rw [← hc]
      unfold genIterLevel
      simp only [G.bind_ap, G.ite_ap, hp, h0, Bool.false_eq_true, if_false, if_true, resetC_ap, G.bindF_ok]
  rw [hb]
  unfold genIterLevel
  simp only [G.bind_ap, G.ite_ap, hp, h0, Bool.false_eq_true, if_false, lenC_ap, G.bindF_ok, List.length_map, hk,
    indexG_lt full k hlt, appendC_ap]
  -- the loop and the `pop`
  apply gFor_pop _ (cs.map some) (fun n => some (n, full[k]))
  intro n hn x out'
  have e : cs.map some ++ [some (n, full[k])] = (cs ++ [(n, full[k])]).map some := by simp
  simp only [G.bind_ap, setLastC_snoc, G.bindF_ok, e, projC_some, lastG_some full last hlast, G.ite_ap]
  have hn' := (List.all_eq_true.mp hst) n hn
  -- the descent test, however it is spelled
  by_cases heq : full[k] = last
  · simp [heq, yieldG_ap, objOf]
  · simp only [bne_iff_ne, ne_eq, heq, Ne.symm heq, not_false_eq_true, if_true]
    simp only [beq_eq_false_iff_ne.mpr heq, Bool.false_or, Bool.and_eq_true, beq_iff_eq] at hn'
    have := hself (objOf p cs full[k] n) (cs ++ [(n, full[k])]) out' hn'.1 (by simp [hk])
      (not_last_lt hlast hlt heq) hn'.2
    unfold objOf at this ⊢
    rw [this, G.bindF_ok, yieldG_ap]
    simp [List.append_assoc]

/-- the generated recursion: Python's recursive call with a recursion limit of `n` frames -/
def iterFuel : Nat → Params → G Unit
  | 0, _ => throwG .recursionError
  | n + 1, q => genIterLevel (iterFuel n) q false

theorem iterFuel_spec (full : List String) (last : String) (hlast : full.getLast? = some last) :
    ∀ (n k : Nat), full.length ≤ k + n → Spec (iterFuel n) full last k
  | 0, k, h => fun _ _ _ _ _ hlt _ => absurd hlt (by omega)
  | n + 1, k, h => fun q cs out hq hk hlt hst =>
    genIterLevel_step (iterFuel n) full last hlast k (iterFuel_spec full last hlast n (k + 1) (by omega)) false q cs out
      (cs.map some) hq hk hlt hst rfl

/-- ANY function that satisfies the recursion equation of the code behaves like `iterAux` (the fixed point is unique
on the dictionaries with a stable chain: the recursion is well founded on `len(states_chain) - len(composites)`) -/
theorem fix_spec (self : Params → G Unit) (hfix : ∀ q, self q = genIterLevel self q false)
    (full : List String) (last : String) (hlast : full.getLast? = some last) :
    ∀ (d k : Nat), full.length ≤ k + d → Spec self full last k
  | 0, k, h => fun _ _ _ _ _ hlt _ => absurd hlt (by omega)
  | d + 1, k, h => fun q cs out hq hk hlt hst => by
    rw [hfix q]
    exact genIterLevel_step self full last hlast k (fix_spec self hfix full last hlast d (k + 1) (by omega)) false q cs
      out (cs.map some) hq hk hlt hst rfl

/-- the hypothesis of the tie for a top-level dictionary -/
def topStable (p : Params) : Bool :=
  match (p.objects "states_chain").getLast? with
  | none => true
  | some last => chainStable (p.objects "states_chain") last (p.objects "states_chain") [] p

/-- what the hand model says the top-level call does to a generator state -/
def iterObjectsG (p : Params) (s : GS) : Except IterErr Unit × GS :=
  match iterObjects p with
  | .ok l => (.ok (), ⟨[], s.out ++ l⟩)
  | .error _ => (.error .valueError, s)

theorem genIterLevel_empty (self : Params → G Unit) (p : Params) (b : Bool) (s : GS)
    (h : p.objects "states_chain" = []) : genIterLevel self p b s = (.error .valueError, s) := by
  unfold genIterLevel
  simp only [G.bind_ap, G.ite_ap, h]
  simp [throwG_ap]

theorem top_of_spec (self : Params → G Unit) (p : Params)
    (hself : ∀ last, (p.objects "states_chain").getLast? = some last → Spec self (p.objects "states_chain") last 1)
    (hst : topStable p = true) (s : GS) : genIterLevel self p true s = iterObjectsG p s := by
  unfold iterObjectsG iterObjects
  unfold topStable at hst
  cases hl : (p.objects "states_chain").getLast? with
  | none =>
    simp only [hl]
    exact genIterLevel_empty self p true s (List.getLast?_eq_none_iff.mp hl)
  | some last =>
    simp only [hl] at hst ⊢
    have hne : 0 < (p.objects "states_chain").length := by
      cases h : p.objects "states_chain" with
      | nil => simp [h] at hl
      | cons _ _ => simp
    have := genIterLevel_step self (p.objects "states_chain") last hl 0 (hself last hl) true p [] s.out s.comps rfl rfl
      hne (by simpa using hst) rfl
    simpa using this

end I2N.PolicyGenIter
