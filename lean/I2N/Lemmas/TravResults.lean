import I2N.Lemmas.TravMoves
import Std.Data.String.ToNat
/-!
Bookkeeping invariants of the traversal model behind C03 (retry budget) and C10 (identifiers):
how `results`, `jobResults`, `preResults`, `nextTag` and the program counters evolve along `resume`.

A step is described once, by cases over the moves of `Lemmas/TravMoves.lean` (`eff_of_resumed`; `resume_eff` says the same
of `resume`).  Its loop part (`After`, `Iter`, `Ran`) is either *silent* (`Silent`: no result list, job result, tag
counter, creation copy or foreign worker record changes) or a silent prefix followed by exactly one `startTest` whose
guard is recorded (`StepEff`, `StartFrom`); its resumption part is the report of the stub, the settlement of the
placeholder and the continuation (`TestEff`, `ContEff`).  Along this description are carried: `Basic` (placeholders, tags and program counters fit together), `Uids` (the identifiers handed out are
distinct), `Budget` (a stateless class has at most `max(max_tries, 1)` results) and `Ext` (result lists only grow, the
placeholder of the awaited test aside).  The file also holds the hypotheses on the graph these need (`GraphWF`, `NamesInj`,
`PreNamesFresh`, with decidable forms) and `ReachableR`.
-/
namespace I2N.Trav

/-- the root and the end points of all edges are node indices -/
def graphWF (g : Graph) : Bool :=
  decide (g.root < g.nodes.length) &&
  g.nodes.all (fun nd => nd.setup.all (fun p => decide (p.1 < g.nodes.length)) &&
                         nd.cleanup.all (fun p => decide (p.1 < g.nodes.length)))

theorem node_mem_or_default (g : Graph) (n : Nat) :
    g.node n ∈ g.nodes ∨ g.node n = { cls := 0, owner := none, name := "", pfx := "" } := by
  unfold Graph.node
  by_cases h : n < g.nodes.length
  · left
    rw [List.getD_eq_getElem?_getD, List.getElem?_eq_getElem h]
    exact List.getElem_mem h
  · right
    rw [List.getD_eq_getElem?_getD, List.getElem?_eq_none (by omega)]
    rfl

/-- the same as a proposition about `Graph.node` (this is the form the walk uses; it also holds for the visible graph) -/
def GraphWF (g : Graph) : Prop :=
  g.root < g.nodes.length ∧ ∀ n (p : Nat × List String),
    (p ∈ (g.node n).setup → p.1 < g.nodes.length) ∧ (p ∈ (g.node n).cleanup → p.1 < g.nodes.length)

theorem GraphWF.of_bool {g : Graph} (h : graphWF g = true) : GraphWF g := by
  unfold graphWF at h
  simp only [Bool.and_eq_true, decide_eq_true_eq, List.all_eq_true] at h
  refine ⟨h.1, fun n p => ?_⟩
  rcases node_mem_or_default g n with hm | hd
  · exact ⟨(h.2 _ hm).1 p, (h.2 _ hm).2 p⟩
  · rw [hd]; exact ⟨fun hp => absurd hp List.not_mem_nil, fun hp => absurd hp List.not_mem_nil⟩

/-- a node without its edges -/
def Node.noEdges (nd : Node) : Node := { nd with setup := [], cleanup := [] }

/-- two graphs that differ in their edges only -/
structure SameNodes (gv g : Graph) : Prop where
  workers : gv.workers = g.workers
  root : gv.root = g.root
  len : gv.nodes.length = g.nodes.length
  node : ∀ n, (gv.node n).noEdges = (g.node n).noEdges

theorem SameNodes.refl (g : Graph) : SameNodes g g := ⟨rfl, rfl, rfl, fun _ => rfl⟩

theorem SameNodes.trans {a b c : Graph} (h1 : SameNodes a b) (h2 : SameNodes b c) : SameNodes a c :=
  ⟨h1.workers.trans h2.workers, h1.root.trans h2.root, h1.len.trans h2.len, fun n => (h1.node n).trans (h2.node n)⟩

theorem SameNodes.proj {gv g : Graph} (h : SameNodes gv g) {α} (P : Node → α) (hP : ∀ nd, P nd.noEdges = P nd) (n : Nat) :
    P (gv.node n) = P (g.node n) := by
  rw [← hP, h.node, hP]

theorem SameNodes.name {gv g : Graph} (h : SameNodes gv g) (n : Nat) : (gv.node n).name = (g.node n).name :=
  h.proj Node.name (fun _ => rfl) n
theorem SameNodes.pfx {gv g : Graph} (h : SameNodes gv g) (n : Nat) : (gv.node n).pfx = (g.node n).pfx :=
  h.proj Node.pfx (fun _ => rfl) n
theorem SameNodes.cls {gv g : Graph} (h : SameNodes gv g) (n : Nat) : (gv.node n).cls = (g.node n).cls :=
  h.proj Node.cls (fun _ => rfl) n
theorem SameNodes.flat {gv g : Graph} (h : SameNodes gv g) (n : Nat) : (gv.node n).flat = (g.node n).flat :=
  h.proj Node.flat (fun _ => rfl) n
theorem SameNodes.objectRoot {gv g : Graph} (h : SameNodes gv g) (n : Nat) : (gv.node n).objectRoot = (g.node n).objectRoot := by
  exact h.proj Node.objectRoot (fun _ => rfl) n
theorem SameNodes.sets {gv g : Graph} (h : SameNodes gv g) (n : Nat) : (gv.node n).sets = (g.node n).sets :=
  h.proj Node.sets (fun _ => rfl) n
theorem SameNodes.maxTries {gv g : Graph} (h : SameNodes gv g) (n : Nat) : (gv.node n).maxTries = (g.node n).maxTries := by
  exact h.proj Node.maxTries (fun _ => rfl) n
theorem SameNodes.objs {gv g : Graph} (h : SameNodes gv g) (n : Nat) : (gv.node n).objs = (g.node n).objs :=
  h.proj Node.objs (fun _ => rfl) n
theorem SameNodes.unsetMode {gv g : Graph} (h : SameNodes gv g) (n : Nat) : (gv.node n).unsetMode = (g.node n).unsetMode :=
  h.proj Node.unsetMode (fun _ => rfl) n
theorem SameNodes.poolFilter {gv g : Graph} (h : SameNodes gv g) (n : Nat) : (gv.node n).poolFilter = (g.node n).poolFilter :=
  h.proj Node.poolFilter (fun _ => rfl) n
theorem SameNodes.owner {gv g : Graph} (h : SameNodes gv g) (n : Nat) : (gv.node n).owner = (g.node n).owner :=
  h.proj Node.owner (fun _ => rfl) n
theorem SameNodes.shape {gv g : Graph} (h : SameNodes gv g) (n : Nat) : (gv.node n).shape = (g.node n).shape :=
  h.proj Node.shape (fun _ => rfl) n
theorem SameNodes.scope {gv g : Graph} (h : SameNodes gv g) (n : Nat) : (gv.node n).scope = (g.node n).scope :=
  h.proj Node.scope (fun _ => rfl) n
theorem SameNodes.sharedRoot {gv g : Graph} (h : SameNodes gv g) (n : Nat) : (gv.node n).sharedRoot = (g.node n).sharedRoot :=
  h.proj Node.sharedRoot (fun _ => rfl) n
theorem SameNodes.dryRun {gv g : Graph} (h : SameNodes gv g) (n : Nat) : (gv.node n).dryRun = (g.node n).dryRun :=
  h.proj Node.dryRun (fun _ => rfl) n
theorem SameNodes.cloneSource {gv g : Graph} (h : SameNodes gv g) (n : Nat) : (gv.node n).cloneSource = (g.node n).cloneSource :=
  h.proj Node.cloneSource (fun _ => rfl) n
theorem SameNodes.rerunStatus {gv g : Graph} (h : SameNodes gv g) (n : Nat) : (gv.node n).rerunStatus = (g.node n).rerunStatus :=
  h.proj Node.rerunStatus (fun _ => rfl) n
theorem SameNodes.stopStatus {gv g : Graph} (h : SameNodes gv g) (n : Nat) : (gv.node n).stopStatus = (g.node n).stopStatus :=
  h.proj Node.stopStatus (fun _ => rfl) n
theorem SameNodes.worker {gv g : Graph} (h : SameNodes gv g) (w : Nat) : gv.worker w = g.worker w := by
  unfold Graph.worker; rw [h.workers]

theorem idIn_sameNodes {gv g : Graph} (h : SameNodes gv g) (w n : Nat) : gv.idIn w n = g.idIn w n := by
  unfold Graph.idIn; rw [h.worker, h.name]

theorem relevant_sameNodes {gv g : Graph} (h : SameNodes gv g) (w n : Nat) : relevant gv w n = relevant g w n := by
  unfold relevant; rw [h.flat, idIn_sameNodes h]

theorem vis_len (g : Graph) (s : State) : (vis g s).nodes.length = g.nodes.length := by
  unfold vis
  rw [apply_ite Graph.nodes, apply_ite List.length, List.length_map, List.length_zipIdx, ite_self]

theorem sameNodes_vis (g : Graph) (s : State) : SameNodes (vis g s) g := by
  refine ⟨?_, ?_, vis_len g s, fun n => ?_⟩
  · unfold vis; rw [apply_ite Graph.workers, ite_self]
  · unfold vis; rw [apply_ite Graph.root, ite_self]
  · obtain ⟨su, cl, h, _⟩ := vis_node g s n
    rw [h]; rfl

theorem GraphWF.vis {g : Graph} (h : GraphWF g) (s : State) : GraphWF (vis g s) := by
  have hs := sameNodes_vis g s
  refine ⟨by rw [hs.root, hs.len]; exact h.1, fun n p => ?_⟩
  obtain ⟨su, cl, hn, hsu, hcl⟩ := vis_node g s n
  rw [hn, hs.len]
  exact ⟨fun hp => (h.2 n p).1 (hsu p hp), fun hp => (h.2 n p).2 (hcl p hp)⟩

theorem GraphWF.root_lt {g : Graph} (h : GraphWF g) : g.root < g.nodes.length := h.1
theorem GraphWF.setup_lt {g : Graph} (h : GraphWF g) (n : Nat) (p : Nat × List String) (hp : p ∈ (g.node n).setup) :
    p.1 < g.nodes.length := (h.2 n p).1 hp
theorem GraphWF.cleanup_lt {g : Graph} (h : GraphWF g) (n : Nat) (p : Nat × List String) (hp : p ∈ (g.node n).cleanup) :
    p.1 < g.nodes.length := (h.2 n p).2 hp

theorem wd_default_of_ge (s : State) (v : Nat) (h : ¬ v < s.workers.length) : s.wd v = {} := by
  unfold State.wd
  rw [List.getD_eq_getElem?_getD, List.getElem?_eq_none (by omega)]; rfl

theorem wd_setWd_cases (s : State) (w : Nat) (f : WorkerD → WorkerD) :
    ((s.setWd w f).wd w = s.wd w ∧ ¬ w < s.workers.length) ∨
    (w < s.workers.length ∧ (s.setWd w f).wd w = f (s.wd w)) := by
  rw [wd_setWd]; split
  · rename_i h; exact Or.inr ⟨h.2, rfl⟩
  · rename_i h; exact Or.inl ⟨rfl, fun c => h ⟨rfl, c⟩⟩

def Pc.isTest : Pc → Bool
  | .test .. => true
  | _ => false

/-- a worker whose pc is a test is a real worker -/
theorem lt_of_isTest (s : State) (v : Nat) (h : (s.wd v).pc.isTest = true) : v < s.workers.length := by
  by_cases hl : v < s.workers.length
  · exact hl
  · rw [wd_default_of_ge s v hl] at h; simp [Pc.isTest] at h

/-- what the bookkeeping-free part of a step of worker `w` may do -/
structure Silent (g : Graph) (w : Nat) (s s' : State) : Prop where
  nodesLen : s'.nodes.length = s.nodes.length
  workersLen : s'.workers.length = s.workers.length
  results : ∀ m, (s'.nd m).results = (s.nd m).results
  job : s'.jobResults = s.jobResults
  tag : s'.nextTag = s.nextTag
  others : ∀ v, v ≠ w → s'.wd v = s.wd v
  preR : (s'.wd w).preResults = (s.wd w).preResults
  preN : (s'.wd w).preName = (s.wd w).preName
  pc : (s'.wd w).pc = (s.wd w).pc ∨ (s'.wd w).pc.isTest = false
  path : (∀ x ∈ (s.wd w).path, x < g.nodes.length) → ∀ x ∈ (s'.wd w).path, x < g.nodes.length

theorem Silent.of_eq (g : Graph) (w : Nat) {s s' : State} (hn : s'.nodes = s.nodes) (hw : s'.workers = s.workers)
    (hj : s'.jobResults = s.jobResults) (ht : s'.nextTag = s.nextTag) : Silent g w s s' := by
  have hwd : ∀ v, s'.wd v = s.wd v := fun v => by unfold State.wd; rw [hw]
  exact ⟨by rw [hn], by rw [hw], fun m => by unfold State.nd; rw [hn], hj, ht, fun v _ => hwd v, by rw [hwd], by rw [hwd],
    Or.inl (by rw [hwd]), fun h => by rw [hwd]; exact h⟩

theorem Silent.refl (g : Graph) (w : Nat) (s : State) : Silent g w s s := .of_eq g w rfl rfl rfl rfl

theorem Silent.trans {g : Graph} {w : Nat} {s s1 s2 : State} (a : Silent g w s s1) (b : Silent g w s1 s2) :
    Silent g w s s2 where
  nodesLen := b.nodesLen.trans a.nodesLen
  workersLen := b.workersLen.trans a.workersLen
  results := fun m => (b.results m).trans (a.results m)
  job := b.job.trans a.job
  tag := b.tag.trans a.tag
  others := fun v hv => (b.others v hv).trans (a.others v hv)
  preR := b.preR.trans a.preR
  preN := b.preN.trans a.preN
  pc := by
    rcases b.pc with h | h
    · rw [h]; exact a.pc
    · exact Or.inr h
  path := fun h => b.path (a.path h)

theorem Silent.nonTest {g : Graph} {w : Nat} {s s' : State} (a : Silent g w s s') (h : (s.wd w).pc.isTest = false) :
    (s'.wd w).pc.isTest = false := by
  rcases a.pc with h' | h'
  · rw [h']; exact h
  · exact h'

theorem silent_setCr (g : Graph) (w : Nat) (s : State) (c : Nat) (f : ClassRegs → ClassRegs) :
    Silent g w s (s.setCr c f) := .of_eq g w rfl rfl rfl rfl

theorem silent_store (g : Graph) (w : Nat) (s : State) (st : List (String × List (String × String))) :
    Silent g w s { s with store := st } := .of_eq g w rfl rfl rfl rfl

theorem silent_setNd (g : Graph) (w : Nat) (s : State) (m : Nat) (f : NodeD → NodeD)
    (hf : ∀ d, (f d).results = d.results) : Silent g w s (s.setNd m f) :=
  ⟨nodes_length_setNd s m f, rfl, fun n => nd_setNd_proj (·.results) s m f hf n, rfl, rfl, fun _ _ => rfl, rfl, rfl,
    Or.inl rfl, fun h => h⟩

theorem silent_setWd (g : Graph) (w : Nat) (s : State) (f : WorkerD → WorkerD)
    (hpre : ∀ d, (f d).preResults = d.preResults) (hname : ∀ d, (f d).preName = d.preName)
    (hpc : ∀ d, (f d).pc = d.pc ∨ (f d).pc.isTest = false)
    (hpath : ∀ d, (∀ x ∈ d.path, x < g.nodes.length) → ∀ x ∈ (f d).path, x < g.nodes.length) :
    Silent g w s (s.setWd w f) := by
  have key : ∀ P : WorkerD → Prop, P (s.wd w) → P (f (s.wd w)) → P ((s.setWd w f).wd w) := by
    intro P h0 h1
    rcases wd_setWd_cases s w f with ⟨h, _⟩ | ⟨_, h⟩ <;> rw [h]
    · exact h0
    · exact h1
  exact ⟨rfl, workers_length_setWd s w f, fun _ => rfl, rfl, rfl, fun v hv => wd_setWd_ne s w v f hv,
    key (·.preResults = _) rfl (hpre _), key (·.preName = _) rfl (hname _),
    key (fun d => d.pc = _ ∨ d.pc.isTest = false) (Or.inl rfl) (hpc _),
    fun hp => key (fun d => ∀ x ∈ d.path, x < g.nodes.length) hp (hpath _ hp)⟩

theorem silent_popPath (g : Graph) (w : Nat) (s : State) : Silent g w s (popPath s w) :=
  silent_setWd g w s _ (fun _ => rfl) (fun _ => rfl) (fun _ => Or.inl rfl)
    (fun _ h x hx => h x (List.dropLast_subset _ hx))

theorem silent_pushPath (g : Graph) (w : Nat) (s : State) (m : Nat) (hm : m < g.nodes.length) :
    Silent g w s (pushPath s w m) :=
  silent_setWd g w s _ (fun _ => rfl) (fun _ => rfl) (fun _ => Or.inl rfl)
    (fun _ h x hx => by
      rcases List.mem_append.mp hx with hx | hx
      · exact h x hx
      · rw [List.mem_singleton.mp hx]; exact hm)

theorem silent_setPc (g : Graph) (w : Nat) (s : State) (pc : Pc) (h : pc.isTest = false) :
    Silent g w s (s.setWd w (fun d => { d with pc := pc })) :=
  silent_setWd g w s _ (fun _ => rfl) (fun _ => rfl) (fun _ => Or.inr h) (fun _ h => h)

theorem silent_setStarted (g : Graph) (w : Nat) (s : State) (n : Nat) (o : Option Nat) :
    Silent g w s (s.setNd n (fun d => { d with started := o })) :=
  silent_setNd g w s n _ (fun _ => rfl)

theorem silent_disableRerun (g : Graph) (w : Nat) (s : State) (n : Nat) : Silent g w s (disableRerun s n) :=
  silent_setNd g w s n _ (fun _ => rfl)

theorem silent_runDecision (g : Graph) (w : Nat) (s : State) (n v : Nat) (b : Bool) (s1 : State) (e1 : List Event)
    (h : runDecision g s n v = .ok (b, s1, e1)) : Silent g w s s1 := by
  rcases runDecision_state g s n v b s1 e1 h with h | h
  · rw [h]; exact Silent.refl g w s
  · rw [h]; exact silent_disableRerun g w s n

theorem silent_foldl {β} (g : Graph) (w : Nat) (f : State → β → State) (h : ∀ s b, Silent g w s (f s b))
    (l : List β) (s : State) : Silent g w s (l.foldl f s) := by
  induction l generalizing s with
  | nil => exact Silent.refl g w s
  | cons a r ih => simp only [List.foldl_cons]; exact (h s a).trans (ih _)

theorem silent_pullLocations (g : Graph) (w : Nat) (s : State) (n : Nat) : Silent g w s (pullLocations g s n) := by
  obtain ⟨l, h⟩ := pullLocations_setNd g s n
  rw [h]; exact silent_setNd g w s n _ (fun _ => rfl)

theorem silent_syncStates (g : Graph) (w : Nat) (s : State) (n v : Nat) (rv : Option (List String)) :
    Silent g w s (syncStates g s n v rv).1 := by
  obtain ⟨st, h⟩ := syncStates_store g s n v rv
  rw [h]; exact silent_store g w s st

theorem silent_produce (g : Graph) (w : Nat) (s : State) (n v : Nat) : Silent g w s (produce g s n v) :=
  silent_store g w s _

theorem silent_finishTraverse (g : Graph) (w : Nat) (s : State) (n v : Nat) : Silent g w s (finishTraverse s n v) :=
  silent_setNd g w s n _ (fun _ => rfl)

theorem silent_reverseNode (g : Graph) (w : Nat) (s : State) (n v : Nat) (s' : State) (evs : List Event)
    (h : reverseNode g s n v = .ok (s', evs)) : Silent g w s s' := by
  rcases reverseNode_eq_ok h with ⟨_, hs, _⟩ | ⟨_, clean, s2, _, hsync, hs⟩
  · rw [hs]; exact Silent.refl g w s
  · rw [hs]
    refine (silent_setStarted g w s n (some v)).trans (Silent.trans ?_ (silent_setStarted g w s2 n none))
    rw [show s2 = (s2, evs).1 from rfl, ← hsync]
    split
    · exact silent_syncStates g w _ n v none
    · exact Silent.refl g w _

theorem pickChild_silent (g : Graph) (hwf : GraphWF g) (s : State) (n w c : Nat) (s' : State)
    (h : pickChild g s n w = some (c, s')) : Silent g w s (pushPath s' w c) := by
  obtain ⟨hc, _, _, rfl⟩ := pickChild_eq_some h
  obtain ⟨p, hp, rfl⟩ := List.mem_map.mp hc
  exact (silent_setCr g w s _ _).trans (silent_pushPath g w _ _ (hwf.cleanup_lt n p hp))

theorem pickParent_silent (g : Graph) (hwf : GraphWF g) (s : State) (n w c : Nat) (s' : State)
    (h : pickParent g s n w = some (c, s')) : Silent g w s (pushPath s' w c) := by
  obtain ⟨hc, _, _, rfl⟩ := pickParent_eq_some h
  obtain ⟨p, hp, rfl⟩ := List.mem_map.mp hc
  exact (silent_setCr g w s _ _).trans (silent_pushPath g w _ _ (hwf.setup_lt n p hp))

theorem silent_dropChildren (g : Graph) (w : Nat) (s : State) (n v : Nat) : Silent g w s (dropChildren g s n v) :=
  silent_foldl g w _ (fun s _ => silent_setCr g w s _ _) _ s

theorem silent_of_after {g : Graph} (hwf : GraphWF g) {s : State} {w n prev : Nat} {dir : Dir} {r : Step}
    (h : After g w n prev dir s r) : Silent g w s r.1 := by
  cases h with
  | undecided => exact .refl g w s
  | up run s1 evs _ hd =>
    refine (silent_runDecision g w s n w run s1 evs hd).trans (Silent.trans ?_ (silent_popPath g w _))
    split
    · exact silent_setCr g w s1 _ _
    · exact .refl g w s1
  | again s1 evs _ hd => exact (silent_runDecision g w s n w _ s1 evs hd).trans (silent_popPath g w s1)
  | postponed s1 evs _ hd =>
    refine (silent_runDecision g w s n w _ s1 evs hd).trans
      (silent_setWd g w s1 _ (fun _ => rfl) (fun _ => rfl) (fun _ => Or.inl rfl) (fun _ _ x hx => ?_))
    rw [List.mem_singleton.mp hx]; exact hwf.root_lt
  | cleaned s1 evs s3 evs2 _ hd _ _ hr =>
    exact (silent_runDecision g w s n w _ s1 evs hd).trans ((silent_dropChildren g w s1 n w).trans
      ((silent_reverseNode g w _ n w s3 evs2 hr).trans (silent_popPath g w s3)))
  | uncleaned s1 evs e _ hd => exact (silent_runDecision g w s n w _ s1 evs hd).trans (silent_dropChildren g w s1 n w)
  | descend s1 evs c s2 _ hd _ hp =>
    exact (silent_runDecision g w s n w _ s1 evs hd).trans (pickChild_silent g hwf s1 n w c s2 hp)
  | childless s1 evs _ hd => exact silent_runDecision g w s n w _ s1 evs hd

theorem sharedResults_sameNodes {gv g : Graph} (h : SameNodes gv g) (s : State) (n : Nat) :
    sharedResults gv s n = sharedResults g s n := by
  unfold sharedResults Graph.copies Graph.classNodes
  simp only [h.flat, h.cls, h.len]

theorem sharedFilteredResults_sameNodes {gv g : Graph} (h : SameNodes gv g) (s : State) (n : Nat) (sw : Option Nat) :
    sharedFilteredResults gv s n sw = sharedFilteredResults g s n sw := by
  unfold sharedFilteredResults
  simp only [sharedResults_sameNodes h, h.shape, h.worker]

theorem preNameOf_sameNodes {gv g : Graph} (h : SameNodes gv g) (n w : Nat) : preNameOf gv n w = preNameOf g n w := by
  unfold preNameOf
  rw [h.objs, h.worker]

theorem startTest_sameNodes {gv g : Graph} (h : SameNodes gv g) (s : State) (n w : Nat) (ph : Phase) (dir : Dir) :
    (startTest gv s n w ph dir).1 = (startTest g s n w ph dir).1 := by
  have e1 : (Phase.plain == Phase.pre) = false := rfl
  have e2 : (Phase.pre == Phase.pre) = true := rfl
  have e3 : (Phase.main == Phase.pre) = false := rfl
  cases ph <;> simp [startTest, e1, e2, e3, sharedResults_sameNodes h, h.pfx, h.name]

/-- a `startTest` at the end of the loop part, with what guarded it (the decision was taken on the graph `gv` as
parsed so far, which differs from `g` in its edges only) -/
inductive StartFrom (g : Graph) (w : Nat) (s1 s' : State) : Prop
  | plain (n : Nat) (dir : Dir) (s0 : State) (evs : List Event) (gv : Graph) (hgv : SameNodes gv g)
      (hn : n < g.nodes.length) (hroot : (g.node n).objectRoot = false)
      (hdec : runDecision gv s0 n w = .ok (true, s1, evs))
      (h : s' = (startTest g s1 n w .plain dir).1)
  | pre (n : Nat) (dir : Dir)
      (hn : n < g.nodes.length) (hroot : (g.node n).objectRoot = true)
      (h : s' = (startTest g (s1.setWd w (fun d => { d with preResults := (s1.nd n).results, preName := preNameOf g n w }))
              n w .pre dir).1)

theorem StartFrom.transport {gv g : Graph} {w : Nat} {s1 s' : State} (h : SameNodes gv g) (a : StartFrom gv w s1 s') :
    StartFrom g w s1 s' := by
  cases a with
  | plain n dir s0 evs gv' hgv' hn hroot hdec e =>
    exact .plain n dir s0 evs gv' (hgv'.trans h) (by rw [← h.len]; exact hn) (by rw [← h.objectRoot]; exact hroot) hdec
      (by rw [e, startTest_sameNodes h])
  | pre n dir hn hroot e =>
    exact .pre n dir (by rw [← h.len]; exact hn) (by rw [← h.objectRoot]; exact hroot)
      (by rw [e, startTest_sameNodes h, preNameOf_sameNodes h])

theorem Silent.transport {gv g : Graph} {w : Nat} {s s' : State} (h : gv.nodes.length = g.nodes.length) (a : Silent gv w s s') :
    Silent g w s s' :=
  ⟨a.nodesLen, a.workersLen, a.results, a.job, a.tag, a.others, a.preR, a.preN, a.pc, by rw [← h]; exact a.path⟩

/-- effect of a piece of the loop: silent, or silent followed by one start (and then the worker is suspended) -/
def StepEff (g : Graph) (w : Nat) (s : State) (r : Step) : Prop :=
  Silent g w s r.1 ∨ ((∃ s1, Silent g w s s1 ∧ StartFrom g w s1 r.1) ∧ r.2.2 = Flow.suspend)

theorem StepEff.of_silent {g : Graph} {w : Nat} {s s1 : State} {r : Step} (a : Silent g w s s1) (b : StepEff g w s1 r) :
    StepEff g w s r := by
  rcases b with b | ⟨⟨s2, b, c⟩, d⟩
  · exact Or.inl (a.trans b)
  · exact Or.inr ⟨⟨s2, a.trans b, c⟩, d⟩

theorem StepEff.transport {gv g : Graph} {w : Nat} {s : State} {r : Step} (h : SameNodes gv g) (a : StepEff gv w s r) :
    StepEff g w s r := by
  rcases a with a | ⟨⟨s1, a, b⟩, c⟩
  · exact Or.inl (a.transport h.len)
  · exact Or.inr ⟨⟨s1, a.transport h.len, b.transport h⟩, c⟩

theorem eff_of_iter {g : Graph} (hwf : GraphWF g) {s : State} {w : Nat} {r : Step}
    (hpath : ∀ x ∈ (s.wd w).path, x < g.nodes.length) (h : Iter g w s r) : StepEff g w s r := by
  have entered : ∀ n, Silent g w s (entered g s w n) := fun n =>
    (silent_setStarted g w s n (some w)).trans (silent_pullLocations g w _ n)
  cases h with
  | exit => exact Or.inl (silent_setWd g w s _ (fun _ => rfl) (fun _ => rfl) (fun _ => Or.inr rfl) (fun _ _ _ hx => nomatch hx))
  | lost => exact Or.inl (.refl g w s)
  | fromRoot n c s1 _ _ _ hp => exact Or.inl (pickChild_silent g hwf s n w c s1 hp)
  | bounce n =>
    -- the waiting time is updated (and the bump counter of the occupied node), then the path is reset to the root
    left
    refine Silent.trans ?_ (silent_setWd g w _ _ (fun _ => rfl) (fun _ => rfl) (fun _ => Or.inr rfl)
      (fun _ _ x hx => by rw [List.mem_singleton.mp hx]; exact hwf.root_lt))
    split
    · refine Silent.trans ?_ (silent_setWd g w _ _ (fun _ => rfl) (fun _ => rfl) (fun _ => Or.inl rfl) (fun _ h => h))
      split
      · exact silent_setNd g w s _ _ (fun _ => rfl)
      · exact .refl g w s
    · exact silent_setWd g w s _ (fun _ => rfl) (fun _ => rfl) (fun _ => Or.inl rfl) (fun _ h => h)
  | toParent n _ p s1 _ _ _ hp => exact Or.inl (pickParent_silent g hwf s n w p s1 hp)
  | undecided n => exact Or.inl (entered n)
  | start n _ dir s1 evs hv hd hroot =>
    exact Or.inr ⟨⟨s1, (entered n).trans (silent_runDecision g w _ n w true s1 evs hd),
      .plain n dir _ evs g (.refl g) (hpath n (List.mem_of_getLast? hv.last)) hroot hd rfl⟩, rfl⟩
  | create n _ dir s1 evs hv hd hroot =>
    exact Or.inr ⟨⟨s1, (entered n).trans (silent_runDecision g w _ n w true s1 evs hd),
      .pre n dir (hpath n (List.mem_of_getLast? hv.last)) hroot rfl⟩, rfl⟩
  | skip n _ _ s1 evs r _ hd ha =>
    exact Or.inl ((entered n).trans ((silent_runDecision g w _ n w false s1 evs hd).trans
      ((silent_finishTraverse g w s1 n w).trans (silent_of_after (r := r) hwf ha))))

theorem silent_reveal (g : Graph) (w : Nat) (s : State) (f v : Nat) : Silent g w s (reveal g s f v) := by
  fun_cases reveal g s f v <;> exact .of_eq g w rfl rfl rfl rfl

theorem silent_prepare (g : Graph) (w : Nat) (s : State) : Silent g w s (prepare g s w) := by
  fun_cases prepare g s w with
  | case1 => exact Silent.refl g w s
  | case2 _ next _ _ s1 =>
    have h0 : Silent g w s s1 := silent_setWd g w s _ (fun _ => rfl) (fun _ => rfl) (fun _ => Or.inl rfl) (fun _ h => h)
    exact h0.trans (silent_reveal g w s1 next w)
  | case3 => exact silent_setWd g w s _ (fun _ => rfl) (fun _ => rfl) (fun _ => Or.inl rfl) (fun _ h => h)

theorem eff_of_iterL {g : Graph} (hwf : GraphWF g) {s : State} {w : Nat} {r : Step}
    (hpath : ∀ x ∈ (s.wd w).path, x < g.nodes.length) (h : IterL g w s r) : StepEff g w s r := by
  obtain ⟨s1, hp, hi⟩ := h
  have h0 : Silent g w s s1 := by
    cases hp with
    | stay => exact .refl g w s
    | expand => exact silent_prepare g w s
  exact .of_silent h0 ((eff_of_iter (hwf.vis s1) (by rw [vis_len]; exact h0.path hpath) hi).transport (sameNodes_vis g s1))

theorem iterL_eff (g : Graph) (hwf : GraphWF g) (s : State) (w : Nat)
    (hpath : ∀ x ∈ (s.wd w).path, x < g.nodes.length) : StepEff g w s (iterL g s w) :=
  eff_of_iterL hwf hpath (iterL_iterL g s w)

/-- The loop leaves the worker after a silent effect or freshly started; in the first case its pc is no test if at
least one iteration was run (it is reset before every iteration, and a silent effect cannot turn it into a test). -/
theorem eff_of_ran {g : Graph} (hwf : GraphWF g) {w fuel : Nat} {s : State} {evs : List Event} {r : State × List Event}
    (hpath : ∀ x ∈ (s.wd w).path, x < g.nodes.length) (h : Ran g w fuel s evs r) :
    (Silent g w s r.1 ∧ (0 < fuel → w < s.workers.length → (r.1.wd w).pc.isTest = false)) ∨
      ∃ s1, Silent g w s s1 ∧ StartFrom g w s1 r.1 := by
  have body : ∀ {s s1 e f}, (∀ x ∈ (s.wd w).path, x < g.nodes.length) →
      IterL g w (s.setWd w (fun d => { d with pc := .loop })) (s1, e, f) →
      (Silent g w s s1 ∧ (w < s.workers.length → (s1.wd w).pc.isTest = false)) ∨
        ((∃ s2, Silent g w s s2 ∧ StartFrom g w s2 s1) ∧ f = .suspend) := by
    intro s s1 e f hpath hi
    have h0 : Silent g w s (s.setWd w (fun d => { d with pc := .loop })) := silent_setPc g w s .loop rfl
    rcases eff_of_iterL hwf (h0.path hpath) hi with he | ⟨⟨s2, he, hs⟩, hf⟩
    · exact Or.inl ⟨h0.trans he, fun hw => he.nonTest (by rw [wd_setWd_eq s w _ hw]; rfl)⟩
    · exact Or.inr ⟨⟨s2, h0.trans he, hs⟩, hf⟩
  induction h with
  | dry s evs => exact Or.inl ⟨.refl g w s, fun h => absurd h (Nat.lt_irrefl 0)⟩
  | cont hi _ ih =>
    rcases body hpath hi with ⟨a, hpc⟩ | ⟨_, hf⟩
    · rcases ih (a.path hpath) with ⟨b, _⟩ | ⟨s2, b, hs⟩
      · exact Or.inl ⟨a.trans b, fun _ hw => b.nonTest (hpc hw)⟩
      · exact Or.inr ⟨s2, a.trans b, hs⟩
    · cases hf
  | stop hi =>
    rcases body hpath hi with ⟨a, hpc⟩ | ⟨hs, _⟩
    · exact Or.inl ⟨a, fun _ => hpc⟩
    · exact Or.inr hs
  | fail hi =>
    rcases body hpath hi with ⟨a, hpc⟩ | ⟨_, hf⟩
    · exact Or.inl ⟨a.trans (silent_setPc g w _ .failed rfl), fun _ hw => (silent_setPc g w _ .failed rfl).nonTest (hpc hw)⟩
    · cases hf

theorem eff_pos_of_ran {g : Graph} (hwf : GraphWF g) {w fuel : Nat} (hf : 0 < fuel) {s : State} {evs : List Event}
    {r : State × List Event} (hw : w < s.workers.length) (hpath : ∀ x ∈ (s.wd w).path, x < g.nodes.length)
    (h : Ran g w fuel s evs r) :
    (Silent g w s r.1 ∧ (r.1.wd w).pc.isTest = false) ∨ ∃ s1, Silent g w s s1 ∧ StartFrom g w s1 r.1 :=
  (eff_of_ran hwf hpath h).imp_left (fun h => ⟨h.1, h.2 hf hw⟩)

theorem runLoop_eff_pos (g : Graph) (hwf : GraphWF g) (w : Nat) (fuel : Nat) (hf : 0 < fuel) (s : State) (evs : List Event)
    (hw : w < s.workers.length)
    (hpath : ∀ x ∈ (s.wd w).path, x < g.nodes.length) :
    (Silent g w s (runLoop g w fuel s evs).1 ∧ ((runLoop g w fuel s evs).1.wd w).pc.isTest = false) ∨
      ∃ s1, Silent g w s s1 ∧ StartFrom g w s1 (runLoop g w fuel s evs).1 :=
  eff_pos_of_ran hwf hf hw hpath (runLoop_ran g w fuel s evs)

/-- the placeholder of execution `tag` is replaced by the result (test proper) -/
def settleNd (s : State) (n : Nat) (res : Result) (tag : Nat) : State :=
  s.setNd n (fun d => { d with results := (d.results ++ [res]).filter (fun r => !(r.status == "UNKNOWN" && r.tag == tag)) })

/-- … (creation pre-step: on the worker's copy) -/
def settlePre (s : State) (w : Nat) (res : Result) (tag : Nat) : State :=
  s.setWd w (fun d => { d with preResults := (d.preResults ++ [res]).filter (fun r => !(r.status == "UNKNOWN" && r.tag == tag)) })

/-- a failed creation pre-step is accounted to the object root -/
def appendPre (s : State) (n w : Nat) : State :=
  s.setNd n (fun d => { d with results := d.results ++ (s.wd w).preResults.drop d.results.length })

/-- same node records, worker records and tag counter -/
def SameBook (s s' : State) : Prop := s'.nodes = s.nodes ∧ s'.workers = s.workers ∧ s'.nextTag = s.nextTag

def keys (s : State) : List (String × String) := s.jobResults.map (fun r => (r.1, r.2.1))

/-- the continuation after the awaited test: second step of a creation, or back into the loop -/
def ContEff (g : Graph) (w n : Nat) (ph : Phase) (dir : Dir) (sc : State) (ok : Bool) (s' : State) : Prop :=
  (ph = .pre ∧ ok = true ∧ s' = (startTest g sc n w .main dir).1) ∨
  (¬(ph = .pre ∧ ok = true) ∧
    ((Silent g w (if ph = .pre then appendPre sc n w else sc) s' ∧ (s'.wd w).pc.isTest = false) ∨
      ∃ s1, Silent g w (if ph = .pre then appendPre sc n w else sc) s1 ∧ StartFrom g w s1 s'))

/-- Back in the loop: the node of the ended test is left and the rest of the loop body runs (`ha`) on the graph as parsed
so far; the step ends there if that raised, and else the loop goes on. -/
theorem contEff_of_after {g : Graph} (hwf : GraphWF g) {w n : Nat} {ph : Phase} {dir : Dir} {fuel : Nat} (hf : 0 < fuel)
    {sc : State} {ok : Bool} (hw : w < sc.workers.length) (hpath : ∀ x ∈ (sc.wd w).path, x < g.nodes.length)
    (hne : ¬(ph = .pre ∧ ok = true)) {prev : Nat} {s1 : State} {e : List Event} {f : Flow}
    (ha : After (vis g (finishTraverse (accounted sc w n ph) n w)) w n prev dir (finishTraverse (accounted sc w n ph) n w)
      (s1, e, f)) :
    ContEff g w n ph dir sc ok (s1.setWd w (fun d => { d with pc := .failed })) ∧
      ∀ {evs r}, Ran g w fuel s1 evs r → ContEff g w n ph dir sc ok r.1 := by
  have h01 : Silent g w (if ph = .pre then appendPre sc n w else sc) s1 := by
    rw [show (if ph = .pre then appendPre sc n w else sc) = accounted sc w n ph by cases ph <;> rfl]
    exact (silent_finishTraverse g w _ n w).trans ((silent_of_after (hwf.vis _) ha).transport (vis_len g _))
  have hsw : (if ph = .pre then appendPre sc n w else sc).workers = sc.workers := by split <;> rfl
  have hw1 : w < s1.workers.length := by rw [h01.workersLen, hsw]; exact hw
  refine ⟨Or.inr ⟨hne, Or.inl ⟨h01.trans (silent_setPc g w s1 .failed rfl), by rw [wd_setWd_eq s1 w _ hw1]; rfl⟩⟩,
    fun hr => Or.inr ⟨hne, ?_⟩⟩
  rcases eff_pos_of_ran hwf hf hw1 (h01.path (by unfold State.wd; rw [hsw]; exact hpath)) hr with ⟨h, hpc⟩ | ⟨s2, h, hs⟩
  · exact Or.inl ⟨h01.trans h, hpc⟩
  · exact Or.inr ⟨s2, h01.trans h, hs⟩

theorem continueAfter_eff (g : Graph) (hwf : GraphWF g) (w n : Nat) (ph : Phase) (dir : Dir) (fuel : Nat) (hf : 0 < fuel)
    (sc : State) (ok : Bool) (evs : List Event) (hw : w < sc.workers.length)
    (hpath : ∀ x ∈ (sc.wd w).path, x < g.nodes.length) :
    ContEff g w n ph dir sc ok (resumeTest.continueAfter g w n ph dir fuel sc ok evs).1 := by
  fun_cases resumeTest.continueAfter g w n ph dir fuel sc ok evs with
  | case1 h s1 e2 f hst =>
    rw [Bool.and_eq_true, phase_beq_pre] at h
    exact Or.inl ⟨h.1, h.2, (congrArg (·.1) hst).symm⟩
  | case2 _ prev h _ sF s1 e2 what hat =>
    rw [Bool.and_eq_true, phase_beq_pre] at h
    exact (contEff_of_after hwf hf hw hpath h (hat ▸ afterTraverse_after ..)).1
  | case3 _ prev h _ sF s1 e2 f _ hat =>
    rw [Bool.and_eq_true, phase_beq_pre] at h
    exact (contEff_of_after hwf hf hw hpath h (hat ▸ afterTraverse_after ..)).2 (runLoop_ran ..)

/-- what the test stub did at the end of the task: nothing, or one record appended to the job results -/
def RepEff (s : State) (name uid : String) (wait : Nat) (out : Outcome) (sa : State) : Prop :=
  (sa = s ∧ (wait ≠ 0 ∨ out.status = none)) ∨ (wait = 0 ∧ ∃ st, out.status = some st ∧ SameBook s sa ∧ sa.jobResults = s.jobResults ++ [(name, uid, st, out.dur)])

def TestEff (g : Graph) (s : State) (w n : Nat) (ph : Phase) (dir : Dir) (uid : String) (tag wait : Nat) (out : Outcome)
    (s' : State) : Prop :=
  ∃ sa, RepEff s (if ph = .pre then (s.wd w).preName else (g.node n).name) uid wait out sa ∧
    ((∃ e, sa.jobResults.find? (fun r => r.1 == (if ph = .pre then (s.wd w).preName else (g.node n).name) && r.2.1 == uid) = some e ∧
        ∃ sb res ok, SameBook sa sb ∧ keys sb = keys sa ∧
          (res.tag = 0 ∧ res.uid = uid ∧ res.dur = e.2.2.2 ∧ (res.status = e.2.2.1 ∨ (e.2.2.1 = "PASS" ∧ res.status = "WARN"))) ∧
          ContEff g w n ph dir (if ph = .pre then settlePre sb w res tag else settleNd sb n res tag) ok s') ∨
     (sa.jobResults.find? (fun r => r.1 == (if ph = .pre then (s.wd w).preName else (g.node n).name) && r.2.1 == uid) = none ∧
        (s' = sa.setWd w (fun d => { d with pc := .test n ph dir uid tag (wait + 1) }) ∨ ContEff g w n ph dir sa false s')))

theorem SameBook.wd {s s' : State} (h : SameBook s s') (v : Nat) : s'.wd v = s.wd v := by
  unfold State.wd; rw [h.2.1]

theorem SameBook.nd {s s' : State} (h : SameBook s s') (m : Nat) : s'.nd m = s.nd m := by
  unfold State.nd; rw [h.1]

theorem RepEff.sameBook {s sa : State} {name uid : String} {wait : Nat} {out : Outcome} (h : RepEff s name uid wait out sa) :
    SameBook s sa := by
  rcases h with ⟨h, _⟩ | ⟨_, _, _, h, _⟩
  · rw [h]; exact ⟨rfl, rfl, rfl⟩
  · exact h

theorem keys_map_same (l : List (String × String × String × Nat)) (p : String × String × String × Nat → Bool) (st : String) :
    (l.map (fun r => if p r = true then (r.1, r.2.1, st, r.2.2.2) else r)).map (fun r => (r.1, r.2.1)) =
      l.map (fun r => (r.1, r.2.1)) := by
  induction l with
  | nil => rfl
  | cons a r ih =>
    simp only [List.map_cons, ih]
    by_cases h : p a = true <;> simp [h]

theorem relabel_sameBook (sa : State) (c : Bool) (p : String × String × String × Nat → Bool) (st : String) :
    SameBook sa (if c = true then
      { sa with jobResults := sa.jobResults.map (fun r => if p r = true then (r.1, r.2.1, st, r.2.2.2) else r) } else sa) ∧
    keys (if c = true then
      { sa with jobResults := sa.jobResults.map (fun r => if p r = true then (r.1, r.2.1, st, r.2.2.2) else r) } else sa) = keys sa := by
  cases c
  · exact ⟨⟨rfl, rfl, rfl⟩, rfl⟩
  · exact ⟨⟨rfl, rfl, rfl⟩, keys_map_same _ _ _⟩

theorem settled_workers_length (sb : State) (w n : Nat) (res : Result) (tag : Nat) (ph : Phase) :
    (if ph = .pre then settlePre sb w res tag else settleNd sb n res tag).workers.length = sb.workers.length := by
  split
  · exact workers_length_setWd sb w _
  · rfl

theorem settled_wd_path (sb : State) (w n : Nat) (res : Result) (tag : Nat) (ph : Phase) :
    ((if ph = .pre then settlePre sb w res tag else settleNd sb n res tag).wd w).path = (sb.wd w).path := by
  split
  · unfold settlePre; rw [wd_setWd]; split <;> rfl
  · rfl

theorem testName_eq (g : Graph) (s : State) (w n : Nat) (ph : Phase) :
    testName g s w n ph = if ph = .pre then (s.wd w).preName else (g.node n).name := by
  cases ph <;> rfl

theorem reportOutcome_repEff (g : Graph) (s : State) (w n : Nat) (ph : Phase) (uid : String) (wait : Nat) (out : Outcome) :
    RepEff s (testName g s w n ph) uid wait out (reportOutcome g s w n ph uid wait out).1 := by
  unfold reportOutcome
  dsimp only
  split
  · rename_i hw0
    split
    · rename_i st hst
      exact Or.inr ⟨by simpa using hw0, st, hst, by split <;> exact ⟨⟨rfl, rfl, rfl⟩, rfl⟩⟩
    · rename_i hst
      exact Or.inl ⟨rfl, Or.inr hst⟩
  · rename_i hw0
    exact Or.inl ⟨rfl, Or.inl (by simpa using hw0)⟩

/-- the found result, relabelled WARN if it was a slow PASS (also in the job record), settles the placeholder -/
theorem recordResult_eff (sa : State) (w n : Nat) (ph : Phase) (name uid : String) (tag : Nat) (st0 : String) (dur : Nat) :
    ∃ sb res, SameBook sa sb ∧ keys sb = keys sa ∧
      (res.tag = 0 ∧ res.uid = uid ∧ res.dur = dur ∧ (res.status = st0 ∨ (st0 = "PASS" ∧ res.status = "WARN"))) ∧
      (recordResult sa w n ph name uid tag st0 dur).1 = if ph = .pre then settlePre sb w res tag else settleNd sb n res tag := by
  unfold recordResult
  extract_lets prior maxAllowed maxAllowed2 st sb res sc
  have hsb : SameBook sa sb ∧ keys sb = keys sa := relabel_sameBook sa (st != st0) _ st
  refine ⟨sb, res, hsb.1, hsb.2, ⟨rfl, rfl, rfl, ?_⟩, by unfold sc; cases ph <;> rfl⟩
  show st = st0 ∨ (st0 = "PASS" ∧ st = "WARN")
  unfold st
  split
  · rename_i hc
    rw [Bool.and_eq_true, beq_iff_eq] at hc
    exact Or.inr ⟨hc.1, rfl⟩
  · exact Or.inl rfl

/-- The stub's report and the settlement of the placeholder (`hs`), then a continuation `hc`, which may use that the
worker's record is still there and its path inside the graph. -/
theorem testEff_of_ended {g : Graph} {s : State} {w n : Nat} {ph : Phase} {dir : Dir} {uid : String} {tag wait : Nat}
    {out : Outcome} {sc : State} {ok : Bool} {s' : State} (hw : w < s.workers.length)
    (hpath : ∀ x ∈ (s.wd w).path, x < g.nodes.length)
    (hc : w < sc.workers.length → (∀ x ∈ (sc.wd w).path, x < g.nodes.length) → ContEff g w n ph dir sc ok s')
    (hs : Ended g w n ph uid tag wait out s sc ok) : TestEff g s w n ph dir uid tag wait out s' := by
  have hrep := reportOutcome_repEff g s w n ph uid wait out
  have hsa := hrep.sameBook
  rw [testName_eq] at hrep
  refine ⟨_, hrep, ?_⟩
  cases hs with
  | found nm u st0 dur h =>
    obtain ⟨sb, res, hsb, hk, hres, e⟩ :=
      recordResult_eff (reportOutcome g s w n ph uid wait out).1 w n ph (testName g s w n ph) uid tag st0 dur
    rw [testName_eq] at h
    rw [e] at hc
    exact Or.inl ⟨_, h, sb, res, _, hsb, hk, hres, hc (by rw [settled_workers_length, hsb.2.1, hsa.2.1]; exact hw)
      (by rw [settled_wd_path, hsb.wd, hsa.wd]; exact hpath)⟩
  | lost h =>
    rw [testName_eq] at h
    exact Or.inr ⟨h, Or.inr (hc (by rw [hsa.2.1]; exact hw) (by rw [hsa.wd]; exact hpath))⟩

theorem eff_of_resumed {g : Graph} (hwf : GraphWF g) {s : State} {w : Nat} {out : Outcome} {fuel : Nat} (hf : 0 < fuel)
    (hw : w < s.workers.length) (hpath : ∀ x ∈ (s.wd w).path, x < g.nodes.length) {r : State × List Event}
    (h : Resumed g w out fuel s r) :
    ((s.wd w).pc.isTest = false ∧
      ((Silent g w s r.1 ∧ (r.1.wd w).pc.isTest = false) ∨ ∃ s1, Silent g w s s1 ∧ StartFrom g w s1 r.1)) ∨
    (∃ n ph dir uid tag wait, (s.wd w).pc = .test n ph dir uid tag wait ∧ TestEff g s w n ph dir uid tag wait out r.1) := by
  cases h with
  | over h =>
    have hnt : (s.wd w).pc.isTest = false := by rcases h with h | h <;> rw [h] <;> rfl
    exact Or.inl ⟨hnt, Or.inl ⟨.refl g w s, hnt⟩⟩
  | loop r h hr =>
    have hnt : (s.wd w).pc.isTest = false := by rcases h with h | h <;> rw [h] <;> rfl
    exact Or.inl ⟨hnt, eff_pos_of_ran hwf hf hw hpath hr⟩
  | wait n ph dir uid tag wait hpc h =>
    have hrep := reportOutcome_repEff g s w n ph uid wait out
    rw [testName_eq] at hrep h
    exact Or.inr ⟨n, ph, dir, uid, tag, wait, hpc, _, hrep, Or.inr ⟨h, Or.inl rfl⟩⟩
  | created n dir uid tag wait sc hpc hs =>
    exact Or.inr ⟨n, .pre, dir, uid, tag, wait, hpc, testEff_of_ended hw hpath (fun _ _ => Or.inl ⟨rfl, rfl, rfl⟩) hs⟩
  | stuck n ph dir uid tag wait sc ok s1 e what hpc hs hne ha =>
    exact Or.inr ⟨n, ph, dir, uid, tag, wait, hpc,
      testEff_of_ended hw hpath (fun hw' hp' => (contEff_of_after hwf hf hw' hp' hne ha).1) hs⟩
  | back n ph dir uid tag wait sc ok s1 e f r hpc hs hne ha _ hr =>
    exact Or.inr ⟨n, ph, dir, uid, tag, wait, hpc,
      testEff_of_ended hw hpath (fun hw' hp' => (contEff_of_after hwf hf hw' hp' hne ha).2 hr) hs⟩

theorem resume_eff (g : Graph) (hwf : GraphWF g) (s : State) (w : Nat) (out : Outcome) (fuel : Nat) (hf : 0 < fuel)
    (hw : w < s.workers.length) (hpath : ∀ x ∈ (s.wd w).path, x < g.nodes.length) :
    ((s.wd w).pc.isTest = false ∧
      (((Silent g w s (resume g s w out fuel).1 ∧ ((resume g s w out fuel).1.wd w).pc.isTest = false)) ∨
        ∃ s1, Silent g w s s1 ∧ StartFrom g w s1 (resume g s w out fuel).1)) ∨
    (∃ n ph dir uid tag wait, (s.wd w).pc = .test n ph dir uid tag wait ∧
      TestEff g s w n ph dir uid tag wait out (resume g s w out fuel).1) :=
  eff_of_resumed hwf hf hw hpath (resume_resumed g s w out fuel)

/-- the UNKNOWN placeholder of execution `tag` -/
def phOf (nm : String) (tag : Nat) : Result := { name := nm, status := "UNKNOWN", uid := "", tag := tag }

/-- "is the placeholder of execution `t`" -/
def isPh (t : Nat) (r : Result) : Bool := r.status == "UNKNOWN" && r.tag == t

def All : Nat → Prop := fun _ => True
def Ex (w : Nat) : Nat → Prop := fun v => v ≠ w

/-- Bookkeeping invariant; the clauses about a worker's pc are required for the workers in `L` only
(inside a step the stepping worker is exempt). -/
structure Basic (g : Graph) (s : State) (L : Nat → Prop) : Prop where
  nodesLen : s.nodes.length = g.nodes.length
  workersLen : s.workers.length = g.workers.length
  paths : ∀ v x, x ∈ (s.wd v).path → x < g.nodes.length
  tagPos : 1 ≤ s.nextTag
  pcOK : ∀ v n ph dir uid tag wait, L v → (s.wd v).pc = .test n ph dir uid tag wait →
    n < g.nodes.length ∧ 1 ≤ tag ∧ tag < s.nextTag ∧ ((g.node n).objectRoot = false ↔ ph = .plain) ∧
    (ph = .pre → (s.wd v).preName = preNameOf g n v)
  tagsDistinct : ∀ v v' n ph dir uid tag wait n' ph' dir' uid' tag' wait', L v → L v' → v ≠ v' →
    (s.wd v).pc = .test n ph dir uid tag wait → (s.wd v').pc = .test n' ph' dir' uid' tag' wait' → tag ≠ tag'
  placeholder : ∀ v n ph dir uid tag wait, L v → (s.wd v).pc = .test n ph dir uid tag wait →
    (ph ≠ .pre → phOf (g.node n).name tag ∈ (s.nd n).results) ∧
    (ph = .pre → phOf (s.wd v).preName tag ∈ (s.wd v).preResults)
  tagsBelow : ∀ m, (g.node m).objectRoot = false → ∀ r ∈ (s.nd m).results, r.tag < s.nextTag
  tagsOnce : ∀ m t, (g.node m).objectRoot = false → 1 ≤ t → ((s.nd m).results.filter (isPh t)).length ≤ 1

theorem Basic.weaken {g : Graph} {s : State} {L L' : Nat → Prop} (b : Basic g s L)
    (h : ∀ v, L' v → (s.wd v).pc.isTest = true → L v) : Basic g s L' := by
  have hl : ∀ {v n ph dir uid tag wait}, L' v → (s.wd v).pc = .test n ph dir uid tag wait → L v :=
    fun hv hp => h _ hv (by rw [hp]; rfl)
  exact ⟨b.nodesLen, b.workersLen, b.paths, b.tagPos,
    fun v n ph dir uid tag wait hv hp => b.pcOK v n ph dir uid tag wait (hl hv hp) hp,
    fun v v' n ph dir uid tag wait n' ph' dir' uid' tag' wait' hv hv' hvv hp hp' =>
      b.tagsDistinct v v' n ph dir uid tag wait n' ph' dir' uid' tag' wait' (hl hv hp) (hl hv' hp') hvv hp hp',
    fun v n ph dir uid tag wait hv hp => b.placeholder v n ph dir uid tag wait (hl hv hp) hp,
    b.tagsBelow, b.tagsOnce⟩

theorem Basic.mono {g : Graph} {s : State} {L L' : Nat → Prop} (b : Basic g s L) (h : ∀ v, L' v → L v) : Basic g s L' :=
  b.weaken (fun v hv _ => h v hv)

theorem Basic.of_eq {g : Graph} {s s' : State} {L : Nat → Prop} (b : Basic g s L)
    (hn : s'.nodes = s.nodes) (hw : s'.workers = s.workers) (ht : s'.nextTag = s.nextTag) : Basic g s' L := by
  obtain ⟨n1, r1, w1, st1, j1, t1⟩ := s
  obtain ⟨n2, r2, w2, st2, j2, t2⟩ := s'
  simp only at hn hw ht
  subst hn hw ht
  exact ⟨b.nodesLen, b.workersLen, b.paths, b.tagPos, b.pcOK, b.tagsDistinct, b.placeholder, b.tagsBelow, b.tagsOnce⟩

theorem Basic.sameBook {g : Graph} {s s' : State} {L : Nat → Prop} (b : Basic g s L) (h : SameBook s s') : Basic g s' L :=
  b.of_eq h.1 h.2.1 h.2.2

theorem Basic.transfer {g : Graph} {s s' : State} {L : Nat → Prop} (b : Basic g s L)
    (hn : s'.nodes.length = s.nodes.length) (hwl : s'.workers.length = s.workers.length)
    (hp : ∀ v x, x ∈ (s'.wd v).path → x < g.nodes.length) (ht : s.nextTag ≤ s'.nextTag)
    (hback : ∀ v, L v → ∀ n ph dir uid tag wait, (s'.wd v).pc = .test n ph dir uid tag wait →
      (s.wd v).pc = .test n ph dir uid tag wait ∧ (s'.wd v).preName = (s.wd v).preName ∧
        (s'.wd v).preResults = (s.wd v).preResults)
    (hph : ∀ v n ph dir uid tag wait, L v → (s.wd v).pc = .test n ph dir uid tag wait →
      phOf (g.node n).name tag ∈ (s.nd n).results → phOf (g.node n).name tag ∈ (s'.nd n).results)
    (hbelow : ∀ m, (g.node m).objectRoot = false → ∀ r ∈ (s'.nd m).results, r.tag < s'.nextTag)
    (honce : ∀ m t, (g.node m).objectRoot = false → 1 ≤ t → ((s'.nd m).results.filter (isPh t)).length ≤ 1) :
    Basic g s' L := by
  refine ⟨hn.trans b.nodesLen, hwl.trans b.workersLen, hp, Nat.le_trans b.tagPos ht, ?_, ?_, ?_, hbelow, honce⟩
  · intro v n ph dir uid tag wait hl h
    obtain ⟨h0, hnm, _⟩ := hback v hl n ph dir uid tag wait h
    have := b.pcOK v n ph dir uid tag wait hl h0
    rw [hnm]
    exact ⟨this.1, this.2.1, Nat.lt_of_lt_of_le this.2.2.1 ht, this.2.2.2⟩
  · intro v v' n ph dir uid tag wait n' ph' dir' uid' tag' wait' hl hl' hne h h'
    exact b.tagsDistinct v v' n ph dir uid tag wait n' ph' dir' uid' tag' wait' hl hl' hne
      (hback v hl _ _ _ _ _ _ h).1 (hback v' hl' _ _ _ _ _ _ h').1
  · intro v n ph dir uid tag wait hl h
    obtain ⟨h0, hnm, hr⟩ := hback v hl n ph dir uid tag wait h
    have := b.placeholder v n ph dir uid tag wait hl h0
    rw [hnm, hr]
    exact ⟨fun hpre => hph v n ph dir uid tag wait hl h0 (this.1 hpre), this.2⟩

theorem back_of_eq {s s' : State} {v : Nat} (e : s'.wd v = s.wd v) {pc : Pc} (h : (s'.wd v).pc = pc) :
    (s.wd v).pc = pc ∧ (s'.wd v).preName = (s.wd v).preName ∧ (s'.wd v).preResults = (s.wd v).preResults := by
  rw [e] at h ⊢
  exact ⟨h, rfl, rfl⟩

/-- a test pc after a silent effect is the old one, with the same creation copy -/
theorem Silent.back {g : Graph} {w : Nat} {s s' : State} (a : Silent g w s s') (v : Nat)
    {n : Nat} {ph : Phase} {dir : Dir} {uid : String} {tag wait : Nat}
    (h : (s'.wd v).pc = .test n ph dir uid tag wait) :
    (s.wd v).pc = .test n ph dir uid tag wait ∧ (s'.wd v).preName = (s.wd v).preName ∧
      (s'.wd v).preResults = (s.wd v).preResults := by
  by_cases hv : v = w
  · subst hv
    rcases a.pc with h' | h'
    · exact ⟨by rw [← h', h], a.preN, a.preR⟩
    · rw [h] at h'; cases h'
  · exact back_of_eq (a.others v hv) h

theorem Basic.silent {g : Graph} {w : Nat} {s s' : State} {L : Nat → Prop} (b : Basic g s L) (a : Silent g w s s') :
    Basic g s' L := by
  refine b.transfer a.nodesLen a.workersLen (fun v x hx => ?_) (Nat.le_of_eq a.tag.symm)
    (fun v _ _ _ _ _ _ _ h => a.back v h) (fun v n _ _ _ _ _ _ _ h => by rw [a.results]; exact h)
    (fun m hm r hr => by rw [a.tag]; rw [a.results] at hr; exact b.tagsBelow m hm r hr)
    (fun m t hm ht => by rw [a.results]; exact b.tagsOnce m t hm ht)
  by_cases hv : v = w
  · subst hv; exact a.path (b.paths v) x hx
  · rw [a.others v hv] at hx; exact b.paths v x hx

theorem filter_isPh_nil (l : List Result) (T : Nat) (h : ∀ r ∈ l, r.tag < T) : l.filter (isPh T) = [] := by
  rw [List.filter_eq_nil_iff]
  intro r hr hp
  unfold isPh at hp
  simp only [Bool.and_eq_true, beq_iff_eq] at hp
  have := h r hr
  omega

theorem Basic.grow {g : Graph} {s s' : State} {L : Nat → Prop} (b : Basic g s L)
    (hwl : s'.workers.length = s.workers.length) (hwd : ∀ v, L v → s'.wd v = s.wd v)
    (hp : ∀ v x, x ∈ (s'.wd v).path → x < g.nodes.length)
    (hl : s'.nodes.length = s.nodes.length) (ht : s'.nextTag = s.nextTag + 1)
    (x : Result) (hx : x.tag = s.nextTag)
    (hres : ∀ m, (s'.nd m).results = (s.nd m).results ∨ (s'.nd m).results = (s.nd m).results ++ [x]) : Basic g s' L := by
  refine b.transfer hl hwl hp (by rw [ht]; exact Nat.le_succ _) (fun v hl _ _ _ _ _ _ h => back_of_eq (hwd v hl) h)
    (fun v n _ _ _ _ _ _ _ h => ?_) (fun m hm r hr => ?_) (fun m t hm ht1 => ?_)
  · rcases hres n with e | e <;> rw [e]
    · exact h
    · exact List.mem_append_left _ h
  · rw [ht]
    rcases hres m with h | h <;> rw [h] at hr
    · exact Nat.lt_succ_of_lt (b.tagsBelow m hm r hr)
    · rcases List.mem_append.mp hr with hr | hr
      · exact Nat.lt_succ_of_lt (b.tagsBelow m hm r hr)
      · rw [List.mem_singleton.mp hr, hx]; exact Nat.lt_succ_self _
  · rcases hres m with h | h <;> rw [h]
    · exact b.tagsOnce m t hm ht1
    · rw [List.filter_append, List.length_append]
      by_cases hxt : isPh t x = true
      · -- the fresh tag occurs nowhere in the old list
        have : t = s.nextTag := by
          unfold isPh at hxt
          simp only [Bool.and_eq_true, beq_iff_eq] at hxt
          omega
        rw [this, filter_isPh_nil _ _ (b.tagsBelow m hm), List.length_nil, Nat.zero_add]
        exact List.length_filter_le _ _
      · rw [List.filter_cons_of_neg hxt, List.filter_nil, List.length_nil, Nat.add_zero]
        exact b.tagsOnce m t hm ht1

/-- any update of the stepping worker's record that keeps its path inside the graph -/
theorem Basic.setWd_ex {g : Graph} {s : State} {w : Nat} (b : Basic g s (Ex w)) (f : WorkerD → WorkerD)
    (hp : ∀ x ∈ (f (s.wd w)).path, x < g.nodes.length) : Basic g (s.setWd w f) (Ex w) := by
  refine b.transfer rfl (workers_length_setWd s w f) (fun v x hx => ?_) (Nat.le_refl _)
    (fun v hv _ _ _ _ _ _ h => back_of_eq (wd_setWd_ne s w v f hv) h) (fun _ _ _ _ _ _ _ _ _ h => h) b.tagsBelow b.tagsOnce
  rw [wd_setWd] at hx
  split at hx
  · rename_i h; rw [h.1] at hx; exact hp x hx
  · exact b.paths v x hx

theorem Basic.close_nontest {g : Graph} {s : State} {w : Nat} (b : Basic g s (Ex w)) (h : (s.wd w).pc.isTest = false) :
    Basic g s All :=
  b.weaken (fun v _ ht e => by rw [e, h] at ht; cases ht)

/-- the stepping worker ends in a test pc whose clauses are supplied -/
theorem Basic.close_test {g : Graph} {s : State} {w : Nat} (b : Basic g s (Ex w))
    {n : Nat} {ph : Phase} {dir : Dir} {uid : String} {tag wait : Nat}
    (hpc : (s.wd w).pc = .test n ph dir uid tag wait)
    (h1 : n < g.nodes.length ∧ 1 ≤ tag ∧ tag < s.nextTag ∧ ((g.node n).objectRoot = false ↔ ph = .plain) ∧
      (ph = .pre → (s.wd w).preName = preNameOf g n w))
    (h2 : ∀ v n' ph' dir' uid' tag' wait', v ≠ w → (s.wd v).pc = .test n' ph' dir' uid' tag' wait' → tag' ≠ tag)
    (h3 : (ph ≠ .pre → phOf (g.node n).name tag ∈ (s.nd n).results) ∧
      (ph = .pre → phOf (s.wd w).preName tag ∈ (s.wd w).preResults)) : Basic g s All := by
  refine ⟨b.nodesLen, b.workersLen, b.paths, b.tagPos, ?_, ?_, ?_, b.tagsBelow, b.tagsOnce⟩
  · intro v n' ph' dir' uid' tag' wait' _ hp
    by_cases hv : v = w
    · subst hv
      rw [hpc] at hp
      cases hp
      exact h1
    · exact b.pcOK v n' ph' dir' uid' tag' wait' hv hp
  · intro v v' n1 ph1 dir1 uid1 tag1 wait1 n2 ph2 dir2 uid2 tag2 wait2 _ _ hvv hp hp'
    by_cases hv : v = w
    · subst hv
      rw [hpc] at hp; cases hp
      exact fun e => h2 v' n2 ph2 dir2 uid2 tag2 wait2 (Ne.symm hvv) hp' e.symm
    · by_cases hv' : v' = w
      · subst hv'
        rw [hpc] at hp'; cases hp'
        exact h2 v n1 ph1 dir1 uid1 tag1 wait1 hv hp
      · exact b.tagsDistinct v v' n1 ph1 dir1 uid1 tag1 wait1 n2 ph2 dir2 uid2 tag2 wait2 hv hv' hvv hp hp'
  · intro v n' ph' dir' uid' tag' wait' _ hp
    by_cases hv : v = w
    · subst hv
      rw [hpc] at hp; cases hp
      exact h3
    · exact b.placeholder v n' ph' dir' uid' tag' wait' hv hp

theorem filter_filter_length_le (l : List Result) (p q : Result → Bool) :
    ((l.filter p).filter q).length ≤ (l.filter q).length :=
  (List.filter_sublist.filter q).length_le

theorem isPh_phOf (nm : String) (t t' : Nat) : isPh t (phOf nm t') = (t' == t) := by
  unfold isPh phOf
  simp

theorem isPh_res_false (res : Result) (tag : Nat) (hres : res.tag = 0) (ht : 1 ≤ tag) : isPh tag res = false := by
  unfold isPh
  rw [hres, Bool.and_eq_false_iff]
  exact Or.inr (beq_false_of_ne (by omega))

theorem settleNd_results (s : State) (n : Nat) (res : Result) (tag : Nat) (j : Nat) :
    ((settleNd s n res tag).nd j).results = (s.nd j).results ∨
    (j = n ∧ ((settleNd s n res tag).nd j).results = ((s.nd j).results ++ [res]).filter (fun r => !isPh tag r)) := by
  rcases nd_setNd_cases s n (fun d => { d with results := (d.results ++ [res]).filter (fun r => !isPh tag r) }) j with h | ⟨h1, _, h⟩
  · exact Or.inl (congrArg NodeD.results h)
  · exact Or.inr ⟨h1, congrArg NodeD.results h⟩

/-- the result of the awaited test replaces its placeholder (test proper) -/
theorem Basic.settle {g : Graph} {s : State} {w : Nat} (b : Basic g s All)
    {n : Nat} {ph : Phase} {dir : Dir} {uid : String} {tag wait : Nat}
    (hpc : (s.wd w).pc = .test n ph dir uid tag wait) (res : Result) (hres : res.tag = 0) :
    Basic g (settleNd s n res tag) (Ex w) := by
  refine (b.mono (L' := Ex w) (fun _ _ => trivial)).transfer (nodes_length_setNd s n _) rfl b.paths (Nat.le_refl _)
    (fun v _ _ _ _ _ _ _ h => back_of_eq rfl h) (fun v n' ph' dir' uid' tag' wait' hv hp hmem => ?_)
    (fun m hm r hr => ?_) (fun m t hm ht => ?_)
  · -- another worker's placeholder carries another tag and survives the filter
    have hne : tag' ≠ tag := b.tagsDistinct v w n' ph' dir' uid' tag' wait' n ph dir uid tag wait trivial trivial hv hp hpc
    rcases settleNd_results s n res tag n' with h | ⟨_, h⟩ <;> rw [h]
    · exact hmem
    · exact List.mem_filter.mpr ⟨List.mem_append_left _ hmem, by rw [isPh_phOf]; simp [hne]⟩
  · rcases settleNd_results s n res tag m with h | ⟨_, h⟩ <;> rw [h] at hr
    · exact b.tagsBelow m hm r hr
    · rcases List.mem_append.mp (List.mem_filter.mp hr).1 with hr | hr
      · exact b.tagsBelow m hm r hr
      · rw [List.mem_singleton.mp hr, hres]; exact b.tagPos
  · rcases settleNd_results s n res tag m with h | ⟨_, h⟩ <;> rw [h]
    · exact b.tagsOnce m t hm ht
    · refine Nat.le_trans (filter_filter_length_le _ _ _) ?_
      rw [List.filter_append, List.filter_cons_of_neg (by rw [isPh_res_false res t hres ht]; exact Bool.false_ne_true),
        List.filter_nil, List.append_nil]
      exact b.tagsOnce m t hm ht

theorem Basic.settlePre {g : Graph} {s : State} {w : Nat} (b : Basic g s All) (res : Result) (tag : Nat) :
    Basic g (settlePre s w res tag) (Ex w) :=
  (b.mono (fun _ _ => trivial)).setWd_ex _ (fun x hx => b.paths w x hx)

theorem Basic.settled {g : Graph} {s : State} {w : Nat} (b : Basic g s All)
    {n : Nat} {ph : Phase} {dir : Dir} {uid : String} {tag wait : Nat}
    (hpc : (s.wd w).pc = .test n ph dir uid tag wait) (res : Result) (hres : res.tag = 0) :
    Basic g (if ph = .pre then I2N.Trav.settlePre s w res tag else settleNd s n res tag) (Ex w) := by
  split
  · exact b.settlePre res tag
  · exact b.settle hpc res hres

/-- results are appended to an object root -/
theorem Basic.extendRoot {g : Graph} {s : State} {L : Nat → Prop} (b : Basic g s L) (n : Nat) (F : NodeD → List Result)
    (hroot : (g.node n).objectRoot = true) :
    Basic g (s.setNd n (fun d => { d with results := d.results ++ F d })) L := by
  have hnr : ∀ m, (g.node m).objectRoot = false → m ≠ n := by
    intro m hm hmn; subst hmn; rw [hroot] at hm; cases hm
  refine b.transfer (nodes_length_setNd s n _) rfl b.paths (Nat.le_refl _)
    (fun v _ _ _ _ _ _ _ h => back_of_eq rfl h) (fun v n' _ _ _ _ _ _ _ hmem => ?_)
    (fun m hm r hr => ?_) (fun m t hm ht => ?_)
  · rcases nd_setNd_cases s n (fun d => { d with results := d.results ++ F d }) n' with h | ⟨_, _, h⟩ <;> rw [h]
    · exact hmem
    · exact List.mem_append_left _ hmem
  · rw [nd_setNd_ne s n m _ (hnr m hm)] at hr
    exact b.tagsBelow m hm r hr
  · rw [nd_setNd_ne s n m _ (hnr m hm)]
    exact b.tagsOnce m t hm ht

theorem objectRoot_of_pre {g : Graph} {n : Nat} {ph : Phase} (hroot : (g.node n).objectRoot = false ↔ ph = .plain)
    (hp : ph = .pre) : (g.node n).objectRoot = true := by
  cases hc : (g.node n).objectRoot
  · exact absurd ((hroot.mp hc).symm.trans hp) (by decide)
  · rfl

theorem Basic.appendPre_if {g : Graph} {sc : State} {w n : Nat} {ph : Phase} (b : Basic g sc (Ex w))
    (hroot : (g.node n).objectRoot = false ↔ ph = .plain) :
    Basic g (if ph = .pre then appendPre sc n w else sc) (Ex w) := by
  split
  · rename_i hp; exact b.extendRoot n _ (objectRoot_of_pre hroot hp)
  · exact b

/-- the awaited result has not arrived: the worker sleeps once more -/
theorem Basic.wait {g : Graph} {s : State} {w : Nat} (b : Basic g s All)
    {n : Nat} {ph : Phase} {dir : Dir} {uid : String} {tag wait : Nat}
    (hpc : (s.wd w).pc = .test n ph dir uid tag wait) (hw : w < s.workers.length) (wait' : Nat) :
    Basic g (s.setWd w (fun d => { d with pc := .test n ph dir uid tag wait' })) All := by
  have b1 : Basic g (s.setWd w (fun d => { d with pc := .test n ph dir uid tag wait' })) (Ex w) :=
    (b.mono (fun _ _ => trivial)).setWd_ex _ (fun x hx => b.paths w x hx)
  have hwd : (s.setWd w (fun d => { d with pc := .test n ph dir uid tag wait' })).wd w =
      { s.wd w with pc := .test n ph dir uid tag wait' } := wd_setWd_eq s w _ hw
  refine b1.close_test (by rw [hwd]) ?_ ?_ ?_
  · rw [hwd]; exact b.pcOK w n ph dir uid tag wait trivial hpc
  · intro v n' ph' dir' uid' tag' wait'' hv hp
    rw [wd_setWd_ne s w v _ hv] at hp
    exact b.tagsDistinct v w n' ph' dir' uid' tag' wait'' n ph dir uid tag wait trivial trivial hv hp hpc
  · rw [hwd]; exact b.placeholder w n ph dir uid tag wait trivial hpc

theorem startTest_nonpre_fst (g : Graph) (s : State) (n w : Nat) (ph : Phase) (dir : Dir) (hph : ph ≠ .pre) :
    (startTest g s n w ph dir).1 =
      (({ s with nextTag := s.nextTag + 1 }).setNd n (fun d => { d with results := d.results ++ [phOf (g.node n).name s.nextTag] })).setWd w
        (fun d => { d with pc := .test n ph dir (uidOf (g.node n).pfx (sharedResults g s n).length) s.nextTag 0 }) := by
  cases ph
  · rfl
  · exact absurd rfl hph
  · rfl

theorem startTest_pre_fst (g : Graph) (s : State) (n w : Nat) (dir : Dir) :
    (startTest g s n w .pre dir).1 =
      ({ s with nextTag := s.nextTag + 1 }).setWd w (fun d => { d with
        preResults := d.preResults ++ [phOf (s.wd w).preName s.nextTag],
        pc := .test n .pre dir (uidOf "0" (s.wd w).preResults.length) s.nextTag 0 }) := rfl

theorem startTest_keys (g : Graph) (s : State) (n w : Nat) (ph : Phase) (dir : Dir) :
    keys (startTest g s n w ph dir).1 = keys s := by
  cases ph <;> rfl

theorem startTest_nextTag (g : Graph) (s : State) (n w : Nat) (ph : Phase) (dir : Dir) :
    (startTest g s n w ph dir).1.nextTag = s.nextTag + 1 := by
  cases ph <;> rfl

theorem startTest_workers_length (g : Graph) (s : State) (n w : Nat) (ph : Phase) (dir : Dir) :
    (startTest g s n w ph dir).1.workers.length = s.workers.length := by
  cases ph <;> exact workers_length_setWd _ w _

theorem startTest_nodes_length (g : Graph) (s : State) (n w : Nat) (ph : Phase) (dir : Dir) :
    (startTest g s n w ph dir).1.nodes.length = s.nodes.length := by
  cases ph
  · exact nodes_length_setNd _ n _
  · rfl
  · exact nodes_length_setNd _ n _

theorem startTest_wd_ne (g : Graph) (s : State) (n w : Nat) (ph : Phase) (dir : Dir) (v : Nat) (hv : v ≠ w) :
    (startTest g s n w ph dir).1.wd v = s.wd v := by
  cases ph <;> exact wd_setWd_ne _ w v _ hv

theorem startTest_wd (g : Graph) (s : State) (n w : Nat) (ph : Phase) (dir : Dir) (hw : w < s.workers.length) :
    (startTest g s n w ph dir).1.wd w =
      if ph = .pre then
        { s.wd w with preResults := (s.wd w).preResults ++ [phOf (s.wd w).preName s.nextTag],
                      pc := .test n .pre dir (uidOf "0" (s.wd w).preResults.length) s.nextTag 0 }
      else { s.wd w with pc := .test n ph dir (uidOf (g.node n).pfx (sharedResults g s n).length) s.nextTag 0 } := by
  cases ph <;> exact wd_setWd_eq _ w _ hw

theorem startTest_pc (g : Graph) (s : State) (n w : Nat) (ph : Phase) (dir : Dir) (hw : w < s.workers.length) :
    ((startTest g s n w ph dir).1.wd w).pc =
      .test n ph dir (if ph = .pre then uidOf "0" (s.wd w).preResults.length else uidOf (g.node n).pfx (sharedResults g s n).length)
        s.nextTag 0 := by
  rw [startTest_wd g s n w ph dir hw]
  cases ph <;> rfl

theorem startTest_results (g : Graph) (s : State) (n w : Nat) (ph : Phase) (dir : Dir) (j : Nat) :
    ((startTest g s n w ph dir).1.nd j).results = (s.nd j).results ∨
    (ph ≠ .pre ∧ j = n ∧ n < s.nodes.length ∧
      ((startTest g s n w ph dir).1.nd j).results = (s.nd j).results ++ [phOf (g.node n).name s.nextTag]) := by
  by_cases hph : ph = .pre
  · subst hph; left; rfl
  · rw [startTest_nonpre_fst g s n w ph dir hph]
    rcases nd_setNd_cases ({ s with nextTag := s.nextTag + 1 }) n
      (fun d => { d with results := d.results ++ [phOf (g.node n).name s.nextTag] }) j with h | ⟨h1, h2, h⟩
    · exact Or.inl (congrArg NodeD.results h)
    · exact Or.inr ⟨hph, h1, h2, congrArg NodeD.results h⟩

theorem startTest_results_le (g : Graph) (s : State) (n w : Nat) (ph : Phase) (dir : Dir) (j : Nat) :
    (s.nd j).results.length ≤ ((startTest g s n w ph dir).1.nd j).results.length := by
  rcases startTest_results g s n w ph dir j with h | ⟨_, _, _, h⟩
  · rw [h]; exact Nat.le_refl _
  · rw [h, List.length_append]; exact Nat.le_add_right _ _

theorem startTest_results_self (g : Graph) (s : State) (n w : Nat) (ph : Phase) (dir : Dir) (hph : ph ≠ .pre)
    (hn : n < s.nodes.length) :
    ((startTest g s n w ph dir).1.nd n).results = (s.nd n).results ++ [phOf (g.node n).name s.nextTag] := by
  rw [startTest_nonpre_fst g s n w ph dir hph]
  exact congrArg NodeD.results (nd_setNd_eq ({ s with nextTag := s.nextTag + 1 }) n _ hn)

theorem startTest_nonpre_len (g : Graph) (s : State) (n w : Nat) (ph : Phase) (dir : Dir) (hph : ph ≠ .pre)
    (hn : n < s.nodes.length) :
    ((startTest g s n w ph dir).1.nd n).results.length = (s.nd n).results.length + 1 ∧
    ∀ j, j ≠ n → ((startTest g s n w ph dir).1.nd j).results.length = (s.nd j).results.length := by
  refine ⟨by rw [startTest_results_self g s n w ph dir hph hn, List.length_append]; rfl, fun j hj => ?_⟩
  rcases startTest_results g s n w ph dir j with h | ⟨_, h, _⟩
  · rw [h]
  · exact absurd h hj

theorem Basic.start {g : Graph} {s : State} {w : Nat} (b : Basic g s (Ex w)) (n : Nat) (ph : Phase) (dir : Dir)
    (hn : n < g.nodes.length) (hw : w < g.workers.length) (hroot : (g.node n).objectRoot = false ↔ ph = .plain)
    (hpre : ph = .pre → (s.wd w).preName = preNameOf g n w) : Basic g (startTest g s n w ph dir).1 All := by
  have hws : w < s.workers.length := by rw [b.workersLen]; exact hw
  have hwd := startTest_wd g s n w ph dir hws
  have hoth := startTest_wd_ne g s n w ph dir
  have b1 : Basic g (startTest g s n w ph dir).1 (Ex w) := by
    refine b.grow (startTest_workers_length g s n w ph dir) hoth (fun v x hx => ?_) (startTest_nodes_length g s n w ph dir)
      (startTest_nextTag g s n w ph dir) (phOf (g.node n).name s.nextTag) rfl (fun m => ?_)
    · by_cases hv : v = w
      · subst hv
        rw [hwd] at hx
        split at hx <;> exact b.paths v x hx
      · rw [hoth v hv] at hx; exact b.paths v x hx
    · rcases startTest_results g s n w ph dir m with h | ⟨_, _, _, h⟩
      · exact Or.inl h
      · exact Or.inr h
  refine b1.close_test (startTest_pc g s n w ph dir hws) ⟨hn, b.tagPos, ?_, hroot, fun hp => ?_⟩ ?_ ⟨fun hp => ?_, fun hp => ?_⟩
  · rw [startTest_nextTag]; exact Nat.lt_succ_self _
  · rw [hwd, if_pos hp]; exact hpre hp
  · intro v n' ph' dir' uid' tag' wait' hv hp
    rw [hoth v hv] at hp
    exact Nat.ne_of_lt (b.pcOK v n' ph' dir' uid' tag' wait' hv hp).2.2.1
  · rw [startTest_results_self g s n w ph dir hp (by rw [b.nodesLen]; exact hn)]
    exact List.mem_append_right _ (List.mem_singleton.mpr rfl)
  · rw [hwd, if_pos hp]
    exact List.mem_append_right _ (List.mem_singleton.mpr rfl)

theorem Basic.startPre {g : Graph} {s : State} {w : Nat} (b : Basic g s (Ex w)) (n : Nat) (dir : Dir)
    (hn : n < g.nodes.length) (hw : w < g.workers.length) (hroot : (g.node n).objectRoot = true) :
    Basic g (startTest g (s.setWd w (fun d => { d with preResults := (s.nd n).results, preName := preNameOf g n w })) n w .pre dir).1 All := by
  refine (b.setWd_ex _ (fun x hx => b.paths w x hx)).start n .pre dir hn hw ?_ (fun _ => ?_)
  · rw [hroot]; exact ⟨fun h => (nomatch h), fun h => (nomatch h)⟩
  · rw [wd_setWd_eq s w _ (by rw [b.workersLen]; exact hw)]

theorem Basic.startFrom {g : Graph} {s1 s' : State} {w : Nat} (b : Basic g s1 (Ex w)) (h : StartFrom g w s1 s')
    (hw : w < g.workers.length) : Basic g s' All := by
  cases h with
  | plain n dir s0 evs gv hgv hn hroot hdec h =>
    rw [h]
    exact b.start n .plain dir hn hw ⟨fun _ => rfl, fun _ => hroot⟩ (fun h => nomatch h)
  | pre n dir hn hroot h =>
    rw [h]
    exact b.startPre n dir hn hw hroot

theorem Basic.cont {g : Graph} {sc s' : State} {w n : Nat} {ph : Phase} {dir : Dir} {ok : Bool} (b : Basic g sc (Ex w))
    (h : ContEff g w n ph dir sc ok s') (hn : n < g.nodes.length) (hw : w < g.workers.length)
    (hroot : (g.node n).objectRoot = false ↔ ph = .plain) : Basic g s' All := by
  rcases h with ⟨hp, _, h⟩ | ⟨_, h⟩
  · rw [h]
    refine b.start n .main dir hn hw ⟨fun h => ?_, fun h => (nomatch h)⟩ (fun h => nomatch h)
    exact absurd ((hroot.mp h).symm.trans hp) (by decide)
  · rcases h with ⟨a, hpc⟩ | ⟨s1, a, hs⟩
    · exact ((b.appendPre_if hroot).silent a).close_nontest hpc
    · exact ((b.appendPre_if hroot).silent a).startFrom hs hw

theorem find?_append_singleton_ne_none {α} (l : List α) (x : α) (p : α → Bool) (hx : p x = true) :
    (l ++ [x]).find? p ≠ none := by
  intro h
  rw [List.find?_eq_none] at h
  have := h x (List.mem_append_right _ (List.mem_singleton.mpr rfl))
  exact this hx

theorem Basic.step {g : Graph} (hwf : GraphWF g) {s : State} (b : Basic g s All) (w : Nat) (out : Outcome) (fuel : Nat)
    (hw : w < g.workers.length) (hf : 0 < fuel) : Basic g (resume g s w out fuel).1 All := by
  have hws : w < s.workers.length := by rw [b.workersLen]; exact hw
  rcases resume_eff g hwf s w out fuel hf hws (b.paths w) with ⟨_, h⟩ | ⟨n, ph, dir, uid, tag, wait, hpc, sa, hrep, h⟩
  · rcases h with ⟨a, _⟩ | ⟨s1, a, hs⟩
    · exact b.silent a
    · exact ((b.silent a).mono (fun _ _ => trivial)).startFrom hs hw
  · have hsb : SameBook s sa := hrep.sameBook
    have ba : Basic g sa All := b.sameBook hsb
    have hpca : (sa.wd w).pc = .test n ph dir uid tag wait := by rw [hsb.wd]; exact hpc
    have hok := b.pcOK w n ph dir uid tag wait trivial hpc
    rcases h with ⟨e, _, sb, res, ok, hsab, _, ⟨hres, _⟩, hc⟩ | ⟨_, h | hc⟩
    · have bb : Basic g sb All := ba.sameBook hsab
      have hpcb : (sb.wd w).pc = .test n ph dir uid tag wait := by rw [hsab.wd]; exact hpca
      exact (bb.settled hpcb res hres).cont hc hok.1 hw hok.2.2.2.1
    · rw [h]
      exact ba.wait hpca (by rw [hsb.2.1]; exact hws) (wait + 1)
    · exact (ba.mono (fun _ _ => trivial)).cont hc hok.1 hw hok.2.2.2.1

theorem initState_nd (g : Graph) (ncls : Nat) (store : List (String × List (String × String))) (hidden : List Nat) (m : Nat) :
    (initState g ncls store hidden).nd m = {} := by
  unfold initState State.nd
  simp only [List.getD_eq_getElem?_getD, List.getElem?_map]
  cases g.nodes[m]? <;> rfl

theorem initState_wd (g : Graph) (ncls : Nat) (store : List (String × List (String × String))) (hidden : List Nat) (v : Nat) :
    (initState g ncls store hidden).wd v = { path := [g.root] } ∨ (initState g ncls store hidden).wd v = {} := by
  unfold initState State.wd
  simp only [List.getD_eq_getElem?_getD, List.getElem?_map]
  cases g.workers[v]?
  · exact Or.inr rfl
  · exact Or.inl rfl

theorem initState_not_test (g : Graph) (ncls : Nat) (store : List (String × List (String × String))) (hidden : List Nat)
    (v : Nat) {n : Nat} {ph : Phase} {dir : Dir} {uid : String} {tag wait : Nat} :
    ((initState g ncls store hidden).wd v).pc ≠ .test n ph dir uid tag wait := by
  intro h
  rcases initState_wd g ncls store hidden v with h' | h' <;> rw [h'] at h <;> cases h

theorem Basic.init (g : Graph) (hwf : GraphWF g) (ncls : Nat) (store : List (String × List (String × String))) (hidden : List Nat) :
    Basic g (initState g ncls store hidden) All := by
  refine ⟨List.length_map _, List.length_map _, fun v x hx => ?_, Nat.le_refl 1,
    fun v _ _ _ _ _ _ _ h => absurd h (initState_not_test g ncls store hidden v),
    fun v _ _ _ _ _ _ _ _ _ _ _ _ _ _ _ _ h => absurd h (initState_not_test g ncls store hidden v),
    fun v _ _ _ _ _ _ _ h => absurd h (initState_not_test g ncls store hidden v),
    fun m _ r hr => ?_, fun m t _ _ => ?_⟩
  · rcases initState_wd g ncls store hidden v with h | h <;> rw [h] at hx
    · rw [List.mem_singleton.mp hx]; exact hwf.root_lt
    · cases hx
  · rw [initState_nd] at hr; cases hr
  · rw [initState_nd]; exact Nat.zero_le 1

/-- states reachable from the initial state by steps of real workers with fuel (the fuel only bounds the
number of loop iterations of one step in the driver; with fuel 0 a step may stop before the pc is reset) -/
inductive ReachableR (g : Graph) (ncls : Nat) (store : List (String × List (String × String))) : State → Prop
  | init (hidden : List Nat) : ReachableR g ncls store (initState g ncls store hidden)
  | step {s : State} (w : Nat) (out : Outcome) (fuel : Nat) :
      ReachableR g ncls store s → w < g.workers.length → 0 < fuel → ReachableR g ncls store (resume g s w out fuel).1

theorem ReachableR.basic {g : Graph} (hwf : graphWF g = true) {ncls : Nat} {store : List (String × List (String × String))}
    {s : State} (h : ReachableR g ncls store s) : Basic g s All := by
  induction h with
  | init hidden => exact Basic.init g (GraphWF.of_bool hwf) ncls store hidden
  | step w out fuel _ hw hf ih => exact ih.step (GraphWF.of_bool hwf) w out fuel hw hf

/-- total number of results of the copies of class `c` -/
def classLen (g : Graph) (s : State) (c : Nat) : Nat :=
  ((g.classNodes c).map (fun j => (s.nd j).results.length)).sum

theorem nodup_classNodes (g : Graph) (c : Nat) : (g.classNodes c).Nodup := by
  unfold Graph.classNodes
  exact List.Nodup.sublist List.filter_sublist List.nodup_range

theorem sum_map_le (l : List Nat) (f f' : Nat → Nat) (h : ∀ j ∈ l, f j ≤ f' j) : (l.map f).sum ≤ (l.map f').sum := by
  induction l with
  | nil => simp
  | cons a r ih =>
    simp only [List.map_cons, List.sum_cons]
    have := h a List.mem_cons_self
    have := ih (fun j hj => h j (List.mem_cons_of_mem _ hj))
    omega

theorem sum_map_congr (l : List Nat) (f f' : Nat → Nat) (h : ∀ j ∈ l, f j = f' j) : (l.map f).sum = (l.map f').sum :=
  congrArg List.sum (List.map_congr_left h)

theorem sum_map_split (l : List Nat) (hl : l.Nodup) (n : Nat) (hn : n ∈ l) (f : Nat → Nat) :
    f n + ((l.filter (· != n)).map f).sum = (l.map f).sum := by
  rw [← hl.erase_eq_filter n, ((List.perm_cons_erase hn).map f).sum_nat]
  rfl

theorem sum_map_succ (l : List Nat) (hl : l.Nodup) (n : Nat) (hn : n ∈ l) (f f' : Nat → Nat) (h1 : f' n = f n + 1)
    (h2 : ∀ j ∈ l, j ≠ n → f' j = f j) : (l.map f').sum = (l.map f).sum + 1 := by
  have hr : ((l.filter (· != n)).map f').sum = ((l.filter (· != n)).map f).sum :=
    sum_map_congr _ _ _ (fun j hj => h2 j (List.mem_filter.mp hj).1 (by simpa using (List.mem_filter.mp hj).2))
  have a := sum_map_split l hl n hn f
  have b := sum_map_split l hl n hn f'
  omega

/-- the shared results of a (non-flat) copy number as many as the results of its class -/
theorem sharedResults_length (g : Graph) (s : State) (i : Nat) (hi : i < g.nodes.length) (hflat : (g.node i).flat = false) :
    (sharedResults g s i).length = classLen g s (g.node i).cls := by
  unfold sharedResults Graph.copies classLen
  simp only [hflat, Bool.false_eq_true, if_false, List.length_flatMap, List.map_cons, List.sum_cons]
  exact sum_map_split _ (nodup_classNodes g _) i ((mem_classNodes g _ i).mpr ⟨hi, rfl⟩) (fun j => (s.nd j).results.length)

/-- no copy of the class is an object root -/
def goodClass (g : Graph) (c : Nat) : Bool := (g.classNodes c).all (fun j => !(g.node j).objectRoot)

/-- a parsed (non-flat) copy of a class without object roots -/
def good (g : Graph) (i : Nat) : Bool := decide (i < g.nodes.length) && !(g.node i).flat && goodClass g (g.node i).cls

theorem good_spec {g : Graph} {i : Nat} (h : good g i = true) :
    i < g.nodes.length ∧ (g.node i).flat = false ∧ goodClass g (g.node i).cls = true ∧ (g.node i).objectRoot = false := by
  unfold good at h
  simp only [Bool.and_eq_true, decide_eq_true_eq, Bool.not_eq_true'] at h
  refine ⟨h.1.1, h.1.2, h.2, ?_⟩
  have := h.2
  unfold goodClass at this
  rw [List.all_eq_true] at this
  have := this i ((mem_classNodes g _ i).mpr ⟨h.1.1, rfl⟩)
  simpa using this

theorem goodClass_notRoot {g : Graph} {c j : Nat} (h : goodClass g c = true) (hj : j ∈ g.classNodes c) :
    (g.node j).objectRoot = false := by
  unfold goodClass at h
  rw [List.all_eq_true] at h
  simpa using h j hj

theorem classLen_mono {g : Graph} {s s' : State} {c : Nat} (hc : goodClass g c = true)
    (h : ∀ j, (g.node j).objectRoot = false → (s.nd j).results.length ≤ (s'.nd j).results.length) :
    classLen g s c ≤ classLen g s' c :=
  sum_map_le _ _ _ (fun j hj => h j (goodClass_notRoot hc hj))

theorem classLen_succ {g : Graph} {s s' : State} {c n : Nat} (hn : n < g.nodes.length) (hc : (g.node n).cls = c)
    (h1 : (s'.nd n).results.length = (s.nd n).results.length + 1)
    (h2 : ∀ j, j ≠ n → (s'.nd j).results.length = (s.nd j).results.length) :
    classLen g s' c = classLen g s c + 1 :=
  sum_map_succ _ (nodup_classNodes g c) n ((mem_classNodes g c n).mpr ⟨hn, hc⟩) _ _ h1 (fun j _ hj => h2 j hj)

theorem classLen_other {g : Graph} {s s' : State} {c n : Nat} (hc : (g.node n).cls ≠ c)
    (h2 : ∀ j, j ≠ n → (s'.nd j).results.length = (s.nd j).results.length) :
    classLen g s' c = classLen g s c :=
  sum_map_congr _ _ _ (fun j hj => h2 j (fun e => hc (e ▸ ((mem_classNodes g c j).mp hj).2)))

/-- `uidOf` is injective in the retry counter -/
theorem uidOf_inj (p : String) {k k' : Nat} (h : uidOf p k = uidOf p k') : k = k' := by
  unfold uidOf at h
  have hlen : ∀ n : Nat, (p ++ "r" ++ toString n).length = p.length + 1 + (toString n).length := by
    intro n; simp only [String.length_append]; rfl
  by_cases hk : k > 0 <;> by_cases hk' : k' > 0
  · simp only [hk, hk', if_true] at h
    have h2 : (p ++ "r" ++ toString k).toList = (p ++ "r" ++ toString k').toList := by rw [h]
    simp only [String.toList_append, List.append_assoc] at h2
    have h3 := List.append_cancel_left (List.append_cancel_left h2)
    have h4 : toString k = toString k' := String.ext_iff.mpr h3
    exact Nat.repr_inj.mp h4
  · simp only [hk, hk', if_true, if_false] at h
    have := congrArg String.length h; rw [hlen] at this; omega
  · simp only [hk, hk', if_true, if_false] at h
    have := congrArg String.length h; rw [hlen] at this; omega
  · omega

theorem settle_len (l : List Result) (res : Result) (tag : Nat) (hres : isPh tag res = false) :
    ((l ++ [res]).filter (fun r => !isPh tag r)).length + (l.filter (isPh tag)).length = l.length + 1 := by
  rw [List.filter_append, List.length_append]
  have : [res].filter (fun r => !isPh tag r) = [res] := by simp [hres]
  rw [this]
  have : l.length = (l.filter (isPh tag)).length + (l.filter (fun r => !isPh tag r)).length := by
    simpa [List.countP_eq_length_filter] using List.length_eq_countP_add_countP (isPh tag) (l := l)
  simp only [List.length_singleton]
  omega

/-- names of distinct copies differ -/
def NamesInj (g : Graph) : Prop :=
  ∀ i j, i < g.nodes.length → j < g.nodes.length → (g.node i).name = (g.node j).name → i = j

/-- no test proper of a class without object roots is named like a creation pre-step -/
def PreNamesFresh (g : Graph) : Prop :=
  ∀ i m v, i < g.nodes.length → m < g.nodes.length → v < g.workers.length → good g i = true →
    (g.node i).name ≠ preNameOf g m v

/-- "is the name of a parsed copy of a class without object roots" -/
def goodName (g : Graph) (nm : String) : Bool :=
  (List.range g.nodes.length).any (fun i => good g i && (g.node i).name == nm)

theorem goodName_spec {g : Graph} {nm : String} (h : goodName g nm = true) : ∃ i, good g i = true ∧ (g.node i).name = nm := by
  unfold goodName at h
  rw [List.any_eq_true] at h
  obtain ⟨i, _, hi⟩ := h
  simp only [Bool.and_eq_true, beq_iff_eq] at hi
  exact ⟨i, hi.1, hi.2⟩

theorem goodName_of {g : Graph} {i : Nat} (h : good g i = true) : goodName g (g.node i).name = true := by
  unfold goodName
  rw [List.any_eq_true]
  exact ⟨i, List.mem_range.mpr (good_spec h).1, by simp [h]⟩

/-- Identifier invariant.  `recorded`: every job record under the name of a good copy carries a counter below
the current number of results of the class; `inflight`: so does every execution in flight; `nodup`: records
of good copies have distinct (name, uid); `unreported`: an execution in flight has no record yet;
`distinct`: executions in flight differ in (name, uid). -/
structure Uids (g : Graph) (s : State) (L : Nat → Prop) : Prop where
  recorded : ∀ i k, good g i = true → k ∈ keys s → k.1 = (g.node i).name →
    ∃ j, j < classLen g s (g.node i).cls ∧ k.2 = uidOf (g.node i).pfx j
  inflight : ∀ v n dir uid tag wait, L v → (s.wd v).pc = .test n .plain dir uid tag wait → good g n = true →
    ∃ j, j < classLen g s (g.node n).cls ∧ uid = uidOf (g.node n).pfx j
  nodup : ((keys s).filter (fun k => goodName g k.1)).Nodup
  unreported : ∀ v n dir uid tag wait, L v → (s.wd v).pc = .test n .plain dir uid tag wait → good g n = true →
    ((g.node n).name, uid) ∉ keys s
  distinct : ∀ v v' n dir uid tag wait n' dir' uid' tag' wait', L v → L v' → v ≠ v' →
    (s.wd v).pc = .test n .plain dir uid tag wait → (s.wd v').pc = .test n' .plain dir' uid' tag' wait' →
    good g n = true → ((g.node n).name, uid) ≠ ((g.node n').name, uid')

theorem Uids.mono {g : Graph} {s : State} {L L' : Nat → Prop} (u : Uids g s L) (h : ∀ v, L' v → L v) : Uids g s L' :=
  ⟨u.recorded, fun v n dir uid tag wait hl => u.inflight v n dir uid tag wait (h v hl), u.nodup,
   fun v n dir uid tag wait hl => u.unreported v n dir uid tag wait (h v hl),
   fun v v' n dir uid tag wait n' dir' uid' tag' wait' hl hl' =>
     u.distinct v v' n dir uid tag wait n' dir' uid' tag' wait' (h v hl) (h v' hl')⟩

/-- same records, the test pcs of the workers of `L` are old ones, the classes without object roots did not shrink -/
theorem Uids.transfer {g : Graph} {s s' : State} {L : Nat → Prop} (u : Uids g s L) (hk : keys s' = keys s)
    (hpc : ∀ v, L v → ∀ n dir uid tag wait, (s'.wd v).pc = .test n .plain dir uid tag wait →
      (s.wd v).pc = .test n .plain dir uid tag wait)
    (hlen : ∀ c, goodClass g c = true → classLen g s c ≤ classLen g s' c) : Uids g s' L := by
  refine ⟨?_, ?_, by rw [hk]; exact u.nodup, ?_, ?_⟩
  · intro i k hi hkm hnm
    rw [hk] at hkm
    obtain ⟨j, hj, he⟩ := u.recorded i k hi hkm hnm
    exact ⟨j, Nat.lt_of_lt_of_le hj (hlen _ (good_spec hi).2.2.1), he⟩
  · intro v n dir uid tag wait hl h hg
    obtain ⟨j, hj, he⟩ := u.inflight v n dir uid tag wait hl (hpc v hl _ _ _ _ _ h) hg
    exact ⟨j, Nat.lt_of_lt_of_le hj (hlen _ (good_spec hg).2.2.1), he⟩
  · intro v n dir uid tag wait hl h hg
    rw [hk]
    exact u.unreported v n dir uid tag wait hl (hpc v hl _ _ _ _ _ h) hg
  · intro v v' n dir uid tag wait n' dir' uid' tag' wait' hl hl' hvv h h' hg
    exact u.distinct v v' n dir uid tag wait n' dir' uid' tag' wait' hl hl' hvv (hpc v hl _ _ _ _ _ h) (hpc v' hl' _ _ _ _ _ h') hg

theorem Uids.silent {g : Graph} {w : Nat} {s s' : State} {L : Nat → Prop} (u : Uids g s L) (a : Silent g w s s') : Uids g s' L :=
  u.transfer (by unfold keys; rw [a.job]) (fun v _ _ _ _ _ _ h => (a.back v h).1)
    (fun c _ => Nat.le_of_eq (sum_map_congr _ _ _ (fun j _ => by rw [a.results])))

/-- the stepping worker's clauses are supplied (vacuous unless it is in a test proper) -/
theorem Uids.close {g : Graph} {s : State} {w : Nat} (u : Uids g s (Ex w))
    (h : ∀ n dir uid tag wait, (s.wd w).pc = .test n .plain dir uid tag wait →
      (good g n = true → (∃ j, j < classLen g s (g.node n).cls ∧ uid = uidOf (g.node n).pfx j) ∧ ((g.node n).name, uid) ∉ keys s) ∧
      (∀ v n' dir' uid' tag' wait', v ≠ w → (s.wd v).pc = .test n' .plain dir' uid' tag' wait' →
        good g n = true ∨ good g n' = true → ((g.node n).name, uid) ≠ ((g.node n').name, uid'))) : Uids g s All := by
  refine ⟨u.recorded, ?_, u.nodup, ?_, ?_⟩
  · intro v n dir uid tag wait _ hp hg
    by_cases hv : v = w
    · subst hv; exact ((h n dir uid tag wait hp).1 hg).1
    · exact u.inflight v n dir uid tag wait hv hp hg
  · intro v n dir uid tag wait _ hp hg
    by_cases hv : v = w
    · subst hv; exact ((h n dir uid tag wait hp).1 hg).2
    · exact u.unreported v n dir uid tag wait hv hp hg
  · intro v v' n dir uid tag wait n' dir' uid' tag' wait' _ _ hvv hp hp' hg
    by_cases hv : v = w
    · subst hv
      exact (h n dir uid tag wait hp).2 v' n' dir' uid' tag' wait' (Ne.symm hvv) hp' (Or.inl hg)
    · by_cases hv' : v' = w
      · subst hv'
        exact fun e => (h n' dir' uid' tag' wait' hp').2 v n dir uid tag wait hv hp (Or.inr hg) e.symm
      · exact u.distinct v v' n dir uid tag wait n' dir' uid' tag' wait' hv hv' hvv hp hp' hg

theorem Uids.closeOther {g : Graph} {s : State} {w : Nat} (u : Uids g s (Ex w))
    (h : ∀ n dir uid tag wait, (s.wd w).pc ≠ .test n .plain dir uid tag wait) : Uids g s All :=
  u.close (fun n dir uid tag wait hp => absurd hp (h n dir uid tag wait))

theorem Uids.startEx {g : Graph} {s : State} {w : Nat} (u : Uids g s (Ex w)) (n : Nat) (ph : Phase) (dir : Dir) :
    Uids g (startTest g s n w ph dir).1 (Ex w) :=
  u.transfer (startTest_keys g s n w ph dir)
    (fun v hv n' dir' uid tag wait h => by rw [startTest_wd_ne g s n w ph dir v hv] at h; exact h)
    (fun c hc => classLen_mono hc (fun j _ => startTest_results_le g s n w ph dir j))

/-- a start of a creation step (pre or main) hands out no identifier of a test proper -/
theorem Uids.startOther {g : Graph} {s : State} {w : Nat} (u : Uids g s (Ex w)) (n : Nat) (ph : Phase) (dir : Dir)
    (hph : ph ≠ .plain) (hw : w < s.workers.length) : Uids g (startTest g s n w ph dir).1 All := by
  refine (u.startEx n ph dir).closeOther (fun n' dir' uid tag wait h => ?_)
  rw [startTest_pc g s n w ph dir hw] at h
  cases h
  exact hph rfl

/-- a start of a test proper hands out a fresh identifier -/
theorem Uids.startPlain {g : Graph} {s : State} {w : Nat} (u : Uids g s (Ex w)) (b : Basic g s (Ex w)) (hN : NamesInj g)
    (n : Nat) (dir : Dir) (hn : n < g.nodes.length) (hw : w < g.workers.length) :
    Uids g (startTest g s n w .plain dir).1 All := by
  have hws : w < s.workers.length := by rw [b.workersLen]; exact hw
  have hns : n < s.nodes.length := by rw [b.nodesLen]; exact hn
  have hcl : classLen g (startTest g s n w .plain dir).1 (g.node n).cls = classLen g s (g.node n).cls + 1 :=
    classLen_succ hn rfl (startTest_nonpre_len g s n w .plain dir (by decide) hns).1
      (startTest_nonpre_len g s n w .plain dir (by decide) hns).2
  refine (u.startEx n .plain dir).close (fun n' dir' uid tag wait hp => ?_)
  rw [startTest_pc g s n w .plain dir hws] at hp
  simp only [reduceCtorEq, if_false, Pc.test.injEq] at hp
  obtain ⟨hn', _, _, huid, _, _⟩ := hp
  subst hn' huid
  refine ⟨fun hg => ?_, ?_⟩
  · have hsl := sharedResults_length g s n hn (good_spec hg).2.1
    refine ⟨⟨(sharedResults g s n).length, by rw [hcl, hsl]; omega, rfl⟩, ?_⟩
    rw [startTest_keys]
    intro hmem
    obtain ⟨j, hj, he⟩ := u.recorded n _ hg hmem rfl
    dsimp only at he
    have := uidOf_inj _ he
    rw [hsl] at this
    omega
  · intro v n2 dir2 uid2 tag2 wait2 hv hp2 hgg heq
    rw [startTest_wd_ne g s n w .plain dir v hv] at hp2
    have hn2 := (b.pcOK v n2 .plain dir2 uid2 tag2 wait2 hv hp2).1
    simp only [Prod.mk.injEq] at heq
    have hnn : n = n2 := hN n n2 hn hn2 heq.1
    subst hnn
    have hg : good g n = true := by rcases hgg with h | h <;> exact h
    obtain ⟨j, hj, he⟩ := u.inflight v n dir2 uid2 tag2 wait2 hv hp2 hg
    have hsl := sharedResults_length g s n hn (good_spec hg).2.1
    have := uidOf_inj _ (heq.2.trans he)
    rw [hsl] at this
    omega

theorem classLen_sameBook {g : Graph} {s s' : State} (h : SameBook s s') (c : Nat) : classLen g s' c = classLen g s c :=
  sum_map_congr _ _ _ (fun j _ => by rw [h.nd])

/-- whose record is appended when worker `w` (in a test pc) reports: only a test proper reports under a good name -/
theorem report_name_good {g : Graph} {s : State} {w : Nat} (b : Basic g s All) (hN : NamesInj g) (hP : PreNamesFresh g)
    {n : Nat} {ph : Phase} {dir : Dir} {uid : String} {tag wait : Nat}
    (hpc : (s.wd w).pc = .test n ph dir uid tag wait) (i : Nat) (hi : good g i = true)
    (hnm : (g.node i).name = (if ph = .pre then (s.wd w).preName else (g.node n).name)) : ph = .plain ∧ i = n := by
  have hok := b.pcOK w n ph dir uid tag wait trivial hpc
  have hws : w < g.workers.length := by
    rw [← b.workersLen]; exact lt_of_isTest s w (by rw [hpc]; rfl)
  have hgi := good_spec hi
  cases ph with
  | pre =>
    simp only [if_true] at hnm
    rw [hok.2.2.2.2 rfl] at hnm
    exact absurd hnm (hP i n w hgi.1 hok.1 hws hi)
  | plain =>
    simp only [reduceCtorEq, if_false] at hnm
    exact ⟨rfl, hN i n hgi.1 hok.1 hnm⟩
  | main =>
    simp only [reduceCtorEq, if_false] at hnm
    have : i = n := hN i n hgi.1 hok.1 hnm
    subst this
    have := hok.2.2.2.1.mp hgi.2.2.2
    cases this

/-- the test stub reports the result of the awaited execution -/
theorem Uids.report {g : Graph} {s sa : State} {w : Nat} (u : Uids g s All) (b : Basic g s All) (hN : NamesInj g)
    (hP : PreNamesFresh g) {n : Nat} {ph : Phase} {dir : Dir} {uid : String} {tag wait : Nat}
    (hpc : (s.wd w).pc = .test n ph dir uid tag wait) (hsb : SameBook s sa)
    (hk : keys sa = keys s ++ [((if ph = .pre then (s.wd w).preName else (g.node n).name), uid)]) : Uids g sa (Ex w) := by
  have hcl : ∀ c, classLen g sa c = classLen g s c := classLen_sameBook hsb
  refine ⟨?_, ?_, ?_, ?_, ?_⟩
  · intro i k hi hkm hnm
    rw [hk] at hkm
    rw [hcl]
    rcases List.mem_append.mp hkm with hkm | hkm
    · exact u.recorded i k hi hkm hnm
    · rw [List.mem_singleton.mp hkm] at hnm ⊢
      obtain ⟨hph, hin⟩ := report_name_good b hN hP hpc i hi hnm.symm
      subst hph hin
      exact u.inflight w i dir uid tag wait trivial hpc hi
  · intro v n' dir' uid' tag' wait' hv hp hg
    rw [hsb.wd] at hp; rw [hcl]
    exact u.inflight v n' dir' uid' tag' wait' trivial hp hg
  · rw [hk, List.filter_append]
    generalize hnm0 : (if ph = .pre then (s.wd w).preName else (g.node n).name) = nm
    by_cases hgn : goodName g nm = true
    · have hf : [(nm, uid)].filter (fun k => goodName g k.1) = [(nm, uid)] := by simp [hgn]
      rw [hf]
      obtain ⟨i, hi, hnm⟩ := goodName_spec hgn
      obtain ⟨hph, hin⟩ := report_name_good b hN hP hpc i hi (hnm.trans hnm0.symm)
      subst hph hin
      have := u.unreported w i dir uid tag wait trivial hpc hi
      refine List.nodup_append.mpr ⟨u.nodup, by simp, ?_⟩
      intro a ha b' hb' e
      rw [List.mem_singleton] at hb'
      rw [e, hb', ← hnm] at ha
      exact this (List.mem_filter.mp ha).1
    · have hf : [(nm, uid)].filter (fun k => goodName g k.1) = [] := by simp [hgn]
      rw [hf, List.append_nil]; exact u.nodup
  · intro v n' dir' uid' tag' wait' hv hp hg
    rw [hsb.wd] at hp
    rw [hk]
    intro hmem
    rcases List.mem_append.mp hmem with hmem | hmem
    · exact u.unreported v n' dir' uid' tag' wait' trivial hp hg hmem
    · have heq := List.mem_singleton.mp hmem
      simp only [Prod.mk.injEq] at heq
      obtain ⟨hph, hin⟩ := report_name_good b hN hP hpc n' hg heq.1
      subst hph hin
      exact u.distinct v w n' dir' uid' tag' wait' n' dir uid tag wait trivial trivial hv hp hpc hg
        (by rw [heq.2])
  · intro v v' n1 dir1 uid1 tag1 wait1 n2 dir2 uid2 tag2 wait2 hv hv' hvv hp hp' hg
    rw [hsb.wd] at hp hp'
    exact u.distinct v v' n1 dir1 uid1 tag1 wait1 n2 dir2 uid2 tag2 wait2 trivial trivial hvv hp hp' hg

theorem Uids.sameKeys {g : Graph} {s s' : State} {L : Nat → Prop} (u : Uids g s L) (h : SameBook s s') (hk : keys s' = keys s) :
    Uids g s' L :=
  u.transfer hk (fun v _ _ _ _ _ _ hp => by rw [h.wd] at hp; exact hp) (fun c _ => Nat.le_of_eq (classLen_sameBook h c).symm)

theorem Uids.wait {g : Graph} {s : State} {w : Nat} (u : Uids g s All)
    {n : Nat} {ph : Phase} {dir : Dir} {uid : String} {tag wait : Nat}
    (hpc : (s.wd w).pc = .test n ph dir uid tag wait) (hw : w < s.workers.length) (wait' : Nat) :
    Uids g (s.setWd w (fun d => { d with pc := .test n ph dir uid tag wait' })) All := by
  have u1 : Uids g (s.setWd w (fun d => { d with pc := .test n ph dir uid tag wait' })) (Ex w) :=
    (u.mono (fun _ _ => trivial)).transfer rfl
      (fun v hv _ _ _ _ _ hp => by rw [wd_setWd_ne s w v _ hv] at hp; exact hp) (fun c _ => Nat.le_refl _)
  refine u1.close (fun n' dir' uid' tag' wait'' hp => ?_)
  rw [wd_setWd_eq s w _ hw] at hp
  simp only [Pc.test.injEq] at hp
  obtain ⟨hn, hph, hdir, huid, htag, _⟩ := hp
  subst hn hph hdir huid htag
  refine ⟨fun hg => ⟨u.inflight w n dir uid tag wait trivial hpc hg, u.unreported w n dir uid tag wait trivial hpc hg⟩, ?_⟩
  intro v n2 dir2 uid2 tag2 wait2 hv hp2 hgg
  rw [wd_setWd_ne s w v _ hv] at hp2
  rcases hgg with hg | hg
  · exact u.distinct w v n dir uid tag wait n2 dir2 uid2 tag2 wait2 trivial trivial (Ne.symm hv) hpc hp2 hg
  · exact fun e => u.distinct v w n2 dir2 uid2 tag2 wait2 n dir uid tag wait trivial trivial hv hp2 hpc hg e.symm

/-- the result replaces the placeholder: the classes without object roots do not shrink -/
theorem Uids.settle {g : Graph} {s : State} {w : Nat} (u : Uids g s (Ex w)) (b : Basic g s All)
    {n : Nat} {ph : Phase} {dir : Dir} {uid : String} {tag wait : Nat}
    (hpc : (s.wd w).pc = .test n ph dir uid tag wait) (res : Result) (hres : res.tag = 0) :
    Uids g (settleNd s n res tag) (Ex w) := by
  have hok := b.pcOK w n ph dir uid tag wait trivial hpc
  refine u.transfer rfl (fun v _ _ _ _ _ _ hp => hp) (fun c hc => classLen_mono hc (fun j hj => ?_))
  rcases settleNd_results s n res tag j with h | ⟨_, h⟩
  · rw [h]; exact Nat.le_refl _
  · rw [h]
    have h1 := settle_len (s.nd j).results res tag (isPh_res_false res tag hres hok.2.1)
    have h2 := b.tagsOnce j tag hj hok.2.1
    omega

theorem Uids.settlePre {g : Graph} {s : State} {w : Nat} (u : Uids g s (Ex w)) (res : Result) (tag : Nat) :
    Uids g (settlePre s w res tag) (Ex w) :=
  u.transfer rfl (fun v hv _ _ _ _ _ hp => by unfold I2N.Trav.settlePre at hp; rw [wd_setWd_ne s w v _ hv] at hp; exact hp)
    (fun c _ => Nat.le_refl _)

theorem Uids.appendPre {g : Graph} {s : State} {L : Nat → Prop} (u : Uids g s L) (n w : Nat) : Uids g (appendPre s n w) L := by
  refine u.transfer rfl (fun v _ _ _ _ _ _ hp => hp) (fun c hc => classLen_mono hc (fun j _ => ?_))
  unfold I2N.Trav.appendPre
  rcases nd_setNd_cases s n (fun d => { d with results := d.results ++ (s.wd w).preResults.drop d.results.length }) j with h | ⟨_, _, h⟩
  · rw [h]; exact Nat.le_refl _
  · rw [h]; simp only [List.length_append]; omega

theorem Uids.startFrom {g : Graph} {s1 s' : State} {w : Nat} (u : Uids g s1 (Ex w)) (b : Basic g s1 (Ex w)) (hN : NamesInj g)
    (h : StartFrom g w s1 s') (hw : w < g.workers.length) : Uids g s' All := by
  cases h with
  | plain n dir s0 evs gv hgv hn hroot hdec h =>
    rw [h]
    exact u.startPlain b hN n dir hn hw
  | pre n dir hn hroot h =>
    rw [h]
    have u0 : Uids g (s1.setWd w (fun d => { d with preResults := (s1.nd n).results, preName := preNameOf g n w })) (Ex w) :=
      u.transfer rfl (fun v hv _ _ _ _ _ hp => by rw [wd_setWd_ne s1 w v _ hv] at hp; exact hp) (fun c _ => Nat.le_refl _)
    exact u0.startOther n .pre dir (by decide) (by rw [workers_length_setWd, b.workersLen]; exact hw)

theorem Uids.cont {g : Graph} {sc s' : State} {w n : Nat} {ph : Phase} {dir : Dir} {ok : Bool} (u : Uids g sc (Ex w))
    (b : Basic g sc (Ex w)) (hN : NamesInj g)
    (h : ContEff g w n ph dir sc ok s') (hw : w < g.workers.length)
    (hroot : (g.node n).objectRoot = false ↔ ph = .plain) : Uids g s' All := by
  rcases h with ⟨hp, _, h⟩ | ⟨_, h⟩
  · rw [h]
    exact u.startOther n .main dir (by decide) (by rw [b.workersLen]; exact hw)
  · have ud : Uids g (if ph = .pre then I2N.Trav.appendPre sc n w else sc) (Ex w) := by
      split
      · exact u.appendPre n w
      · exact u
    rcases h with ⟨a, hpc⟩ | ⟨s1, a, hs⟩
    · exact (ud.silent a).closeOther (fun n' dir' uid tag wait hp => by rw [hp] at hpc; cases hpc)
    · exact (ud.silent a).startFrom ((b.appendPre_if hroot).silent a) hN hs hw

/-- a step in which the awaited result was not found did not report it -/
theorem repEff_none {s sa : State} {name uid : String} {wait : Nat} {out : Outcome} (hrep : RepEff s name uid wait out sa)
    (hnone : sa.jobResults.find? (fun r => r.1 == name && r.2.1 == uid) = none) : sa = s := by
  rcases hrep with ⟨h, _⟩ | ⟨_, st, _, _, hj⟩
  · exact h
  · exfalso
    rw [hj] at hnone
    exact find?_append_singleton_ne_none _ _ _ (by simp) hnone

theorem Uids.step {g : Graph} (hwf : GraphWF g) (hN : NamesInj g) (hP : PreNamesFresh g) {s : State}
    (b : Basic g s All) (u : Uids g s All) (w : Nat) (out : Outcome) (fuel : Nat)
    (hw : w < g.workers.length) (hf : 0 < fuel) : Uids g (resume g s w out fuel).1 All := by
  have hws : w < s.workers.length := by rw [b.workersLen]; exact hw
  rcases resume_eff g hwf s w out fuel hf hws (b.paths w) with ⟨_, h⟩ | ⟨n, ph, dir, uid, tag, wait, hpc, sa, hrep, h⟩
  · rcases h with ⟨a, _⟩ | ⟨s1, a, hs⟩
    · exact u.silent a
    · exact ((u.silent a).mono (fun _ _ => trivial)).startFrom ((b.silent a).mono (fun _ _ => trivial)) hN hs hw
  · have hsb : SameBook s sa := hrep.sameBook
    have ba : Basic g sa All := b.sameBook hsb
    have hpca : (sa.wd w).pc = .test n ph dir uid tag wait := by rw [hsb.wd]; exact hpc
    have hok := b.pcOK w n ph dir uid tag wait trivial hpc
    have ua : Uids g sa (Ex w) := by
      rcases hrep with ⟨h, _⟩ | ⟨_, st, _, hsb', hj⟩
      · rw [h]; exact u.mono (fun _ _ => trivial)
      · exact u.report b hN hP hpc hsb' (by unfold keys; rw [hj]; simp)
    rcases h with ⟨e, _, sb, res, ok, hsab, hkeys, ⟨hres, _⟩, hc⟩ | ⟨hnone, h | hc⟩
    · have bb : Basic g sb All := ba.sameBook hsab
      have ub : Uids g sb (Ex w) := ua.sameKeys hsab hkeys
      have hpcb : (sb.wd w).pc = .test n ph dir uid tag wait := by rw [hsab.wd]; exact hpca
      refine Uids.cont ?_ (bb.settled hpcb res hres) hN hc hw hok.2.2.2.1
      split
      · exact ub.settlePre res tag
      · exact ub.settle bb hpcb res hres
    · have hsa := repEff_none hrep hnone
      subst hsa
      rw [h]
      exact u.wait hpc hws (wait + 1)
    · have hsa := repEff_none hrep hnone
      subst hsa
      exact (u.mono (fun _ _ => trivial)).cont (b.mono (fun _ _ => trivial)) hN hc hw hok.2.2.2.1

theorem Uids.init (g : Graph) (ncls : Nat) (store : List (String × List (String × String))) (hidden : List Nat) :
    Uids g (initState g ncls store hidden) All :=
  ⟨fun _ _ _ hkm => absurd hkm List.not_mem_nil,
    fun v _ _ _ _ _ _ h => absurd h (initState_not_test g ncls store hidden v), List.nodup_nil,
    fun v _ _ _ _ _ _ h => absurd h (initState_not_test g ncls store hidden v),
    fun v _ _ _ _ _ _ _ _ _ _ _ _ _ _ h => absurd h (initState_not_test g ncls store hidden v)⟩

theorem ReachableR.uids {g : Graph} (hwf : graphWF g = true) (hN : NamesInj g) (hP : PreNamesFresh g) {ncls : Nat}
    {store : List (String × List (String × String))} {s : State} (h : ReachableR g ncls store s) : Uids g s All := by
  induction h with
  | init hidden => exact Uids.init g ncls store hidden
  | step w out fuel hr hw hf ih => exact ih.step (GraphWF.of_bool hwf) hN hP (hr.basic hwf) w out fuel hw hf

/-- the worker whose scope filters the results in `should_rerun` -/
def scopeWorker (s : State) (n w : Nat) : Option Nat :=
  match (s.nd n).started with | some v => some v | none => some w

/-- the results `should_rerun` counts -/
def countedResults (g : Graph) (s : State) (n w : Nat) : List Result :=
  if (g.node n).sets.isEmpty then sharedResults g s n else sharedFilteredResults g s n (scopeWorker s n w)

theorem shouldRerun_true (g : Graph) (s : State) (n w : Nat) (h : shouldRerun g s n w = .ok true) :
    ((countedResults g s n w).length : Int) < (g.node n).maxTries.getD 1 ∧ (g.node n).maxTries.getD 1 ≠ 1 ∧
      (g.node n).flat = false ∧ (s.nd n).rerunDisabled = false := by
  revert h
  fun_cases shouldRerun g s n w with
  | case9 _ hdis _ hflat _ _ _ _ maxTries _ results statuses _ _ left =>
    -- the only branch that can answer `true`: no early exit, and `left > 0` tries remain
    intro h
    have hleft : left > 0 := of_decide_eq_true (Except.ok.inj h)
    have hlen : statuses.length = (countedResults g s n w).length := List.length_map _
    unfold left at hleft
    split at hleft
    · exact absurd hleft (Int.lt_irrefl 0)
    · rename_i hne
      exact ⟨by show _ < maxTries; omega, by simpa using hne, by simpa using hflat, by simpa using hdis⟩
  | _ => intro h; cases h

/-- a stateless test is run only while its class has fewer results (of whatever status, placeholders of
executions in flight included) than `max(max_tries, 1)`; the decision leaves the state alone -/
theorem runDecision_true_stateless (g : Graph) (s0 : State) (n w : Nat) (s1 : State) (evs : List Event)
    (hsets : (g.node n).sets.isEmpty = true) (h : runDecision g s0 n w = .ok (true, s1, evs)) :
    s1 = s0 ∧ (g.node n).flat = false ∧ ((sharedResults g s0 n).length : Int) < max ((g.node n).maxTries.getD 1) 1 := by
  rcases runDecision_eq_ok h with ⟨hb, _⟩ | ⟨hflat, _, h⟩
  · cases hb
  · rw [if_pos hsets] at h
    refine ⟨(runDecisionStateless_ok h).1, hflat, ?_⟩
    rcases (runDecisionStateless_ok h).2 with ⟨he, _⟩ | hr
    · rw [List.isEmpty_iff.mp he]
      exact Int.lt_of_lt_of_le Int.zero_lt_one (Int.le_max_right _ _)
    · have := (shouldRerun_true g s0 n w hr).1
      unfold countedResults at this
      rw [if_pos hsets] at this
      exact Int.lt_of_lt_of_le this (Int.le_max_left _ _)

/-- A stateful test is run only (a) on the scan path — nobody of the scope finished the class and the state
control says a set state is missing; in-flight and earlier results are NOT looked at — or (b) by the rerun
rule: `max_tries ≠ 1` and the results counted in the reuse scope (placeholders included) number less than
`max_tries`. -/
theorem runDecision_true_stateful (g : Graph) (s : State) (n w : Nat) (s1 : State) (evs : List Event)
    (hsets : (g.node n).sets.isEmpty = false) (h : runDecision g s n w = .ok (true, s1, evs)) :
    (isFinished g s n w 1 = false ∧ (scanStates g s n w).1 = true) ∨
    (((countedResults g s1 n w).length : Int) < (g.node n).maxTries.getD 1 ∧ (g.node n).maxTries.getD 1 ≠ 1) := by
  rcases runDecision_eq_ok h with ⟨hb, _⟩ | ⟨_, _, h⟩
  · cases hb
  · rw [if_neg (by simp [hsets])] at h
    rcases (runDecisionStatefulCore_ok h).2 with hx | hr
    · left
      cases hf : isFinished g s n w 1
      · rw [hf] at hx; exact ⟨rfl, by simpa using hx⟩
      · rw [hf] at hx; cases hx
    · exact Or.inr ⟨(shouldRerun_true g s1 n w hr).1, (shouldRerun_true g s1 n w hr).2.1⟩

/-- class `c` consists of stateless tests proper (no object root) with the same `max_tries` setting `M` -/
def statelessClass (g : Graph) (c : Nat) (M : Option Int) : Bool :=
  goodClass g c && (g.classNodes c).all (fun j => (g.node j).sets.isEmpty && decide ((g.node j).maxTries = M))

theorem statelessClass_spec {g : Graph} {c : Nat} {M : Option Int} (h : statelessClass g c M = true) :
    goodClass g c = true ∧ ∀ j, j < g.nodes.length → (g.node j).cls = c → (g.node j).sets.isEmpty = true ∧ (g.node j).maxTries = M := by
  unfold statelessClass at h
  simp only [Bool.and_eq_true, List.all_eq_true, decide_eq_true_eq] at h
  exact ⟨h.1, fun j hj hc => h.2 j ((mem_classNodes g c j).mpr ⟨hj, hc⟩)⟩

/-- the budget invariant: a stateless class never has more results than `max(max_tries, 1)` -/
def Budget (g : Graph) (s : State) : Prop :=
  ∀ c M, statelessClass g c M = true → (classLen g s c : Int) ≤ max (M.getD 1) 1

theorem Budget.anti {g : Graph} {s s' : State} (j : Budget g s)
    (h : ∀ m, (g.node m).objectRoot = false → (s'.nd m).results.length ≤ (s.nd m).results.length) : Budget g s' := by
  intro c M hc
  have := j c M hc
  have := classLen_mono (s := s') (s' := s) (statelessClass_spec hc).1 h
  omega

theorem Budget.silent {g : Graph} {w : Nat} {s s' : State} (j : Budget g s) (a : Silent g w s s') : Budget g s' :=
  j.anti (fun m _ => by rw [a.results]; exact Nat.le_refl _)

theorem Budget.sameBook {g : Graph} {s s' : State} (j : Budget g s) (h : SameBook s s') : Budget g s' :=
  j.anti (fun m _ => by rw [h.nd]; exact Nat.le_refl _)

/-- a guarded start of a test proper keeps the budget -/
theorem Budget.startPlain {g gv : Graph} {s0 s1 : State} {w : Nat} (j : Budget g s1) (b : Basic g s1 (Ex w))
    (n : Nat) (dir : Dir) (evs : List Event) (hn : n < g.nodes.length) (hgv : SameNodes gv g)
    (hdec : runDecision gv s0 n w = .ok (true, s1, evs)) : Budget g (startTest g s1 n w .plain dir).1 := by
  intro c M hc
  have hns : n < s1.nodes.length := by rw [b.nodesLen]; exact hn
  obtain ⟨h1, h2⟩ := startTest_nonpre_len g s1 n w .plain dir (by decide) hns
  by_cases hcn : (g.node n).cls = c
  · rw [classLen_succ hn hcn h1 h2]
    obtain ⟨hsets, hM⟩ := (statelessClass_spec hc).2 n hn hcn
    obtain ⟨hs, hflat, hlt⟩ := runDecision_true_stateless gv s0 n w s1 evs (by rw [hgv.sets]; exact hsets) hdec
    rw [hgv.flat] at hflat
    rw [← hs, sharedResults_sameNodes hgv, hgv.maxTries, sharedResults_length g s1 n hn hflat, hcn, hM] at hlt
    push_cast
    omega
  · rw [classLen_other hcn h2]
    exact j c M hc

/-- starts of creation steps touch object roots only -/
theorem Budget.startOther {g : Graph} {s : State} (j : Budget g s) (n w : Nat) (ph : Phase) (dir : Dir)
    (h : ph = .pre ∨ (g.node n).objectRoot = true) : Budget g (startTest g s n w ph dir).1 := by
  refine j.anti (fun m hm => ?_)
  rcases startTest_results g s n w ph dir m with h' | ⟨hph, hmn, _, _⟩
  · rw [h']; exact Nat.le_refl _
  · subst hmn
    rcases h with h | h
    · exact absurd h hph
    · rw [h] at hm; cases hm

theorem Budget.settle {g : Graph} {s : State} {w : Nat} (j : Budget g s) (b : Basic g s All)
    {n : Nat} {ph : Phase} {dir : Dir} {uid : String} {tag wait : Nat}
    (hpc : (s.wd w).pc = .test n ph dir uid tag wait) (hph : ph ≠ .pre) (res : Result) (hres : res.tag = 0) :
    Budget g (settleNd s n res tag) := by
  have hok := b.pcOK w n ph dir uid tag wait trivial hpc
  refine j.anti (fun m _ => ?_)
  rcases settleNd_results s n res tag m with h | ⟨hmn, h⟩
  · rw [h]; exact Nat.le_refl _
  · rw [h]
    subst hmn
    have h1 := settle_len (s.nd m).results res tag (isPh_res_false res tag hres hok.2.1)
    have hmem := (b.placeholder w m ph dir uid tag wait trivial hpc).1 hph
    have h2 : 0 < ((s.nd m).results.filter (isPh tag)).length :=
      List.length_pos_of_mem (List.mem_filter.mpr ⟨hmem, by rw [isPh_phOf]; simp⟩)
    omega

theorem Budget.appendPre {g : Graph} {s : State} (j : Budget g s) (n w : Nat) (hroot : (g.node n).objectRoot = true) :
    Budget g (appendPre s n w) := by
  refine j.anti (fun m hm => ?_)
  have : m ≠ n := by intro e; subst e; rw [hroot] at hm; cases hm
  unfold I2N.Trav.appendPre
  rw [nd_setNd_ne s n m _ this]
  exact Nat.le_refl _

theorem Budget.startFrom {g : Graph} {s1 s' : State} {w : Nat} (j : Budget g s1) (b : Basic g s1 (Ex w))
    (h : StartFrom g w s1 s') : Budget g s' := by
  cases h with
  | plain n dir s0 evs gv hgv hn hroot hdec h => rw [h]; exact j.startPlain b n dir evs hn hgv hdec
  | pre n dir hn hroot h =>
    rw [h]
    have j0 : Budget g (s1.setWd w (fun d => { d with preResults := (s1.nd n).results, preName := preNameOf g n w })) :=
      j.anti (fun m _ => Nat.le_refl _)
    exact j0.startOther n w .pre dir (Or.inl rfl)

theorem Budget.cont {g : Graph} {sc s' : State} {w n : Nat} {ph : Phase} {dir : Dir} {ok : Bool} (j : Budget g sc)
    (b : Basic g sc (Ex w)) (h : ContEff g w n ph dir sc ok s')
    (hroot : (g.node n).objectRoot = false ↔ ph = .plain) : Budget g s' := by
  rcases h with ⟨hp, _, h⟩ | ⟨_, h⟩
  · rw [h]
    exact j.startOther n w .main dir (Or.inr (objectRoot_of_pre hroot hp))
  · have jd : Budget g (if ph = .pre then I2N.Trav.appendPre sc n w else sc) := by
      split
      · rename_i hp; exact j.appendPre n w (objectRoot_of_pre hroot hp)
      · exact j
    rcases h with ⟨a, _⟩ | ⟨s1, a, hs⟩
    · exact jd.silent a
    · exact (jd.silent a).startFrom ((b.appendPre_if hroot).silent a) hs

theorem Budget.step {g : Graph} (hwf : GraphWF g) {s : State} (b : Basic g s All) (j : Budget g s)
    (w : Nat) (out : Outcome) (fuel : Nat) (hw : w < g.workers.length) (hf : 0 < fuel) :
    Budget g (resume g s w out fuel).1 := by
  have hws : w < s.workers.length := by rw [b.workersLen]; exact hw
  rcases resume_eff g hwf s w out fuel hf hws (b.paths w) with ⟨_, h⟩ | ⟨n, ph, dir, uid, tag, wait, hpc, sa, hrep, h⟩
  · rcases h with ⟨a, _⟩ | ⟨s1, a, hs⟩
    · exact j.silent a
    · exact (j.silent a).startFrom ((b.silent a).mono (fun _ _ => trivial)) hs
  · have hsb : SameBook s sa := hrep.sameBook
    have ba : Basic g sa All := b.sameBook hsb
    have ja : Budget g sa := j.sameBook hsb
    have hpca : (sa.wd w).pc = .test n ph dir uid tag wait := by rw [hsb.wd]; exact hpc
    have hok := b.pcOK w n ph dir uid tag wait trivial hpc
    rcases h with ⟨e, _, sb, res, ok, hsab, _, ⟨hres, _⟩, hc⟩ | ⟨_, h | hc⟩
    · have bb : Basic g sb All := ba.sameBook hsab
      have jb : Budget g sb := ja.sameBook hsab
      have hpcb : (sb.wd w).pc = .test n ph dir uid tag wait := by rw [hsab.wd]; exact hpca
      refine Budget.cont ?_ (bb.settled hpcb res hres) hc hok.2.2.2.1
      split
      · exact jb.anti (fun m _ => Nat.le_refl _)
      · rename_i hph; exact jb.settle bb hpcb hph res hres
    · rw [h]
      exact ja.anti (fun m _ => Nat.le_refl _)
    · exact ja.cont (ba.mono (fun _ _ => trivial)) hc hok.2.2.2.1

theorem Budget.init (g : Graph) (ncls : Nat) (store : List (String × List (String × String))) (hidden : List Nat) :
    Budget g (initState g ncls store hidden) := by
  intro c M _
  have : classLen g (initState g ncls store hidden) c = 0 := by
    unfold classLen
    rw [List.sum_eq_zero_iff_forall_eq_nat]
    intro x hx
    obtain ⟨j, _, rfl⟩ := List.mem_map.mp hx
    rw [initState_nd]; rfl
  rw [this]
  omega

theorem ReachableR.budget {g : Graph} (hwf : graphWF g = true) {ncls : Nat}
    {store : List (String × List (String × String))} {s : State} (h : ReachableR g ncls store s) : Budget g s := by
  induction h with
  | init hidden => exact Budget.init g ncls store hidden
  | step w out fuel hr hw hf ih => exact ih.step (GraphWF.of_bool hwf) (hr.basic hwf) w out fuel hw hf

/-- every result list of `s` is an initial segment of the corresponding list of `s'` -/
def Ext (s s' : State) : Prop := ∀ m, (s.nd m).results <+: (s'.nd m).results

theorem Ext.refl (s : State) : Ext s s := fun _ => List.prefix_refl _
theorem Ext.trans {s s1 s2 : State} (a : Ext s s1) (b : Ext s1 s2) : Ext s s2 := fun m => (a m).trans (b m)

theorem Silent.ext {g : Graph} {w : Nat} {s s' : State} (a : Silent g w s s') : Ext s s' :=
  fun m => by rw [a.results]; exact List.prefix_refl _

theorem startTest_ext (g : Graph) (s : State) (n w : Nat) (ph : Phase) (dir : Dir) : Ext s (startTest g s n w ph dir).1 := by
  intro m
  rcases startTest_results g s n w ph dir m with h | ⟨_, _, _, h⟩
  · rw [h]; exact List.prefix_refl _
  · rw [h]; exact List.prefix_append _ _

theorem StartFrom.ext {g : Graph} {w : Nat} {s1 s' : State} (h : StartFrom g w s1 s') : Ext s1 s' := by
  cases h with
  | plain n dir s0 evs gv hgv hn hroot hdec h => rw [h]; exact startTest_ext g s1 n w .plain dir
  | pre n dir hn hroot h =>
    rw [h]
    exact Ext.trans (s1 := s1.setWd w (fun d => { d with preResults := (s1.nd n).results, preName := preNameOf g n w }))
      (fun _ => List.prefix_refl _) (startTest_ext g _ n w .pre dir)

theorem appendPre_ext (s : State) (n w : Nat) : Ext s (appendPre s n w) := by
  intro m
  unfold appendPre
  rcases nd_setNd_cases s n (fun d => { d with results := d.results ++ (s.wd w).preResults.drop d.results.length }) m with h | ⟨_, _, h⟩
  · rw [h]; exact List.prefix_refl _
  · rw [h]; exact List.prefix_append _ _

theorem ContEff.ext {g : Graph} {w n : Nat} {ph : Phase} {dir : Dir} {sc : State} {ok : Bool} {s' : State}
    (h : ContEff g w n ph dir sc ok s') : Ext sc s' := by
  rcases h with ⟨_, _, h⟩ | ⟨_, h⟩
  · rw [h]; exact startTest_ext g sc n w .main dir
  · have hd : Ext sc (if ph = .pre then appendPre sc n w else sc) := by
      split
      · exact appendPre_ext sc n w
      · exact Ext.refl sc
    rcases h with ⟨a, _⟩ | ⟨s1, a, hs⟩
    · exact hd.trans a.ext
    · exact hd.trans (a.ext.trans hs.ext)

/-- the only results a step of worker `w` may take away from node `m`: the placeholder of the test proper
that `w` is awaiting at `m` -/
def removable (s : State) (w m : Nat) (r : Result) : Bool :=
  match (s.wd w).pc with
  | .test _ .pre _ _ _ _ => false
  | .test n _ _ _ tag _ => n == m && isPh tag r
  | _ => false

theorem resume_results (g : Graph) (hwf : GraphWF g) (s : State) (w : Nat) (out : Outcome) (fuel : Nat)
    (hf : 0 < fuel) (hw : w < s.workers.length) (hpath : ∀ x ∈ (s.wd w).path, x < g.nodes.length) (m : Nat) :
    ∃ l, l <+: ((resume g s w out fuel).1.nd m).results ∧
      (l = (s.nd m).results ∨ ∃ ph dir uid tag wait res, (s.wd w).pc = .test m ph dir uid tag wait ∧ ph ≠ .pre ∧
        l = ((s.nd m).results ++ [res]).filter (fun r => !isPh tag r)) := by
  rcases resume_eff g hwf s w out fuel hf hw hpath with ⟨_, h⟩ | ⟨n, ph, dir, uid, tag, wait, hpc, sa, hrep, h⟩
  · refine ⟨_, ?_, Or.inl rfl⟩
    rcases h with ⟨a, _⟩ | ⟨s1, a, hs⟩
    · exact a.ext m
    · exact (a.ext.trans hs.ext) m
  · have hsb : SameBook s sa := hrep.sameBook
    rcases h with ⟨e, _, sb, res, ok, hsab, _, _, hc⟩ | ⟨_, h | hc⟩
    · have hnd : sb.nd m = s.nd m := by rw [hsab.nd, hsb.nd]
      refine ⟨_, hc.ext m, ?_⟩
      split
      · exact Or.inl (congrArg NodeD.results hnd)
      · rename_i hp
        rcases settleNd_results sb n res tag m with h | ⟨hmn, h⟩
        · rw [h, hnd]; exact Or.inl rfl
        · rw [h, hnd]; exact Or.inr ⟨ph, dir, uid, tag, wait, res, hmn ▸ hpc, hp, rfl⟩
    · rw [h]; exact ⟨_, List.prefix_refl _, Or.inl (congrArg NodeD.results (hsb.nd m))⟩
    · exact ⟨_, hc.ext m, Or.inl (congrArg NodeD.results (hsb.nd m))⟩

/-- Along a step every result list keeps its elements in order, except that the placeholder of the awaited
test proper may disappear from the node it was run on; whatever is new is appended behind. -/
theorem resume_results_sublist (g : Graph) (hwf : GraphWF g) (s : State) (w : Nat) (out : Outcome) (fuel : Nat)
    (hf : 0 < fuel) (hw : w < s.workers.length) (hpath : ∀ x ∈ (s.wd w).path, x < g.nodes.length) (m : Nat) :
    ((s.nd m).results.filter (fun r => !removable s w m r)).Sublist ((resume g s w out fuel).1.nd m).results := by
  obtain ⟨l, hl, h | ⟨ph, dir, uid, tag, wait, res, hpc, hp, h⟩⟩ := resume_results g hwf s w out fuel hf hw hpath m
  · rw [h] at hl; exact List.filter_sublist.trans hl.sublist
  · refine List.Sublist.trans ?_ hl.sublist
    have : (fun r => !removable s w m r) = (fun r => !isPh tag r) := by
      funext r
      unfold removable
      rw [hpc]
      cases ph
      · simp
      · exact absurd rfl hp
      · simp
    rw [h, this, List.filter_append]
    exact List.sublist_append_left _ _

/-- … in particular: unless `w` awaits a test proper at `m`, the list of `m` is only extended -/
theorem resume_results_prefix (g : Graph) (hwf : GraphWF g) (s : State) (w : Nat) (out : Outcome) (fuel : Nat)
    (hf : 0 < fuel) (hw : w < s.workers.length) (hpath : ∀ x ∈ (s.wd w).path, x < g.nodes.length) (m : Nat)
    (hm : ∀ n ph dir uid tag wait, (s.wd w).pc = .test n ph dir uid tag wait → ph = .pre ∨ n ≠ m) :
    (s.nd m).results <+: ((resume g s w out fuel).1.nd m).results := by
  obtain ⟨l, hl, h | ⟨ph, dir, uid, tag, wait, res, hpc, hp, _⟩⟩ := resume_results g hwf s w out fuel hf hw hpath m
  · exact h ▸ hl
  · rcases hm m ph dir uid tag wait hpc with h' | h'
    · exact absurd h' hp
    · exact absurd rfl h'

def namesInjB (g : Graph) : Bool :=
  (List.range g.nodes.length).all (fun i => (List.range g.nodes.length).all (fun j =>
    (g.node i).name != (g.node j).name || i == j))

theorem namesInjB_sound {g : Graph} (h : namesInjB g = true) : NamesInj g := by
  intro i j hi hj hnm
  unfold namesInjB at h
  rw [List.all_eq_true] at h
  have := h i (List.mem_range.mpr hi)
  rw [List.all_eq_true] at this
  have := this j (List.mem_range.mpr hj)
  simpa [hnm] using this

/-- the stem every creation pre-step name starts with -/
def preStem : String := "all.internal.stateless.noop.vms."

/-- no parsed test proper of a class without object roots has a name starting with the pre-step stem -/
def preFreshB (g : Graph) : Bool :=
  (List.range g.nodes.length).all (fun i => !good g i || !isPrefixChars preStem.toList (g.node i).name.toList)

theorem preFreshB_sound {g : Graph} (h : preFreshB g = true) : PreNamesFresh g := by
  intro i m v hi _ _ hg heq
  unfold preFreshB at h
  rw [List.all_eq_true] at h
  have := h i (List.mem_range.mpr hi)
  rw [hg, heq] at this
  have hp : isPrefixChars preStem.toList (preNameOf g m v).toList = true := by
    unfold preNameOf preStem
    simp only [String.toList_append, List.append_assoc]
    exact isPrefixChars_append _ _
  rw [hp] at this
  simp at this

theorem mem_copies_of_cls (g : Graph) (n n' : Nat) (hn : n < g.nodes.length) (hflat : (g.node n').flat = false)
    (hcls : (g.node n).cls = (g.node n').cls) : n ∈ g.copies n' := by
  unfold Graph.copies
  simp only [hflat, Bool.false_eq_true, if_false]
  by_cases h : n = n'
  · rw [h]; exact List.mem_cons_self
  · refine List.mem_cons_of_mem _ (List.mem_filter.mpr ⟨(mem_classNodes g _ n).mpr ⟨hn, hcls⟩, ?_⟩)
    simpa using h

theorem mem_sharedResults (g : Graph) (s : State) (n n' : Nat) (r : Result) (hn : n < g.nodes.length)
    (hflat : (g.node n').flat = false) (hcls : (g.node n).cls = (g.node n').cls) (hr : r ∈ (s.nd n).results) :
    r ∈ sharedResults g s n' := by
  unfold sharedResults
  exact List.mem_flatMap.mpr ⟨n, mem_copies_of_cls g n n' hn hflat hcls, hr⟩

theorem resume_files_own_result {g : Graph} (hwf : GraphWF g) {s : State}
    (b : Basic g s All) (u : Uids g s All) (w n : Nat) (dir : Dir) (uid : String) (tag : Nat)
    (hpc : (s.wd w).pc = .test n .plain dir uid tag 0) (hg : good g n = true) (out : Outcome) (st : String)
    (hst : out.status = some st) (fuel : Nat) (hf : 0 < fuel) :
    ∃ res ∈ ((resume g s w out fuel).1.nd n).results, res.uid = uid ∧ res.dur = out.dur ∧
      (res.status = st ∨ (st = "PASS" ∧ res.status = "WARN")) := by
  have hws : w < s.workers.length := lt_of_isTest s w (by rw [hpc]; rfl)
  have hok := b.pcOK w n .plain dir uid tag 0 trivial hpc
  rcases resume_eff g hwf s w out fuel hf hws (b.paths w) with ⟨hnt, _⟩ | ⟨n', ph, dir', uid', tag', wait, hpc', sa, hrep, h⟩
  · rw [hpc] at hnt; simp [Pc.isTest] at hnt
  · rw [hpc] at hpc'
    simp only [Pc.test.injEq] at hpc'
    obtain ⟨hn, hph, hdir, huid, htag, hwait⟩ := hpc'
    subst hn hph hdir huid htag hwait
    simp only [reduceCtorEq, if_false] at hrep h
    have hunrep := u.unreported w n dir uid tag 0 trivial hpc hg
    rcases hrep with ⟨_, h0 | h0⟩ | ⟨_, st', hst', hsb, hj⟩
    · exact absurd rfl h0
    · rw [hst] at h0; cases h0
    · rw [hst] at hst'; cases hst'
      have hfind : sa.jobResults.find? (fun r => r.1 == (g.node n).name && r.2.1 == uid) = some ((g.node n).name, uid, st, out.dur) := by
        rw [hj, List.find?_append]
        have : s.jobResults.find? (fun r => r.1 == (g.node n).name && r.2.1 == uid) = none := by
          rw [List.find?_eq_none]
          intro x hx hp
          simp only [Bool.and_eq_true, beq_iff_eq] at hp
          apply hunrep
          unfold keys
          exact List.mem_map.mpr ⟨x, hx, by rw [hp.1, hp.2]⟩
        rw [this]; simp
      rcases h with ⟨e, he, sb, res, ok, hsab, _, ⟨hres, huid, hdur, hstat⟩, hc⟩ | ⟨hnone, _⟩
      · rw [hfind] at he
        cases he
        refine ⟨res, ?_, huid, hdur, hstat⟩
        refine (hc.ext n).subset ?_
        have hns : n < sb.nodes.length := by rw [hsab.1, hsb.1, b.nodesLen]; exact hok.1
        unfold settleNd
        rw [nd_setNd_eq sb n _ hns]
        refine List.mem_filter.mpr ⟨List.mem_append_right _ (List.mem_singleton.mpr rfl), ?_⟩
        have := isPh_res_false res tag hres hok.2.1
        unfold isPh at this
        rw [this]; rfl
      · rw [hfind] at hnone; cases hnone

end I2N.Trav
