import I2N.Model.Tools
/-!
Lemmas about the setup chain loop of `Manu.run`, the dictionaries of the steps and the node creation loops (C20).
-/
namespace I2N.Tools

deriving instance DecidableEq for Except

theorem dget_append (u d : Dict) (k : String) :
    dget (u ++ d) k = if dhas u k then dget u k else dget d k := by
  induction u with
  | nil => simp [dget, dhas]
  | cons a u ih =>
    by_cases h : a.1 == k
    · simp [dget, dhas, List.find?, h]
    · have h' : (a.1 == k) = false := by simpa using h
      simp only [dget, dhas, List.cons_append, List.find?, h', List.any_cons, Bool.false_or] at ih ⊢
      exact ih

theorem dget_cons_ne (a : String × String) (d : Dict) (k : String) (h : (a.1 == k) = false) :
    dget (a :: d) k = dget d k := by
  simp [dget, List.find?, h]

theorem dget_cons_eq (k v : String) (d : Dict) : dget ((k, v) :: d) k = some v := by
  simp [dget, List.find?]

theorem dhas_of_dget {d : Dict} {k v : String} (h : dget d k = some v) : dhas d k = true := by
  simp only [dget, Option.map_eq_some_iff] at h
  obtain ⟨a, ha, _⟩ := h
  simp only [dhas, List.any_eq_true]
  exact ⟨a, List.mem_of_find?_eq_some ha, by simpa using List.find?_some ha⟩

theorem objects_of_nodup : ∀ (l : List String), l.Nodup → objects l = l
  | [], _ => rfl
  | x :: xs, h => by
    have hx : x ∉ xs := (List.nodup_cons.mp h).1
    have hxs := (List.nodup_cons.mp h).2
    simp only [objects, objects_of_nodup xs hxs]
    congr 1
    apply List.filter_eq_self.mpr
    intro a ha
    simp only [bne_iff_ne, ne_eq]
    intro hax; subst hax; exact hx ha

/-- a chain of known steps: every step is executed with its index, and the return code is 1 as soon as one step
failed (or it was 1 already), never reset -/
theorem runChainFrom_known {σ : Type} (known : String → Bool) (f : σ → String → Nat → Outcome × σ)
    (chain : List String) (env : σ) (i rc : Nat) (hk : ∀ st ∈ chain, known st = true) :
    (runChainFrom known f env i rc chain).executed = chain.zipIdx i ∧
    (runChainFrom known f env i rc chain).outcomes.length = chain.length ∧
    (runChainFrom known f env i rc chain).ret =
      .ok (if (runChainFrom known f env i rc chain).outcomes.any Outcome.fails then 1 else rc) := by
  revert hk
  fun_induction runChainFrom known f env i rc chain with
  | case1 => intro _; exact ⟨rfl, rfl, rfl⟩
  | case2 env i rc st rest hu => intro hk; simp [hk st List.mem_cons_self] at hu
  | case3 env i rc st rest _ r ih =>
    intro hk
    obtain ⟨h1, h2, h3⟩ := ih fun s hs => hk s (List.mem_cons_of_mem _ hs)
    refine ⟨by rw [List.zipIdx_cons, ← h1], by rw [List.length_cons, List.length_cons, h2], ?_⟩
    dsimp only [r]
    rw [List.any_cons, h3]
    cases (f env st i).1.fails <;> simp

/-- an unknown step aborts the loop with `AttributeError`; the steps before it were executed -/
theorem runChainFrom_unknown {σ : Type} (known : String → Bool) (f : σ → String → Nat → Outcome × σ) :
    ∀ (pre : List String) (bad : String) (post : List String) (env : σ) (i rc : Nat),
      (∀ st ∈ pre, known st = true) → known bad = false →
      (runChainFrom known f env i rc (pre ++ bad :: post)).ret = .error .attributeError ∧
      (runChainFrom known f env i rc (pre ++ bad :: post)).executed = pre.zipIdx i
  | [], bad, post, env, i, rc, _, hb => by simp [runChainFrom, hb]
  | st :: rest, bad, post, env, i, rc, hk, hb => by
    have h1 : known st = true := hk st (List.mem_cons_self)
    have ih := runChainFrom_unknown known f rest bad post (f env st i).2 (i + 1)
      (if (f env st i).1.fails then 1 else rc) (fun s hs => hk s (List.mem_cons_of_mem _ hs)) hb
    simp only [List.cons_append, runChainFrom, h1, Bool.not_true, Bool.false_eq_true, if_false, List.zipIdx_cons]
    exact ⟨ih.1, by rw [ih.2]⟩

theorem envTrace_const {σ : Type} (known : String → Bool) (f : σ → String → Nat → Outcome × σ) (env : σ) :
    ∀ (chain : List String) (i : Nat), (∀ st j, (f env st j).2 = env) →
      ∀ e ∈ envTrace known f env i chain, e = env := by
  intro chain i hf
  fun_induction envTrace known f env i chain with
  | case1 => nofun
  | case2 => nofun
  | case3 env i st rest _ ih =>
    intro e he
    rcases List.mem_cons.1 he with he | he
    · exact he
    · rw [hf st i] at ih he
      exact ih hf e he

theorem mem_buildPerVm {nw : Nat} {vmObjs : List String} {parse : Parser} {pd step : Dict} {nd : SNode} :
    nd ∈ buildPerVm nw vmObjs parse pd step ↔
      ∃ w, w < nw ∧ ∃ vm ∈ vmObjs, ∃ p ∈ parse w [vm],
        nd = { owner := w, vms := [vm], name := p.name, key := p.key, rank := p.rank,
               params := ("object_suffix", vm) :: perVmDict pd step vm } := by
  simp only [buildPerVm, List.mem_flatMap, List.mem_range, List.mem_map]
  constructor
  · rintro ⟨w, hw, vm, hvm, p, hp, rfl⟩; exact ⟨w, hw, vm, hvm, p, hp, rfl⟩
  · rintro ⟨w, hw, vm, hvm, p, hp, rfl⟩; exact ⟨w, hw, vm, hvm, p, hp, rfl⟩

/-- the node the worker loop makes for worker `w`, if the parser has exactly one variant -/
def nodeFor (vms : List String) (parse : Parser) (d : Dict) (w : Nat) : Option SNode :=
  match parse w vms with
  | [nm] => some { owner := w, vms := vms, name := nm.name, key := nm.key, rank := nm.rank, params := d }
  | _ => none

/-- the worker loop in closed form: refused iff some worker has several variants, else one node per worker that has
exactly one -/
theorem oneNodeLoop_eq (vms : List String) (parse : Parser) (d : Dict) (ws : List Nat) :
    oneNodeLoop vms parse d ws =
      if ws.any (fun w => decide (2 ≤ (parse w vms).length)) then .error .runtimeError
      else .ok (ws.filterMap (nodeFor vms parse d)) := by
  fun_induction oneNodeLoop vms parse d ws with
  | case1 => rfl
  | case2 w ws hp ih => rw [ih, List.any_cons, List.filterMap_cons, nodeFor, hp]; rfl
  | case3 w ws nm hp ih =>
    rw [ih, List.any_cons, List.filterMap_cons, nodeFor, hp]
    cases ws.any fun w => decide (2 ≤ (parse w vms).length) <;> rfl
  | case4 w ws a b rest hp => rw [List.any_cons, hp]; rfl

theorem mem_oneNodeLoop {vms : List String} {parse : Parser} {d : Dict} {ws : List Nat} {nodes : List SNode}
    (h : oneNodeLoop vms parse d ws = .ok nodes) (nd : SNode) :
    nd ∈ nodes ↔ ∃ w ∈ ws, ∃ p, parse w vms = [p] ∧
      nd = { owner := w, vms := vms, name := p.name, key := p.key, rank := p.rank, params := d } := by
  rw [oneNodeLoop_eq] at h
  split at h
  · cases h
  · cases h
    simp only [List.mem_filterMap, nodeFor]
    refine exists_congr fun w => and_congr_right fun _ => ?_
    split
    · next nm hp => simp [hp, eq_comm]
    · next hne => simp only [reduceCtorEq, false_iff]; rintro ⟨p, hp, _⟩; exact hne p hp

theorem oneNodeLoop_error {vms : List String} {parse : Parser} {d : Dict} {ws : List Nat} {e : Err}
    (h : oneNodeLoop vms parse d ws = .error e) : e = .runtimeError ∧ ∃ w ∈ ws, 2 ≤ (parse w vms).length := by
  rw [oneNodeLoop_eq] at h
  split at h
  · next hany => cases h; exact ⟨rfl, by simpa using hany⟩
  · cases h

end I2N.Tools
